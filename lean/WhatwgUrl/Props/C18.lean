import WhatwgUrl.Proofs.Canon
import WhatwgUrl.Proofs.Trim
/-
  C18 — equivalent spellings of a url canonicalize to the same string.  Which theorems stand for which variation, and at
  which level:
  * nested escapes, hex case (this file): about the decoders (`canonDecode`, `repeatedDecode`, `decodeEncode`) on ONE
    component text.  `Props/C18d.lean`, `C18e.lean` lift them to the canonical text of an ordinary web url (all components
    at once; the same host text on both sides, except in the `_hostcase` forms of C18e, which let the ASCII letter case of
    the host vary as well).  An empty fragment against none is related at record level only, for profiles that remove
    fragments (`C18d_canonicalize_congr_rf`; for the others the clause is false, F23).
  * surrounding white space, tab / newline (this file: `C18_whitespace`, `C18_tab_newline_insert`): PARSE level only —
    `basicParser` on a fresh url (`url := none`; any base, any state override) with reporting and fail-mode off.  Scheme
    case (`Props/C18c.lean`, `C18c_scheme_case`: `url := none`, `ov := none`): parse level only as well.  None of the three
    is lifted to the canonical text of a profile: with a default scheme the lift fails for an input without scheme
    (` h/` is retried as `http:// h/`).
  * port, dot segments: lifted to the canonical text for every profile whose parser options satisfy `WebParseCfg`
    (`Props/C18f.lean`, `C18f_canon_*`).
  Apart from the `_hostcase` forms no theorem varies two kinds of things at once.  Combinations follow by transitivity only
  where the side conditions compose: the port and dot-segment laws of C18c / C18f leave the text after the differing piece
  arbitrary and `segWc` admits escape spellings in the prefix, so they chain with each other and, on the canonical text,
  with the escape-spelling theorems of C18d / C18e; white space, tab / newline and scheme case chain at parse level only.
  A nested escape inside a dot segment (`%252e`) is covered by no theorem (next to an empty segment, under slash collapsing,
  the clause is false: F20).
-/
namespace WhatwgUrl.Props.C18
open WhatwgUrl WhatwgUrl.Impl WhatwgUrl.Proofs.Canon WhatwgUrl.Proofs.Trim

/-- `%XX` for the byte `x`, in upper-case hex digits iff `up` -/
def esc1 (up : Bool) (x : UInt8) : Bytes :=
  [0x25, (if up then hexUpper else hexLower) (x.toNat / 16), (if up then hexUpper else hexLower) (x.toNat % 16)]

/-- every `%` written `%25` -/
def escPct (s : Bytes) : Bytes := s.flatMap fun b => if b == 0x25 then [0x25, 0x32, 0x35] else [b]

theorem escPct_cons (x : UInt8) (w : Bytes) :
    escPct (x :: w) = (if x == 0x25 then [0x25, 0x32, 0x35] else [x]) ++ escPct w := rfl

/-- `n` further levels of `escPct` (its body is written out in the second equation: `nest_succ`) -/
def nest : Nat → Bytes → Bytes
  | 0, s => s
  | n + 1, s => nest n (s.flatMap fun b => if b == 0x25 then [0x25, 0x32, 0x35] else [b])

theorem nest_succ (n : Nat) (s : Bytes) : nest (n + 1) s = nest n (escPct s) := rfl

theorem escPct_eq_encP (s : Bytes) : escPct s = encP (· == 0x25) s := by
  unfold escPct encP
  congr 1
  funext b
  by_cases h : b = 0x25
  · subst h; rfl
  · simp [h]

theorem canonDecode_escPct_append (u r : Bytes) : canonDecode (escPct u ++ r) = u ++ canonDecode r := by
  rw [escPct_eq_encP]; exact canonDecode_encP_append _ (by decide) u r

theorem nest_succ' (n : Nat) (s : Bytes) : nest (n + 1) s = escPct (nest n s) := by
  induction n generalizing s with
  | zero => rfl
  | succ n ih => exact ih (escPct s)

theorem canonDecode_esc1_append (up : Bool) (x : UInt8) (r : Bytes) :
    canonDecode (esc1 up x ++ r) = x :: canonDecode r := by
  cases up
  · obtain ⟨a, b, c⟩ := hexLower_roundtrip x
    show canonDecode (0x25 :: _ :: _ :: r) = _
    simp only [Bool.false_eq_true, if_false]
    rw [canonDecode_esc _ _ _ a b, c]
  · exact canonDecode_pctByte x r

private theorem canonDecode_esc1 (up : Bool) (x : UInt8) : canonDecode (esc1 up x) = [x] := by
  have := canonDecode_esc1_append up x []
  rwa [List.append_nil, canonDecode_nil] at this

theorem C18_hex_case (x : UInt8) : canonDecode (esc1 true x) = [x] ∧ canonDecode (esc1 false x) = [x] :=
  ⟨canonDecode_esc1 true x, canonDecode_esc1 false x⟩

/-- `Spelled plain spelled`: every byte of `plain` is written literally or as an escape under any number of `%25` levels -/
inductive Spelled : Bytes → Bytes → Prop
  | nil : Spelled [] []
  | lit {p s : Bytes} (x : UInt8) (h : Spelled p s) : Spelled (x :: p) (x :: s)
  | esc {p s : Bytes} (up : Bool) (n : Nat) (x : UInt8) (h : Spelled p s) : Spelled (x :: p) (nest n (esc1 up x) ++ s)

private theorem escPct_pct_cons (w : Bytes) : escPct (0x25 :: w) = 0x25 :: 0x32 :: 0x35 :: escPct w :=
  escPct_cons 0x25 w

private theorem nest_head : ∀ (n : Nat) (w : Bytes), ∃ w', nest n (0x25 :: w) = 0x25 :: w' := by
  intro n
  induction n with
  | zero => intro w; exact ⟨w, rfl⟩
  | succ n ih => intro w; rw [nest_succ, escPct_pct_cons]; exact ih _

private theorem nest_esc1_head (up : Bool) (n : Nat) (x : UInt8) : ∃ w', nest n (esc1 up x) = 0x25 :: w' :=
  nest_head n _

private theorem length_escPct_ge (w : Bytes) : w.length ≤ (escPct w).length := by
  induction w with
  | nil => simp [escPct]
  | cons x w ih =>
    rw [escPct_cons]
    split <;> simp only [List.length_append, List.length_cons, List.length_nil] <;> omega

private theorem hex2_pct (r : Bytes) : hex2 (0x25 :: r) = false := by
  cases r with
  | nil => rfl
  | cons y r => simp [hex2, isHexN, isDigitN]

private theorem spelled_hex2 {p s : Bytes} (h : Spelled p s) (hs : hex2 s = true) : hex2 p = true := by
  cases h with
  | nil => simp [hex2] at hs
  | lit y h' =>
    cases h' with
    | nil => simp [hex2] at hs
    | lit z h'' => simpa [hex2] using hs
    | esc up n z h'' =>
      obtain ⟨w', hw⟩ := nest_esc1_head up n z
      simp [hw, hex2, isHexN, isDigitN] at hs
  | esc up n z h' =>
    obtain ⟨w', hw⟩ := nest_esc1_head up n z
    rw [hw, List.cons_append, hex2_pct] at hs
    cases hs

/-- one decode pass over a spelling of a fixed point: every escape loses one level, and nothing else happens -/
private theorem spelled_pass {p s : Bytes} (h : Spelled p s) :
    canonDecode p = p → Spelled p (canonDecode s) ∧ (canonDecode s = s → s = p) := by
  induction h with
  | nil => intro _; rw [canonDecode_nil]; exact ⟨Spelled.nil, fun _ => rfl⟩
  | @lit p s x h ih =>
    intro hfix
    obtain ⟨hp, hx⟩ := canonDecode_fix_cons x p hfix
    have hx' : ¬(x = 0x25 ∧ hex2 s = true) := fun hh => hx ⟨hh.1, spelled_hex2 h hh.2⟩
    rw [canonDecode_cons_of_not x s hx']
    refine ⟨Spelled.lit x (ih hp).1, fun he => ?_⟩
    rw [(ih hp).2 (List.tail_eq_of_cons_eq he)]
  | @esc p s up n x h ih =>
    intro hfix
    obtain ⟨hp, _⟩ := canonDecode_fix_cons x p hfix
    have hlen := canonDecode_length_le s
    cases n with
    | zero =>
      show Spelled _ (canonDecode (esc1 up x ++ s)) ∧ (canonDecode (esc1 up x ++ s) = esc1 up x ++ s → _)
      rw [canonDecode_esc1_append]
      refine ⟨Spelled.lit x (ih hp).1, fun he => ?_⟩
      have := congrArg List.length he
      simp only [esc1, List.length_cons, List.length_append, List.length_nil] at this
      omega
    | succ n =>
      rw [nest_succ', canonDecode_escPct_append]
      refine ⟨Spelled.esc up n x (ih hp).1, fun he => ?_⟩
      obtain ⟨w', hw⟩ := nest_esc1_head up n x
      have := congrArg List.length he
      rw [hw, escPct_pct_cons] at this
      have := length_escPct_ge w'
      simp only [List.length_cons, List.length_append] at *
      omega

/-- `hfix`: `plain` contains no decodable escape.  A literal `%` in `plain` is admitted as long as no two hex digits follow
    it IN `plain`: an escape starts with `%`, never with a hex digit (`spelled_hex2`). -/
theorem C18_spelling_decode (plain : Bytes) (spelled : Bytes) (h : Spelled plain spelled)
    (hfix : canonDecode plain = plain) : repeatedDecode spelled = plain := by
  suffices H : ∀ (n : Nat) (s : Bytes), s.length < n → Spelled plain s → repeatedDecode s = plain from
    H _ _ (Nat.lt_succ_self _) h
  intro n
  induction n with
  | zero => intro s hl; exact absurd hl (Nat.not_lt_zero _)
  | succ m ih =>
    intro s hl hs
    obtain ⟨h1, h2⟩ := spelled_pass hs hfix
    by_cases hc : canonDecode s = s
    · rw [h2 hc]; exact repeatedDecode_of_fix _ hfix
    · have := canonDecode_shortens s hc
      rw [← repeatedDecode_step]
      exact ih _ (by omega) h1

theorem C18_nested_escape' (up : Bool) (x : UInt8) (n : Nat) : repeatedDecode (nest n (esc1 up x)) = [x] := by
  have h : Spelled [x] (nest n (esc1 up x) ++ []) := .esc up n x .nil
  rw [List.append_nil] at h
  exact C18_spelling_decode _ _ h (by rw [canonDecode.eq_3 x [] (by intro _ _ _ h; cases h), canonDecode_nil])

/-- `_hx` is the side condition `x ≠ '%'` of the property text; it is not used -/
theorem C18_nested_escape (up : Bool) (x : UInt8) (n : Nat) (_hx : x ≠ 0x25) :
    repeatedDecode (nest n (esc1 up x)) = [x] :=
  C18_nested_escape' up x n

example : (0x2E : UInt8) ≠ 0x25 := by decide
example : nest 2 (esc1 false 0x2E) = lit "%25252e" := by decide
example : nest 3 (esc1 true 0x25) = lit "%25252525" := by decide
example : repeatedDecode (lit "%25252e") = lit "." := by rw [repeatedDecode_eq_E]; decide +kernel
example : repeatedDecode (lit "%25252525") = lit "%" := by rw [repeatedDecode_eq_E]; decide +kernel

theorem C18_spelling_decode_no_pct (plain spelled : Bytes) (h : Spelled plain spelled)
    (hp : (0x25 : UInt8) ∉ plain) : repeatedDecode spelled = plain :=
  C18_spelling_decode plain spelled h (canonDecode_of_no_pct plain hp)

theorem C18_spellings_agree (tr : PSet) (plain s₁ s₂ : Bytes) (h₁ : Spelled plain s₁) (h₂ : Spelled plain s₂)
    (hfix : canonDecode plain = plain) : decodeEncode tr s₁ = decodeEncode tr s₂ := by
  unfold decodeEncode
  rw [C18_spelling_decode _ _ h₁ hfix, C18_spelling_decode _ _ h₂ hfix]

example : Spelled [0x61, 0x2E, 0x62, 0x25] (0x61 :: (nest 1 (esc1 false 0x2E) ++ 0x62 :: (nest 0 (esc1 true 0x25) ++ []))) :=
  .lit _ (.esc false 1 _ (.lit _ (.esc true 0 _ .nil)))
example : (0x61 :: (nest 1 (esc1 false 0x2E) ++ 0x62 :: (nest 0 (esc1 true 0x25) ++ []))) = lit "a%252eb%25" ∧
    [0x61, 0x2E, 0x62, 0x25] = lit "a.b%" := by decide
example : canonDecode (lit "a.b%") = lit "a.b%" := by rw [canonDecode_eq_E]; decide +kernel
example : repeatedDecode (lit "a%252eb%25") = lit "a.b%" := by rw [repeatedDecode_eq_E]; decide +kernel

/-- without `hfix` `C18_spelling_decode` is false: "%41" is a (literal) spelling of itself but decodes to "A" -/
example : Spelled (lit "%41") (lit "%41") ∧ repeatedDecode (lit "%41") ≠ lit "%41" := by
  refine ⟨?_, ?_⟩
  · show Spelled [0x25, 0x34, 0x31] [0x25, 0x34, 0x31]
    exact .lit _ (.lit _ (.lit _ .nil))
  · rw [repeatedDecode_eq_E]; decide +kernel

/-- `hr`, `hf`: otherwise the prologue records `InvalidURLUnit` (or stops there) on the side that has something to strip -/
theorem C18_tab_newline (cfg : Cfg) (I : Idna) (x y : Bytes) (base : Option Url) (ov : Option State)
    (hr : cfg.report = false) (hf : cfg.failOnVErr = false)
    (h : (removeTabNl (trim c0OrSpaceSet x).1).1 = (removeTabNl (trim c0OrSpaceSet y).1).1) :
    basicParser cfg I x base none ov = basicParser cfg I y base none ov := by
  unfold basicParser
  simp only [stops, record, hr, hf, Bool.or_self, Bool.and_false, Bool.false_eq_true, if_false, ite_self,
    Option.isNone_none, if_true, h]

example : (removeTabNl (trim c0OrSpaceSet (lit " ht\ttp://a\n/ ")).1).1 = (removeTabNl (trim c0OrSpaceSet (lit "http://a/")).1).1 := by
  rw [trim_fst, trim_fst]; decide

theorem C18_whitespace (cfg : Cfg) (I : Idna) (x pre post : Bytes) (base : Option Url) (ov : Option State)
    (hr : cfg.report = false) (hf : cfg.failOnVErr = false)
    (hpre : ∀ b ∈ pre, b.toNat ≤ 0x20) (hpost : ∀ b ∈ post, b.toNat ≤ 0x20) :
    basicParser cfg I (pre ++ x ++ post) base none ov = basicParser cfg I x base none ov :=
  C18_tab_newline cfg I _ _ base ov hr hf (by rw [trim_pad x pre post hpre hpost])

example : Cfg.default.report = false ∧ Cfg.default.failOnVErr = false ∧
    (∀ b ∈ lit " \n\t", b.toNat ≤ 0x20) ∧ (∀ b ∈ lit "\r  ", b.toNat ≤ 0x20) := by decide

/-- `trim` strips the prefix rune by rune (`Impl.trimPrefix`, as the Go code does); on bytes it is this -/
theorem C18_trim_bytes (s : Bytes) : (trim c0OrSpaceSet s).1 = dropWsR (dropWs s) := trim_fst s

theorem C18_tab_newline_insert (cfg : Cfg) (I : Idna) (a b : Bytes) (t : UInt8) (base : Option Url) (ov : Option State)
    (hr : cfg.report = false) (hf : cfg.failOnVErr = false) (ht : isTabNl t = true) :
    basicParser cfg I (a ++ t :: b) base none ov = basicParser cfg I (a ++ b) base none ov := by
  apply C18_tab_newline cfg I _ _ base ov hr hf
  rw [prologue_text, prologue_text]
  have : notTabNl t = false := by simp [notTabNl, ht]
  simp [this]

example : isTabNl 0x0a = true := by decide

end WhatwgUrl.Props.C18
