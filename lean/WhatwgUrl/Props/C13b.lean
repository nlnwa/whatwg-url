import WhatwgUrl.Proofs.IndepHistBoth
import WhatwgUrl.Props.C13
/-
  C13 for histories — "after ANY SEQUENCE of setter or search-parameter operations applied to one of {base, result} or
  {original, clone}, every getter and the search parameters of the other are unchanged, and the operated-on value reflects
  the operations."

  A history is a list of `Op` on one target (`Proofs/IndepHist.lean`): the nine setters, `SearchParams()`, every mutation
  through the target's current list, resolution against the target, `Clone()` of it. `SetSearchParams` is not among them.
  * The other side is unchanged: `C13b_ops_frame` for any two separated objects that own their lists;
    `C13b_clone_independent_history`, `C13b_resolve_independent_history` for the two pairs of the property, in both
    directions; `C13b_resolve_base_unchanged` for the resolution itself. Without `b < H.urls.length` the frame is FALSE
    (`C13b_ops_frame_Statement_false`: `Clone()` of `a`, or resolution against it, allocates object `b`). Every handle the
    API returns is below that bound (`C13b_handles_live`); the interleaving theorems ask for both objects to exist for
    the same reason.
  * "Reflects the operations" is read as: the target's observations after a history are a function of its observations
    before — `runV`, the fold of the value-level step `stepV` built from `setU`, `spInit`, `applyMut`, `spString`
    (`C13b_ops_reflect`) — hence those of the same history on the heap that holds only the target
    (`C13b_ops_reflect_solo`); single steps: `C13b_reflect_set`, `C13b_reflect_mut`, `C13b_reflect_sp`.
  * Operations on both sides in any interleaving (`applyBoth`) give each side what its own operations alone give:
    `C13b_interleaving`, `C13b_clone_interleaving`, `C13b_resolve_interleaving`.

  `Separated`, `OwnSp` are hypotheses on an arbitrary heap.  `C13b_clone_indep`, `C13b_resolve_indep`, `C13b_alloc_indep`
  derive them for a clone, a resolution result and any parse result put on the heap, from `OwnSp` of the existing object.
  On every heap reachable by the histories of `Props/C12c.lean` (`Reach`: `SetSearchParams` only with the url's own list,
  `OwnList`) they hold for any `a ≠ b` — `OwnSp H i` is the first clause of `C12c_reachable_linked` (binders reordered),
  the second half of `Separated` is the last clause of `C12c_reachable_owner` — but NO theorem states the combination.
-/
namespace WhatwgUrl.Props.C13b
open WhatwgUrl WhatwgUrl.Impl WhatwgUrl.Impl.Heap WhatwgUrl.Proofs WhatwgUrl.Proofs.IndepHist
open WhatwgUrl.Props.C13 (exU exH1 exH2 exH2_eq exI C13_clone C13_resolve C13_clone_separated)

/-- the frame without `b < H.urls.length`.  FALSE: `C13b_ops_frame_Statement_false`. -/
def C13b_ops_frame_Statement : Prop :=
  ∀ (I : Idna) (H : Heap) (a b : Nat) (ops : List Op), a ≠ b → Separated H a b → OwnSp H a → OwnSp H b →
    obsAll (applyOps I H a ops) b = obsAll H b ∧
    Separated (applyOps I H a ops) a b ∧ OwnSp (applyOps I H a ops) a ∧ OwnSp (applyOps I H a ops) b

/-- one object (0) with a list; `b = 1` designates nothing; `Clone()` of object 0 allocates object 1 -/
theorem C13b_ops_frame_Statement_false : ¬ C13b_ops_frame_Statement := by
  intro h
  have hsep : Separated (exH1 []) 0 1 := ⟨by decide, fun oa ob _ hob => by simp [exH1] at hob⟩
  have hown0 : OwnSp (exH1 []) 0 := by
    intro o ho s hs; cases ho; cases hs; exact ⟨_, rfl, rfl⟩
  have hown1 : OwnSp (exH1 []) 1 := by
    intro o ho; simp [exH1] at ho
  have heq := (h exI (exH1 []) 0 1 [.clone] (by decide) hsep hown0 hown1).1
  have h1 : (obsAll (applyOps exI (exH1 []) 0 [.clone]) 1).isSome = true := by decide +kernel
  have h2 : (obsAll (exH1 []) 1).isSome = false := by decide +kernel
  rw [heq, h2] at h1
  cases h1

-- the option is for `hab`: `Separated H a b` implies it and the proof does not read it
set_option linter.unusedVariables false in
/-- Without `hb` the statement is false: `C13b_ops_frame_Statement_false`. -/
theorem C13b_ops_frame_partial (I : Idna) (H : Heap) (a b : Nat) (ops : List Op) (hab : a ≠ b)
    (hsep : Separated H a b) (hown : OwnSp H a) (hownb : OwnSp H b) (hb : b < H.urls.length) :
    obsAll (applyOps I H a ops) b = obsAll H b ∧
    Separated (applyOps I H a ops) a b ∧ OwnSp (applyOps I H a ops) a ∧ OwnSp (applyOps I H a ops) b ∧
    b < (applyOps I H a ops).urls.length := by
  cases ho : H.urls[a]? with
  | none => rw [applyOps_invalid I H a ops ho]; exact ⟨rfl, hsep, hown, hownb, hb⟩
  | some o =>
    obtain ⟨x, hx⟩ := Loc.of_ownSp ho hown
    obtain ⟨f, l⟩ := steps I ops hx
    obtain ⟨h0, h1, h2, h3⟩ := frame_inv f hsep hownb hb
    exact ⟨h0, h1, l.ownSp, h2, h3⟩

/-- same statement as `C13b_ops_frame_partial` -/
theorem C13b_ops_frame (I : Idna) (H : Heap) (a b : Nat) (ops : List Op) (hab : a ≠ b)
    (hsep : Separated H a b) (hown : OwnSp H a) (hownb : OwnSp H b) (hb : b < H.urls.length) :
    obsAll (applyOps I H a ops) b = obsAll H b ∧
    Separated (applyOps I H a ops) a b ∧ OwnSp (applyOps I H a ops) a ∧ OwnSp (applyOps I H a ops) b ∧
    b < (applyOps I H a ops).urls.length :=
  C13b_ops_frame_partial I H a b ops hab hsep hown hownb hb

theorem C13b_ops_frame_append (I : Idna) (H : Heap) (a b : Nat) (l1 l2 : List Op) (hab : a ≠ b)
    (hsep : Separated H a b) (hown : OwnSp H a) (hownb : OwnSp H b) (hb : b < H.urls.length) :
    obsAll (applyOps I (applyOps I H a l1) a l2) b = obsAll H b := by
  obtain ⟨e1, s1, o1, o2, b1⟩ := C13b_ops_frame I H a b l1 hab hsep hown hownb hb
  rw [(C13b_ops_frame I _ a b l2 hab s1 o1 o2 b1).1, e1]

theorem C13b_handles_live (I : Idna) (H : Heap) (i : Nat) (ref : Bytes) :
    (∀ c, (H.clone i).2 = some c → c < (H.clone i).1.urls.length) ∧
    (∀ k, (H.urlParse I i ref).2.1 = some k → k < (H.urlParse I i ref).1.urls.length) := by
  refine ⟨fun c hc => ?_, fun k hk => ?_⟩
  · cases ho : H.urls[i]? with
    | none =>
      rw [Heap.clone_invalid H i ho] at hc; cases hc
    | some o =>
      obtain ⟨c', oc, hc', _, hoc, _⟩ := C13_clone H i o ho
      rw [hc'] at hc; cases hc
      exact lt_of_getElem?_eq_some hoc
  · obtain ⟨_, _, h⟩ := C13_resolve I H i ref
    obtain ⟨_, ok, hok, _⟩ := h k hk
    exact lt_of_getElem?_eq_some hok

theorem C13b_clone_indep (H : Heap) (i : Nat) (o : UrlObj) (ho : H.urls[i]? = some o) (hown : OwnSp H i)
    (c : Nat) (hc : (H.clone i).2 = some c) :
    Separated (H.clone i).1 i c ∧ OwnSp (H.clone i).1 i ∧ OwnSp (H.clone i).1 c ∧
    (∃ o', (H.clone i).1.urls[i]? = some o') ∧ (∃ oc, (H.clone i).1.urls[c]? = some oc) := by
  obtain ⟨hsep, hi, hcown⟩ := C13_clone_separated H i o ho hown c hc
  obtain ⟨c', oc, hc', _, hoc, hurls, _⟩ := C13_clone H i o ho
  rw [hc'] at hc; cases hc
  exact ⟨hsep, hi, hcown, ⟨o, by rw [hurls i (lt_of_getElem?_eq_some ho)]; exact ho⟩, ⟨oc, hoc⟩⟩

theorem C13b_clone_independent_history (I : Idna) (H : Heap) (i : Nat) (o : UrlObj) (ho : H.urls[i]? = some o)
    (hown : OwnSp H i) (c : Nat) (hc : (H.clone i).2 = some c) (ops : List Op) :
    obsAll (applyOps I (H.clone i).1 c ops) i = obsAll (H.clone i).1 i ∧
    obsAll (applyOps I (H.clone i).1 i ops) c = obsAll (H.clone i).1 c := by
  obtain ⟨hsep, hi, hcown, ⟨o', ho'⟩, ⟨oc, hoc⟩⟩ := C13b_clone_indep H i o ho hown c hc
  exact ⟨(C13b_ops_frame I _ c i ops (fun e => hsep.1 e.symm) hsep.symm hcown hi (lt_of_getElem?_eq_some ho')).1,
         (C13b_ops_frame I _ i c ops hsep.1 hsep hi hcown (lt_of_getElem?_eq_some hoc)).1⟩

theorem C13b_resolve_base_unchanged (I : Idna) (H : Heap) (i : Nat) (ref : Bytes) :
    obsAll (H.urlParse I i ref).1 i = obsAll H i ∧
    ∀ j, j < H.urls.length → obsAll (H.urlParse I i ref).1 j = obsAll H j := by
  obtain ⟨hu, hs, _⟩ := C13_resolve I H i ref
  have hall : ∀ j, j < H.urls.length → obsAll (H.urlParse I i ref).1 j = obsAll H j :=
    fun j hj => obsAll_congr (hu j hj) (fun _ _ _ _ => by rw [hs])
  refine ⟨?_, hall⟩
  cases ho : H.urls[i]? with
  | none =>
    rw [Heap.urlParse_invalid I H i ref ho]
  | some o => exact hall i (lt_of_getElem?_eq_some ho)

/-- `allocRes` is how `(*Url).Parse` and the profiles' `Parse` / `ParseRef` put a parse result on the heap: the hypotheses
    of `C13b_ops_frame` / `C13b_interleaving` are what the API establishes -/
theorem C13b_alloc_indep (H : Heap) (cfg : Cfg) (r : Res) (k : Nat) (hk : (H.allocRes cfg r).2 = some k)
    (i : Nat) (o : UrlObj) (ho : H.urls[i]? = some o) (hown : OwnSp H i) :
    Separated (H.allocRes cfg r).1 i k ∧ OwnSp (H.allocRes cfg r).1 i ∧ OwnSp (H.allocRes cfg r).1 k ∧
    (∃ o', (H.allocRes cfg r).1.urls[i]? = some o') ∧ (∃ ok, (H.allocRes cfg r).1.urls[k]? = some ok) := by
  obtain ⟨hu, hs, h⟩ := allocRes_spec H cfg r
  obtain ⟨hkl, ok, hok, hoksp⟩ := h k hk
  have hi := lt_of_getElem?_eq_some ho
  have hoi : (H.allocRes cfg r).1.urls[i]? = some o := by rw [hu i hi]; exact ho
  refine ⟨⟨?_, ?_⟩, ?_, ?_, ⟨o, hoi⟩, ⟨ok, hok⟩⟩
  · rw [hkl]; exact Nat.ne_of_lt hi
  · intro oa ob _ hob sa sb _ hsb
    rw [hok] at hob; cases hob
    rw [hoksp] at hsb; cases hsb
  · intro o2 ho2 s hs2
    rw [hoi] at ho2; cases ho2
    obtain ⟨so, hso, hb⟩ := hown o ho s hs2
    exact ⟨so, by rw [hs]; exact hso, hb⟩
  · intro o2 ho2 s hs2
    rw [hok] at ho2; cases ho2
    rw [hoksp] at hs2; cases hs2

theorem C13b_resolve_indep (I : Idna) (H : Heap) (i : Nat) (o : UrlObj) (ho : H.urls[i]? = some o) (hown : OwnSp H i)
    (ref : Bytes) (k : Nat) (hk : (H.urlParse I i ref).2.1 = some k) :
    Separated (H.urlParse I i ref).1 i k ∧ OwnSp (H.urlParse I i ref).1 i ∧ OwnSp (H.urlParse I i ref).1 k ∧
    (∃ o', (H.urlParse I i ref).1.urls[i]? = some o') ∧ (∃ ok, (H.urlParse I i ref).1.urls[k]? = some ok) := by
  rw [Heap.urlParse_eq I H i ref o ho] at hk ⊢
  exact C13b_alloc_indep H o.cfg _ k hk i o ho hown

theorem C13b_resolve_independent_history (I : Idna) (H : Heap) (i : Nat) (o : UrlObj) (ho : H.urls[i]? = some o)
    (hown : OwnSp H i) (ref : Bytes) (k : Nat) (hk : (H.urlParse I i ref).2.1 = some k) (ops : List Op) :
    obsAll (applyOps I (H.urlParse I i ref).1 k ops) i = obsAll H i ∧
    obsAll (applyOps I (H.urlParse I i ref).1 i ops) k = obsAll (H.urlParse I i ref).1 k := by
  obtain ⟨hsep, hi, hkown, ⟨o', ho'⟩, ⟨ok, hok⟩⟩ := C13b_resolve_indep I H i o ho hown ref k hk
  refine ⟨?_, (C13b_ops_frame I _ i k ops hsep.1 hsep hi hkown (lt_of_getElem?_eq_some hok)).1⟩
  rw [(C13b_ops_frame I _ k i ops (fun e => hsep.1 e.symm) hsep.symm hkown hi (lt_of_getElem?_eq_some ho')).1]
  exact (C13b_resolve_base_unchanged I H i ref).1

theorem C13b_ops_reflect (I : Idna) (H : Heap) (a : Nat) (o : UrlObj) (ho : H.urls[a]? = some o) (hown : OwnSp H a)
    (ops : List Op) :
    obsAll (applyOps I H a ops) a = (obsAll H a).map (fun x => runV I o.cfg x ops) ∧
    ((applyOps I H a ops).urls[a]?).map (·.cfg) = some o.cfg := by
  obtain ⟨x, hx⟩ := Loc.of_ownSp ho hown
  obtain ⟨_, l⟩ := steps I ops hx
  refine ⟨by rw [l.obs, hx.obs]; rfl, ?_⟩
  obtain ⟨o', ho', _, hc, _⟩ := l
  rw [ho']; simp [hc]

theorem C13b_ops_reflect_solo (I : Idna) (H : Heap) (a : Nat) (o : UrlObj) (ho : H.urls[a]? = some o) (hown : OwnSp H a) :
    ∃ x, obsAll H a = some x ∧ obsAll (solo o.cfg x) 0 = some x ∧
      ∀ ops, obsAll (applyOps I H a ops) a = obsAll (applyOps I (solo o.cfg x) 0 ops) 0 := by
  obtain ⟨x, hx⟩ := Loc.of_ownSp ho hown
  refine ⟨x, hx.obs, (solo_loc o.cfg x).obs, fun ops => ?_⟩
  rw [(steps I ops hx).2.obs, (steps I ops (solo_loc o.cfg x)).2.obs]

theorem C13b_ops_reflect_any (I : Idna) (H1 H2 : Heap) (a1 a2 : Nat) (o1 o2 : UrlObj) (h1 : H1.urls[a1]? = some o1)
    (h2 : H2.urls[a2]? = some o2) (hown1 : OwnSp H1 a1) (hown2 : OwnSp H2 a2) (hcfg : o1.cfg = o2.cfg)
    (hobs : obsAll H1 a1 = obsAll H2 a2) (ops : List Op) :
    obsAll (applyOps I H1 a1 ops) a1 = obsAll (applyOps I H2 a2 ops) a2 := by
  rw [(C13b_ops_reflect I H1 a1 o1 h1 hown1 ops).1, (C13b_ops_reflect I H2 a2 o2 h2 hown2 ops).1, hobs, hcfg]

/-- the second conjunct is the first at `st := .search`: `setU … .search` unfolds to `setSearchU` -/
theorem C13b_reflect_set (I : Idna) (H : Heap) (a : Nat) (o : UrlObj) (ho : H.urls[a]? = some o) (hown : OwnSp H a)
    (st : Setter) (v : Bytes) :
    (obsAll (applyOps I H a [.set st v]) a).map (·.1) = some (setU o.cfg I st o.u v).url ∧
    (obsAll (applyOps I H a [.set .search v]) a).map (·.1) = some (setSearchU o.cfg I o.u v).url := by
  have key : ∀ st, (obsAll (applyOps I H a [.set st v]) a).map (·.1) = some (setU o.cfg I st o.u v).url := by
    intro st
    rw [(C13b_ops_reflect I H a o ho hown _).1]
    unfold obsAll
    rw [ho]
    simp only [Option.map_some, runV, List.foldl_cons, List.foldl_nil, stepV_set_fst]
  exact ⟨key st, key .search⟩

theorem C13b_reflect_mut (I : Idna) (H : Heap) (a : Nat) (o : UrlObj) (s : Nat) (so : SpObj) (ho : H.urls[a]? = some o)
    (hs : o.sp = some s) (hso : H.sps[s]? = some so) (hb : so.url = some a) (m : SpMut) :
    obsAll (applyOps I H a [.mut m]) a =
      some (updQ o.cfg o.u (applyMut m so.params), some (applyMut m so.params)) := by
  have hx : Loc H a o.cfg (o.u, some so.params) := ⟨o, ho, rfl, rfl, Or.inr ⟨s, so, hs, hso, hb, rfl⟩⟩
  rw [(steps I [.mut m] hx).2.obs]
  rfl

theorem C13b_reflect_sp (I : Idna) (H : Heap) (a : Nat) (o : UrlObj) (ho : H.urls[a]? = some o) (hown : OwnSp H a) :
    (obsAll (applyOps I H a [.sp]) a).map (·.1) = some o.u ∧
    (o.sp = none → (obsAll (applyOps I H a [.sp]) a).map (·.2) = some (some (initP o.cfg o.u))) := by
  rw [(C13b_ops_reflect I H a o ho hown _).1]
  unfold obsAll
  rw [ho]
  refine ⟨rfl, fun hn => ?_⟩
  simp only [Option.map_some, runV, List.foldl_cons, List.foldl_nil, stepV, hn, Option.bind_none]

theorem C13b_interleaving (I : Idna) (H : Heap) (a b : Nat) (oa ob : UrlObj) (hoa : H.urls[a]? = some oa)
    (hob : H.urls[b]? = some ob) (hsep : Separated H a b) (hown : OwnSp H a) (hownb : OwnSp H b)
    (l : List (Bool × Op)) :
    obsAll (applyBoth I H a b l) a = obsAll (applyOps I H a (proj true l)) a ∧
    obsAll (applyBoth I H a b l) b = obsAll (applyOps I H b (proj false l)) b ∧
    Separated (applyBoth I H a b l) a b ∧ OwnSp (applyBoth I H a b l) a ∧ OwnSp (applyBoth I H a b l) b ∧
    (∃ oa', (applyBoth I H a b l).urls[a]? = some oa') ∧ (∃ ob', (applyBoth I H a b l).urls[b]? = some ob') := by
  obtain ⟨xa, hxa⟩ := Loc.of_ownSp hoa hown
  obtain ⟨xb, hxb⟩ := Loc.of_ownSp hob hownb
  obtain ⟨hs, la, lb⟩ := both I l hsep hxa hxb
  refine ⟨?_, ?_, hs, la.ownSp, lb.ownSp, ?_, ?_⟩
  · rw [la.obs, (steps I (proj true l) hxa).2.obs]
  · rw [lb.obs, (steps I (proj false l) hxb).2.obs]
  · obtain ⟨o', ho', _⟩ := la; exact ⟨o', ho'⟩
  · obtain ⟨o', ho', _⟩ := lb; exact ⟨o', ho'⟩

theorem C13b_clone_interleaving (I : Idna) (H : Heap) (i : Nat) (o : UrlObj) (ho : H.urls[i]? = some o)
    (hown : OwnSp H i) (c : Nat) (hc : (H.clone i).2 = some c) (l : List (Bool × Op)) :
    obsAll (applyBoth I (H.clone i).1 i c l) i = obsAll (applyOps I (H.clone i).1 i (proj true l)) i ∧
    obsAll (applyBoth I (H.clone i).1 i c l) c = obsAll (applyOps I (H.clone i).1 c (proj false l)) c := by
  obtain ⟨hsep, hi, hcown, ⟨o', ho'⟩, ⟨oc, hoc⟩⟩ := C13b_clone_indep H i o ho hown c hc
  obtain ⟨h1, h2, _⟩ := C13b_interleaving I _ i c o' oc ho' hoc hsep hi hcown l
  exact ⟨h1, h2⟩

theorem C13b_resolve_interleaving (I : Idna) (H : Heap) (i : Nat) (o : UrlObj) (ho : H.urls[i]? = some o)
    (hown : OwnSp H i) (ref : Bytes) (k : Nat) (hk : (H.urlParse I i ref).2.1 = some k) (l : List (Bool × Op)) :
    obsAll (applyBoth I (H.urlParse I i ref).1 i k l) i = obsAll (applyOps I (H.urlParse I i ref).1 i (proj true l)) i ∧
    obsAll (applyBoth I (H.urlParse I i ref).1 i k l) k = obsAll (applyOps I (H.urlParse I i ref).1 k (proj false l)) k := by
  obtain ⟨hsep, hi, hkown, ⟨o', ho'⟩, ⟨ok, hok⟩⟩ := C13b_resolve_indep I H i o ho hown ref k hk
  obtain ⟨h1, h2, _⟩ := C13b_interleaving I _ i k o' ok ho' hok hsep hi hkown l
  exact ⟨h1, h2⟩

section Examples

theorem exH2_sep : Separated exH2 0 1 := by
  rw [exH2_eq]
  refine ⟨by decide, ?_⟩
  intro oa ob hoa hob sa sb hsa hsb
  cases hoa; cases hob; cases hsa; cases hsb
  decide
theorem exH2_own0 : OwnSp exH2 0 := by
  rw [exH2_eq]; intro o ho s hs; cases ho; cases hs; exact ⟨_, rfl, rfl⟩
theorem exH2_own1 : OwnSp exH2 1 := by
  rw [exH2_eq]; intro o ho s hs; cases ho; cases hs; exact ⟨_, rfl, rfl⟩

example (I : Idna) (ops : List Op) := C13b_ops_frame I exH2 0 1 ops (by decide) exH2_sep exH2_own0 exH2_own1 (by decide)
example (I : Idna) (ops : List Op) :=
  C13b_ops_frame I exH2 1 0 ops (by decide) exH2_sep.symm exH2_own1 exH2_own0 (by decide)
example (I : Idna) (l : List (Bool × Op)) :=
  C13b_interleaving I exH2 0 1 _ _ (by rw [exH2_eq]; rfl) (by rw [exH2_eq]; rfl) exH2_sep exH2_own0 exH2_own1 l

theorem exH1_own (p : Pairs) : OwnSp (exH1 p) 0 := by
  intro o ho s hs; cases ho; cases hs; exact ⟨_, rfl, rfl⟩

example (I : Idna) (p : Pairs) (ops : List Op) := C13b_clone_independent_history I (exH1 p) 0 _ rfl (exH1_own p) 1 rfl ops
example (I : Idna) (p : Pairs) (l : List (Bool × Op)) := C13b_clone_interleaving I (exH1 p) 0 _ rfl (exH1_own p) 1 rfl l

theorem exResolve : ((exH1 []).urlParse exI 0 (lit "p?z")).2.1 = some 1 := by decide +kernel
example (ops : List Op) :=
  C13b_resolve_independent_history exI (exH1 []) 0 _ rfl (exH1_own []) (lit "p?z") 1 exResolve ops
example (l : List (Bool × Op)) :=
  C13b_resolve_interleaving exI (exH1 []) 0 _ rfl (exH1_own []) (lit "p?z") 1 exResolve l

example (I : Idna) (p : Pairs) := C13b_ops_reflect_solo I (exH1 p) 0 _ rfl (exH1_own p)
example (I : Idna) (st : Setter) (v : Bytes) := C13b_reflect_set I exH2 0 _ (by rw [exH2_eq]; rfl) exH2_own0 st v
example (I : Idna) (p : Pairs) := C13b_reflect_sp I (exH1 p) 0 _ rfl (exH1_own p)
example (I : Idna) (ops : List Op) :=
  C13b_ops_reflect_any I exH2 (exH1 (spInit {} (lit "a=1"))) 1 0 { u := exU, sp := some 1, cfg := {} }
    { u := exU, sp := some 0, cfg := {} } (by rw [exH2_eq]; rfl) rfl exH2_own1 (exH1_own _) rfl
    (by rw [exH2_eq]; rfl) ops
example (I : Idna) (l1 l2 : List Op) :=
  C13b_ops_frame_append I exH2 0 1 l1 l2 (by decide) exH2_sep exH2_own0 exH2_own1 (by decide)
example (p : Pairs) := C13b_alloc_indep (exH1 p) {} ⟨exU, .url⟩ 1 rfl 0 _ rfl (exH1_own p)
example (I : Idna) (p : Pairs) (ops : List Op) := C13b_ops_reflect I (exH1 p) 0 _ rfl (exH1_own p) ops
example (I : Idna) (p : Pairs) (m : SpMut) := C13b_reflect_mut I (exH1 p) 0 _ 0 _ rfl rfl rfl rfl m

/-- run below on the CLONE (object 1) of `http://h/?a=1` -/
def exOps : List Op :=
  [.mut (.append (lit "b") (lit "2")), .set .hash (lit "f"), .sp, .clone, .resolve (lit "x"), .mut .sort,
   .mut (.delete (lit "a"))]

/-- query, fragment, list -/
def qfl (x : Option (Url × Option Pairs)) : Option (Option Bytes) × Option (Option Bytes) × Option (Option Pairs) :=
  (x.map (·.1.query), x.map (·.1.fragment), x.map (·.2))

-- given by hand: instance search for `DecidableEq` of this nested product runs out of size (as for `instDecEqObs`
-- in Proofs/Heap.lean)
instance : DecidableEq (Option (Option Bytes) × Option (Option Bytes) × Option (Option Pairs)) :=
  fun a b => @instDecidableEqProd _ _ _ (fun c d => instDecidableEqProd c d) a b

example :
    obsAll (applyOps exI ((exH1 [(lit "a", lit "1")]).clone 0).1 1 exOps) 0 = some (exU, some [(lit "a", lit "1")]) ∧
    qfl (obsAll (applyOps exI ((exH1 [(lit "a", lit "1")]).clone 0).1 1 exOps) 1) =
      (some (some (lit "b=2")), some (some (lit "f")), some (some [(lit "b", lit "2")])) := by
  decide +kernel

/-- `true`: the original (object 0), `false`: its clone (object 1) -/
def exBoth : List (Bool × Op) :=
  [(true, .mut (.append (lit "x") (lit "9"))), (false, .mut (.delete (lit "a"))), (true, .clone),
   (false, .set .hash (lit "f")), (true, .mut .sort), (false, .mut (.append (lit "c") (lit "3")))]

example :
    qfl (obsAll (applyBoth exI ((exH1 [(lit "a", lit "1")]).clone 0).1 0 1 exBoth) 0) =
      (some (some (lit "a=1&x=9")), some none, some (some [(lit "a", lit "1"), (lit "x", lit "9")])) ∧
    qfl (obsAll (applyBoth exI ((exH1 [(lit "a", lit "1")]).clone 0).1 0 1 exBoth) 1) =
      (some (some (lit "c=3")), some (some (lit "f")), some (some [(lit "c", lit "3")])) := by
  decide +kernel

end Examples

section AxiomCheck
#print axioms WhatwgUrl.Props.C13b.C13b_ops_frame_Statement_false
#print axioms WhatwgUrl.Props.C13b.C13b_ops_frame_partial
#print axioms WhatwgUrl.Props.C13b.C13b_ops_frame
#print axioms WhatwgUrl.Props.C13b.C13b_ops_frame_append
#print axioms WhatwgUrl.Props.C13b.C13b_handles_live
#print axioms WhatwgUrl.Props.C13b.C13b_clone_indep
#print axioms WhatwgUrl.Props.C13b.C13b_clone_independent_history
#print axioms WhatwgUrl.Props.C13b.C13b_resolve_base_unchanged
#print axioms WhatwgUrl.Props.C13b.C13b_resolve_indep
#print axioms WhatwgUrl.Props.C13b.C13b_alloc_indep
#print axioms WhatwgUrl.Props.C13b.C13b_resolve_independent_history
#print axioms WhatwgUrl.Props.C13b.C13b_ops_reflect
#print axioms WhatwgUrl.Props.C13b.C13b_ops_reflect_solo
#print axioms WhatwgUrl.Props.C13b.C13b_ops_reflect_any
#print axioms WhatwgUrl.Props.C13b.C13b_reflect_set
#print axioms WhatwgUrl.Props.C13b.C13b_reflect_mut
#print axioms WhatwgUrl.Props.C13b.C13b_reflect_sp
#print axioms WhatwgUrl.Props.C13b.C13b_interleaving
#print axioms WhatwgUrl.Props.C13b.C13b_clone_interleaving
#print axioms WhatwgUrl.Props.C13b.C13b_resolve_interleaving
#print axioms WhatwgUrl.Props.C13b.exResolve
end AxiomCheck

end WhatwgUrl.Props.C13b
