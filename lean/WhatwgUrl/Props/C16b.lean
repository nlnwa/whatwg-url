import WhatwgUrl.Proofs.Neutral
import WhatwgUrl.Proofs.NeutralUtf8
import WhatwgUrl.Proofs.NeutralBar
import WhatwgUrl.Proofs.RunTo
/-
  C16 — the parser options that relax or extend parsing are CONSERVATIVE EXTENSIONS: each changes the
  result of `basicParser` only for inputs that contain its trigger.  Here: skip-drive-letter (§1), accept-invalid (§2),
  single-percent (§3: under strict host parsing only; the statement for every configuration is refuted), lax host parsing
  (§4), collapse (§5: the trigger is asked of the run, not of the text or the result; the candidate with a hypothesis on
  the result is refuted).  The special-scheme table is in `Props/C16c.lean`.

  Method: the option field is read only in branches whose guard mentions the trigger (`Agree`, `Proofs/CfgCongr.lean`); for
  lax host parsing the runs are "equal, or the strict run has returned something other than a url" (`Lax`,
  `Proofs/Neutral.lean`).
  The triggers are asked of different texts: `|` (§1) and ill-formed UTF-8 (§2) of the raw `input`; the lone `%` (§3) of
  `goRunes (prologueText url input)`, the text the state machine runs on (`Proofs/Machine2.lean`: the input after trimming —
  for a fresh url only — and tab/newline removal); §5 of the states the run visits (`parserVisits`).
-/
namespace WhatwgUrl.Props.C16b
open WhatwgUrl WhatwgUrl.Impl WhatwgUrl.Proofs.Neutral WhatwgUrl.Proofs.Machine
open WhatwgUrl.Proofs (runTo loop_runTo)

/-- the identity oracle: returns the domain unchanged and never reports an error -/
def idI : Idna := fun s => (s, false)

/-! ### 1. skip-drive-letter-normalization: trigger `|` -/

/-- without a byte `|` in the input, skipping the Windows drive letter normalization changes nothing -/
theorem C16_skipDrive_neutral (cfg : Cfg) (I : Idna) (input : Bytes) (base url : Option Url) (ov : Option State)
    (h : (0x7c : UInt8) ∉ input) :
    basicParser { cfg with skipDrive := true } I input base url ov =
      basicParser { cfg with skipDrive := false } I input base url ov := by
  refine basicParser_agree { cfg with skipDrive := true } { cfg with skipDrive := false } rfl rfl I input base url ov NB
    (fun ps hp => ?_) (fun ps hI => ?_) (fun ps hI => step_nb _ (nb_prologue url input h) rfl ps hI)
  · obtain ⟨u, -, rfl⟩ := prologue_cont _ _ _ _ _ hp
    simp [NB]
  · exact { drive := Or.inr (by rw [Proofs.Machine.next_buffer]; exact hI) }

/-- non-vacuity: `file:///C:/x` contains no `|` (and is a drive letter path, so the guarded branch is reached) -/
example : (0x7c : UInt8) ∉ lit "file:///C:/x" := by decide
example : (basicParser { Cfg.default with skipDrive := true } idI (lit "file:///C:/x") none none none).url.path.segs =
    [lit "C:", lit "x"] := by decide +kernel

/-- the hypothesis matters: `file:///C|/x` -/
example : basicParser { Cfg.default with skipDrive := true } idI (lit "file:///C|/x") none none none ≠
    basicParser { Cfg.default with skipDrive := false } idI (lit "file:///C|/x") none none none := by
  decide +kernel

/-! ### 2. accept-invalid-code-points: trigger ill-formed UTF-8 -/

/-- on well-formed UTF-8 input, accepting invalid code points changes nothing -/
theorem C16_acceptInvalid_neutral (cfg : Cfg) (I : Idna) (input : Bytes) (base url : Option Url) (ov : Option State)
    (h : validUtf8 input = true) :
    basicParser { cfg with acceptInvalid := true } I input base url ov =
      basicParser { cfg with acceptInvalid := false } I input base url ov :=
  basicParser_agree_all { cfg with acceptInvalid := true } { cfg with acceptInvalid := false } rfl rfl I input base url ov
    fun ps => { ai := Or.inr (ciI_false _ (valid_prologue url input h) _) }

/-- `foo://é/` and `http://\xff/` as bytes -/
def exValid : Bytes := lit "foo://" ++ [0xc3, 0xa9] ++ lit "/"
def exInvalid : Bytes := lit "http://" ++ [0xff] ++ lit "/"

/-- non-vacuity: a non-ASCII well-formed input -/
example : validUtf8 exValid = true := by decide +kernel

/-- a pre-parse-host hook that makes the content of the host buffer observable without going through the percent
    decoder.  THE KERNEL AND THE PERCENT DECODER: `decodePercent` is compiled by well-founded recursion, which the kernel
    does not unfold, so `decide +kernel` cannot evaluate a run through the domain branch of the host parser (nor
    `repeatedDecode`, `SearchParams.init`).  The examples avoid the branch (IPv6 hosts, this hook), or rewrite with the
    equation lemmas of the decoder (`Proofs/Percent.lean`) or with its fuelled twins (`Proofs/SpEval.lean`, `Proofs.Canon.…E`). -/
def probe : Url → Bytes → Bytes := fun _ s => if s == [0xff] then lit "[::1]" else lit "[::2]"

/-- the hypothesis matters: with the ill-formed byte 0xFF in the host the raw byte reaches the host parser only when
    the option is on -/
example : basicParser { Cfg.default with preHost := some probe, acceptInvalid := true } idI exInvalid none none none ≠
    basicParser { Cfg.default with preHost := some probe, acceptInvalid := false } idI exInvalid none none none := by
  decide +kernel

/-! ### 3. percent-encode-single-percent-sign: trigger a `%` not followed by two hex digits -/

/-- the text the state machine runs on (`prologueText url input`: the input after trimming — only for a fresh url — and
    tab/newline removal) has no `%` that is not followed by two hex digits -/
def NoLonePercent (rs : Str) : Prop :=
  ∀ k, rs[k]? = some '%' →
    ∃ a b, rs[k+1]? = some a ∧ rs[k+2]? = some b ∧ isHexN a.toNat = true ∧ isHexN b.toNat = true

/-- no lone `%` at position `k` -/
theorem invalidPct_drop_false (rs : Str) (k : Nat) : invalidPct (rs.drop k) = false ↔
    (rs[k]? = some '%' → ∃ a b, rs[k+1]? = some a ∧ rs[k+2]? = some b ∧ isHexN a.toNat = true ∧ isHexN b.toNat = true) := by
  have h0 : rs[k]? = (rs.drop k)[0]? := by rw [List.getElem?_drop]; rfl
  have h1 : rs[k+1]? = (rs.drop k)[1]? := by rw [List.getElem?_drop]
  have h2 : rs[k+2]? = (rs.drop k)[2]? := by rw [List.getElem?_drop]
  rw [h0, h1, h2]
  generalize rs.drop k = l
  unfold invalidPct
  match l with
  | [] => simp
  | [c0] => simp
  | [c0, c1] => simp
  | c0 :: c1 :: c2 :: _ => simp

/-- a Boolean test for `NoLonePercent` (for the examples) -/
def nlpB (rs : Str) : Bool := (List.range (rs.length + 1)).all fun k => !invalidPct (rs.drop k)

theorem noLone_of_nlpB (rs : Str) (h : nlpB rs = true) : NoLonePercent rs := by
  intro k hk
  refine (invalidPct_drop_false rs k).1 ?_ hk
  simp only [nlpB, List.all_eq_true, List.mem_range, Bool.not_eq_true'] at h
  exact h k (by have := (List.getElem?_eq_some_iff.mp hk).1; omega)

/-- the full statement (for every `cfg`).  It is FALSE when `cfg.laxHost = true` (`C16_pctSingle_neutral_Statement_false`
    below): the lax-host fallback re-encodes the IDNA output — a text that is not the input — with `PercentEncodeString`,
    which reads the option.  For `http://a%25x/` (no lone `%`) under `laxHost := true` and the identity oracle the host is
    `a%25x` with the option and `a%x` without. -/
def C16_pctSingle_neutral_Statement : Prop :=
  ∀ (cfg : Cfg) (I : Idna) (input : Bytes) (base url : Option Url) (ov : Option State),
    NoLonePercent (goRunes (prologueText url input)) →
    basicParser { cfg with pctSingle := true } I input base url ov =
      basicParser { cfg with pctSingle := false } I input base url ov

/-- without a lone `%` in the text, and with strict host parsing, percent-encoding single percent signs changes nothing -/
theorem C16_pctSingle_neutral_partial (cfg : Cfg) (hl : cfg.laxHost = false) (I : Idna) (input : Bytes)
    (base url : Option Url) (ov : Option State) (h : NoLonePercent (goRunes (prologueText url input))) :
    basicParser { cfg with pctSingle := true } I input base url ov =
      basicParser { cfg with pctSingle := false } I input base url ov :=
  basicParser_agree_all { cfg with pctSingle := true } { cfg with pctSingle := false } rfl rfl I input base url ov
    fun ps => { host := fun _ => parseHost_agree I (Or.inr hl), pct := Or.inr ((invalidPct_drop_false _ _).2 (h _)) }

/-- non-vacuity: `foo:/a%20b` has a `%`, but no lone one -/
example : NoLonePercent (goRunes (prologueText none (lit "foo:/a%20b"))) := noLone_of_nlpB _ (by decide +kernel)

/-- the hypothesis matters: `foo:/a%zz` -/
example : basicParser { Cfg.default with pctSingle := true } idI (lit "foo:/a%zz") none none none ≠
    basicParser { Cfg.default with pctSingle := false } idI (lit "foo:/a%zz") none none none := by
  decide +kernel

/-! The refutation of the full statement.  The run on `http://a%25x/` goes through the percent decoder (see `probe` above: the
    kernel does not evaluate it), so it is evaluated in three stages: 18 iterations by the kernel, the iteration that calls
    the host parser by rewriting with the value of `parseHost` (obtained through the equation lemmas of the percent
    decoder), the rest by the kernel.  Under lax host
    parsing the host `a%25x` decodes to `a%x`, the forbidden `%` triggers the fallback encoder, and the option decides
    between `a%25x` and `a%x`. -/

private theorem decodePercent_ex (c : Cfg) (h : c.encOverride = none) :
    decodePercent c [0x61, 0x25, 0x32, 0x35, 0x78] = [0x61, 0x25, 0x78] := by
  rw [Proofs.Percent.decodePercent_cons_ne c _ _ (by decide), Proofs.Percent.decodePercent_esc c _ _ _ (by decide) (by decide),
    Proofs.Percent.escBytes_none h, Proofs.Percent.decodePercent_no_pct c [0x78] (by decide)]
  rfl

private theorem parseHost_ex (c : Cfg) (hp : c.preHost = none) (u : Url) (ns : Bool) :
    parseHost c idI u (lit "a%25x") ns = Proofs.HostWF.hostOf c idI u ns [0x61, 0x25, 0x32, 0x35, 0x78] := by
  rw [Proofs.HostWF.parseHost_eq, Proofs.Web.preIn_none hp]
  rfl

def cLaxT : Cfg := { Cfg.default with laxHost := true, pctSingle := true }
def cLaxF : Cfg := { Cfg.default with laxHost := true, pctSingle := false }

def exSrc : Bytes := lit "http://a%25x/"
def exEnv (c : Cfg) : Env := ⟨c, idI, exSrc, goRunes exSrc, none, none⟩
def exPs0 : PS := { state := .schemeStart, pointer := -1, eof := false, buffer := [], atFlag := false,
                    bracketFlag := false, pwSeen := false, url := {} }
def exPsA : PS := { state := .host, pointer := 11, eof := false, buffer := lit "a%25x", atFlag := false,
                    bracketFlag := false, pwSeen := false, url := { scheme := lit "http" } }

theorem ex_stage1 (c : Cfg) (hs : c = cLaxT ∨ c = cLaxF) : runTo (exEnv c) 18 exPs0 = .cont exPsA := by
  rcases hs with h | h <;> subst h <;> decide +kernel

def exHost (c : Cfg) : Bytes := if c.pctSingle then lit "a%25x" else lit "a%x"
def exPsB (c : Cfg) : PS :=
  { state := .pathStart, pointer := 11, eof := false, buffer := [], atFlag := false, bracketFlag := false, pwSeen := false,
    url := { scheme := lit "http", host := some (exHost c), qlog := [lit "a%x"] } }

theorem ex_parseHost (c : Cfg) (hs : c = cLaxT ∨ c = cLaxF) :
    parseHost c idI { scheme := lit "http" } (lit "a%25x") false =
      ⟨{ scheme := lit "http", qlog := [lit "a%x"] }, .ok (exHost c)⟩ := by
  have hp : c.preHost = none := by rcases hs with h | h <;> subst h <;> rfl
  have he : c.encOverride = none := by rcases hs with h | h <;> subst h <;> rfl
  rw [parseHost_ex c hp]
  simp only [Proofs.HostWF.hostOf, Proofs.HostWF.domainHost, Proofs.Domain.finishDomain, decodePercent_ex c he]
  rcases hs with h | h <;> subst h <;> decide +kernel

/-- the host-end step, with the host parser call exposed -/
theorem ex_step (c : Cfg) (hs : c = cLaxT ∨ c = cLaxF) :
    step (exEnv c) exPsA =
      bottom (afterHost (parseHost c idI { scheme := lit "http" } (lit "a%25x") false)
        { exPsA with pointer := 11 }
        fun ps h => .cont { ps with url := { ps.url with host := some h }, buffer := [], state := .pathStart }) := by
  rcases hs with h | h <;> subst h <;> rfl

theorem ex_stage2 (c : Cfg) (hs : c = cLaxT ∨ c = cLaxF) : step (exEnv c) exPsA = .cont (exPsB c) := by
  rw [ex_step c hs, ex_parseHost c hs]; rcases hs with h | h <;> subst h <;> decide +kernel

theorem ex_stage3 (c : Cfg) (hs : c = cLaxT ∨ c = cLaxF) : (loop (exEnv c) 341 (exPsB c)).url.host = some (exHost c) := by
  rcases hs with h | h <;> subst h <;> decide +kernel

theorem ex_loop (c : Cfg) (hs : c = cLaxT ∨ c = cLaxF) : (loop (exEnv c) 360 exPs0).url.host = some (exHost c) := by
  rw [show (360 : Nat) = 18 + (341 + 1) from rfl, loop_runTo, ex_stage1 c hs]
  simp only []
  rw [Proofs.Machine.loop_succ, ex_stage2 c hs]
  exact ex_stage3 c hs

theorem ex_basicParser (c : Cfg) (hs : c = cLaxT ∨ c = cLaxF) :
    basicParser c idI exSrc none none none = loop (exEnv c) 360 exPs0 := by
  rcases hs with h | h <;> subst h <;> rfl

theorem C16_pctSingle_neutral_Statement_false : ¬ C16_pctSingle_neutral_Statement := by
  intro h
  have h1 := h { Cfg.default with laxHost := true } idI exSrc none none none (noLone_of_nlpB _ (by decide +kernel))
  have h2 : (basicParser cLaxT idI exSrc none none none).url.host = (basicParser cLaxF idI exSrc none none none).url.host :=
    congrArg (fun r => r.url.host) h1
  rw [ex_basicParser cLaxT (Or.inl rfl), ex_basicParser cLaxF (Or.inr rfl), ex_loop _ (Or.inl rfl),
    ex_loop _ (Or.inr rfl)] at h2
  revert h2
  decide

/-! ### 4. lax host parsing: trigger "the strict parser fails" -/

/-- on inputs the strict parser accepts, lax host parsing changes nothing -/
theorem C16_lax_neutral (cfg : Cfg) (I : Idna) (input : Bytes) (base url : Option Url) (ov : Option State) :
    (basicParser { cfg with laxHost := false } I input base url ov).ret = .url →
    basicParser { cfg with laxHost := true } I input base url ov =
      basicParser { cfg with laxHost := false } I input base url ov :=
  basicParser_lax { cfg with laxHost := false } rfl I input base url ov

/-- non-vacuity: the strict parser accepts `foo://a.b/x` -/
example : (basicParser { Cfg.default with laxHost := false } idI (lit "foo://a.b/x") none none none).ret = .url := by
  decide +kernel

/-- the hypothesis matters: a forbidden host code point is rejected by the strict parser and kept by the lax parser -/
example : (basicParser { Cfg.default with laxHost := false } idI (lit "foo://a^b/x") none none none).ret ≠ .url ∧
    (basicParser { Cfg.default with laxHost := true } idI (lit "foo://a^b/x") none none none).ret = .url := by
  decide +kernel

/-! ### 5. collapse-consecutive-slashes: trigger "a segment is appended after an empty last segment" -/

/-- a candidate statement with a hypothesis on the RESULT of the non-collapsing parser ("its path has no empty non-final
    segment").  It is false: `..` can remove the evidence. -/
def C16_collapse_neutral_Statement : Prop :=
  ∀ (cfg : Cfg) (I : Idna) (input : Bytes) (base url : Option Url) (ov : Option State),
    (∀ s ∈ (basicParser { cfg with collapse := false } I input base url ov).url.path.segs.dropLast, s ≠ []) →
    basicParser { cfg with collapse := true } I input base url ov =
      basicParser { cfg with collapse := false } I input base url ov

/-- counterexample: `http://[::1]/a//x/../../y` gives `/a/y` without and `/y` with the option -/
theorem C16_collapse_neutral_Statement_false : ¬ C16_collapse_neutral_Statement := by
  intro h
  have := h Cfg.default idI (lit "http://[::1]/a//x/../../y") none none none (by decide +kernel)
  revert this
  decide +kernel

/-- the option is neutral when the run of the non-collapsing parser never visits a state satisfying `collapseTrig`
    (path state, special scheme, non-empty path whose last segment is empty); `parserVisits` is `basicParser` with the
    loop replaced by "does the loop visit such a state", so the hypothesis is decidable by evaluation.  `collapseTrig`
    reads only `isSpecial` (the scheme table) of its configuration argument, not the `collapse` field: `collapseTrig cfg`
    and `collapseTrig { cfg with collapse := false }` are the same function -/
theorem C16_collapse_neutral_partial (cfg : Cfg) (I : Idna) (input : Bytes) (base url : Option Url) (ov : Option State)
    (h : parserVisits { cfg with collapse := false } I input base url ov (collapseTrig cfg) = false) :
    basicParser { cfg with collapse := true } I input base url ov =
      basicParser { cfg with collapse := false } I input base url ov :=
  basicParser_agree_visits { cfg with collapse := true } { cfg with collapse := false } rfl rfl I input base url ov (collapseTrig cfg)
    (fun ps hp => { collapse := Or.inr ((collapseTrig_next cfg _ ps).trans hp) }) h

/-- non-vacuity: an ordinary special url with a path, a dot segment and a trailing slash -/
example : parserVisits { Cfg.default with collapse := false } idI (lit "http://[::1]/a/./b/") none none none
    (collapseTrig Cfg.default) = false := by decide +kernel

/-- the hypothesis matters: `http://[::1]/a//b` -/
example : basicParser { Cfg.default with collapse := true } idI (lit "http://[::1]/a//b") none none none ≠
    basicParser { Cfg.default with collapse := false } idI (lit "http://[::1]/a//b") none none none := by
  decide +kernel

/-- a purely syntactic trigger ("two adjacent slashes in the path") would not do: with skip-trailing-slash normalization
    the path `\x` of a special url starts with an empty segment -/
example : basicParser { Cfg.default with skipTrailingSlash := true, collapse := true } idI (lit "http://[::1]\\x") none none none ≠
    basicParser { Cfg.default with skipTrailingSlash := true, collapse := false } idI (lit "http://[::1]\\x") none none none := by
  decide +kernel

end WhatwgUrl.Props.C16b
