import WhatwgUrl.Props.C14t
/-
  C13t — C13 on the Go SOURCE, from the mod/ref summary regenerated on every run (T1; `C14t.allMR`): the parser and the
  entry points store nothing to the base and keep no reference into it; `Clone` stores to nothing and its result leads back
  to the original at most through the list's back pointer.  The clause on later operation sequences ("after any sequence of
  setter or search-parameter operations …") is model-level: `C13.lean`, `C13b.lean`.
  A module of its own, imported by no model-level module: a change of the source that breaks one of these facts does not
  take the model-level theorems down with it.
-/
namespace WhatwgUrl.Props.C13t

/-- from the typed mod/ref summary (`harness/modref.go`): `BasicParser` never stores to its base parameter, stores no
    reference reachable from it into the url under construction, and returns a new object or its third parameter; the
    entry points return new objects and store to nothing -/
theorem C13_base_never_modified_or_shared : ∀ e ∈ C14t.allMR,
    (e.name = "parser.BasicParser" → "param1" ∉ e.writes ∧ e.aliases = [] ∧ e.returns = ["fresh", "param2"]) ∧
    (e.name ∈ ["Url.Parse", "parser.Parse", "parser.ParseRef", "Parse", "ParseRef"] → e.writes = [] ∧ e.returns = ["fresh"]) :=
  fun e he => ⟨(C14t.C14_base_untouched e he).1, fun hm => (C14t.C14_base_untouched e he).2 ((by decide :
    ["Url.Parse", "parser.Parse", "parser.ParseRef", "Parse", "ParseRef"] ⊆
      ["Url.Parse", "parser.Parse", "parser.ParseRef", "Parse", "ParseRef", "profile.Parse", "profile.ParseRef"]) hm)⟩

/-- `Clone` stores to nothing and returns a new object none of whose fields leads back into the original, except — as far
    as the flow-insensitive analysis can tell — through `searchParams` (the list's back pointer is first copied, then
    re-targeted to the clone; that the final heap is separated is `C13.C13_clone_separated`, on the model). A shallow copy of
    the path or of a string pointer (`path: u.path`) would add `fresh.path>recv` here. -/
theorem C13_clone_is_deep : ∀ e ∈ C14t.allMR,
    (e.name = "Url.Clone" → e.writes = [] ∧ ∀ r ∈ e.returns, r = "fresh" ∨ r = "fresh.searchParams>recv") ∧
    (e.name = "SearchParams.Clone" → e.writes = [] ∧ ∀ r ∈ e.returns, r = "fresh" ∨ r = "fresh.url>recv") := by decide +kernel

theorem C13_summary_covers : "Url.Clone" ∈ C14t.allMR.map C14t.MR.name ∧ "SearchParams.Clone" ∈ C14t.allMR.map C14t.MR.name ∧
    "parser.BasicParser" ∈ C14t.allMR.map C14t.MR.name := by decide +kernel

end WhatwgUrl.Props.C13t
