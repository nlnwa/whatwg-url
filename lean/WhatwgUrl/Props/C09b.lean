import WhatwgUrl.Proofs.Domain
import WhatwgUrl.Props.C07
/-
  C09b — domain hosts of special-scheme URLs: the ASCII pipeline around the IDNA oracle.

  The x/net IDNA library is an oracle `I : Idna`; the theorems assume the single law `L1` of the library that the
  property needs (checked against the real library by differential testing on every verification run):
  on a pure-ASCII input without an ACE (`xn--`) label the library returns the ASCII-lower-cased input
  (possibly together with an error flag).

  1. `C09_ascii_host`        — the pipeline in closed form (`finishDomain`)
  2. `C09_case_independent`  — the result does not depend on ASCII letter case
  3. `C09_decode_spelling`   — … nor on which bytes are written as `%XX` (`C09_escape_independent`)
  4. `C09_output_shape`      — an accepted host has no forbidden domain code point or is a serialized IPv4 address
  5. `C09_file_localhost`    — one step of the file-host state (`stFileHost`): a buffered host that is `localhost` in any
                               such spelling becomes the empty host. (A statement about a whole parse of
                               `file://LOCALHOST/…` is not given here.)
-/
namespace WhatwgUrl.Props.C09b
open WhatwgUrl WhatwgUrl.Impl WhatwgUrl.Proofs.IPv4 WhatwgUrl.Proofs.Domain
open WhatwgUrl.Proofs (forall_uint8)

export WhatwgUrl.Proofs.Domain (PureAsciiNoAce L1 finishDomain Spelling hasEscape withQ)

/-- the idealised library on ASCII: ASCII lower-casing, never an error. Not `Proofs.Sim.I0` (which answers non-ASCII input with
    an error). -/
def I0 : Idna := fun s => (asciiLower s, false)

/-- non-vacuity of `L1` -/
example : L1 I0 := fun _ _ => rfl
/-- … also with the error flag raised (the library flags e.g. STD3-disallowed characters but still returns the string) -/
example : L1 (fun s => (asciiLower s, true)) := fun _ _ => rfl

/-! ### 1. the ASCII pipeline in closed form -/

/-- Full form: the whole result (url and outcome); the only trace of the oracle is the ghost field `qlog`. Needs
    `cfg.preHost = none` (the hook may rewrite the input) and `cfg.encOverride = none` (the override re-encodes the
    domain before ToASCII); `laxHost`, `postHost` and the error options are arbitrary (they are part of `finishDomain`). -/
theorem C09_ascii_host_full (cfg : Cfg) (hpre : cfg.preHost = none) (henc : cfg.encOverride = none)
    (I : Idna) (hI : L1 I) (u : Url) (s : Bytes) (hne : s ≠ []) (hb : s.head? ≠ some 0x5b)
    (hd : PureAsciiNoAce (decodePercent cfg s)) :
    parseHost cfg I u s false =
      finishDomain cfg (withQ (u.qlog ++ [decodePercent cfg s]) u) (asciiLower (decodePercent cfg s)) :=
  parseHost_ascii cfg hpre henc I hI u s hne hb hd

/-- **C09, closed form**: outcome of the host parser on a pure-ASCII host without ACE label.
    `cfg.postHost = none` is needed only because the hook is handed the url (with its `qlog`). -/
theorem C09_ascii_host (cfg : Cfg) (hpre : cfg.preHost = none) (hpost : cfg.postHost = none)
    (henc : cfg.encOverride = none) (I : Idna) (hI : L1 I) (u : Url) (s : Bytes) (hne : s ≠ [])
    (hb : s.head? ≠ some 0x5b) (hd : PureAsciiNoAce (decodePercent cfg s)) :
    (parseHost cfg I u s false).out = (finishDomain cfg u (asciiLower (decodePercent cfg s))).out :=
  parseHost_ascii_out cfg hpre hpost henc I hI u s hne hb hd

/-- the oracle is consulted exactly once, with the percent-decoded host -/
theorem C09_ascii_host_qlog (cfg : Cfg) (hpre : cfg.preHost = none) (hpost : cfg.postHost = none)
    (henc : cfg.encOverride = none) (I : Idna) (hI : L1 I) (u : Url) (s : Bytes) (hne : s ≠ [])
    (hb : s.head? ≠ some 0x5b) (hd : PureAsciiNoAce (decodePercent cfg s)) :
    (parseHost cfg I u s false).url =
      withQ (u.qlog ++ [decodePercent cfg s]) (finishDomain cfg u (asciiLower (decodePercent cfg s))).url := by
  rw [C09_ascii_host_full cfg hpre henc I hI u s hne hb hd, finishDomain_withQ cfg hpost]
  rfl

/-- … so the url agrees too once the ghost field is erased (set to any fixed `q`) -/
theorem C09_ascii_host_url (cfg : Cfg) (hpre : cfg.preHost = none) (hpost : cfg.postHost = none)
    (henc : cfg.encOverride = none) (I : Idna) (hI : L1 I) (u : Url) (s : Bytes) (hne : s ≠ [])
    (hb : s.head? ≠ some 0x5b) (hd : PureAsciiNoAce (decodePercent cfg s)) (q : List Bytes) :
    withQ q (parseHost cfg I u s false).url =
      withQ q (finishDomain cfg u (asciiLower (decodePercent cfg s))).url :=
  (congrArg (withQ q) (C09_ascii_host_qlog cfg hpre hpost henc I hI u s hne hb hd) :)

/-! ### 2. case independence -/

theorem C09_case_independent (cfg : Cfg) (hpre : cfg.preHost = none) (hpost : cfg.postHost = none)
    (henc : cfg.encOverride = none) (I : Idna) (hI : L1 I) (u : Url) (s t : Bytes)
    (hst : asciiLower (decodePercent cfg s) = asciiLower (decodePercent cfg t))
    (hnes : s ≠ []) (hbs : s.head? ≠ some 0x5b) (hds : PureAsciiNoAce (decodePercent cfg s))
    (hnet : t ≠ []) (hbt : t.head? ≠ some 0x5b) (hdt : PureAsciiNoAce (decodePercent cfg t)) :
    (parseHost cfg I u s false).out = (parseHost cfg I u t false).out := by
  rw [C09_ascii_host cfg hpre hpost henc I hI u s hnes hbs hds,
    C09_ascii_host cfg hpre hpost henc I hI u t hnet hbt hdt, hst]

/-- literal ASCII spellings (no `%` at all): the ASCII letter case of the host does not matter -/
theorem C09_case_independent_literal (cfg : Cfg) (hpre : cfg.preHost = none) (hpost : cfg.postHost = none)
    (henc : cfg.encOverride = none) (I : Idna) (hI : L1 I) (u : Url) (s t : Bytes)
    (hps : (0x25 : UInt8) ∉ s) (hpt : (0x25 : UInt8) ∉ t) (hst : asciiLower s = asciiLower t)
    (hne : s ≠ []) (hb : s.head? ≠ some 0x5b) (hd : PureAsciiNoAce s) :
    (parseHost cfg I u s false).out = (parseHost cfg I u t false).out := by
  have hdt : PureAsciiNoAce t := pureAsciiNoAce_congr hst hd
  obtain ⟨hnet, hbt⟩ := Proofs.AsciiCase.head_of_asciiLower hst hne hb
  apply C09_case_independent cfg hpre hpost henc I hI u s t
  · rw [decodePercent_no_pct cfg s hps, decodePercent_no_pct cfg t hpt, hst]
  · exact hne
  · exact hb
  · rw [decodePercent_no_pct cfg s hps]; exact hd
  · exact hnet
  · exact hbt
  · rw [decodePercent_no_pct cfg t hpt]; exact hdt

/-! ### 3. escape independence -/

/-- every spelling of `d` (each byte literal or `%XX`, hex digits in either case) decodes to `d`, provided `d` itself
    contains no `%` followed by two hex digits (`hasEscape d = false`: such a literal `%hh` in `d`, spelled literally,
    would be decoded).  This is the right side condition: an escape starts with `%`, never with a hex digit, so a
    literal `%` of `d` can only be completed to an escape by two literal hex digits of `d`. -/
theorem C09_decode_spelling (d s : Bytes) (h : Spelling d s) (hfix : hasEscape d = false) :
    decodePercent {} s = d :=
  decodePercent_spelling {} rfl h hfix

/-- the same for every configuration without encoding override -/
theorem C09_decode_spelling_cfg (cfg : Cfg) (henc : cfg.encOverride = none) (d s : Bytes) (h : Spelling d s)
    (hfix : hasEscape d = false) : decodePercent cfg s = d :=
  decodePercent_spelling cfg henc h hfix

/-- for hosts the relevant `d` has no `%` at all (it is a forbidden domain code point) -/
theorem C09_decode_spelling_no_pct (cfg : Cfg) (henc : cfg.encOverride = none) (d s : Bytes) (h : Spelling d s)
    (hp : (0x25 : UInt8) ∉ d) : decodePercent cfg s = d :=
  decodePercent_spelling cfg henc h (hasEscape_of_no_pct d hp)

/-- the side condition is necessary: "%41" spells itself (literally) but decodes to "A" -/
example : Spelling (lit "%41") (lit "%41") ∧ hasEscape (lit "%41") = true ∧ decodePercent {} (lit "%41") = lit "A" := by
  refine ⟨?_, by decide, ?_⟩
  · show Spelling [0x25, 0x34, 0x31] [0x25, 0x34, 0x31]
    exact .lit _ (.lit _ (.lit _ .nil))
  · show decodePercent {} [0x25, 0x34, 0x31] = [0x41]
    rw [decodePercent_esc_byte {} rfl _ _ _ (by decide) (by decide), decodePercent_nil]
    decide

/-- **escape independence of the host parser**: all spellings of a pure-ASCII host (without ACE label and without `%`)
    are parsed to the same result, namely that of its lower-cased literal form -/
theorem C09_escape_independent (cfg : Cfg) (hpre : cfg.preHost = none) (hpost : cfg.postHost = none)
    (henc : cfg.encOverride = none) (I : Idna) (hI : L1 I) (u : Url) (d s : Bytes) (h : Spelling d s)
    (hne : d ≠ []) (hb : d.head? ≠ some 0x5b) (hp : (0x25 : UInt8) ∉ d) (hd : PureAsciiNoAce d) :
    (parseHost cfg I u s false).out = (finishDomain cfg u (asciiLower d)).out := by
  have hdec := C09_decode_spelling_no_pct cfg henc d s h hp
  obtain ⟨h1, h2⟩ := spelling_head h hne hb
  rw [C09_ascii_host cfg hpre hpost henc I hI u s h1 h2 (by rw [hdec]; exact hd), hdec]

theorem C09_spellings_agree (cfg : Cfg) (hpre : cfg.preHost = none) (hpost : cfg.postHost = none)
    (henc : cfg.encOverride = none) (I : Idna) (hI : L1 I) (u : Url) (d s t : Bytes) (hs : Spelling d s)
    (ht : Spelling d t) (hne : d ≠ []) (hb : d.head? ≠ some 0x5b) (hp : (0x25 : UInt8) ∉ d)
    (hd : PureAsciiNoAce d) :
    (parseHost cfg I u s false).out = (parseHost cfg I u t false).out := by
  rw [C09_escape_independent cfg hpre hpost henc I hI u d s hs hne hb hp hd,
    C09_escape_independent cfg hpre hpost henc I hI u d t ht hne hb hp hd]

/-! ### 4. output shape -/

/-- what `forbiddenLoop` returning `none` means -/
theorem C09_forbidden_none (cfg : Cfg) (a : Bytes) (u u' : Url) (h : forbiddenLoop cfg a (goRunes a) u = (u', none)) :
    ∀ c ∈ goRunes a, forbiddenDomain c.toNat = false :=
  (forbiddenLoop_none_iff cfg a (goRunes a) u).mp (by rw [h])

/-- **Output shape** (no law about the oracle is needed).  In strict mode without hooks, whenever the host parser
    accepts a special-scheme host that does not start with `[`, ToASCII succeeded with some `a` without forbidden
    domain code point, and the host is `a` itself, or — if `a` ends in a number — the serialization of the IPv4
    address that the standard's IPv4 parser finds in `a`. -/
theorem C09_output_shape (cfg : Cfg) (hpre : cfg.preHost = none) (hpost : cfg.postHost = none)
    (hlax : cfg.laxHost = false) (hf : cfg.failOnVErr = false) (I : Idna) (u : Url) (s h : Bytes)
    (hok : (parseHost cfg I u s false).out = .ok h) (hb : s.head? ≠ some 0x5b) :
    ∃ a, (toASCII cfg I u (decodePercent cfg s)).1 = .ok a ∧
      (∀ c ∈ goRunes a, forbiddenDomain c.toNat = false) ∧
      ((endsInANumber cfg u a = false ∧ h = a) ∨
       (endsInANumber cfg u a = true ∧
          ∃ n, Spec.parseIPv4 (asStr a) = some n ∧ n < 2 ^ 32 ∧ h = ipv4String n)) := by
  match s, hb with
  | [], _ =>
    rw [WhatwgUrl.Proofs.HostWF.parseHost_nil cfg I u false hpre] at hok
    obtain rfl : [] = h := HOut.ok.inj hok
    refine ⟨[], by simp [toASCII], by simp [goRunes, goDecode, goDecodeAux], Or.inl ⟨rfl, rfl⟩⟩
  | b0 :: tl, hb =>
    rw [parseHost_domain_eq cfg hpre I u _ (List.cons_ne_nil _ _) hb] at hok
    obtain ⟨-, a, ha, hfl, hfin⟩ := WhatwgUrl.Proofs.HostWF.domainHost_strict_ok hlax I u _ h hok
    refine ⟨a, ha, (forbiddenLoop_none_iff cfg a (goRunes a) _).mp hfl, ?_⟩
    unfold finishDomain at hfin
    simp only [hfl, hpost] at hfin
    rw [endsInANumber_url cfg _ u] at hfin
    cases he : endsInANumber cfg u a with
    | false =>
      rw [he] at hfin
      simp only [Bool.false_eq_true, if_false] at hfin
      injection hfin with hfin
      exact Or.inl ⟨rfl, hfin.symm⟩
    | true =>
      rw [he] at hfin
      simp only [if_true] at hfin
      obtain ⟨n, hp, h1, h2⟩ := Props.C07.parseIPv4_ok_spec cfg _ a h hf hfin
      exact Or.inr ⟨rfl, n, hp, h1, h2⟩

/-- **Output shape for pure-ASCII hosts** (with `L1`): an accepted host is pure ASCII, lower case, and none of its
    bytes is a forbidden domain code point.  It is the lower-cased decoded input, unless that ends in a number. -/
theorem C09_output_shape_ascii (cfg : Cfg) (hpre : cfg.preHost = none) (hpost : cfg.postHost = none)
    (henc : cfg.encOverride = none) (hlax : cfg.laxHost = false) (hf : cfg.failOnVErr = false)
    (I : Idna) (hI : L1 I) (u : Url) (s h : Bytes) (hne : s ≠ [])
    (hok : (parseHost cfg I u s false).out = .ok h) (hb : s.head? ≠ some 0x5b)
    (hd : PureAsciiNoAce (decodePercent cfg s)) :
    (∀ x ∈ h, x.toNat < 0x80) ∧ asciiLower h = h ∧ (∀ x ∈ h, forbiddenDomain x.toNat = false) ∧
    (endsInANumber cfg u (asciiLower (decodePercent cfg s)) = false → h = asciiLower (decodePercent cfg s)) := by
  obtain ⟨a, ha, hforb, hcase⟩ := C09_output_shape cfg hpre hpost hlax hf I u s h hok hb
  rw [toASCII_pure cfg henc I hI u _ hd (decodePercent_ne_nil cfg s hne)] at ha
  injection ha with ha
  subst ha
  have hasc : Ascii (asciiLower (decodePercent cfg s)) := asciiLower_ascii hd.1
  rcases hcase with ⟨he, rfl⟩ | ⟨he, n, -, -, rfl⟩
  · exact ⟨hasc, WhatwgUrl.Proofs.AsciiCase.asciiLower_idem _, bytes_not_forbidden hasc hforb, fun _ => rfl⟩
  · obtain ⟨h1, h2, h3⟩ := ipv4String_host n
    exact ⟨h1, h2, h3, fun h0 => by rw [h0] at he; cases he⟩

/-! ### 5. file URLs: `localhost` becomes the empty host -/

/-- **file host state**: at a delimiter, with a buffered host that the host parser turns into `localhost`, the parser
    continues in the path start state with the EMPTY host (url/parser.go: `if host == "localhost" { host = "" }`).
    The buffer is named by a free `s` with `hbuf : ps.buffer = s`, so that a caller may supply the other hypotheses about
    any expression equal to the buffer; `C09_file_localhost_spelling` takes `s := ps.buffer`, `hbuf := rfl`. -/
theorem C09_file_localhost (e : Env) (hov : e.ov = none) (ps : PS) (r : Char) (s : Bytes)
    (hdelim : ps.eof = true ∨ r = '/' ∨ r = '\\' ∨ r = '?' ∨ r = '#')
    (hbuf : ps.buffer = s) (hdrive : isWindowsDriveLetter s = false) (hne : s ≠ [])
    (hhost : (parseHost e.cfg e.I ps.url s (!isSp e ps.url)).out = .ok (lit "localhost")) :
    stFileHost e ps r = .cont { (rewindLast ps) with
      url := { (parseHost e.cfg e.I ps.url s (!isSp e ps.url)).url with host := some [] },
      buffer := [], state := .pathStart } := by
  have hc : (ps.eof || r == '/' || r == '\\' || r == '?' || r == '#') = true := by
    rcases hdelim with h | h | h | h | h <;> simp [h]
  have hemp : s.isEmpty = false := by cases s <;> simp_all
  unfold stFileHost
  simp only [hc, if_true]
  simp only [rewindLast, hbuf, hdrive, hov, Bool.and_false, Bool.false_eq_true, if_false, hemp, afterHost, hhost,
    Option.isSome_none, beq_self_eq_true, if_true]

/-- … in particular the step continues in state `pathStart` with `url.host = some []` and an empty buffer -/
theorem C09_file_localhost' (e : Env) (hov : e.ov = none) (ps : PS) (r : Char) (s : Bytes)
    (hdelim : ps.eof = true ∨ r = '/' ∨ r = '\\' ∨ r = '?' ∨ r = '#')
    (hbuf : ps.buffer = s) (hdrive : isWindowsDriveLetter s = false) (hne : s ≠ [])
    (hhost : (parseHost e.cfg e.I ps.url s (!isSp e ps.url)).out = .ok (lit "localhost")) :
    ∃ ps', stFileHost e ps r = .cont ps' ∧ ps'.state = .pathStart ∧ ps'.url.host = some [] ∧ ps'.buffer = [] :=
  ⟨_, C09_file_localhost e hov ps r s hdelim hbuf hdrive hne hhost, rfl, rfl, rfl⟩

private theorem lowerB_eq_l : ∀ x : UInt8, lowerB x = 0x6c → x ≠ 0x5b ∧ x ≠ 0x25 := forall_uint8 (by decide +kernel)

/-- `localhost` passes the forbidden-code-point scan and does not end in a number: `finishDomain` returns it as it is -/
theorem finishDomain_localhost (cfg : Cfg) (hpost : cfg.postHost = none) (u : Url) :
    finishDomain cfg u (lit "localhost") = ⟨u, .ok (lit "localhost")⟩ := by
  have h2 : endsInANumber cfg u (lit "localhost") = false := by
    rw [Props.C07.C07_ends_in_number_conforms]; decide +kernel
  rw [finishDomain_ascii cfg hpost u _ (by unfold Ascii; decide) (by decide), h2]
  rfl

/-- any host `s` whose percent-decoded, lower-cased form is `localhost` is parsed to `localhost` -/
theorem C09_localhost_spellings (cfg : Cfg) (hpre : cfg.preHost = none) (hpost : cfg.postHost = none)
    (henc : cfg.encOverride = none) (I : Idna) (hI : L1 I) (u : Url) (s : Bytes)
    (hs : asciiLower (decodePercent cfg s) = lit "localhost") :
    (parseHost cfg I u s false).out = .ok (lit "localhost") ∧ s ≠ [] ∧ isWindowsDriveLetter s = false := by
  have hpure : PureAsciiNoAce (decodePercent cfg s) := by
    apply pureAsciiNoAce_congr (a := lit "localhost")
    · rw [hs]; decide
    · decide
  have hne : s ≠ [] := by
    intro e; subst e
    rw [decodePercent_nil] at hs
    exact absurd hs (by decide)
  have hb : s.head? ≠ some 0x5b := by
    match s, hne with
    | x :: xs, _ =>
      simp only [List.head?_cons, ne_eq, Option.some.injEq]
      intro e; subst e
      rw [decodePercent_cons_ne cfg _ xs (by decide)] at hs
      have := congrArg List.head? hs
      rw [show (lit "localhost").head? = some 0x6c by decide] at this
      simp only [asciiLower, List.map_cons, List.head?_cons, Option.some.injEq] at this
      exact absurd this (by decide)
  have hdrive : isWindowsDriveLetter s = false := by
    match s with
    | [] => rfl
    | [a] => rfl
    | [a, b] =>
      exfalso
      have : decodePercent cfg [a, b] = [a, b] := by
        rw [decodePercent_cons_of_not cfg a [b] (fun h => Bool.noConfusion h.2),
          decodePercent_cons_of_not cfg b [] (fun h => Bool.noConfusion h.2), decodePercent_nil]
      rw [this] at hs
      have := congrArg List.length hs
      rw [show (lit "localhost").length = 9 by decide] at this
      simp [asciiLower] at this
    | a :: b :: c :: r => rfl
  refine ⟨?_, hne, hdrive⟩
  rw [C09_ascii_host cfg hpre hpost henc I hI u s hne hb hpure, hs, finishDomain_localhost cfg hpost]

/-- **C09, file + localhost**: in the file host state of a special (file) URL, any spelling `s` of `localhost` — ASCII
    case and `%XX` escapes at will — yields the empty host -/
theorem C09_file_localhost_spelling (e : Env) (hov : e.ov = none) (hpre : e.cfg.preHost = none)
    (hpost : e.cfg.postHost = none) (henc : e.cfg.encOverride = none) (hI : L1 e.I) (ps : PS) (r : Char)
    (hsp : isSp e ps.url = true)
    (hdelim : ps.eof = true ∨ r = '/' ∨ r = '\\' ∨ r = '?' ∨ r = '#')
    (hs : asciiLower (decodePercent e.cfg ps.buffer) = lit "localhost") :
    ∃ ps', stFileHost e ps r = .cont ps' ∧ ps'.state = .pathStart ∧ ps'.url.host = some [] ∧ ps'.buffer = [] := by
  obtain ⟨h1, h2, h3⟩ := C09_localhost_spellings e.cfg hpre hpost henc e.I hI ps.url ps.buffer hs
  exact C09_file_localhost' e hov ps r ps.buffer hdelim rfl h3 h2 (by rw [hsp]; exact h1)

/-! ### non-vacuity: concrete hosts -/

section Examples

/-- two ASCII spellings of `example.com`: upper-case letters … (`C09d.exS` is another host: `é`+`A`) -/
def exS : Bytes := lit "EXAMPLE.com"
/-- … and an escaped letter -/
def exT : Bytes := lit "ex%41mple.COM"

theorem exS_decode : decodePercent {} exS = lit "EXAMPLE.com" := decodePercent_no_pct {} _ (by decide)
example : Spelling (lit "exAmple.COM") exT := spells_sound _ _ (by decide)
theorem exT_decode : decodePercent {} exT = lit "exAmple.COM" :=
  C09_decode_spelling _ _ (spells_sound _ _ (by decide)) (by decide)

/-- hypotheses of `C09_ascii_host` / `C09_case_independent` for both -/
example : exS ≠ [] ∧ exS.head? ≠ some 0x5b ∧ PureAsciiNoAce (decodePercent {} exS) := by
  rw [exS_decode]; decide
example : exT ≠ [] ∧ exT.head? ≠ some 0x5b ∧ PureAsciiNoAce (decodePercent {} exT) := by
  rw [exT_decode]; decide
example : asciiLower (decodePercent {} exS) = asciiLower (decodePercent {} exT) := by
  rw [exS_decode, exT_decode]; decide
example : ({} : Cfg).preHost = none ∧ ({} : Cfg).postHost = none ∧ ({} : Cfg).encOverride = none ∧
    ({} : Cfg).laxHost = false ∧ ({} : Cfg).failOnVErr = false := ⟨rfl, rfl, rfl, rfl, rfl⟩

/-- … and the conclusions, evaluated: both spellings give `example.com` -/
theorem exS_out : (parseHost {} I0 {} exS false).out = .ok (lit "example.com") := by
  rw [C09_ascii_host {} rfl rfl rfl I0 (fun _ _ => rfl) {} exS (by decide) (by decide) (by rw [exS_decode]; decide),
    exS_decode]
  decide +kernel
example : (parseHost {} I0 {} exT false).out = .ok (lit "example.com") := by
  rw [C09_ascii_host {} rfl rfl rfl I0 (fun _ _ => rfl) {} exT (by decide) (by decide) (by rw [exT_decode]; decide),
    exT_decode]
  decide +kernel
example : (parseHost {} I0 {} exS false).out = (parseHost {} I0 {} exT false).out :=
  C09_case_independent {} rfl rfl rfl I0 (fun _ _ => rfl) {} exS exT (by rw [exS_decode, exT_decode]; decide)
    (by decide) (by decide) (by rw [exS_decode]; decide) (by decide) (by decide) (by rw [exT_decode]; decide)

/-- literal case variants -/
example : (parseHost {} I0 {} (lit "EXAMPLE.com") false).out = (parseHost {} I0 {} (lit "example.COM") false).out :=
  C09_case_independent_literal {} rfl rfl rfl I0 (fun _ _ => rfl) {} _ _ (by decide) (by decide) (by decide)
    (by decide) (by decide) (by decide)

/-- the IPv4 branch of `finishDomain`: a pure-ASCII host that ends in a number -/
example : (parseHost {} I0 {} (lit "0X7f.1") false).out = .ok (lit "127.0.0.1") := by
  have hdec : decodePercent {} (lit "0X7f.1") = lit "0X7f.1" := decodePercent_no_pct {} _ (by decide)
  rw [C09_ascii_host {} rfl rfl rfl I0 (fun _ _ => rfl) {} _ (by decide) (by decide) (by rw [hdec]; decide), hdec]
  decide +kernel

/-- the failure branch of `finishDomain`: an escaped space is a forbidden domain code point (whatever the oracle
    says about it: here it even raises its error flag) -/
example : (parseHost {} (fun s => (asciiLower s, true)) {} (lit "a%20b") false).out =
    .err ⟨.DomainInvalidCodePoint, true⟩ := by
  have hdec : decodePercent {} (lit "a%20b") = lit "a b" :=
    C09_decode_spelling _ _ (spells_sound _ _ (by decide)) (by decide)
  rw [C09_ascii_host {} rfl rfl rfl _ (fun _ _ => rfl) {} _ (by decide) (by decide) (by rw [hdec]; decide), hdec]
  decide +kernel

/-- an ACE label is outside the scope of `L1` -/
example : ¬ PureAsciiNoAce (lit "a.XN--b") := by decide

/-- output shape on the examples: `exS_out` is a witness of the hypothesis of `C09_output_shape`(`_ascii`) -/
example : (∀ x ∈ lit "example.com", x.toNat < 0x80) ∧ asciiLower (lit "example.com") = lit "example.com" ∧
    (∀ x ∈ lit "example.com", forbiddenDomain x.toNat = false) :=
  have h := C09_output_shape_ascii {} rfl rfl rfl rfl rfl I0 (fun _ _ => rfl) {} exS (lit "example.com") (by decide)
    exS_out (by decide) (by rw [exS_decode]; decide)
  ⟨h.1, h.2.1, h.2.2.1⟩
example : (∀ x ∈ lit "example.com", forbiddenDomain x.toNat = false) ∧ asciiLower (lit "example.com") = lit "example.com" := by
  decide

/-- file host state: the buffered host `LOCAL%48ost` at end of input becomes the empty host -/
def exEnv : Env := { cfg := {}, I := I0, src := [], runes := [], base := none, ov := none }
def exPs : PS := { state := .fileHost, pointer := 20, eof := true, buffer := lit "LOCAL%48ost", atFlag := false,
                   bracketFlag := false, pwSeen := false, url := { scheme := lit "file" } }

example : asciiLower (decodePercent exEnv.cfg exPs.buffer) = lit "localhost" := by
  have : decodePercent {} (lit "LOCAL%48ost") = lit "LOCALHost" :=
    C09_decode_spelling _ _ (spells_sound _ _ (by decide)) (by decide)
  show asciiLower (decodePercent {} (lit "LOCAL%48ost")) = _
  rw [this]; decide

example : ∃ ps', stFileHost exEnv exPs repl = .cont ps' ∧ ps'.state = .pathStart ∧ ps'.url.host = some [] ∧
    ps'.buffer = [] := by
  have hdec : decodePercent {} (lit "LOCAL%48ost") = lit "LOCALHost" :=
    C09_decode_spelling _ _ (spells_sound _ _ (by decide)) (by decide)
  apply C09_file_localhost_spelling exEnv rfl rfl rfl rfl (fun _ _ => rfl) exPs repl (by decide) (Or.inl rfl)
  show asciiLower (decodePercent {} (lit "LOCAL%48ost")) = _
  rw [hdec]; decide

end Examples

end WhatwgUrl.Props.C09b

section AxiomCheck
open WhatwgUrl.Props.C09b
#print axioms C09_ascii_host_full
#print axioms C09_ascii_host
#print axioms C09_ascii_host_url
#print axioms C09_ascii_host_qlog
#print axioms C09_case_independent
#print axioms C09_case_independent_literal
#print axioms C09_decode_spelling
#print axioms C09_decode_spelling_cfg
#print axioms C09_decode_spelling_no_pct
#print axioms C09_escape_independent
#print axioms C09_spellings_agree
#print axioms C09_forbidden_none
#print axioms C09_output_shape
#print axioms C09_output_shape_ascii
#print axioms C09_file_localhost
#print axioms C09_file_localhost'
#print axioms C09_localhost_spellings
#print axioms C09_file_localhost_spelling
end AxiomCheck
