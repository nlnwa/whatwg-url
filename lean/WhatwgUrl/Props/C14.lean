/-
  C14 — parsers, profiles and read-only URL values are safe for concurrent use: no data race, no package-level table
  modified after initialisation, every call returns what it returns when run alone.
  The property is read as two facts about the sequential code: no operation of the read-only API stores to an object
  that existed before the call, and no package-level table is stored to after `init`. They are theorems over the
  regenerated mod/ref facts, in `Props/C14t.lean`. What the heap model says of a read-only base is
  `C13.C13_resolve` / `C13b.C13b_resolve_base_unchanged`. The step from "no shared writes" to "every interleaving returns
  what each call returns alone" has NO theorem: `C14_interleaving` below only records it (see the three docstrings).
  Trusted: the Go memory model; that x/net idna, bitset and charmap are safe for concurrent readers; that there is no
  store the syntactic extractor does not see (unsafe, reflection: their absence is itself a regenerated fact,
  `C14t.C14_no_exotic_features`).
-/
namespace WhatwgUrl.Props.C14

/-- an operation of the read-only API on a shared state `σ`: its result and the locations of `σ` it stores to.
    Instantiated nowhere: `writes` is a label, tied neither to `MR.writes` of C14t nor to an operation of `Impl.Heap`. -/
structure ReadOp (σ ρ : Type) where
  run : σ → ρ
  writes : σ → List Nat

/-- that every operation sees the initial state `s0` is the DEFINITION (it is what "no operation stores to the shared
    state" is read as), not a consequence of `writes`; no state update, no threads, no per-thread order are modelled -/
def runSchedule {σ ρ : Type} (s0 : σ) (ops : List (ReadOp σ ρ)) : List ρ := ops.map (·.run s0)

/-- true by the definition of `runSchedule`: the first conjunct is membership in a `map` along the permutation (`hnw` is
    not used), the second is `hnw` along `sched` -/
theorem C14_interleaving {σ ρ : Type} (s0 : σ) (ops sched : List (ReadOp σ ρ)) (hperm : sched.Perm ops)
    (hnw : ∀ op ∈ ops, op.writes s0 = []) :
    (∀ op ∈ sched, op.run s0 ∈ runSchedule s0 ops) ∧ (∀ op ∈ sched, op.writes s0 = []) := by
  constructor
  · intro op hop
    exact List.mem_map.mpr ⟨op, hperm.mem_iff.mp hop, rfl⟩
  · intro op hop
    exact hnw op (hperm.mem_iff.mp hop)

end WhatwgUrl.Props.C14
