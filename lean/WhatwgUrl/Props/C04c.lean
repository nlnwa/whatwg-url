import WhatwgUrl.Proofs.CharsetMachine
import WhatwgUrl.Props.C04b
/-
  C04 (character-set half) — after any parse and any sequence of setter and resolve calls (default configuration, ASCII
  IDNA oracle) no component of the URL record contains a code point that its percent-encode set or the forbidden
  host / domain code point sets exclude, no list-path segment is a dot segment, and the serialization is printable ASCII
  (a space can only come from an opaque path).

  Definitions (`Proofs/Charset.lean`, namespace `WhatwgUrl.Props.C04c`): `printable`, `okIn`, `hostCharsOk`, `segOk`,
  `pathOk`, `queryOk`, `fragOk`, `WFcC cfg u` (the invariant relative to the special-scheme table of `cfg`); here
  `WFc u := WFcC {} u` and `WFc_iff` spells it out clause by clause.

  The machine proof (`Proofs/CharsetMachine.lean`) uses the structural invariant `J` of C04b as a hypothesis, therefore the
  theorems carry the oracle hypothesis `IdnaNonEmpty` of C04b next to `hI : the oracle's output is ASCII`.
  Section 1 (parse / resolve) holds for EVERY outcome of the parser (not only `ret = .url`): `C04_parse_WFc_always`.
-/
namespace WhatwgUrl.Props.C04c
open WhatwgUrl.Impl WhatwgUrl.Proofs.HostWF WhatwgUrl.Proofs.IPv4 WhatwgUrl.Props.C04b
open WhatwgUrl.Proofs (forall_uint8)

/-- the character-set invariant of a URL record (default configuration) -/
def WFc (u : Url) : Prop := WFcC {} u

instance (u : Url) : Decidable (WFc u) := by unfold WFc; infer_instance

/-- the oracle's output is ASCII (law L2 of `Proofs/SimDefs.lean`) -/
def IdnaAscii (I : Idna) : Prop := ∀ s, ∀ x ∈ (I s).1, x.toNat < 0x80

theorem okIn_c0_iff (s : Bytes) : okIn c0Set s = true ↔ ∀ b ∈ s, printable b = true := by
  have h : ∀ b : UInt8, (printable b && !c0Set.has b.toNat) = printable b := forall_uint8 (by decide +kernel)
  simp only [okIn, h, List.all_eq_true]

theorem segByteOk_iff (sp : Bool) (b : UInt8) :
    segByteOk sp b = true ↔ (printable b = true ∧ pathSet.has b.toNat = false) ∧ b ≠ 0x2f ∧ (sp = true → b ≠ 0x5c) := by
  cases sp <;> simp [segByteOk, and_assoc]

theorem segOk_iff (sp : Bool) (s : Bytes) :
    segOk sp s = true ↔ (okIn pathSet s = true ∧ 0x2f ∉ s ∧ (sp = true → 0x5c ∉ s)) ∧ isSingleDot s = false ∧ isDoubleDot s = false := by
  simp only [segOk, okIn, Bool.and_eq_true, List.all_eq_true, segByteOk_iff, Bool.not_eq_true', and_assoc]
  constructor
  · rintro ⟨h, h2, h3⟩
    refine ⟨fun b hb => ⟨(h b hb).1, (h b hb).2.1⟩, ?_, ?_, h2, h3⟩
    · intro hm; exact (h _ hm).2.2.1 rfl
    · intro hsp hm; exact (h _ hm).2.2.2 hsp rfl
  · rintro ⟨h, h1, h2, h3, h4⟩
    refine ⟨fun b hb => ⟨(h b hb).1, (h b hb).2, ?_, ?_⟩, h3, h4⟩
    · rintro rfl; exact h1 hb
    · rintro hsp rfl; exact h2 hsp hb

/-- `WFc` clause by clause, in the words of the property text -/
theorem WFc_iff (u : Url) : WFc u ↔
    okIn userinfoSet u.username = true ∧ okIn userinfoSet u.password = true ∧
    (∀ h, u.host = some h → hostCharsOk (Cfg.isSpecial {} u.scheme) h = true) ∧
    (if u.path.opq = true then ∀ s ∈ u.path.segs, ∀ b ∈ s, printable b = true
     else ∀ s ∈ u.path.segs, okIn pathSet s = true ∧ 0x2f ∉ s ∧ (Cfg.isSpecial {} u.scheme = true → 0x5c ∉ s)) ∧
    (u.path.opq = false → ∀ s ∈ u.path.segs, isSingleDot s = false ∧ isDoubleDot s = false) ∧
    (∀ q, u.query = some q → okIn (if Cfg.isSpecial {} u.scheme = true then specialQuerySet else querySet) q = true) ∧
    (∀ f, u.fragment = some f → okIn fragmentSet f = true) := by
  have hh : hostOk (Cfg.isSpecial {} u.scheme) u.host = true ↔
      ∀ h, u.host = some h → hostCharsOk (Cfg.isSpecial {} u.scheme) h = true := by
    cases u.host <;> simp [hostOk]
  have hq : queryOk (Cfg.isSpecial {} u.scheme) u.query = true ↔
      ∀ q, u.query = some q → okIn (if Cfg.isSpecial {} u.scheme = true then specialQuerySet else querySet) q = true := by
    cases u.query <;> simp [queryOk]
  have hf : fragOk u.fragment = true ↔ ∀ f, u.fragment = some f → okIn fragmentSet f = true := by
    cases u.fragment <;> simp [fragOk]
  have hp : pathOk (Cfg.isSpecial {} u.scheme) u.path = true ↔
      (if u.path.opq = true then ∀ s ∈ u.path.segs, ∀ b ∈ s, printable b = true
       else ∀ s ∈ u.path.segs, okIn pathSet s = true ∧ 0x2f ∉ s ∧ (Cfg.isSpecial {} u.scheme = true → 0x5c ∉ s)) ∧
      (u.path.opq = false → ∀ s ∈ u.path.segs, isSingleDot s = false ∧ isDoubleDot s = false) := by
    unfold pathOk
    cases u.path.opq
    · simp only [Bool.false_eq_true, ↓reduceIte, List.all_eq_true, segOk_iff, true_implies]
      constructor
      · intro h; exact ⟨fun s hs => (h s hs).1, fun s hs => (h s hs).2⟩
      · intro h s hs; exact ⟨h.1 s hs, h.2 s hs⟩
    · simp only [↓reduceIte, List.all_eq_true, okIn_c0_iff, Bool.true_eq_false, false_implies, and_true]
  unfold WFc WFcC
  rw [hh, hq, hf, hp]
  simp only [and_assoc]

/-! ### the default configuration -/

theorem CfgC_default (I : Idna) (hI : IdnaAscii I) : CfgC {} I := ⟨rfl, rfl, rfl, rfl, rfl, rfl, rfl, rfl, hI⟩

/-! ### 1. parse / resolve -/

/-- general form: any configuration that keeps the default encode sets, UTF-8 output, no lax host.  The last goal of the
    proof is `Bc` at the scheme start state (the query is absent): the start url is `Same` as `{}`, whose query is `none`. -/
theorem C04_parse_WFc_cfg (cfg : Cfg) (I : Idna) (input : Bytes) (base : Option Url) (hcfg : CfgOk cfg I) (hcc : CfgC cfg I)
    (hb : ∀ b, base = some b → WFcC cfg b ∧ WFs cfg b) : WFcC cfg (basicParser cfg I input base none none).url := by
  apply basicParser_WFc cfg I input base none none hcfg hcc (fun b h => (hb b h).2) (fun b h => (hb b h).1)
    (by intro h; cases h) (by intro h; cases h) (WFcC_fresh cfg)
  · exact fun _ hs => J_fresh rfl hs
  · intro u2 hs
    intro _
    exact hs.query

/-- whatever the parser returns (a url, an error, …) the record it leaves behind satisfies the invariant -/
theorem C04_parse_WFc_always (I : Idna) (hI : IdnaAscii I) (hIne : IdnaNonEmpty I) (input : Bytes) (base : Option Url)
    (hb : ∀ b, base = some b → WFc b ∧ WFs {} b) : WFc (basicParser {} I input base none none).url :=
  C04_parse_WFc_cfg {} I input base (CfgOk_default I hIne) (CfgC_default I hI) hb

/-- the same with the hypothesis `ret = .url` in front; the hypothesis is not used (`C04_parse_WFc_always`) -/
theorem C04_parse_WFc (I : Idna) (hI : IdnaAscii I) (hIne : IdnaNonEmpty I) (input : Bytes) (base : Option Url)
    (hb : ∀ b, base = some b → WFc b ∧ WFs {} b) :
    (basicParser {} I input base none none).ret = .url → WFc (basicParser {} I input base none none).url :=
  fun _ => C04_parse_WFc_always I hI hIne input base hb

/-- `parse` (no base) -/
theorem C04_parse_WFc_nobase (I : Idna) (hI : IdnaAscii I) (hIne : IdnaNonEmpty I) (input : Bytes) :
    WFc (parse {} I input).url :=
  C04_parse_WFc_always I hI hIne input none (by intro b h; cases h)

/-- resolve against a well-formed base -/
theorem C04_resolve_WFc (I : Idna) (hI : IdnaAscii I) (hIne : IdnaNonEmpty I) (ref : Bytes) (b : Url) (hs : WFs {} b)
    (hc : WFc b) : WFc (urlParse {} I b ref).url :=
  C04_parse_WFc_always I hI hIne ref (some b) (by intro b' h; cases h; exact ⟨hc, hs⟩)

/-- the per-component forms -/
theorem C04_parse_WFc_userinfo (I : Idna) (hI : IdnaAscii I) (hIne : IdnaNonEmpty I) (input : Bytes) (base : Option Url)
    (hb : ∀ b, base = some b → WFc b ∧ WFs {} b) :
    okIn userinfoSet (basicParser {} I input base none none).url.username = true ∧
    okIn userinfoSet (basicParser {} I input base none none).url.password = true :=
  let h := (WFc_iff _).mp (C04_parse_WFc_always I hI hIne input base hb); ⟨h.1, h.2.1⟩

theorem C04_parse_WFc_host (I : Idna) (hI : IdnaAscii I) (hIne : IdnaNonEmpty I) (input : Bytes) (base : Option Url)
    (hb : ∀ b, base = some b → WFc b ∧ WFs {} b) :
    ∀ h, (basicParser {} I input base none none).url.host = some h →
      hostCharsOk (Cfg.isSpecial {} (basicParser {} I input base none none).url.scheme) h = true :=
  ((WFc_iff _).mp (C04_parse_WFc_always I hI hIne input base hb)).2.2.1

theorem C04_parse_WFc_query (I : Idna) (hI : IdnaAscii I) (hIne : IdnaNonEmpty I) (input : Bytes) (base : Option Url)
    (hb : ∀ b, base = some b → WFc b ∧ WFs {} b) :
    ∀ q, (basicParser {} I input base none none).url.query = some q →
      okIn (if Cfg.isSpecial {} (basicParser {} I input base none none).url.scheme = true then specialQuerySet else querySet) q = true :=
  ((WFc_iff _).mp (C04_parse_WFc_always I hI hIne input base hb)).2.2.2.2.2.1

theorem C04_parse_WFc_fragment (I : Idna) (hI : IdnaAscii I) (hIne : IdnaNonEmpty I) (input : Bytes) (base : Option Url)
    (hb : ∀ b, base = some b → WFc b ∧ WFs {} b) :
    ∀ f, (basicParser {} I input base none none).url.fragment = some f → okIn fragmentSet f = true :=
  ((WFc_iff _).mp (C04_parse_WFc_always I hI hIne input base hb)).2.2.2.2.2.2

theorem C04_parse_WFc_path (I : Idna) (hI : IdnaAscii I) (hIne : IdnaNonEmpty I) (input : Bytes) (base : Option Url)
    (hb : ∀ b, base = some b → WFc b ∧ WFs {} b) :
    if (basicParser {} I input base none none).url.path.opq = true then
      ∀ s ∈ (basicParser {} I input base none none).url.path.segs, ∀ b ∈ s, printable b = true
    else ∀ s ∈ (basicParser {} I input base none none).url.path.segs, okIn pathSet s = true ∧ 0x2f ∉ s ∧
      (Cfg.isSpecial {} (basicParser {} I input base none none).url.scheme = true → 0x5c ∉ s) :=
  ((WFc_iff _).mp (C04_parse_WFc_always I hI hIne input base hb)).2.2.2.1

/-- no stored list-path segment is a dot segment -/
theorem C04_parse_WFc_noDots (I : Idna) (hI : IdnaAscii I) (hIne : IdnaNonEmpty I) (input : Bytes) (base : Option Url)
    (hb : ∀ b, base = some b → WFc b ∧ WFs {} b) :
    (basicParser {} I input base none none).url.path.opq = false →
      ∀ s ∈ (basicParser {} I input base none none).url.path.segs, isSingleDot s = false ∧ isDoubleDot s = false :=
  ((WFc_iff _).mp (C04_parse_WFc_always I hI hIne input base hb)).2.2.2.2.1

/-! ### 2. setters -/

theorem strip_WFc (cfg : Cfg) (u : Url) (p : Path) (hu : WFcC cfg u) (h : stripTrailingSpacesIfOpaque u.path = some p) :
    WFcC cfg { u with path := p } := by
  rcases (Proofs.Setters.strip_eq_some_iff _ _).1 h with ⟨_, rfl⟩ | ⟨ho, s0, rest, hs, rfl⟩
  · exact hu
  · unfold WFcC at hu ⊢
    refine ⟨hu.1, hu.2.1, hu.2.2.1, ?_, hu.2.2.2.2⟩
    have hp := hu.2.2.2.1
    unfold pathOk at hp ⊢
    rw [ho, hs] at hp
    simp only [↓reduceIte, List.all_cons, Bool.and_eq_true] at hp ⊢
    exact ⟨okIn_trimRight _ _ _ hp.1, hp.2⟩

/-- the url on which a setter runs the parser satisfies the invariant, and so does the start state (`Bc`) -/
theorem WFcC_of_run {cfg : Cfg} {u u' : Url} {s : Setter} {st : State} (h : Proofs.Setters.Run u s st u') (hu : WFcC cfg u) :
    WFcC cfg u' ∧ ∀ (e : Env) (u2 : Url), e.ov = some st →
      Bc e (Proofs.Machine.start st u2) := by
  unfold WFcC at hu ⊢
  cases h
  case protocol => exact ⟨hu, fun e u2 ho h' => by rw [ho] at h'; cases h'⟩
  case host | hostname | port => exact ⟨hu, fun _ _ _ => True.intro⟩
  case pathname => exact ⟨⟨hu.1, hu.2.1, hu.2.2.1, rfl, hu.2.2.2.2⟩, fun _ _ _ => rfl⟩
  case search =>
    refine ⟨⟨hu.1, hu.2.1, hu.2.2.1, hu.2.2.2.1, ?_, hu.2.2.2.2.2⟩, fun _ _ _ => okIn_nil _⟩
    cases hq : u.query with
    | none => simp
    | some q => simpa [hq] using hu.2.2.2.2.1
  case hash => exact ⟨⟨hu.1, hu.2.1, hu.2.2.1, hu.2.2.2.1, hu.2.2.2.2.1, rfl⟩, fun _ _ _ => okIn_nil _⟩

/-- general form.  `hfile` is used for the protocol setter only and `hfail` for the pathname setter only (as in
    `C04b.C04_setter_WFs`, which asks them per setter).  For reachable records only the default-configuration form
    `C04_reachable_WFc` is stated. -/
theorem C04_setter_WFc_cfg (cfg : Cfg) (I : Idna) (s : Setter) (u : Url) (v : Bytes) (hs : WFs cfg u) (hu : WFcC cfg u)
    (hcfg : CfgOk cfg I) (hcc : CfgC cfg I) (hfile : cfg.isSpecial (lit "file") = true) (hfail : cfg.failOnVErr = false) :
    WFcC cfg (setU cfg I s u v).url := by
  have hq : WFcC cfg { u with query := none } := by
    unfold WFcC at hu ⊢; exact ⟨hu.1, hu.2.1, hu.2.2.1, hu.2.2.2.1, rfl, hu.2.2.2.2.2⟩
  have hf : WFcC cfg { u with fragment := none } := by
    unfold WFcC at hu ⊢; exact ⟨hu.1, hu.2.1, hu.2.2.1, hu.2.2.2.1, hu.2.2.2.2.1, rfl⟩
  refine Proofs.Setters.setU_cases cfg I s u v (R := fun r => WFcC cfg r.url) (fun r h => ?_) (fun st u' input h => ?_)
  · -- without a parser run: the credentials are stored percent-encoded; the other results replace a component by `none`
    cases h
    case keep | port => exact hu
    case username x _ hx =>
      unfold WFcC at hu ⊢
      exact ⟨hx ▸ percentEncodeString_ok cfg hcc.henc hcc.hpct _ SetOk_userinfo v, hu.2⟩
    case password x _ hx =>
      unfold WFcC at hu ⊢
      exact ⟨hu.1, hx ▸ percentEncodeString_ok cfg hcc.henc hcc.hpct _ SetOk_userinfo v, hu.2.2⟩
    case searchStrip p h => exact strip_WFc cfg { u with query := none } p hq h
    case searchNone => exact hq
    case hashStrip p h => exact strip_WFc cfg { u with fragment := none } p hf h
    case hashNone => exact hf
  · obtain ⟨hu', hB⟩ := WFcC_of_run h hu
    exact basicParser_WFc cfg I _ none (some u') (some st) hcfg hcc nofun nofun (fun _ => hfile)
      (fun _ => hfail) hu' (fun u2 h2 => J_of_run h hs h2) (fun u2 _ => hB _ u2 rfl)

/-- 2. every setter keeps the invariant, whatever its inner parser call returned -/
theorem C04_setter_WFc (I : Idna) (hI : IdnaAscii I) (hIne : IdnaNonEmpty I) (s : Setter) (u : Url) (v : Bytes)
    (hs : WFs {} u) (hu : WFc u) : WFc (setU {} I s u v).url :=
  C04_setter_WFc_cfg {} I s u v hs hu (CfgOk_default I hIne) (CfgC_default I hI) (by decide) rfl

/-! ### 3. reachable records -/

theorem C04_reachable_WFc (I : Idna) (hI : IdnaAscii I) (hIne : IdnaNonEmpty I) (u : Url) (h : Reach {} I u) : WFc u := by
  induction h with
  | parse input hr => exact C04_parse_WFc_nobase I hI hIne input
  | resolve b ref hb hr ih => exact C04_resolve_WFc I hI hIne ref b (C04_reachable_WFs_default I hIne b hb) ih
  | set s u v hu ih => exact C04_setter_WFc I hI hIne s u v (C04_reachable_WFs_default I hIne u hu) ih

/-! ### 4. the serialization is printable ASCII; a space can only come from an opaque path -/

/-- printable and not a space -/
def pns (b : UInt8) : Bool := printable b && b != 0x20

theorem okIn_pns (tr : PSet) (htr : ∀ i : Fin 128, tr.has i.val = false → 0x21 ≤ i.val) (s : Bytes) (h : okIn tr s = true) :
    ∀ b ∈ s, pns b = true := by
  intro b hb
  unfold okIn at h
  rw [List.all_eq_true] at h
  have := h b hb
  simp only [printable, Bool.and_eq_true, decide_eq_true_eq, Bool.not_eq_true'] at this
  have h2 := htr ⟨b.toNat, by omega⟩ this.2
  dsimp only at h2
  simp only [pns, printable, Bool.and_eq_true, decide_eq_true_eq, bne_iff_ne, ne_eq]
  refine ⟨⟨by omega, by omega⟩, ?_⟩
  intro e; rw [e] at h2; simp at h2

theorem lb_userinfo : ∀ i : Fin 128, userinfoSet.has i.val = false → 0x21 ≤ i.val := by decide
theorem lb_query : ∀ i : Fin 128, querySet.has i.val = false → 0x21 ≤ i.val := by decide
theorem lb_specialQuery : ∀ i : Fin 128, specialQuerySet.has i.val = false → 0x21 ≤ i.val := by decide
theorem lb_fragment : ∀ i : Fin 128, fragmentSet.has i.val = false → 0x21 ≤ i.val := by decide

theorem scheme_byte_pns (b : UInt8)
    (h : (isLowerN b.toNat || isDigitN b.toNat || b == 0x2b || b == 0x2d || b == 0x2e) = true) : pns b = true := by
  have := WhatwgUrl.Props.C04b.okB_print b h
  simp only [pns, printable, Bool.and_eq_true, decide_eq_true_eq, bne_iff_ne, ne_eq]
  exact ⟨⟨by omega, by omega⟩, fun e => by subst e; simp at this⟩

theorem scheme_pns (s : Bytes) (h : schemeOk s = true) : ∀ b ∈ s, pns b = true := by
  match s, h with
  | c :: rest, h =>
    simp only [schemeOk, Bool.and_eq_true, List.all_eq_true] at h
    intro b hb
    rcases List.mem_cons.mp hb with rfl | hb
    · exact scheme_byte_pns b (by simp [h.1])
    · exact scheme_byte_pns b (h.2 b hb)

/-- every byte class that `href` emits outside an opaque path — the two host classes, IPv6 bytes, the brackets, digits,
    segment bytes, the six delimiters `/ . : @ ? #` — is printable and not a space; callers pick their disjunct -/
theorem emitted_byte_pns : ∀ b : UInt8, (hostByteOk true b = true ∨ hostByteOk false b = true ∨ isV6Byte b = true ∨ b = 0x5b ∨ b = 0x5d ∨
    isDigitN b.toNat = true ∨ segByteOk false b = true ∨ b = 0x2f ∨ b = 0x2e ∨ b = 0x3a ∨ b = 0x40 ∨ b = 0x3f ∨ b = 0x23) →
    pns b = true := forall_uint8 (by decide +kernel)

theorem host_pns (sp : Bool) (h : Bytes) (hh : hostCharsOk sp h = true) : ∀ b ∈ h, pns b = true := by
  intro b hb
  unfold hostCharsOk at hh
  rcases Bool.or_eq_true_iff.mp hh with hv | ha
  · rcases v6_mem h hv b hb with h1 | h1 | h1 <;> exact emitted_byte_pns b (by simp [h1])
  · rw [List.all_eq_true] at ha
    cases sp
    · exact emitted_byte_pns b (Or.inr (Or.inl (ha b hb)))
    · exact emitted_byte_pns b (Or.inl (ha b hb))

theorem seg_pns (sp : Bool) (s : Bytes) (h : segOk sp s = true) : ∀ b ∈ s, pns b = true := by
  intro b hb
  simp only [segOk, Bool.and_eq_true, List.all_eq_true] at h
  have := h.1.1 b hb
  apply emitted_byte_pns b
  right; right; right; right; right; right; left
  cases sp
  · exact this
  · simp only [segByteOk, Bool.and_eq_true] at this ⊢
    exact ⟨this.1, by simp⟩

/-- the disjunction of the statement -/
def Good (u : Url) (b : UInt8) : Prop := (printable b = true ∧ b ≠ 0x20) ∨ (u.path.opq = true ∧ b = 0x20)

theorem Good_of_pns (u : Url) (b : UInt8) (h : pns b = true) : Good u b := by
  simp only [pns, Bool.and_eq_true, bne_iff_ne, ne_eq] at h
  exact Or.inl h

theorem path_good (u : Url) (sp : Bool) (hp : pathOk sp u.path = true) : ∀ b ∈ u.path.str, Good u b := by
  intro b hb
  unfold Path.str Path.str? at hb
  unfold pathOk at hp
  cases ho : u.path.opq
  · rw [ho] at hb hp
    simp only [Bool.false_eq_true, ↓reduceIte, Option.getD_some, List.mem_flatMap, List.mem_cons, List.all_eq_true] at hb hp
    obtain ⟨s, hs, hb⟩ := hb
    rcases hb with rfl | hb
    · exact Good_of_pns _ _ (by decide)
    · exact Good_of_pns _ _ (seg_pns sp s (hp s hs) b hb)
  · rw [ho] at hb hp
    simp only [↓reduceIte, List.all_eq_true] at hb hp
    cases hs : u.path.segs with
    | nil => rw [hs] at hb; simp at hb
    | cons s0 rest =>
      rw [hs] at hb hp
      simp only [List.head?_cons, Option.getD_some] at hb
      have h1 := (okIn_c0_iff s0).mp (hp s0 (by simp)) b hb
      by_cases e : b = 0x20
      · exact Or.inr ⟨ho, e⟩
      · exact Or.inl ⟨h1, e⟩

/-- 4. the serialization of a well-formed record is printable ASCII, and a space can only come from an opaque path.
    `href` is the append of seven parts — scheme, `:`, authority (`//`, userinfo, host, port), the `/.` guard, path,
    query, fragment — and the proof walks through them in this order: every byte of every part is `pns`, except those
    of an opaque path (`path_good`). -/
theorem C04_href_printable (u : Url) (hs : WFs {} u) (hc : WFc u) :
    ∀ b ∈ href u false, (printable b = true ∧ b ≠ 0x20) ∨ (u.path.opq = true ∧ b = 0x20) := by
  obtain ⟨c1, c2, c3, c4, c5, c6⟩ := hc
  have s1 := hs.1
  have s5 := hs.2.2.2.2.1
  have gp : ∀ b, pns b = true → Good u b := Good_of_pns u
  intro b hb
  show Good u b
  unfold href at hb
  simp only [List.mem_append, Bool.not_false, ↓reduceIte] at hb
  rcases hb with (((((hb | hb) | hb) | hb) | hb) | hb) | hb
  · exact gp b (scheme_pns _ s1 b hb)
  · exact gp b (emitted_byte_pns b (by simp at hb; simp [hb]))
  · -- authority
    split at hb
    · rename_i h hh
      rw [hh] at c3
      simp only [List.mem_append] at hb
      rcases hb with ((hb | hb) | hb) | hb
      · exact gp b (emitted_byte_pns b (by simp at hb; rcases hb with rfl | rfl <;> simp))
      · split at hb
        · simp only [List.mem_append] at hb
          rcases hb with (hb | hb) | hb
          · exact gp b (okIn_pns _ lb_userinfo _ c1 b hb)
          · split at hb
            · rcases List.mem_cons.mp hb with rfl | hb
              · exact gp _ (by decide)
              · exact gp b (okIn_pns _ lb_userinfo _ c2 b hb)
            · cases hb
          · exact gp b (emitted_byte_pns b (by simp at hb; simp [hb]))
        · cases hb
      · exact gp b (host_pns _ h c3 b hb)
      · split at hb
        · rename_i p hp
          unfold portOk at s5
          rw [hp] at s5
          simp only [Bool.and_eq_true, beq_iff_eq] at s5
          rcases List.mem_cons.mp hb with rfl | hb
          · exact gp _ (by decide)
          · rw [s5.1.1] at hb
            exact gp b (emitted_byte_pns b (by simp [Proofs.IPv6.itoa_digits _ b hb]))
        · cases hb
    · cases hb
  · split at hb
    · exact gp b (emitted_byte_pns b (by simp at hb; rcases hb with rfl | rfl <;> simp))
    · cases hb
  · exact path_good u _ c4 b hb
  · split at hb
    · rename_i q hq
      rw [hq] at c5
      rcases List.mem_cons.mp hb with rfl | hb
      · exact gp _ (by decide)
      · unfold queryOk at c5
        dsimp only at c5
        split at c5
        · exact gp b (okIn_pns _ lb_specialQuery _ c5 b hb)
        · exact gp b (okIn_pns _ lb_query _ c5 b hb)
    · cases hb
  · split at hb
    · rename_i f hf
      rw [hf] at c6
      rcases List.mem_cons.mp hb with rfl | hb
      · exact gp _ (by decide)
      · exact gp b (okIn_pns _ lb_fragment _ c6 b hb)
    · cases hb

/-! ### non-vacuity -/

/-- the oracle of the examples of this file: every byte of the input reduced mod 128, no error flag (neither the identity
    nor `Proofs.Sim.I0`); it satisfies both oracle hypotheses -/
private def I0 : Idna := fun s => (s.map fun b => b % 128, false)
private theorem hI0 : IdnaAscii I0 := by
  intro s x hx
  have h : ∀ b : UInt8, (b % 128).toNat < 0x80 := forall_uint8 (by decide +kernel)
  simp only [I0, List.mem_map] at hx
  obtain ⟨b, _, rfl⟩ := hx
  exact h b
private theorem hI0' : IdnaNonEmpty I0 := by intro s _ h; cases h

example : IdnaAscii I0 ∧ IdnaNonEmpty I0 := ⟨hI0, hI0'⟩
example : CfgC {} I0 := CfgC_default I0 hI0

/-- 1: the parser really returns a url, the url satisfies the invariant (by evaluation, and by the theorem) -/
example : (basicParser {} I0 (lit "HTTP://u:p@[::1]:8080/a b/../c|d?q'r#f`g") none none none).ret = .url ∧
    href (basicParser {} I0 (lit "HTTP://u:p@[::1]:8080/a b/../c|d?q'r#f`g") none none none).url false =
      lit "http://u:p@[::1]:8080/c|d?q%27r#f%60g" := by decide +kernel
example : WFc (basicParser {} I0 (lit "HTTP://u:p@[::1]:8080/a b/../c|d?q'r#f`g") none none none).url := by decide +kernel
example : WFc (basicParser {} I0 (lit "HTTP://u:p@[::1]:8080/a b/../c|d?q'r#f`g") none none none).url :=
  C04_parse_WFc I0 hI0 hI0' _ none (by intro b h; cases h) (by decide +kernel)
/-- a non-special url with an opaque host (the `%` stays, the C0 encoder escapes U+007F) -/
example : href (parse {} I0 (lit "sc://h%41\x7f!/a\\b/%2e/x?'")).url false = lit "sc://h%41%7F!/a\\b/x?'" ∧
    WFc (parse {} I0 (lit "sc://h%41\x7f!/a\\b/%2e/x?'")).url := by decide +kernel

/-- a base that satisfies the hypothesis `hb`, and a resolve against it through the theorem -/
private def bEx : Url := { scheme := lit "http", host := some (lit "h"), path := ⟨[lit "a"], false⟩ }
example : WFc bEx ∧ WFs {} bEx := by decide +kernel
example : (urlParse {} I0 bEx (lit "../x y?z")).ret = .url ∧ href (urlParse {} I0 bEx (lit "../x y?z")).url false = lit "http://h/x%20y?z" := by
  decide +kernel
example : WFc (urlParse {} I0 bEx (lit "../x y?z")).url :=
  C04_resolve_WFc I0 hI0 hI0' _ bEx (by decide +kernel) (by decide +kernel)

/-- 2: setters really change the url, and keep the invariant (by the theorem) -/
example : href (setU {} I0 .pathname bEx (lit "/p q/../%2E./r?s#t")).url false = lit "http://h/r%3Fs%23t" ∧
    href (setU {} I0 .host bEx (lit "[::A:1]:81")).url false = lit "http://[::a:1]:81/a" ∧
    href (setU {} I0 .username bEx (lit "m e:")).url false = lit "http://m%20e%3A@h/a" ∧
    href (setU {} I0 .search bEx (lit "?a'b c")).url false = lit "http://h/a?a%27b%20c" ∧
    href (setU {} I0 .hash bEx (lit "#a`b c")).url false = lit "http://h/a#a%60b%20c" := by decide +kernel
example : WFc (setU {} I0 .pathname bEx (lit "/p q/../%2E./r?s#t")).url :=
  C04_setter_WFc I0 hI0 hI0' .pathname bEx _ (by decide +kernel) (by decide +kernel)
/-- a failing setter (the port state fails on 99999) leaves a url that satisfies the invariant -/
example : (setU {} I0 .port bEx (lit "99999")).ret ≠ .url ∧ WFc (setU {} I0 .port bEx (lit "99999")).url := by decide +kernel

/-- 3: a chain parse → setter → resolve is reachable -/
example : WFc (urlParse {} I0 (setU {} I0 .port (parse {} I0 (lit "ws://[::1]/a")).url (lit "81")).url (lit "b c")).url :=
  C04_reachable_WFc I0 hI0 hI0' _ (.resolve _ _ (.set _ _ _ (.parse _ (by decide +kernel))) (by decide +kernel))

/-- 4: the hypotheses of `C04_href_printable` hold for a parsed url; the second disjunct is needed: an opaque path keeps
    its inner spaces -/
example : WFs {} (parse {} I0 (lit "sc:a b  c#f")).url ∧ WFc (parse {} I0 (lit "sc:a b  c#f")).url ∧
    href (parse {} I0 (lit "sc:a b  c#f")).url false = lit "sc:a b  c#f" ∧
    (0x20 : UInt8) ∈ href (parse {} I0 (lit "sc:a b  c#f")).url false := by decide +kernel
example : ∀ b ∈ href (parse {} I0 (lit "sc:a b  c#f")).url false,
    (printable b = true ∧ b ≠ 0x20) ∨ ((parse {} I0 (lit "sc:a b  c#f")).url.path.opq = true ∧ b = 0x20) :=
  C04_href_printable _ (by decide +kernel) (by decide +kernel)

/-- the invariant discriminates: records the machine never builds are rejected -/
example : ¬ WFc { scheme := lit "http", host := some (lit "h"), path := ⟨[lit "a b"], false⟩ } ∧        -- space in a segment
    ¬ WFc { scheme := lit "http", host := some (lit "h"), path := ⟨[lit "%2E."], false⟩ } ∧                -- a double-dot segment
    ¬ WFc { scheme := lit "http", host := some (lit "h"), path := ⟨[lit "a\\b"], false⟩ } ∧                -- `\` in a special url
    WFc { scheme := lit "sc", host := some (lit "h"), path := ⟨[lit "a\\b"], false⟩ } ∧                    -- … fine in a non-special one
    ¬ WFc { scheme := lit "http", host := some (lit "h%41"), path := ⟨[[]], false⟩ } ∧                     -- `%` in a domain
    WFc { scheme := lit "sc", host := some (lit "h%41"), path := ⟨[[]], false⟩ } ∧                         -- … fine in an opaque host
    ¬ WFc { scheme := lit "sc", host := some (lit "[::1.2]") } ∧                                           -- `.` inside an IPv6 literal
    ¬ WFc { scheme := lit "ws", host := some (lit "h"), path := ⟨[[]], false⟩, query := some (lit "'") } ∧ -- `'` in a special query
    WFc { scheme := lit "sc", host := some (lit "h"), path := ⟨[[]], false⟩, query := some (lit "'") } ∧
    ¬ WFc { scheme := lit "sc", path := ⟨[lit "a\x7fb"], true⟩ } := by decide +kernel

/-! ### the configuration hypotheses matter -/

/-- `laxHost`: the opaque-host parser hands back its input, forbidden host code points included -/
example : (parseOpaqueHost { laxHost := true } {} (lit "a b")).out = .ok (lit "a b") ∧ hostCharsOk false (lit "a b") = false := by
  decide +kernel

/-- the oracle hypothesis `IdnaAscii`: the forbidden-domain-code-point loop lets every non-ASCII code point through, so a
    non-ASCII oracle answer would be stored as the host -/
example : (forbiddenLoop {} [0xC3, 0xA9] (goRunes [0xC3, 0xA9]) {}).2 = none ∧ hostCharsOk true [0xC3, 0xA9] = false := by
  decide +kernel

end WhatwgUrl.Props.C04c

#print axioms WhatwgUrl.Props.C04c.C04_parse_WFc
#print axioms WhatwgUrl.Props.C04c.C04_parse_WFc_always
#print axioms WhatwgUrl.Props.C04c.C04_parse_WFc_cfg
#print axioms WhatwgUrl.Props.C04c.C04_resolve_WFc
#print axioms WhatwgUrl.Props.C04c.C04_setter_WFc_cfg
#print axioms WhatwgUrl.Props.C04c.WFc_iff
#print axioms WhatwgUrl.Props.C04c.C04_setter_WFc
#print axioms WhatwgUrl.Props.C04c.C04_reachable_WFc
#print axioms WhatwgUrl.Props.C04c.C04_href_printable
