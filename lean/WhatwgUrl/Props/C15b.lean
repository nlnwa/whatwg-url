import WhatwgUrl.Proofs.Reporting
/-
  C15b — turning on validation-error reporting never changes whether parsing succeeds nor any component
  of the result (§1); every entry recorded on a successfully parsed URL is non-fatal, every returned error is marked as a
  failure in the default fail mode (§2); fail-on-validation-error mode is sound w.r.t. the default mode (§3), and exact: it
  accepts precisely the inputs on which reporting mode records nothing (§4).

  All statements are about the executable model `Impl.basicParser` of the Go `BasicParser`: one call, with the base given
  as a url. The property speaks of (input, base string) pairs; `C15_reporting_neutral` erases the recorded list of the base
  on its right-hand side so that it composes with the parse of the base string under the same configuration, but the
  composed statement for `Impl.parse` / `parseRef` is not stated.
  The proofs rest on `Proofs/Reporting*.lean`; none depends on `Termination.lean` (all three liftings are inductions on the
  fuel).
-/
namespace WhatwgUrl.Props.C15b
open WhatwgUrl WhatwgUrl.Impl
open WhatwgUrl.Proofs.Reporting

/-- forget the recorded validation errors of a url / of a parse result -/
abbrev erase (u : Url) : Url := Proofs.Reporting.erase u
abbrev eraseR (r : Res) : Res := Proofs.Reporting.eraseR r

example (u : Url) : erase u = { u with verrs := [] } := rfl
example (r : Res) : eraseR r = { r with url := erase r.url } := rfl

/-- The `preHost`/`postHost` closures of the configuration receive the url and could look at its recorded errors;
    the hypothesis says that they do not. -/
abbrev HostFnsIgnoreVerrs (cfg : Cfg) : Prop := Proofs.Reporting.HostFnsIgnoreVerrs cfg

example (cfg : Cfg) : HostFnsIgnoreVerrs cfg ↔
    ((∀ f, cfg.preHost = some f → ∀ u h, f u h = f (erase u) h) ∧
     (∀ f, cfg.postHost = some f → ∀ u h, f u h = f (erase u) h)) := Iff.rfl

/-! ### 1. reporting is neutral -/

/-- Reporting is neutral: up to the recorded list itself, parsing with reporting switched on gives the same return
    value and the same url (all components, including the ghost `qlog`) as parsing with reporting switched off —
    for every configuration whose host closures ignore the recorded list, every IDNA oracle, input, base, url to
    modify and state override.  The recorded errors of the `base` and of the incoming `url` are irrelevant
    (they are erased on the right-hand side). -/
theorem C15_reporting_neutral (cfg : Cfg) (I : Idna) (input : Bytes) (base url : Option Url) (ov : Option State)
    (hcl : HostFnsIgnoreVerrs cfg) :
    eraseR (basicParser { cfg with report := true } I input base url ov) =
      eraseR (basicParser { cfg with report := false } I input (base.map erase) (url.map erase) ov) := by
  show Proofs.Reporting.eraseR _ = Proofs.Reporting.eraseR _
  rw [basicParser_N (.of_report cfg true hcl), basicParser_N (.of_report cfg false hcl), ← basicParser_base]
  congr 1
  cases url <;> rfl

/-- the default configuration (more generally: any configuration without host closures) meets the hypothesis -/
theorem C15_reporting_neutral_default (cfg : Cfg) (I : Idna) (input : Bytes) (base url : Option Url)
    (ov : Option State) (hpre : cfg.preHost = none) (hpost : cfg.postHost = none) :
    eraseR (basicParser { cfg with report := true } I input base url ov) =
      eraseR (basicParser { cfg with report := false } I input (base.map erase) (url.map erase) ov) :=
  C15_reporting_neutral cfg I input base url ov
    ⟨(by intro f hf; rw [hpre] at hf; cases hf), (by intro f hf; rw [hpost] at hf; cases hf)⟩

/-- with the same base and the same url on both sides: the results agree up to the recorded list -/
theorem reporting_neutral_same (cfg : Cfg) (I : Idna) (input : Bytes) (base url : Option Url) (ov : Option State)
    (hcl : HostFnsIgnoreVerrs cfg) (b : Bool) :
    eraseR (basicParser { cfg with report := b } I input base url ov) =
      eraseR (basicParser { cfg with report := false } I input base url ov) :=
  (basicParser_N (.of_report cfg b hcl) I input base url ov).trans
    (basicParser_N (.of_report cfg false hcl) I input base url ov).symm

/-- the return value does not depend on the `report` switch -/
private theorem ret_report (cfg : Cfg) (I : Idna) (input : Bytes) (base url : Option Url) (ov : Option State)
    (hcl : HostFnsIgnoreVerrs cfg) (b : Bool) :
    (basicParser { cfg with report := b } I input base url ov).ret =
      (basicParser { cfg with report := false } I input base url ov).ret := by
  have h := congrArg Res.ret (reporting_neutral_same cfg I input base url ov hcl b)
  exact h

/-- in particular: same return value (success / the same error / the same panic) … -/
theorem C15_reporting_same_ret (cfg : Cfg) (I : Idna) (input : Bytes) (base url : Option Url) (ov : Option State)
    (hcl : HostFnsIgnoreVerrs cfg) :
    (basicParser { cfg with report := true } I input base url ov).ret =
      (basicParser { cfg with report := false } I input base url ov).ret :=
  ret_report cfg I input base url ov hcl true

/-- … and the same url up to the recorded list -/
theorem C15_reporting_same_url (cfg : Cfg) (I : Idna) (input : Bytes) (base url : Option Url) (ov : Option State)
    (hcl : HostFnsIgnoreVerrs cfg) :
    erase (basicParser { cfg with report := true } I input base url ov).url =
      erase (basicParser { cfg with report := false } I input base url ov).url :=
  congrArg Res.url (reporting_neutral_same cfg I input base url ov hcl true)

/-! non-vacuity: the hypothesis holds for the default configuration and for one with (verrs-blind) closures; the two
    sides of the equation really differ before erasure; a closure that reads the list breaks neutrality -/

example : HostFnsIgnoreVerrs {} := ⟨(by intro f hf; cases hf), (by intro f hf; cases hf)⟩
example : HostFnsIgnoreVerrs { preHost := some fun u h => u.scheme ++ h } :=
  ⟨(by intro f hf; cases hf; intro u h; rfl), (by intro f hf; cases hf)⟩

/-- a parse that succeeds and records two non-fatal entries under `{ report := true }` (leading space, backslash) -/
example : (basicParser { report := true } (fun s => (s, false)) (lit " http://[::1]\\a") none none none).ret = .url ∧
    (basicParser { report := true } (fun s => (s, false)) (lit " http://[::1]\\a") none none none).url.verrs =
      [⟨.InvalidURLUnit, false⟩, ⟨.InvalidReverseSolidus, false⟩] ∧
    (basicParser { report := false } (fun s => (s, false)) (lit " http://[::1]\\a") none none none).url.verrs = [] := by
  decide +kernel

/-- the hypothesis on the closures cannot be dropped: a `preHost` closure that reads the recorded list makes the
    host — hence the result — depend on reporting -/
example :
    let cfg : Cfg := { preHost := some fun u h => if u.verrs.isEmpty then h else lit "[::2]" }
    (eraseR (basicParser { cfg with report := true } (fun s => (s, false)) (lit " sc://[::1]") none none none)).url.host
        = some (lit "[::2]") ∧
    (eraseR (basicParser { cfg with report := false } (fun s => (s, false)) (lit " sc://[::1]") none none none)).url.host
        = some (lit "[::1]") := by
  decide +kernel

/-- the statement WITHOUT the hypothesis on the closures … -/
def C15_reporting_neutral_Statement : Prop :=
  ∀ (cfg : Cfg) (I : Idna) (input : Bytes) (base url : Option Url) (ov : Option State),
    eraseR (basicParser { cfg with report := true } I input base url ov) =
      eraseR (basicParser { cfg with report := false } I input (base.map erase) (url.map erase) ov)

/-- … is false in the model (a configuration can carry a closure that inspects `url.verrs`; the Go type
    `func(*Url, string) string` allows it as well, since the recorded list is reachable from the url) -/
theorem C15_reporting_neutral_needs_hypothesis : ¬ C15_reporting_neutral_Statement := by
  intro h
  have := h { preHost := some fun u h => if u.verrs.isEmpty then h else lit "[::2]" } (fun s => (s, false))
    (lit " sc://[::1]") none none none
  revert this
  decide +kernel

/-! ### 2. recorded entries on success are non-fatal, returned errors are fatal -/

/-- Every entry recorded on a successfully parsed URL is non-fatal: for an arbitrary state override and an incoming url
    whose recorded entries are all non-fatal; no hypothesis on the fail mode is needed. -/
theorem C15_recorded_nonfatal' (cfg : Cfg) (I : Idna) (input : Bytes) (base url : Option Url) (ov : Option State)
    (hu : ∀ e ∈ (url.getD {}).verrs, e.failure = false) :
    (basicParser cfg I input base url ov).ret = .url →
      ∀ e ∈ (basicParser cfg I input base url ov).url.verrs, e.failure = false := by
  intro h
  have U : UH cfg (fun v : List VErr => ∀ e ∈ v, e.failure = false) :=
    ⟨by intro _ v t h e he; simp only [List.mem_append, List.mem_singleton] at he
        rcases he with he | rfl
        · exact h e he
        · rfl⟩
  exact (basicParser_U U I input base url ov hu).1 h

section
set_option linter.unusedVariables false

/-- Every entry recorded on a successfully parsed URL is non-fatal (fresh url, no state override). The hypothesis `hf` is
    not used: `C15_recorded_nonfatal'` holds in either fail mode. -/
theorem C15_recorded_nonfatal (cfg : Cfg) (I : Idna) (input : Bytes) (base : Option Url) (hf : cfg.failOnVErr = false) :
    (basicParser cfg I input base none none).ret = .url →
      ∀ e ∈ (basicParser cfg I input base none none).url.verrs, e.failure = false :=
  C15_recorded_nonfatal' cfg I input base none none (by intro e he; cases he)

end

/-- Every error returned by the parser is marked as a failure, when fail-on-validation-error mode is off. -/
theorem C15_returned_marked_failure (cfg : Cfg) (I : Idna) (input : Bytes) (base url : Option Url) (ov : Option State)
    (hf : cfg.failOnVErr = false) :
    ∀ e w, (basicParser cfg I input base url ov).ret = .err e w → e.failure = true := by
  intro e w h
  exact (basicParser_U (IV := fun _ => True) ⟨fun _ _ _ _ => trivial⟩ I input base url ov trivial).2 hf e w h

/-! non-vacuity -/

/-- success with recorded entries (`C15_recorded_nonfatal` is about a non-empty list here) -/
example : (basicParser { report := true } (fun s => (s, false)) (lit " http://[::1]\\a") none none none).ret = .url ∧
    (basicParser { report := true } (fun s => (s, false)) (lit " http://[::1]\\a") none none none).url.verrs.length = 2 := by
  decide +kernel

/-- an input on which an error is returned, after a non-fatal entry has been recorded: the recorded list of a FAILED
    parse does contain a fatal entry (the last one) — the success hypothesis of `C15_recorded_nonfatal` matters -/
example : (basicParser { report := true } (fun s => (s, false)) (lit " http://[::1]:99999") none none none).ret =
      .err ⟨.PortOutOfRange, true⟩ false ∧
    (basicParser { report := true } (fun s => (s, false)) (lit " http://[::1]:99999") none none none).url.verrs =
      [⟨.InvalidURLUnit, false⟩, ⟨.PortOutOfRange, true⟩] := by
  decide +kernel

/-- an error returned by the host parser (with its url) -/
example : (basicParser {} (fun s => (s, false)) (lit "http://[::1") none none none).ret =
    .err ⟨.IPv6Unclosed, true⟩ true := by decide +kernel

/-- The known exception: under `failOnVErr = true` the returned error can be the NON-fatal error object
    (so the hypothesis `failOnVErr = false` of `C15_returned_marked_failure` cannot be dropped). -/
theorem C15_failmode_returns_nonfatal_counterexample :
    ∃ e w, (basicParser { failOnVErr := true } (fun s => (s, false)) (lit " sc:x") none none none).ret = .err e w ∧
      e.failure = false :=
  ⟨⟨.InvalidURLUnit, false⟩, false, by decide +kernel, rfl⟩

/-! ### 3. fail mode is sound -/

/-- Whatever fail-on-validation-error mode returns that is not an error (`.url`, `.nilNil`, a panic), the default mode
    returns too, with the same url: for every `report` setting (with reporting on, the recorded lists agree too: a run that
    fail mode accepts passed through no error site at all), every url to modify, every state override. -/
theorem C15_failmode_sound' (cfg : Cfg) (I : Idna) (input : Bytes) (base url : Option Url) (ov : Option State)
    (h : ∀ e w, (basicParser { cfg with failOnVErr := true } I input base url ov).ret ≠ .err e w) :
    basicParser { cfg with failOnVErr := false } I input base url ov =
      basicParser { cfg with failOnVErr := true } I input base url ov := by
  rcases basicParser_DX (IV := fun _ => True) (.of_cfg cfg) (fun _ _ _ => trivial) I input base url ov with heq | ⟨⟨e, w, he⟩, -⟩
  · exact heq.symm
  · exact absurd he (h e w)

section
set_option linter.unusedVariables false

/-- Whatever fail-on-validation-error mode accepts, the default mode accepts with the same url (no base, fresh url, no
    state override). The hypothesis `hr` is not used: `C15_failmode_sound'` holds for every `report` setting. -/
theorem C15_failmode_sound (cfg : Cfg) (I : Idna) (input : Bytes) (base : Option Url) (hr : cfg.report = false) :
    (basicParser { cfg with failOnVErr := true } I input base none none).ret = .url →
    basicParser { cfg with failOnVErr := false } I input base none none =
      basicParser { cfg with failOnVErr := true } I input base none none :=
  fun h => C15_failmode_sound' cfg I input base none none fun e w he => by rw [h] at he; cases he

end

/-! non-vacuity -/

/-- fail mode accepts this one … -/
example : (basicParser { failOnVErr := true } (fun s => (s, false)) (lit "http://[::1]/a?b#c") none none none).ret = .url := by
  decide +kernel
/-- … and rejects this one, which the default mode accepts: the converse of `C15_failmode_sound` is false -/
example : (basicParser { failOnVErr := true } (fun s => (s, false)) (lit "http://[::1]\\a") none none none).ret =
      .err ⟨.InvalidReverseSolidus, false⟩ false ∧
    (basicParser { failOnVErr := false } (fun s => (s, false)) (lit "http://[::1]\\a") none none none).ret = .url := by
  decide +kernel

/-! ### 4. fail mode is exact: it accepts exactly the inputs on which reporting mode records nothing -/

/-- a run that fail mode accepts passed through no error site: nothing is recorded (even with reporting on) -/
theorem C15_failmode_records_nothing (cfg : Cfg) (I : Idna) (input : Bytes) (base url : Option Url) (ov : Option State)
    (hu : (url.getD {}).verrs = []) :
    (basicParser { cfg with failOnVErr := true } I input base url ov).ret = .url →
    (basicParser { cfg with failOnVErr := true } I input base url ov).url.verrs = [] := by
  intro h
  have U : UH { cfg with failOnVErr := true } (fun v : List VErr => v = []) := ⟨fun h => by cases h⟩
  exact (basicParser_U U I input base url ov hu).1 h

/-- Fail-on-validation-error mode accepts an input if and only if the default mode with reporting switched on accepts
    it and records nothing — for every base, state override, and url to modify that comes with an empty list.
    `hcl : HostFnsIgnoreVerrs cfg` (the `preHost`/`postHost` closures do not read the recorded list) is needed because the two
    sides differ in `report` as well (left: `cfg.report`, right: `true`); it enters through `ret_report`, i.e. §1. -/
theorem C15_failmode_exact' (cfg : Cfg) (I : Idna) (input : Bytes) (base url : Option Url) (ov : Option State)
    (hcl : HostFnsIgnoreVerrs cfg) (hu : (url.getD {}).verrs = []) :
    (basicParser { cfg with failOnVErr := true } I input base url ov).ret = .url ↔
      ((basicParser { cfg with failOnVErr := false, report := true } I input base url ov).ret = .url ∧
       (basicParser { cfg with failOnVErr := false, report := true } I input base url ov).url.verrs = []) := by
  have hA : (basicParser { cfg with failOnVErr := true } I input base url ov).ret =
      (basicParser { cfg with failOnVErr := true, report := true } I input base url ov).ret :=
    (ret_report { cfg with failOnVErr := true } I input base url ov hcl cfg.report).trans
      (ret_report { cfg with failOnVErr := true } I input base url ov hcl true).symm
  constructor
  · intro h
    rw [hA] at h
    have hB := C15_failmode_records_nothing { cfg with report := true } I input base url ov hu h
    have hC' : basicParser { cfg with failOnVErr := false, report := true } I input base url ov =
        basicParser { cfg with failOnVErr := true, report := true } I input base url ov :=
      C15_failmode_sound' { cfg with report := true } I input base url ov (by intro e w he; rw [he] at h; cases h)
    rw [hC']
    exact ⟨h, hB⟩
  · rintro ⟨h1, h2⟩
    rw [hA]
    rcases basicParser_X (.of_cfg { cfg with report := true }) rfl I input base url ov with heq | ⟨_, hg⟩
    · rw [heq]; exact h1
    · exact absurd h2 (hg.1 h1)

/-- `C15_failmode_exact'` with no base, fresh url, no state override (the form the property states; the restriction is not
    needed). -/
theorem C15_failmode_exact (cfg : Cfg) (I : Idna) (input : Bytes) (hcl : HostFnsIgnoreVerrs cfg) :
    (basicParser { cfg with failOnVErr := true } I input none none none).ret = .url ↔
      ((basicParser { cfg with failOnVErr := false, report := true } I input none none none).ret = .url ∧
       (basicParser { cfg with failOnVErr := false, report := true } I input none none none).url.verrs = []) :=
  C15_failmode_exact' cfg I input none none none hcl rfl

/-! non-vacuity: both sides true / both sides false -/
example : (basicParser { failOnVErr := true } (fun s => (s, false)) (lit "http://[::1]/a") none none none).ret = .url ∧
    (basicParser { failOnVErr := false, report := true } (fun s => (s, false)) (lit "http://[::1]/a") none none none).url.verrs = [] := by
  decide +kernel
example : (basicParser { failOnVErr := true } (fun s => (s, false)) (lit "http:/[::1]/a") none none none).ret ≠ .url ∧
    (basicParser { failOnVErr := false, report := true } (fun s => (s, false)) (lit "http:/[::1]/a") none none none).ret = .url ∧
    (basicParser { failOnVErr := false, report := true } (fun s => (s, false)) (lit "http:/[::1]/a") none none none).url.verrs ≠ [] := by
  decide +kernel

end WhatwgUrl.Props.C15b
