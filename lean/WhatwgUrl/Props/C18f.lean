import WhatwgUrl.Proofs.WebNoMissing
import WhatwgUrl.Proofs.WebDots
import WhatwgUrl.Proofs.PipelineWeb
import WhatwgUrl.Proofs.SimHost
import WhatwgUrl.Proofs.EvalEq
/-
  C18f — default port and dot segments under the parser options of the REAL GoogleSafeBrowsing / Semantic profiles.

  `Props/C18c.lean` proves for the DEFAULT configuration that a default / empty / zero-padded default port and inserted dot
  segments do not change the PARSE result.  Here the same statements for EVERY configuration with `WebParseCfg`
  (`Proofs/WebDefs.lean`; in particular `gsbCfg` and `semanticCfg`, `Impl/Profiles.lean`), as equalities of whole parse
  results (record, return value, recorded validation errors).  As in C18c, what follows the differing piece is ARBITRARY
  (any bytes: the shift lemma `Proofs/SpellingShift.lean` is about every configuration).  For the port C18c is the instance at
  `{}` (`C18c_port_neutral` = `C18f_port_neutral {} …`); for dot segments it is not: C18c's `segOk` admits bytes that `segW`
  does not.

  1. port: `C18f_port_neutral`, `C18f_default_port`, `C18f_empty_port`, `C18f_default_port_zeros`; extra condition
     `PortTableOk cfg` (a Boolean test: every unshadowed default port of the special-scheme table is a canonical decimal
     number ≤ 65535 — `WithSpecialSchemes` accepts any strings); it is NEEDED (`C18f_port_needs_table`).
  2. dot segments: `C18f_dot_segment(_end)`, `C18f_up_segment(_end)` for the prefixes `scheme://host/seg/…/seg`
     (`PathPrefixC cfg`); the segments are ordinary segments of a web text (`segW`: bytes `A-Z a-z 0-9 - . _ ~ %`, every `%`
     followed by two hex digits, not a dot segment — under `report` / `failOnVErr` other bytes raise validation errors on
     one side only, `C18f_up_needs_segW`), and, if consecutive slashes are collapsed, the segments of the PREFIX are not
     empty (`segWc`; NEEDED: `C18f_up_needs_nonempty_gsb`).  The removed segment `x` itself may be empty.
  3. the same at the level of the CANONICAL TEXT (`C18f_canon_port_neutral`, `C18f_canon_dot_segment(_end)`,
     `C18f_canon_up_segment(_end)`): for every profile whose parser options satisfy `WebParseCfg` (so also WhatWg: repeated
     decoding is not among the hypotheses), with capstones for the two real profiles.  Port and dot segments are the only
     variations lifted this way; white space, tab / newline and scheme case are stated at parse level only
     (`Props/C18.lean`, `Props/C18c.lean`).
-/
namespace WhatwgUrl.Props.C18f
open WhatwgUrl WhatwgUrl.Impl WhatwgUrl.Proofs.Web WhatwgUrl.Proofs.Spelling
open WhatwgUrl.Proofs.Sim (I0)
open WhatwgUrl.Proofs.RoundTrip (pathText Graphic)

-- the definitions the statements of this file are about (declared in `Proofs/WebDefs.lean`, `WebPort.lean`, `WebDots.lean`);
-- the `export` makes them reachable as `Props.C18f.PortTableOk` … too, so that a user of these theorems need not open `Proofs.Web`
export WhatwgUrl.Proofs.Web (WebParseCfg PortTableOk segW segWc)

/-! ### 1. the port -/

/-- **Port spellings that mean "no port"** (digits only; none at all, or — leading zeros allowed — the number of the default
    port): same parse result, for every configuration with `WebParseCfg` whose port table is sane.  `rest` is empty or
    starts with `/`, `?`, `#` and is otherwise arbitrary. -/
theorem C18f_port_neutral (cfg : Cfg) (hW : WebParseCfg cfg) (hT : PortTableOk cfg) (I : Idna) (s dp a p rest : Bytes)
    (hsd : cfg.special? s = some dp) (hdp : dp ≠ []) (ha : hostText a = true) (hp : PortNeutral dp p) (hrest : DelimB rest) :
    parse cfg I (s ++ lit "://" ++ a ++ 0x3a :: p ++ rest) = parse cfg I (s ++ lit "://" ++ a ++ rest) :=
  portc_parse_eq cfg I s dp a p rest (hW.specialSchemeC s dp hsd hdp) hsd (hT.spec s dp hsd hdp).2.2 ha hp hrest

/-- the port is the default port of the scheme, written as the table has it -/
theorem C18f_default_port (cfg : Cfg) (hW : WebParseCfg cfg) (hT : PortTableOk cfg) (I : Idna) (s dp a rest : Bytes)
    (hsd : cfg.special? s = some dp) (hdp : dp ≠ []) (ha : hostText a = true) (hrest : DelimB rest) :
    parse cfg I (s ++ lit "://" ++ a ++ 0x3a :: dp ++ rest) = parse cfg I (s ++ lit "://" ++ a ++ rest) :=
  C18f_port_neutral cfg hW hT I s dp a dp rest hsd hdp ha (by simpa using portNeutral_default_c hT s dp hsd hdp 0) hrest

/-- a colon with no digits after it -/
theorem C18f_empty_port (cfg : Cfg) (hW : WebParseCfg cfg) (hT : PortTableOk cfg) (I : Idna) (s dp a rest : Bytes)
    (hsd : cfg.special? s = some dp) (hdp : dp ≠ []) (ha : hostText a = true) (hrest : DelimB rest) :
    parse cfg I (s ++ lit "://" ++ a ++ 0x3a :: [] ++ rest) = parse cfg I (s ++ lit "://" ++ a ++ rest) :=
  C18f_port_neutral cfg hW hT I s dp a [] rest hsd hdp ha ⟨by simp, Or.inl rfl⟩ hrest

/-- **Leading zeros**: `:080`, `:0080`, … -/
theorem C18f_default_port_zeros (cfg : Cfg) (hW : WebParseCfg cfg) (hT : PortTableOk cfg) (I : Idna) (s dp a rest : Bytes) (n : Nat)
    (hsd : cfg.special? s = some dp) (hdp : dp ≠ []) (ha : hostText a = true) (hrest : DelimB rest) :
    parse cfg I (s ++ lit "://" ++ a ++ 0x3a :: (List.replicate n 0x30 ++ dp) ++ rest) = parse cfg I (s ++ lit "://" ++ a ++ rest) :=
  C18f_port_neutral cfg hW hT I s dp a _ rest hsd hdp ha (portNeutral_default_c hT s dp hsd hdp n) hrest

/-- the configurations of the two real profiles (and the default one) satisfy both conditions -/
theorem C18f_cfg_default : WebParseCfg {} ∧ PortTableOk {} := ⟨webCfg_default.toWebParseCfg, portTableOk_default⟩
theorem C18f_cfg_gsb : WebParseCfg gsbCfg ∧ PortTableOk gsbCfg := ⟨webCfg_gsb.toWebParseCfg, portTableOk_gsb⟩
theorem C18f_cfg_semantic : WebParseCfg semanticCfg ∧ PortTableOk semanticCfg := ⟨webCfg_semantic.toWebParseCfg, portTableOk_semantic⟩

/-- … for GoogleSafeBrowsing's parser options -/
theorem C18f_port_neutral_gsb (I : Idna) (s dp a p rest : Bytes) (hsd : gsbCfg.special? s = some dp) (hdp : dp ≠ [])
    (ha : hostText a = true) (hp : PortNeutral dp p) (hrest : DelimB rest) :
    parse gsbCfg I (s ++ lit "://" ++ a ++ 0x3a :: p ++ rest) = parse gsbCfg I (s ++ lit "://" ++ a ++ rest) :=
  C18f_port_neutral gsbCfg C18f_cfg_gsb.1 C18f_cfg_gsb.2 I s dp a p rest hsd hdp ha hp hrest

/-- … for Semantic's parser options (its table has `gopher`, port 70) -/
theorem C18f_port_neutral_semantic (I : Idna) (s dp a p rest : Bytes) (hsd : semanticCfg.special? s = some dp) (hdp : dp ≠ [])
    (ha : hostText a = true) (hp : PortNeutral dp p) (hrest : DelimB rest) :
    parse semanticCfg I (s ++ lit "://" ++ a ++ 0x3a :: p ++ rest) = parse semanticCfg I (s ++ lit "://" ++ a ++ rest) :=
  C18f_port_neutral semanticCfg C18f_cfg_semantic.1 C18f_cfg_semantic.2 I s dp a p rest hsd hdp ha hp hrest

/-! #### non-vacuity, and the limits -/

example : gsbCfg.special? (lit "http") = some (lit "80") ∧ lit "80" ≠ [] ∧ hostText (lit "[::1]") = true ∧
    hostText (lit "EXAMPLE.com") = true ∧ PortNeutral (lit "80") (lit "080") ∧ PortNeutral (lit "80") [] ∧
    semanticCfg.special? (lit "gopher") = some (lit "70") ∧ PortNeutral (lit "70") (lit "0070") ∧
    DelimB (lit "/p?q#f") ∧ DelimB [] ∧ DelimB (lit "?q") := by decide +kernel
/-- the theorems applied (the rest: any bytes, here with an empty segment, a lone `%`, a blank, a non-ASCII byte) -/
example : parse gsbCfg I0 (lit "http" ++ lit "://" ++ lit "EXAMPLE.com" ++ 0x3a :: lit "080" ++ (lit "/a//b%zz c" ++ [0xff])) =
    parse gsbCfg I0 (lit "http" ++ lit "://" ++ lit "EXAMPLE.com" ++ (lit "/a//b%zz c" ++ [0xff])) :=
  C18f_port_neutral_gsb I0 _ (lit "80") _ _ _ (by decide +kernel) (by decide +kernel) (by decide +kernel) (by decide +kernel) (by decide +kernel)
example : parse semanticCfg I0 (lit "gopher" ++ lit "://" ++ lit "[::1]" ++ 0x3a :: lit "70" ++ lit "?q") =
    parse semanticCfg I0 (lit "gopher" ++ lit "://" ++ lit "[::1]" ++ lit "?q") :=
  C18f_default_port semanticCfg C18f_cfg_semantic.1 C18f_cfg_semantic.2 I0 _ (lit "70") _ _ (by decide +kernel) (by decide +kernel) (by decide +kernel) (by decide +kernel)
attribute [local instance 2000] Res.decEqByFields   -- equality of results field by field, for `decide +kernel`: see Proofs/EvalEq.lean

/-- kernel-checked pairs (IPv6 host so that the evaluation reduces), with a real result -/
example : parse gsbCfg I0 (lit "http://[::1]:80/p?q#f") = parse gsbCfg I0 (lit "http://[::1]/p?q#f") ∧
    parse gsbCfg I0 (lit "http://[::1]:/p?q#f") = parse gsbCfg I0 (lit "http://[::1]/p?q#f") ∧
    parse gsbCfg I0 (lit "http://[::1]:0080") = parse gsbCfg I0 (lit "http://[::1]") ∧
    (parse gsbCfg I0 (lit "http://[::1]:80/p?q#f")).ret = .url ∧
    href (parse gsbCfg I0 (lit "http://[::1]:80/p?q#f")).url false = lit "http://[::1]/p?q#f" := by
  decide +kernel
example : parse semanticCfg I0 (lit "gopher://[::1]:70/p?q#f") = parse semanticCfg I0 (lit "gopher://[::1]/p?q#f") ∧
    parse semanticCfg I0 (lit "gopher://[::1]:0070") = parse semanticCfg I0 (lit "gopher://[::1]") ∧
    (parse semanticCfg I0 (lit "gopher://[::1]:70/p?q#f")).ret = .url ∧
    href (parse semanticCfg I0 (lit "gopher://[::1]:70/p?q#f")).url false = lit "gopher://[::1]/p?q#f" ∧
    -- `gopher` is not special for GoogleSafeBrowsing: the port stays
    href (parse gsbCfg I0 (lit "gopher://[::1]:70/p")).url false = lit "gopher://[::1]:70/p" := by
  decide +kernel
/-- a non-default port is kept -/
example : parse gsbCfg I0 (lit "http://[::1]:81/") ≠ parse gsbCfg I0 (lit "http://[::1]/") := by decide +kernel

/-- a table whose default port is out of range / not canonical -/
def cfgBigPort : Cfg := { specialSchemes := [(lit "foo", lit "99999")] }
def cfgPadPort : Cfg := { specialSchemes := [(lit "foo", lit "080")] }

/-- **`PortTableOk` is needed**: with the default port `99999` the spelled-out default port is a fatal error; with the
    default port `080` the spelled-out default port is stored as `80` and stays -/
theorem C18f_port_needs_table :
    WebParseCfg cfgBigPort ∧ ¬ PortTableOk cfgBigPort ∧ PortNeutral (lit "99999") (lit "99999") ∧
    parse cfgBigPort I0 (lit "foo://[::1]:99999/") ≠ parse cfgBigPort I0 (lit "foo://[::1]/") ∧
    WebParseCfg cfgPadPort ∧ ¬ PortTableOk cfgPadPort ∧
    parse cfgPadPort I0 (lit "foo://[::1]:080/") ≠ parse cfgPadPort I0 (lit "foo://[::1]/") := by
  refine ⟨by decide +kernel, by decide +kernel, by decide +kernel, by decide +kernel, by decide +kernel, by decide +kernel,
    by decide +kernel⟩

/-! ### 2. dot segments -/

/-- a prefix that ends inside the path: a scheme of the table with a default port, a host text, ordinary segments of a web
    text (not empty if `cfg` collapses consecutive slashes) -/
structure PathPrefixC (cfg : Cfg) (pre : Bytes) : Prop where
  ex : ∃ s dp a segs, pre = s ++ lit "://" ++ a ++ pathText segs ∧ cfg.special? s = some dp ∧ dp ≠ [] ∧
    hostText a = true ∧ ∀ x ∈ segs, segWc cfg x = true

theorem PathPrefixC.run {cfg : Cfg} (hW : WebParseCfg cfg) (I : Idna) {pre : Bytes} (h : PathPrefixC cfg pre) :
    SlashPrefix cfg I true pre := by
  obtain ⟨s, dp, a, segs, rfl, hsd, hdp, ha, hsegs⟩ := h.ex
  exact slashPrefix_path cfg I s a segs (hW.specialSchemeC s dp hsd hdp) ha fun x hx =>
    ⟨dirSeg_web hW (hsegs x hx), spB_graphic (segW_spec (segWc_spec (hsegs x hx)).1).1⟩

/-- **Dot segment** (`M` is `.`, `%2e` or `%2E`): `pre ++ "/." ++ post = pre ++ post` when `post` starts with `/` … -/
theorem C18f_dot_segment (cfg : Cfg) (hW : WebParseCfg cfg) (I : Idna) (pre M X : Bytes) (hpre : PathPrefixC cfg pre)
    (hM : isSingleDot M = true) :
    parse cfg I (pre ++ 0x2f :: M ++ 0x2f :: X) = parse cfg I (pre ++ 0x2f :: X) :=
  ins_mid_slash (hpre.run hW I) M X (dots_graphic (singleDot_spec hM).1) (neutral_singleDot_web hW M hM)

/-- … and at the END of the path the true law is `pre ++ "/." ++ post = pre ++ "/" ++ post` (`post` empty, `?…` or `#…`) -/
theorem C18f_dot_segment_end (cfg : Cfg) (hW : WebParseCfg cfg) (I : Idna) (pre M post : Bytes) (hpre : PathPrefixC cfg pre)
    (hM : isSingleDot M = true) (hpost : EndPost post) :
    parse cfg I (pre ++ 0x2f :: M ++ post) = parse cfg I (pre ++ 0x2f :: post) :=
  ins_end_slash (hpre.run hW I) M post (dots_graphic (singleDot_spec hM).1) (neutral_singleDot_web hW M hM) hpost

/-- **`x/..`** (`x` an ordinary segment of a web text, possibly empty; `dd` a double-dot segment in any spelling):
    `pre ++ "/x/.." ++ post = pre ++ post` when `post` starts with `/` … -/
theorem C18f_up_segment (cfg : Cfg) (hW : WebParseCfg cfg) (I : Idna) (pre x dd X : Bytes) (hpre : PathPrefixC cfg pre)
    (hx : segW x = true) (hdd : isDoubleDot dd = true) :
    parse cfg I (pre ++ 0x2f :: x ++ 0x2f :: dd ++ 0x2f :: X) = parse cfg I (pre ++ 0x2f :: X) := by
  simpa using ins_mid_slash (hpre.run hW I) _ X (up_graphic (spB_graphic (segW_spec hx).1) hdd) (neutral_up_web hW x dd hx hdd)

/-- … and `pre ++ "/x/.." ++ post = pre ++ "/" ++ post` at the end of the path -/
theorem C18f_up_segment_end (cfg : Cfg) (hW : WebParseCfg cfg) (I : Idna) (pre x dd post : Bytes) (hpre : PathPrefixC cfg pre)
    (hx : segW x = true) (hdd : isDoubleDot dd = true) (hpost : EndPost post) :
    parse cfg I (pre ++ 0x2f :: x ++ 0x2f :: dd ++ post) = parse cfg I (pre ++ 0x2f :: post) := by
  simpa using ins_end_slash (hpre.run hW I) _ post (up_graphic (spB_graphic (segW_spec hx).1) hdd) (neutral_up_web hW x dd hx hdd) hpost

/-! #### non-vacuity, and the limits -/

example : PathPrefixC gsbCfg (lit "http://[::1]/a/b%41") :=
  ⟨⟨lit "http", lit "80", lit "[::1]", [lit "a", lit "b%41"], by decide +kernel, by decide +kernel, by decide +kernel, by decide +kernel, by decide +kernel⟩⟩
example : PathPrefixC semanticCfg (lit "gopher://EXAMPLE.com") :=
  ⟨⟨lit "gopher", lit "70", lit "EXAMPLE.com", [], by decide +kernel, by decide +kernel, by decide +kernel, by decide +kernel, by decide +kernel⟩⟩
example : segW (lit "x%7e") = true ∧ segW [] = true ∧ segW (lit "a%4") = false ∧ segW (lit "a|b") = false ∧ segW (lit "..") = false ∧
    segWc gsbCfg [] = false ∧ segWc {} [] = true ∧ segWc gsbCfg (lit "a") = true := by decide +kernel
/-- the theorems applied (the rest: any bytes) -/
example : parse gsbCfg I0 (lit "http://[::1]/a/b" ++ 0x2f :: lit "%2E" ++ 0x2f :: (lit "c//d%zz e" ++ [0xff])) =
    parse gsbCfg I0 (lit "http://[::1]/a/b" ++ 0x2f :: (lit "c//d%zz e" ++ [0xff])) :=
  C18f_dot_segment gsbCfg C18f_cfg_gsb.1 I0 _ _ _
    ⟨⟨lit "http", lit "80", lit "[::1]", [lit "a", lit "b"], by decide +kernel, by decide +kernel, by decide +kernel, by decide +kernel, by decide +kernel⟩⟩ (by decide +kernel)
example : parse semanticCfg I0 (lit "gopher://[::1]/a" ++ 0x2f :: lit "x" ++ 0x2f :: lit ".%2E" ++ lit "#f") =
    parse semanticCfg I0 (lit "gopher://[::1]/a" ++ 0x2f :: lit "#f") :=
  C18f_up_segment_end semanticCfg C18f_cfg_semantic.1 I0 _ _ _ _
    ⟨⟨lit "gopher", lit "70", lit "[::1]", [lit "a"], by decide +kernel, by decide +kernel, by decide +kernel, by decide +kernel, by decide +kernel⟩⟩
    (by decide +kernel) (by decide +kernel) (by decide +kernel)
/-- kernel-checked pairs under GoogleSafeBrowsing's options; `/a//../b` (an EMPTY removed segment) included -/
example :
    parse gsbCfg I0 (lit "http://[::1]/a/./b") = parse gsbCfg I0 (lit "http://[::1]/a/b") ∧
    parse gsbCfg I0 (lit "http://[::1]/a/%2e/b?q") = parse gsbCfg I0 (lit "http://[::1]/a/b?q") ∧
    parse gsbCfg I0 (lit "http://[::1]/a/.") = parse gsbCfg I0 (lit "http://[::1]/a/") ∧
    parse gsbCfg I0 (lit "http://[::1]/a/x/../b") = parse gsbCfg I0 (lit "http://[::1]/a/b") ∧
    parse gsbCfg I0 (lit "http://[::1]/a//../b") = parse gsbCfg I0 (lit "http://[::1]/a/b") ∧
    parse gsbCfg I0 (lit "http://[::1]/a/x/.%2e#f") = parse gsbCfg I0 (lit "http://[::1]/a/#f") ∧
    href (parse gsbCfg I0 (lit "http://[::1]/a/x/../b")).url false = lit "http://[::1]/a/b" := by
  decide +kernel

/-- **the prefix must not contain an empty segment when consecutive slashes are collapsed**: under GoogleSafeBrowsing's
    options `/a//x/../../c` is `/c` but `/a//../c` is `/a/c` (the segment `x` REPLACES the empty segment, so `x/..` removes
    it); under the default options both are `/a/c` (C18c) -/
theorem C18f_up_needs_nonempty_gsb :
    parse gsbCfg I0 (lit "http://[::1]/a/" ++ 0x2f :: lit "x" ++ 0x2f :: lit ".." ++ 0x2f :: lit "../c") ≠
      parse gsbCfg I0 (lit "http://[::1]/a/" ++ 0x2f :: lit "../c") ∧
    (parse gsbCfg I0 (lit "http://[::1]/a//x/../../c")).url.path.segs = [lit "c"] ∧
    (parse gsbCfg I0 (lit "http://[::1]/a//../c")).url.path.segs = [lit "a", lit "c"] ∧
    parse {} I0 (lit "http://[::1]/a//x/../../c") = parse {} I0 (lit "http://[::1]/a//../c") := by
  decide +kernel

/-- **the removed segment must be free of validation errors when these are reported** (`segW` instead of C18c's `segOk`):
    `|` is copied to the path but is not a URL code point -/
theorem C18f_up_needs_segW :
    WebParseCfg { report := true } ∧ PortTableOk { report := true } ∧
    parse { report := true } I0 (lit "http://[::1]/a|b/../c") ≠ parse { report := true } I0 (lit "http://[::1]/c") ∧
    (parse { report := true } I0 (lit "http://[::1]/a|b/../c")).url.path = (parse { report := true } I0 (lit "http://[::1]/c")).url.path := by
  refine ⟨by decide +kernel, by decide +kernel, by decide +kernel, by decide +kernel⟩

/-! ### 3. the canonical text: capstones for the real profiles

  `(*profile).Parse` is a function of the parse result — except for the retry with the default scheme after the error
  `MissingSchemeNonRelativeURL`; `Proofs/WebNoMissing.lean` shows that `scheme://host…` never fails with that error (the
  state machine cannot return it once it has left the scheme states: `loop_nm`, any configuration). -/

open WhatwgUrl.Props.C17b (canonText)

/-- equal parse results that are not the missing-scheme error: the same canonical text (whatever the heaps) -/
theorem canonText_of_parse_eq (I : Idna) (p : Profile) (H₁ H₂ : Heap) (x y : Bytes) (heq : parse p.cfg I x = parse p.cfg I y)
    (hnm : NMr (parse p.cfg I y)) :
    canonText (canonParse I p H₁ x) = canonText (canonParse I p H₂ y) := by
  rw [Proofs.Pipeline.canonText_of_parse I p H₁ x (heq ▸ hnm), Proofs.Pipeline.canonText_of_parse I p H₂ y hnm, heq]

theorem PathPrefixC.nm {cfg : Cfg} (hW : WebParseCfg cfg) (I : Idna) {pre : Bytes} (h : PathPrefixC cfg pre) (Y : Bytes) :
    NMr (parse cfg I (pre ++ 0x2f :: Y)) := by
  obtain ⟨s, dp, a, segs, rfl, hsd, hdp, ha, _⟩ := h.ex
  have := parse_nm_web cfg I s a (pathText segs ++ 0x2f :: Y) (hW.specialSchemeC s dp hsd hdp) ha (by
    cases segs with
    | nil => exact Or.inr ⟨0x2f, Y, rfl, Or.inl rfl⟩
    | cons x more => exact Or.inr ⟨0x2f, x ++ pathText more ++ 0x2f :: Y, by simp [pathText], Or.inl rfl⟩)
  simpa using this

/-- **port, canonical text** — any profile whose parser options satisfy `WebParseCfg` and `PortTableOk` -/
theorem C18f_canon_port_neutral (I : Idna) (pf : Profile) (hW : WebParseCfg pf.cfg) (hT : PortTableOk pf.cfg) (H₁ H₂ : Heap)
    (s dp a p rest : Bytes) (hsd : pf.cfg.special? s = some dp) (hdp : dp ≠ []) (ha : hostText a = true)
    (hp : PortNeutral dp p) (hrest : DelimB rest) :
    canonText (canonParse I pf H₁ (s ++ lit "://" ++ a ++ 0x3a :: p ++ rest)) =
      canonText (canonParse I pf H₂ (s ++ lit "://" ++ a ++ rest)) :=
  canonText_of_parse_eq I pf H₁ H₂ _ _ (C18f_port_neutral pf.cfg hW hT I s dp a p rest hsd hdp ha hp hrest)
    (parse_nm_web pf.cfg I s a rest (hW.specialSchemeC s dp hsd hdp) ha hrest)

/-- **dot segments, canonical text** -/
theorem C18f_canon_dot_segment (I : Idna) (pf : Profile) (hW : WebParseCfg pf.cfg) (H₁ H₂ : Heap) (pre M X : Bytes)
    (hpre : PathPrefixC pf.cfg pre) (hM : isSingleDot M = true) :
    canonText (canonParse I pf H₁ (pre ++ 0x2f :: M ++ 0x2f :: X)) = canonText (canonParse I pf H₂ (pre ++ 0x2f :: X)) :=
  canonText_of_parse_eq I pf H₁ H₂ _ _ (C18f_dot_segment pf.cfg hW I pre M X hpre hM) (hpre.nm hW I X)

theorem C18f_canon_dot_segment_end (I : Idna) (pf : Profile) (hW : WebParseCfg pf.cfg) (H₁ H₂ : Heap) (pre M post : Bytes)
    (hpre : PathPrefixC pf.cfg pre) (hM : isSingleDot M = true) (hpost : EndPost post) :
    canonText (canonParse I pf H₁ (pre ++ 0x2f :: M ++ post)) = canonText (canonParse I pf H₂ (pre ++ 0x2f :: post)) :=
  canonText_of_parse_eq I pf H₁ H₂ _ _ (C18f_dot_segment_end pf.cfg hW I pre M post hpre hM hpost) (hpre.nm hW I post)

theorem C18f_canon_up_segment (I : Idna) (pf : Profile) (hW : WebParseCfg pf.cfg) (H₁ H₂ : Heap) (pre x dd X : Bytes)
    (hpre : PathPrefixC pf.cfg pre) (hx : segW x = true) (hdd : isDoubleDot dd = true) :
    canonText (canonParse I pf H₁ (pre ++ 0x2f :: x ++ 0x2f :: dd ++ 0x2f :: X)) = canonText (canonParse I pf H₂ (pre ++ 0x2f :: X)) :=
  canonText_of_parse_eq I pf H₁ H₂ _ _ (C18f_up_segment pf.cfg hW I pre x dd X hpre hx hdd) (hpre.nm hW I X)

theorem C18f_canon_up_segment_end (I : Idna) (pf : Profile) (hW : WebParseCfg pf.cfg) (H₁ H₂ : Heap) (pre x dd post : Bytes)
    (hpre : PathPrefixC pf.cfg pre) (hx : segW x = true) (hdd : isDoubleDot dd = true) (hpost : EndPost post) :
    canonText (canonParse I pf H₁ (pre ++ 0x2f :: x ++ 0x2f :: dd ++ post)) = canonText (canonParse I pf H₂ (pre ++ 0x2f :: post)) :=
  canonText_of_parse_eq I pf H₁ H₂ _ _ (C18f_up_segment_end pf.cfg hW I pre x dd post hpre hx hdd hpost) (hpre.nm hW I post)

/-! #### GoogleSafeBrowsing -/

theorem C18f_gsb_port (I : Idna) (H₁ H₂ : Heap) (s dp a p rest : Bytes) (hsd : gsbCfg.special? s = some dp) (hdp : dp ≠ [])
    (ha : hostText a = true) (hp : PortNeutral dp p) (hrest : DelimB rest) :
    canonText (canonParse I gsbProfile H₁ (s ++ lit "://" ++ a ++ 0x3a :: p ++ rest)) =
      canonText (canonParse I gsbProfile H₂ (s ++ lit "://" ++ a ++ rest)) :=
  C18f_canon_port_neutral I gsbProfile C18f_cfg_gsb.1 C18f_cfg_gsb.2 H₁ H₂ s dp a p rest hsd hdp ha hp hrest

theorem C18f_gsb_dot_segment (I : Idna) (H₁ H₂ : Heap) (pre M X : Bytes) (hpre : PathPrefixC gsbCfg pre) (hM : isSingleDot M = true) :
    canonText (canonParse I gsbProfile H₁ (pre ++ 0x2f :: M ++ 0x2f :: X)) = canonText (canonParse I gsbProfile H₂ (pre ++ 0x2f :: X)) :=
  C18f_canon_dot_segment I gsbProfile C18f_cfg_gsb.1 H₁ H₂ pre M X hpre hM

theorem C18f_gsb_dot_segment_end (I : Idna) (H₁ H₂ : Heap) (pre M post : Bytes) (hpre : PathPrefixC gsbCfg pre)
    (hM : isSingleDot M = true) (hpost : EndPost post) :
    canonText (canonParse I gsbProfile H₁ (pre ++ 0x2f :: M ++ post)) = canonText (canonParse I gsbProfile H₂ (pre ++ 0x2f :: post)) :=
  C18f_canon_dot_segment_end I gsbProfile C18f_cfg_gsb.1 H₁ H₂ pre M post hpre hM hpost

theorem C18f_gsb_up_segment (I : Idna) (H₁ H₂ : Heap) (pre x dd X : Bytes) (hpre : PathPrefixC gsbCfg pre)
    (hx : segW x = true) (hdd : isDoubleDot dd = true) :
    canonText (canonParse I gsbProfile H₁ (pre ++ 0x2f :: x ++ 0x2f :: dd ++ 0x2f :: X)) =
      canonText (canonParse I gsbProfile H₂ (pre ++ 0x2f :: X)) :=
  C18f_canon_up_segment I gsbProfile C18f_cfg_gsb.1 H₁ H₂ pre x dd X hpre hx hdd

theorem C18f_gsb_up_segment_end (I : Idna) (H₁ H₂ : Heap) (pre x dd post : Bytes) (hpre : PathPrefixC gsbCfg pre)
    (hx : segW x = true) (hdd : isDoubleDot dd = true) (hpost : EndPost post) :
    canonText (canonParse I gsbProfile H₁ (pre ++ 0x2f :: x ++ 0x2f :: dd ++ post)) =
      canonText (canonParse I gsbProfile H₂ (pre ++ 0x2f :: post)) :=
  C18f_canon_up_segment_end I gsbProfile C18f_cfg_gsb.1 H₁ H₂ pre x dd post hpre hx hdd hpost

/-! #### Semantic -/

theorem C18f_semantic_port (I : Idna) (H₁ H₂ : Heap) (s dp a p rest : Bytes) (hsd : semanticCfg.special? s = some dp) (hdp : dp ≠ [])
    (ha : hostText a = true) (hp : PortNeutral dp p) (hrest : DelimB rest) :
    canonText (canonParse I semanticProfile H₁ (s ++ lit "://" ++ a ++ 0x3a :: p ++ rest)) =
      canonText (canonParse I semanticProfile H₂ (s ++ lit "://" ++ a ++ rest)) :=
  C18f_canon_port_neutral I semanticProfile C18f_cfg_semantic.1 C18f_cfg_semantic.2 H₁ H₂ s dp a p rest hsd hdp ha hp hrest

theorem C18f_semantic_dot_segment (I : Idna) (H₁ H₂ : Heap) (pre M X : Bytes) (hpre : PathPrefixC semanticCfg pre)
    (hM : isSingleDot M = true) :
    canonText (canonParse I semanticProfile H₁ (pre ++ 0x2f :: M ++ 0x2f :: X)) =
      canonText (canonParse I semanticProfile H₂ (pre ++ 0x2f :: X)) :=
  C18f_canon_dot_segment I semanticProfile C18f_cfg_semantic.1 H₁ H₂ pre M X hpre hM

theorem C18f_semantic_dot_segment_end (I : Idna) (H₁ H₂ : Heap) (pre M post : Bytes) (hpre : PathPrefixC semanticCfg pre)
    (hM : isSingleDot M = true) (hpost : EndPost post) :
    canonText (canonParse I semanticProfile H₁ (pre ++ 0x2f :: M ++ post)) =
      canonText (canonParse I semanticProfile H₂ (pre ++ 0x2f :: post)) :=
  C18f_canon_dot_segment_end I semanticProfile C18f_cfg_semantic.1 H₁ H₂ pre M post hpre hM hpost

theorem C18f_semantic_up_segment (I : Idna) (H₁ H₂ : Heap) (pre x dd X : Bytes) (hpre : PathPrefixC semanticCfg pre)
    (hx : segW x = true) (hdd : isDoubleDot dd = true) :
    canonText (canonParse I semanticProfile H₁ (pre ++ 0x2f :: x ++ 0x2f :: dd ++ 0x2f :: X)) =
      canonText (canonParse I semanticProfile H₂ (pre ++ 0x2f :: X)) :=
  C18f_canon_up_segment I semanticProfile C18f_cfg_semantic.1 H₁ H₂ pre x dd X hpre hx hdd

theorem C18f_semantic_up_segment_end (I : Idna) (H₁ H₂ : Heap) (pre x dd post : Bytes) (hpre : PathPrefixC semanticCfg pre)
    (hx : segW x = true) (hdd : isDoubleDot dd = true) (hpost : EndPost post) :
    canonText (canonParse I semanticProfile H₁ (pre ++ 0x2f :: x ++ 0x2f :: dd ++ post)) =
      canonText (canonParse I semanticProfile H₂ (pre ++ 0x2f :: post)) :=
  C18f_canon_up_segment_end I semanticProfile C18f_cfg_semantic.1 H₁ H₂ pre x dd post hpre hx hdd hpost

/-- the capstones applied: a domain host and an arbitrary rest -/
example (I : Idna) (H₁ H₂ : Heap) :
    canonText (canonParse I gsbProfile H₁ (lit "http" ++ lit "://" ++ lit "EXAMPLE.com" ++ 0x3a :: lit "080" ++ lit "/a//b%zz c")) =
    canonText (canonParse I gsbProfile H₂ (lit "http" ++ lit "://" ++ lit "EXAMPLE.com" ++ lit "/a//b%zz c")) :=
  C18f_gsb_port I H₁ H₂ _ (lit "80") _ _ _ (by decide +kernel) (by decide +kernel) (by decide +kernel) (by decide +kernel) (by decide +kernel)
example (I : Idna) (H₁ H₂ : Heap) :
    canonText (canonParse I semanticProfile H₁ (lit "gopher://EXAMPLE.com/a" ++ 0x2f :: lit "x" ++ 0x2f :: lit "%2e." ++ 0x2f :: lit "c?q")) =
    canonText (canonParse I semanticProfile H₂ (lit "gopher://EXAMPLE.com/a" ++ 0x2f :: lit "c?q")) :=
  C18f_semantic_up_segment I H₁ H₂ _ _ _ _
    ⟨⟨lit "gopher", lit "70", lit "EXAMPLE.com", [lit "a"], by decide +kernel, by decide +kernel, by decide +kernel, by decide +kernel, by decide +kernel⟩⟩ (by decide +kernel) (by decide +kernel)
/-- the missing-scheme error does occur — without a scheme — and is what the retry is for -/
example : ¬ NMr (parse gsbCfg I0 (lit "[::1]/a")) := by
  intro h
  exact h ⟨.MissingSchemeNonRelativeURL, true⟩ false (by decide +kernel) rfl

end WhatwgUrl.Props.C18f

#print axioms WhatwgUrl.Props.C18f.C18f_port_neutral
#print axioms WhatwgUrl.Props.C18f.C18f_default_port
#print axioms WhatwgUrl.Props.C18f.C18f_empty_port
#print axioms WhatwgUrl.Props.C18f.C18f_default_port_zeros
#print axioms WhatwgUrl.Props.C18f.C18f_port_neutral_gsb
#print axioms WhatwgUrl.Props.C18f.C18f_port_neutral_semantic
#print axioms WhatwgUrl.Props.C18f.C18f_port_needs_table
#print axioms WhatwgUrl.Props.C18f.C18f_dot_segment
#print axioms WhatwgUrl.Props.C18f.C18f_dot_segment_end
#print axioms WhatwgUrl.Props.C18f.C18f_up_segment
#print axioms WhatwgUrl.Props.C18f.C18f_up_segment_end
#print axioms WhatwgUrl.Props.C18f.C18f_up_needs_nonempty_gsb
#print axioms WhatwgUrl.Props.C18f.C18f_up_needs_segW
#print axioms WhatwgUrl.Props.C18f.canonText_of_parse_eq
#print axioms WhatwgUrl.Props.C18f.C18f_canon_port_neutral
#print axioms WhatwgUrl.Props.C18f.C18f_canon_dot_segment
#print axioms WhatwgUrl.Props.C18f.C18f_canon_dot_segment_end
#print axioms WhatwgUrl.Props.C18f.C18f_canon_up_segment
#print axioms WhatwgUrl.Props.C18f.C18f_canon_up_segment_end
#print axioms WhatwgUrl.Props.C18f.C18f_gsb_port
#print axioms WhatwgUrl.Props.C18f.C18f_gsb_dot_segment
#print axioms WhatwgUrl.Props.C18f.C18f_gsb_dot_segment_end
#print axioms WhatwgUrl.Props.C18f.C18f_gsb_up_segment
#print axioms WhatwgUrl.Props.C18f.C18f_gsb_up_segment_end
#print axioms WhatwgUrl.Props.C18f.C18f_semantic_port
#print axioms WhatwgUrl.Props.C18f.C18f_semantic_dot_segment
#print axioms WhatwgUrl.Props.C18f.C18f_semantic_dot_segment_end
#print axioms WhatwgUrl.Props.C18f.C18f_semantic_up_segment
#print axioms WhatwgUrl.Props.C18f.C18f_semantic_up_segment_end
