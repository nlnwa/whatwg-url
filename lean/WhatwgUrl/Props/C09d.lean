import WhatwgUrl.Props.C09c
import WhatwgUrl.Proofs.HostCase
import WhatwgUrl.Proofs.HostCase6
import WhatwgUrl.Proofs.SimHost
/-
  C09d — domain hosts of special-scheme URLs for ALL hosts (non-ASCII and ACE labels included) under two more laws of
  the IDNA library, measured on the real library and checked on every answer at run time like L1–L4:

    L5  the library is ASCII-case-insensitive (output AND error flag):  asciiLower s = asciiLower t → I s = I t
    L6  the output of the library has no upper-case ASCII letter
    (L2 of `IdnaLaws`: the output is ASCII)

  1. `C09d_case_independent` (`_full`: the whole result up to the ghost query log) — STRICT host parsing: the result
     does not depend on the ASCII letter case of the input text (letters, hex digits of escapes, the `xn--` prefix).
     More generally (`C09d_decoded_case_independent`) it depends on the input only through the ASCII-lower-cased
     percent-decoded text.
     FINDING (lax host parsing, `laxHost = true`): the statement is FALSE. Two branches return case-dependent text:
     (a) ill-formed UTF-8 after decoding, `C09d_case_independent_lax_false`; (b) ToASCII failed with an empty answer,
     `C09d_lax_error_fallback_false` (`…_false'`: with an oracle that satisfies all six laws). The error-fallback branch
     of ToASCII (`asciiOrMiscNoPuny` accepts although the oracle reported an error) returns the ORACLE's output, not
     the input, so it is case-independent by L5. What holds: `C09d_case_independent_lax_partial`.
  2. `C09d_bracketed_case_independent` (IPv6 literals: the Go parser itself is case-independent, whole result, any
     oracle, strict or lax; `Proofs/HostCase6.lean`) and `C09d_case_independent_all`: no hypothesis on the first byte.
  3. `C09d_output_shape`: an accepted host is ASCII, lower case, without forbidden domain code point.
  4. `C09d_all_spellings`: case AND escape independence together.
  5. non-vacuity: `Sim.I0` satisfies `IdnaLaws`, `L5`, `L6`; `L5` is needed (`C09d_L5_needed`).
-/
namespace WhatwgUrl.Props.C09d
open WhatwgUrl WhatwgUrl.Impl WhatwgUrl.Proofs.IPv4 WhatwgUrl.Proofs.Domain WhatwgUrl.Proofs.HostCase WhatwgUrl.Proofs.AsciiCase
open WhatwgUrl.Props.C09b

export WhatwgUrl.Proofs.HostCase (L5 L6)
export WhatwgUrl.Proofs.Sim (IdnaLaws)

/-! ### 1. case independence (strict host parsing) -/

/-- **the host parser sees its input only through the ASCII-lower-cased percent-decoded text**, outside the two lax
    fallbacks (`hm`: strict mode, or well-formed text on which ToASCII succeeds); the whole result — record with
    validation errors, outcome — up to the ghost query log -/
theorem C09d_decoded_case_independent (cfg : Cfg) (hpre : cfg.preHost = none) (hpost : cfg.postHost = none)
    (henc : cfg.encOverride = none) (I : Idna) (hI : L5 I) (u : Url) (s t : Bytes)
    (hs : s ≠ []) (hsb : s.head? ≠ some 0x5b) (ht : t ≠ []) (htb : t.head? ≠ some 0x5b)
    (hd : asciiLower (decodePercent cfg s) = asciiLower (decodePercent cfg t))
    (hm : cfg.laxHost = false ∨ (validUtf8 (decodePercent cfg s) = true ∧ ∃ a, toAsciiOut cfg I (decodePercent cfg s) = .ok a))
    (q : List Bytes) : HR.withQ q (parseHost cfg I u s false) = HR.withQ q (parseHost cfg I u t false) := by
  rw [parseHost_core cfg hpre hpost henc I u s hs hsb q, parseHost_core cfg hpre hpost henc I u t ht htb q,
    ← validUtf8_congr _ _ hd, ← toAsciiOut_congr cfg I hI _ _ hd,
    hostCore_indep cfg u s t (decodePercent cfg s) (decodePercent cfg t) _ _ hm]

/-- `L5`: host texts that differ only in ASCII letter case (letters, hex digits of escapes,
    `xn--` prefix) give the same result up to the ghost query log, outside the two lax fallbacks -/
theorem C09d_case_independent_full (cfg : Cfg) (hpre : cfg.preHost = none) (hpost : cfg.postHost = none)
    (henc : cfg.encOverride = none) (I : Idna) (hI : L5 I) (u : Url) (s t : Bytes)
    (hst : asciiLower s = asciiLower t) (hb : s.head? ≠ some 0x5b)
    (hm : cfg.laxHost = false ∨ (validUtf8 (decodePercent cfg s) = true ∧ ∃ a, toAsciiOut cfg I (decodePercent cfg s) = .ok a))
    (q : List Bytes) : HR.withQ q (parseHost cfg I u s false) = HR.withQ q (parseHost cfg I u t false) := by
  by_cases hs : s = []
  · subst hs
    rw [nil_of_asciiLower_nil hst]
  · obtain ⟨ht, htb⟩ := head_of_asciiLower hst hs hb
    exact C09d_decoded_case_independent cfg hpre hpost henc I hI u s t hs hb ht htb
      (decodePercent_asciiLower cfg s t hst) hm q

/-- strict host parsing, `L5`: host texts that differ only in ASCII letter case give the same outcome: the `.out`
    projection of `C09d_case_independent_full` (`(HR.withQ q r).out` is `r.out` by definition) -/
theorem C09d_case_independent (cfg : Cfg) (hpre : cfg.preHost = none) (hpost : cfg.postHost = none)
    (henc : cfg.encOverride = none) (hlax : cfg.laxHost = false) (I : Idna) (hI : L5 I) (u : Url) (s t : Bytes)
    (hst : asciiLower s = asciiLower t) (hb : s.head? ≠ some 0x5b) :
    (parseHost cfg I u s false).out = (parseHost cfg I u t false).out :=
  (congrArg HR.out (C09d_case_independent_full cfg hpre hpost henc I hI u s t hst hb (Or.inl hlax) []) :)

/-- the record agrees too once the ghost field is erased (set to any fixed `q`) -/
theorem C09d_case_independent_url (cfg : Cfg) (hpre : cfg.preHost = none) (hpost : cfg.postHost = none)
    (henc : cfg.encOverride = none) (hlax : cfg.laxHost = false) (I : Idna) (hI : L5 I) (u : Url) (s t : Bytes)
    (hst : asciiLower s = asciiLower t) (hb : s.head? ≠ some 0x5b) (q : List Bytes) :
    withQ q (parseHost cfg I u s false).url = withQ q (parseHost cfg I u t false).url :=
  congrArg HR.url (C09d_case_independent_full cfg hpre hpost henc I hI u s t hst hb (Or.inl hlax) q)

/-! ### 1'. lax host parsing: the finding -/

/-- the statement of 1 for lax host parsing, even with all six laws -/
def C09d_case_independent_lax_Statement : Prop :=
  ∀ (cfg : Cfg), cfg.preHost = none → cfg.postHost = none → cfg.encOverride = none → cfg.laxHost = true →
    ∀ (I : Idna), IdnaLaws I → L5 I → L6 I → ∀ (u : Url) (s t : Bytes), asciiLower s = asciiLower t →
      s.head? ≠ some 0x5b → (parseHost cfg I u s false).out = (parseHost cfg I u t false).out

/-- "all bytes are ASCII" depends on the text only through its ASCII-lower-cased form -/
theorem all_ascii_congr (s t : Bytes) (h : asciiLower s = asciiLower t) :
    s.all (fun x => decide (x.toNat < 0x80)) = t.all (fun x => decide (x.toNat < 0x80)) := by
  have e1 : ∀ w : Bytes, w.all (fun x => decide (x.toNat < 0x80)) =
      (asciiLower w).all (fun x => decide (x.toNat < 0x80)) := by
    intro w
    simp only [asciiLower, List.all_map, Function.comp_def, propext (lowerB_lt_iff _)]
  rw [e1 s, e1 t, h]

/-- the toy oracle `Proofs.Sim.I0` (not `C09b.I0`) satisfies `L5` … -/
theorem I0_L5 : L5 Proofs.Sim.I0 := by
  intro s t h
  unfold Proofs.Sim.I0
  rw [all_ascii_congr s t h, h]

/-- … and `L6` -/
theorem I0_L6 : L6 Proofs.Sim.I0 := by
  intro s x hx
  unfold Proofs.Sim.I0 at hx
  split at hx
  · exact mem_asciiLower_not_upper hx
  · simp only [List.mem_singleton] at hx
    subst hx; decide

/-- (a) ill-formed UTF-8: in lax mode the RAW input is percent-encoded and returned; the oracle is not consulted.
    `FF 41` gives `%FFA`, `FF 61` gives `%FFa`. -/
theorem lax_raw_witness (I : Idna) :
    (parseHost { laxHost := true } I {} [0xff, 0x41] false).out = .ok (lit "%FFA") ∧
    (parseHost { laxHost := true } I {} [0xff, 0x61] false).out = .ok (lit "%FFa") := by
  have e1 : decodePercent { laxHost := true } [0xff, 0x41] = [0xff, 0x41] := decodePercent_no_pct _ _ (by decide)
  have e2 : decodePercent { laxHost := true } [0xff, 0x61] = [0xff, 0x61] := decodePercent_no_pct _ _ (by decide)
  have v1 : validUtf8 [0xff, 0x41] = false := by decide
  have v2 : validUtf8 [0xff, 0x61] = false := by decide
  constructor
  · rw [parseHost_domain_eq _ rfl I _ _ (by decide) (by decide), WhatwgUrl.Proofs.HostWF.domainHost, e1, v1, if_pos (by rfl)]
    decide
  · rw [parseHost_domain_eq _ rfl I _ _ (by decide) (by decide), WhatwgUrl.Proofs.HostWF.domainHost, e2, v2, if_pos (by rfl)]
    decide

/-- **FINDING**: lax host parsing is case-dependent, whatever the oracle -/
theorem C09d_case_independent_lax_false : ¬ C09d_case_independent_lax_Statement := by
  intro h
  have := h { laxHost := true } rfl rfl rfl rfl Proofs.Sim.I0 Proofs.Sim.I0_laws I0_L5 I0_L6 {} [0xff, 0x41]
    [0xff, 0x61] (by decide) (by decide)
  rw [(lax_raw_witness _).1, (lax_raw_witness _).2] at this
  exact absurd this (by decide)

/-- `é A` and `é a` (`C3 A9 41`, `C3 A9 61`: the byte strings named `exS`, `exT` in section 5) contain no `%`: decoding
    leaves them as they are, under every configuration -/
theorem exS_decode (cfg : Cfg) : decodePercent cfg [0xc3, 0xa9, 0x41] = [0xc3, 0xa9, 0x41] :=
  decodePercent_no_pct cfg _ (by decide)
theorem exT_decode (cfg : Cfg) : decodePercent cfg [0xc3, 0xa9, 0x61] = [0xc3, 0xa9, 0x61] :=
  decodePercent_no_pct cfg _ (by decide)

/-- (b) ToASCII fails with an empty answer on a well-formed non-ASCII host: in lax mode the DECODED input is returned
    as it is (`é`+`A` versus `é`+`a`; the oracle is constant, hence satisfies `L5`) -/
theorem C09d_lax_error_fallback_false :
    L5 (fun _ => ([], true)) ∧
    (parseHost { laxHost := true } (fun _ => ([], true)) {} [0xc3, 0xa9, 0x41] false).out = .ok [0xc3, 0xa9, 0x41] ∧
    (parseHost { laxHost := true } (fun _ => ([], true)) {} [0xc3, 0xa9, 0x61] false).out = .ok [0xc3, 0xa9, 0x61] := by
  refine ⟨fun _ _ _ => rfl, ?_, ?_⟩
  · unfold parseHost; simp only [exS_decode]; decide
  · unfold parseHost; simp only [exT_decode]; decide

/-- an oracle with ALL SIX laws that answers a rejected non-ASCII host with the empty string -/
def Ilax : Idna := fun s =>
  if s.all (fun x => x.toNat < 0x80) then (asciiLower s, false)
  else if asciiOrMiscNoPuny (goRunes s) 0 then ([0x78], true) else ([], true)

theorem Ilax_laws : IdnaLaws Ilax where
  ascii_lower := by
    intro s hs _
    have : s.all (fun x => decide (x.toNat < 0x80)) = true :=
      List.all_eq_true.mpr (fun x hx => by simpa using hs x hx)
    simp [Ilax, this]
  out_ascii := by
    intro s x hx
    unfold Ilax at hx
    split at hx
    · rename_i h
      simp only [asciiLower, List.mem_map] at hx
      obtain ⟨y, hy, rfl⟩ := hx
      rw [lowerB_lt_iff]
      simpa using List.all_eq_true.mp h y hy
    · split at hx
      · simp only [List.mem_singleton] at hx
        subst hx; decide
      · cases hx
  repl_fails := by
    intro d hd
    have : (utf8 d).all (fun x => decide (x.toNat < 0x80)) = false := by
      rw [List.all_eq_false]
      refine ⟨0xEF, ?_, by decide⟩
      unfold utf8
      rw [List.mem_flatMap]
      exact ⟨repl, hd, by decide⟩
    unfold Ilax
    rw [this]
    simp only [Bool.false_eq_true, if_false]
    split <;> rfl
  nonempty := by
    intro s _ hf h
    unfold Ilax at hf ⊢
    split
    · rename_i h1; rw [if_pos h1] at hf; cases hf
    · simp

theorem Ilax_L5 : L5 Ilax := by
  intro s t h
  unfold Ilax
  rw [all_ascii_congr s t h, h, asciiOrMisc_congr s t h]

theorem Ilax_L6 : L6 Ilax := by
  intro s x hx
  unfold Ilax at hx
  split at hx
  · exact mem_asciiLower_not_upper hx
  · split at hx
    · simp only [List.mem_singleton] at hx
      subst hx; decide
    · cases hx

/-- (b) with an oracle satisfying all six laws -/
theorem C09d_lax_error_fallback_false' :
    IdnaLaws Ilax ∧ L5 Ilax ∧ L6 Ilax ∧
    (parseHost { laxHost := true } Ilax {} [0xc3, 0xa9, 0x41] false).out = .ok [0xc3, 0xa9, 0x41] ∧
    (parseHost { laxHost := true } Ilax {} [0xc3, 0xa9, 0x61] false).out = .ok [0xc3, 0xa9, 0x61] := by
  refine ⟨Ilax_laws, Ilax_L5, Ilax_L6, ?_, ?_⟩
  · unfold parseHost; simp only [exS_decode]; decide +kernel
  · unfold parseHost; simp only [exT_decode]; decide +kernel

/-- **lax host parsing, strongest true version**: case-independent whenever the decoded text is well-formed UTF-8 and
    ToASCII succeeds on it (then the two case-dependent branches (a), (b) are not taken) -/
theorem C09d_case_independent_lax_partial (cfg : Cfg) (hpre : cfg.preHost = none) (hpost : cfg.postHost = none)
    (henc : cfg.encOverride = none) (I : Idna) (hI : L5 I) (u : Url) (s t : Bytes)
    (hst : asciiLower s = asciiLower t) (hb : s.head? ≠ some 0x5b)
    (hv : validUtf8 (decodePercent cfg s) = true) (a : Bytes)
    (hok : toAsciiOut cfg I (decodePercent cfg s) = .ok a) (q : List Bytes) :
    HR.withQ q (parseHost cfg I u s false) = HR.withQ q (parseHost cfg I u t false) :=
  C09d_case_independent_full cfg hpre hpost henc I hI u s t hst hb (Or.inr ⟨hv, a, hok⟩) q

/-! ### 2. bracketed hosts (IPv6 literals) and the combination -/

/-- a bracketed host (IPv6 literal): the whole result is independent of the ASCII case of the text (hex
    digits), for every oracle, every configuration without pre-parse hook, special or not, strict or lax
    (`HostCase6.hostOf_bracket_congr`) -/
theorem C09d_bracketed_case_independent (cfg : Cfg) (hpre : cfg.preHost = none) (I : Idna) (u : Url) (s t : Bytes)
    (hst : asciiLower s = asciiLower t) (hb : s.head? = some 0x5b) (ns : Bool) :
    parseHost cfg I u s ns = parseHost cfg I u t ns := by
  rw [WhatwgUrl.Proofs.HostWF.parseHost_eq, WhatwgUrl.Proofs.HostWF.parseHost_eq,
    WhatwgUrl.Proofs.Web.preIn_none hpre, WhatwgUrl.Proofs.Web.preIn_none hpre]
  exact Proofs.HostCase6.hostOf_bracket_congr cfg I u ns s t hst hb

/-- domain hosts and bracketed hosts together: strict host parsing, `L5`: for EVERY host text (no hypothesis on the
    first byte) the result is independent of the ASCII letter case of the text, up to the ghost query log -/
theorem C09d_case_independent_all_full (cfg : Cfg) (hpre : cfg.preHost = none) (hpost : cfg.postHost = none)
    (henc : cfg.encOverride = none) (hlax : cfg.laxHost = false) (I : Idna) (hI : L5 I) (u : Url) (s t : Bytes)
    (hst : asciiLower s = asciiLower t) (q : List Bytes) :
    HR.withQ q (parseHost cfg I u s false) = HR.withQ q (parseHost cfg I u t false) := by
  by_cases hb : s.head? = some 0x5b
  · rw [C09d_bracketed_case_independent cfg hpre I u s t hst hb false]
  · exact C09d_case_independent_full cfg hpre hpost henc I hI u s t hst hb (Or.inl hlax) q

/-- the `.out` projection of `C09d_case_independent_all_full` -/
theorem C09d_case_independent_all (cfg : Cfg) (hpre : cfg.preHost = none) (hpost : cfg.postHost = none)
    (henc : cfg.encOverride = none) (hlax : cfg.laxHost = false) (I : Idna) (hI : L5 I) (u : Url) (s t : Bytes)
    (hst : asciiLower s = asciiLower t) :
    (parseHost cfg I u s false).out = (parseHost cfg I u t false).out :=
  (congrArg HR.out (C09d_case_independent_all_full cfg hpre hpost henc hlax I hI u s t hst []) :)

/-- non-vacuity: an IPv6 literal in two cases -/
example : asciiLower (lit "[2001:DB8::Ff]") = asciiLower (lit "[2001:db8::fF]") ∧
    (lit "[2001:DB8::Ff]").head? = some 0x5b := by decide
example : (parseHost {} Proofs.Sim.I0 {} (lit "[2001:DB8::Ff]") false).out = .ok (lit "[2001:db8::ff]") := by
  decide +kernel
example : (parseHost {} Proofs.Sim.I0 {} (lit "[2001:DB8::Ff]") false).out =
    (parseHost {} Proofs.Sim.I0 {} (lit "[2001:db8::fF]") false).out :=
  C09d_case_independent_all {} rfl rfl rfl rfl _ I0_L5 {} _ _ (by decide)

/-! ### 3. output shape -/

/-- what is needed of the oracle: L2 and L6; every domain branch of the host parser (`HostWF.parseHost_strict_ok`) returns
    such a host, in fail mode too (`_hf` is not used) -/
theorem C09d_output_shape' (cfg : Cfg) (hpre : cfg.preHost = none) (hpost : cfg.postHost = none)
    (hlax : cfg.laxHost = false) (_hf : cfg.failOnVErr = false) (I : Idna)
    (h2 : ∀ s : Bytes, ∀ x ∈ (I s).1, x.toNat < 0x80) (h6 : L6 I) (u : Url) (s h : Bytes)
    (hok : (parseHost cfg I u s false).out = .ok h) (hb : s.head? ≠ some 0x5b) :
    (∀ x ∈ h, x.toNat < 0x80) ∧ asciiLower h = h ∧ (∀ x ∈ h, forbiddenDomain x.toNat = false) := by
  refine WhatwgUrl.Proofs.HostWF.parseHost_strict_ok
    (Q := fun h => (∀ x ∈ h, x.toNat < 0x80) ∧ asciiLower h = h ∧ ∀ x ∈ h, forbiddenDomain x.toNat = false)
    cfg hpre hpost hlax I u s false (fun _ => ⟨nofun, rfl, nofun⟩) (fun hb' => absurd hb' hb) (fun _ _ n => ?_)
    (fun _ h => by cases h) (fun _ a _ _ ha hforb => ?_) hok
  · exact ipv4String_host n
  · have hA := WhatwgUrl.Proofs.HostWF.toASCII_ok_of (P := fun a => Ascii a ∧ ∀ x ∈ a, ¬ (0x41 ≤ x.toNat ∧ x.toNat ≤ 0x5a))
      ⟨nofun, nofun⟩ (fun src => ⟨h2 src, h6 src⟩) ha
    exact ⟨hA.1, asciiLower_of_no_upper hA.2, bytes_not_forbidden hA.1 hforb⟩

/-- strict host parsing: an accepted special-scheme host that is not a bracketed
    literal is ASCII-only, lower case and free of forbidden domain code points — for EVERY input host (non-ASCII and
    ACE labels included, and also through the error-fallback branch of ToASCII, which returns the oracle's output).
    The hypothesis `hf : cfg.failOnVErr = false` is not used (`C09d_output_shape'` ignores it). -/
theorem C09d_output_shape (cfg : Cfg) (hpre : cfg.preHost = none) (hpost : cfg.postHost = none)
    (hlax : cfg.laxHost = false) (hf : cfg.failOnVErr = false) (I : Idna) (hI : IdnaLaws I) (h6 : L6 I)
    (u : Url) (s h : Bytes) (hok : (parseHost cfg I u s false).out = .ok h) (hb : s.head? ≠ some 0x5b) :
    (∀ x ∈ h, x.toNat < 0x80) ∧ asciiLower h = h ∧ (∀ x ∈ h, forbiddenDomain x.toNat = false) :=
  C09d_output_shape' cfg hpre hpost hlax hf I hI.out_ascii h6 u s h hok hb

/-- … and it is the oracle's answer on the percent-decoded input, unless that answer ends in a number (then it is the
    serialization of the IPv4 address found in the answer) -/
theorem C09d_output_is_answer (cfg : Cfg) (hpre : cfg.preHost = none) (hpost : cfg.postHost = none)
    (henc : cfg.encOverride = none) (hlax : cfg.laxHost = false) (hf : cfg.failOnVErr = false) (I : Idna)
    (u : Url) (s h : Bytes) (hne : s ≠ []) (hok : (parseHost cfg I u s false).out = .ok h)
    (hb : s.head? ≠ some 0x5b) :
    (endsInANumber cfg u (I (decodePercent cfg s)).1 = false ∧ h = (I (decodePercent cfg s)).1) ∨
    (endsInANumber cfg u (I (decodePercent cfg s)).1 = true ∧
      ∃ n, Spec.parseIPv4 (asStr (I (decodePercent cfg s)).1) = some n ∧ n < 2 ^ 32 ∧ h = ipv4String n) := by
  obtain ⟨a, ha, -, hcase⟩ := C09_output_shape cfg hpre hpost hlax hf I u s h hok hb
  rw [WhatwgUrl.Proofs.HostWF.toASCII_eq cfg henc I u _ (decodePercent_ne_nil cfg s hne)] at ha
  have : a = (I (decodePercent cfg s)).1 := WhatwgUrl.Proofs.HostWF.toAsciiOut_ok ha
  subst this
  exact hcase

/-! ### 4. case and escape independence together -/

/-- case and escape independence together: strict host parsing, `L5`: two host texts that spell (each byte literally or
    as `%XX`, hex digits in either case) texts `d`, `d'` equal up to ASCII case give the same result up to the query log.
    As in C09c the spelled texts must not themselves contain a complete escape (`hasEscape = false`); in strict mode no
    UTF-8 hypothesis is needed. -/
theorem C09d_all_spellings_full (cfg : Cfg) (hpre : cfg.preHost = none) (hpost : cfg.postHost = none)
    (henc : cfg.encOverride = none) (hlax : cfg.laxHost = false) (I : Idna) (hI : L5 I) (u : Url)
    (d d' s t : Bytes) (hs : Spelling d s) (ht : Spelling d' t) (hdd : asciiLower d = asciiLower d')
    (hne : d ≠ []) (hb : d.head? ≠ some 0x5b) (hfix : hasEscape d = false) (hfix' : hasEscape d' = false)
    (q : List Bytes) :
    HR.withQ q (parseHost cfg I u s false) = HR.withQ q (parseHost cfg I u t false) := by
  obtain ⟨hne', hb'⟩ := head_of_asciiLower hdd hne hb
  obtain ⟨h1, h2⟩ := spelling_head hs hne hb
  obtain ⟨h3, h4⟩ := spelling_head ht hne' hb'
  refine C09d_decoded_case_independent cfg hpre hpost henc I hI u s t h1 h2 h3 h4 ?_ (Or.inl hlax) q
  rw [C09_decode_spelling_cfg cfg henc d s hs hfix, C09_decode_spelling_cfg cfg henc d' t ht hfix', hdd]

/-- the `.out` projection of `C09d_all_spellings_full` -/
theorem C09d_all_spellings (cfg : Cfg) (hpre : cfg.preHost = none) (hpost : cfg.postHost = none)
    (henc : cfg.encOverride = none) (hlax : cfg.laxHost = false) (I : Idna) (hI : L5 I) (u : Url)
    (d d' s t : Bytes) (hs : Spelling d s) (ht : Spelling d' t) (hdd : asciiLower d = asciiLower d')
    (hne : d ≠ []) (hb : d.head? ≠ some 0x5b) (hfix : hasEscape d = false) (hfix' : hasEscape d' = false) :
    (parseHost cfg I u s false).out = (parseHost cfg I u t false).out :=
  (congrArg HR.out (C09d_all_spellings_full cfg hpre hpost henc hlax I hI u d d' s t hs ht hdd hne hb hfix hfix' []) :)

/-- the hypothesis actually used: equality of the ASCII-lower-cased percent-decodings -/
theorem C09d_all_spellings_decoded (cfg : Cfg) (hpre : cfg.preHost = none) (hpost : cfg.postHost = none)
    (henc : cfg.encOverride = none) (hlax : cfg.laxHost = false) (I : Idna) (hI : L5 I) (u : Url) (s t : Bytes)
    (hs : s ≠ []) (hsb : s.head? ≠ some 0x5b) (ht : t ≠ []) (htb : t.head? ≠ some 0x5b)
    (hd : asciiLower (decodePercent cfg s) = asciiLower (decodePercent cfg t)) :
    (parseHost cfg I u s false).out = (parseHost cfg I u t false).out :=
  (congrArg HR.out (C09d_decoded_case_independent cfg hpre hpost henc I hI u s t hs hsb ht htb hd (Or.inl hlax) []) :)

/-! ### 5. non-vacuity -/

/-- the six laws are satisfiable together -/
theorem laws_satisfiable : ∃ I : Idna, IdnaLaws I ∧ L5 I ∧ L6 I :=
  ⟨Proofs.Sim.I0, Proofs.Sim.I0_laws, I0_L5, I0_L6⟩

/-- a toy oracle that ACCEPTS non-ASCII hosts: the answer is `xn--` followed by the lower-cased ASCII bytes of the
    input (a function of `asciiLower s`, hence `L5`; ASCII and lower case, hence L2 and `L6`) -/
def I1 : Idna := fun s => (lit "xn--" ++ (asciiLower s).filter (fun x => x.toNat < 0x80), false)

theorem I1_L5 : L5 I1 := fun s t h => by unfold I1; rw [h]

theorem I1_L6 : L6 I1 := by
  intro s x hx
  unfold I1 at hx
  simp only [List.mem_append, List.mem_filter] at hx
  rcases hx with hx | ⟨hx, -⟩
  · revert x; decide
  · exact mem_asciiLower_not_upper hx

theorem I1_L2 : ∀ s : Bytes, ∀ x ∈ (I1 s).1, x.toNat < 0x80 := by
  intro s x hx
  unfold I1 at hx
  simp only [List.mem_append, List.mem_filter, decide_eq_true_eq] at hx
  rcases hx with hx | ⟨-, hx⟩
  · revert x; decide
  · exact hx

/-- `é` + `A` (a non-ASCII host), both written literally (not `C09b.exS`, the ASCII host `EXAMPLE.com`) … -/
def exS : Bytes := [0xc3, 0xa9, 0x41]
/-- … and `é` + `a`, literally too; the escaped spelling `%C3%a9a` of it appears in the `Spelling` example below -/
def exT : Bytes := [0xc3, 0xa9, 0x61]

example : ({} : Cfg).preHost = none ∧ ({} : Cfg).postHost = none ∧ ({} : Cfg).encOverride = none ∧
    ({} : Cfg).laxHost = false ∧ ({} : Cfg).failOnVErr = false := ⟨rfl, rfl, rfl, rfl, rfl⟩
example : asciiLower exS = asciiLower exT ∧ exS.head? ≠ some 0x5b := by decide

/-- the conclusion of `C09d_case_independent`, evaluated: both give `xn--a` -/
theorem exS_out : (parseHost {} I1 {} exS false).out = .ok (lit "xn--a") := by
  unfold parseHost exS; simp only [exS_decode]; decide +kernel
theorem exT_out : (parseHost {} I1 {} exT false).out = .ok (lit "xn--a") := by
  unfold parseHost exT; simp only [exT_decode]; decide +kernel
example : (parseHost {} I1 {} exS false).out = (parseHost {} I1 {} exT false).out :=
  C09d_case_independent {} rfl rfl rfl rfl I1 I1_L5 {} exS exT (by decide) (by decide)

/-- output shape on the example (hypotheses of `C09d_output_shape'` met by `I1`, `exS_out`) -/
example : (∀ x ∈ lit "xn--a", x.toNat < 0x80) ∧ asciiLower (lit "xn--a") = lit "xn--a" ∧
    (∀ x ∈ lit "xn--a", forbiddenDomain x.toNat = false) :=
  C09d_output_shape' {} rfl rfl rfl rfl I1 I1_L2 I1_L6 {} exS _ exS_out (by decide)

/-- … and with the witness of all six laws: an ASCII host in mixed case, with an escape in mixed case -/
example : (parseHost {} Proofs.Sim.I0 {} (lit "EX%4aMPLE.com") false).out =
    (parseHost {} Proofs.Sim.I0 {} (lit "ex%4Ample.COM") false).out :=
  C09d_case_independent {} rfl rfl rfl rfl _ I0_L5 {} _ _ (by decide) (by decide)

/-- spellings: `é` + `A` literally, and `%C3%a9` + `a` -/
example : Spelling exS exS ∧ Spelling exT [0x25, 0x43, 0x33, 0x25, 0x61, 0x39, 0x61] ∧ asciiLower exS = asciiLower exT ∧
    exS ≠ [] ∧ exS.head? ≠ some 0x5b ∧ hasEscape exS = false ∧ hasEscape exT = false :=
  ⟨spells_sound _ _ (by decide), spells_sound _ _ (by decide), by decide, by decide, by decide, by decide, by decide⟩
example (I : Idna) (hI : L5 I) (u : Url) :
    (parseHost {} I u exS false).out = (parseHost {} I u [0x25, 0x43, 0x33, 0x25, 0x61, 0x39, 0x61] false).out :=
  C09d_all_spellings {} rfl rfl rfl rfl I hI u exS exT _ _ (spells_sound _ _ (by decide)) (spells_sound _ _ (by decide))
    (by decide) (by decide) (by decide) (by decide) (by decide)

/-! #### `L5` is needed -/

/-- an oracle that satisfies L1–L4 but is case-sensitive on one non-ASCII host -/
def Ibad : Idna := fun s => if s = [0xc3, 0xa9, 0x41] then ([0x79], false) else Proofs.Sim.I0 s

theorem Ibad_laws : IdnaLaws Ibad where
  ascii_lower := by
    intro s hs h
    have : s ≠ [0xc3, 0xa9, 0x41] := by
      intro e; subst e
      exact absurd (hs 0xc3 (by simp)) (by decide)
    simp only [Ibad, this, if_false]
    exact Proofs.Sim.I0_laws.ascii_lower s hs h
  out_ascii := by
    intro s x hx
    unfold Ibad at hx
    split at hx
    · simp only [List.mem_singleton] at hx
      subst hx; decide
    · exact Proofs.Sim.I0_laws.out_ascii s x hx
  repl_fails := by
    intro d hd
    have hm : (0xEF : UInt8) ∈ utf8 d := by
      unfold utf8
      rw [List.mem_flatMap]
      exact ⟨repl, hd, by decide⟩
    have : utf8 d ≠ [0xc3, 0xa9, 0x41] := by
      intro e; rw [e] at hm
      exact absurd hm (by decide)
    simp only [Ibad, this, if_false]
    exact Proofs.Sim.I0_laws.repl_fails d hd
  nonempty := by
    intro s hne hf h
    unfold Ibad at hf ⊢
    split
    · simp
    · rename_i hs
      rw [if_neg hs] at hf
      exact Proofs.Sim.I0_laws.nonempty s hne hf h

/-- **`L5` is needed**: under an oracle with L1–L4 only, `é`+`A` is accepted and `é`+`a` is rejected -/
theorem C09d_L5_needed : IdnaLaws Ibad ∧ ¬ L5 Ibad ∧ asciiLower exS = asciiLower exT ∧
    (parseHost {} Ibad {} exS false).out = .ok [0x79] ∧
    (parseHost {} Ibad {} exT false).out = .err ⟨.DomainToASCII, true⟩ := by
  have o1 : (parseHost {} Ibad {} exS false).out = .ok [0x79] := by
    unfold parseHost exS; simp only [exS_decode]; decide +kernel
  have o2 : (parseHost {} Ibad {} exT false).out = .err ⟨.DomainToASCII, true⟩ := by
    unfold parseHost exT; simp only [exT_decode]; decide +kernel
  refine ⟨Ibad_laws, ?_, by decide, o1, o2⟩
  intro h5
  have := C09d_case_independent {} rfl rfl rfl rfl Ibad h5 {} exS exT (by decide) (by decide)
  rw [o1, o2] at this
  cases this

end WhatwgUrl.Props.C09d

section AxiomCheck
open WhatwgUrl.Props.C09d
#print axioms C09d_decoded_case_independent
#print axioms C09d_case_independent_full
#print axioms C09d_case_independent
#print axioms C09d_case_independent_url
#print axioms C09d_case_independent_lax_false
#print axioms C09d_lax_error_fallback_false
#print axioms C09d_lax_error_fallback_false'
#print axioms C09d_case_independent_lax_partial
#print axioms C09d_bracketed_case_independent
#print axioms C09d_case_independent_all_full
#print axioms C09d_case_independent_all
#print axioms C09d_output_shape'
#print axioms C09d_output_shape
#print axioms C09d_output_is_answer
#print axioms C09d_all_spellings_full
#print axioms C09d_all_spellings
#print axioms C09d_all_spellings_decoded
#print axioms laws_satisfiable
#print axioms C09d_L5_needed
end AxiomCheck
