import WhatwgUrl.Proofs.Canon
/-
  C17 — canonical output is a fixed point of its own canonicalizer.  This file: the codec alone.  `decodeEncode`
  (canonicalizer.go:124-148: decode to a fixed point, then encode once) is idempotent, because a decoding pass shortens
  the text or fixes it (so the loop's fuel `length + 1` reaches a fixed point) and decoding undoes the encoder.
  No clause of the property, which speaks of whole urls, is covered here, and the theorems that cover them use nothing of
  this file: C17b goes through the round trip of C03c, C17c–C17f through "`decodeEncode` of a spelling is the plain text".
-/
namespace WhatwgUrl.Props.C17
open WhatwgUrl WhatwgUrl.Impl WhatwgUrl.Proofs.Canon

theorem C17_decode_shortens (s : Bytes) : canonDecode s ≠ s → (canonDecode s).length + 2 ≤ s.length :=
  canonDecode_shortens s

example : canonDecode (lit "a%41") ≠ lit "a%41" := by rw [canonDecode_eq_E]; decide +kernel

theorem C17_decode_length_le (s : Bytes) : (canonDecode s).length ≤ s.length :=
  canonDecode_length_le s

theorem C17_repeatedDecode_fix (s : Bytes) : canonDecode (repeatedDecode s) = repeatedDecode s :=
  repeatedDecode_fix s

theorem C17_repeatedDecode_step (s : Bytes) : repeatedDecode (canonDecode s) = repeatedDecode s :=
  repeatedDecode_step s

theorem C17_repeatedDecode_of_fix (t : Bytes) (h : canonDecode t = t) : repeatedDecode t = t :=
  repeatedDecode_of_fix t h

example : canonDecode (lit "a%4g%") = lit "a%4g%" := by rw [canonDecode_eq_E]; decide +kernel

theorem C17_repeatedDecode_idem (s : Bytes) : repeatedDecode (repeatedDecode s) = repeatedDecode s :=
  repeatedDecode_idem s

theorem C17_fuel_irrelevant (s : Bytes) (fuel : Nat) (h : s.length < fuel) :
    repeatedDecodeAux fuel s = repeatedDecode s :=
  repeatedDecodeAux_fuel _ _ _ h (Nat.lt_succ_self _)

example : (lit "%25252e").length < 100 := by decide +kernel

/-- no hypothesis on `tr`: the encoder escapes `%` whatever the set (`tr.set 0x25`) -/
theorem C17_decode_encode (tr : PSet) (s : Bytes) : canonDecode (canonEncode tr s) = s :=
  canonDecode_canonEncode tr s

/-- a set that contains a hex digit (`4`, written `%34`) -/
example : canonEncode (hostSet.set 0x34) (lit "a4%41 b") = lit "a%34%25%341%20b" ∧
    canonDecode (canonEncode (hostSet.set 0x34) (lit "a4%41 b")) = lit "a4%41 b" := by
  rw [canonDecode_eq_E]; decide +kernel

theorem C17_decodeEncode_idem (tr : PSet) (s : Bytes) : decodeEncode tr (decodeEncode tr s) = decodeEncode tr s := by
  show canonEncode tr (repeatedDecode (canonEncode tr (repeatedDecode s))) = canonEncode tr (repeatedDecode s)
  rw [← repeatedDecode_step (canonEncode tr _), canonDecode_canonEncode, repeatedDecode_idem]

theorem C17_decode_decodeEncode (tr : PSet) (s : Bytes) : canonDecode (decodeEncode tr s) = repeatedDecode s :=
  canonDecode_canonEncode tr _

example : decodeEncode laxPathSet (lit "/a%2525 b%zz") = lit "/a%25%20b%25zz" := by rw [decodeEncode_eq_E]; decide +kernel
example : decodeEncode laxPathSet (lit "/a%25%20b%25zz") = lit "/a%25%20b%25zz" := by rw [decodeEncode_eq_E]; decide +kernel
example : decodeEncode repeatedQuerySet (lit "a%253Db&=%") = lit "a%3Db%26%3D%25" := by rw [decodeEncode_eq_E]; decide +kernel
example : decodeEncode (hostSet.set 0x34) (lit "a4%2541 b%4") = lit "a%34A%20b%25%34" := by rw [decodeEncode_eq_E]; decide +kernel

/-- every `%` of the canonical text begins an escape `%XX`: re-parsing it meets no invalid percent sign -/
theorem C17_decodeEncode_pct_wellformed (tr : PSet) (s a b : Bytes)
    (h : decodeEncode tr s = a ++ 0x25 :: b) : ∃ h1 h2 b', b = h1 :: h2 :: b' ∧ isHexN h1.toNat = true ∧ isHexN h2.toNat = true := by
  unfold decodeEncode at h
  rw [canonEncode_eq_encP] at h
  have := encP_pct_wellformed _ (has_set_pct tr) _ a b h
  match b, this with
  | h1 :: h2 :: b', this =>
    simp only [hex2, Bool.and_eq_true] at this
    exact ⟨h1, h2, b', rfl, this.1, this.2⟩

example : decodeEncode laxPathSet (lit "/a%2525 b%zz") = lit "/a" ++ 0x25 :: lit "25%20b%25zz" := by rw [decodeEncode_eq_E]; decide +kernel

theorem C17_decodeEncode_bytes_hexfree (tr : PSet) (s : Bytes)
    (hfree : ∀ c, isHexN c = true → (tr.set 0x25).has c = false) :
    ∀ x ∈ decodeEncode tr s, x = 0x25 ∨ (tr.set 0x25).has x.toNat = false := by
  intro x hx
  unfold decodeEncode at hx
  rw [canonEncode_eq_encP] at hx
  rcases mem_encP _ _ _ hx with h | h | h | h
  · exact Or.inl h
  · exact Or.inr h.2
  · exact Or.inr (hfree _ (by simp [isHexN, isDigitN, h.1, h.2]))
  · exact Or.inr (hfree _ (by simp [isHexN, h.1, h.2]))

/-- `hfree` above holds of the three sets `canonicalize` passes to `decodeEncode` -/
theorem C17_sets_hexfree :
    (∀ c, isHexN c = true → (hostSet.set 0x25).has c = false) ∧
    (∀ c, isHexN c = true → (laxPathSet.set 0x25).has c = false) ∧
    (∀ c, isHexN c = true → (repeatedQuerySet.set 0x25).has c = false) := by
  have lift : ∀ p : PSet, (∀ i : Fin 128, isHexN i.val = true → p.has i.val = false) →
      ∀ c, isHexN c = true → p.has c = false := by
    intro p h c hc
    by_cases h128 : c < 128
    · exact h ⟨c, h128⟩ hc
    · exfalso
      simp only [isHexN, isDigitN, Bool.or_eq_true, Bool.and_eq_true, decide_eq_true_eq] at hc
      omega
  exact ⟨lift _ (by decide +kernel), lift _ (by decide +kernel), lift _ (by decide +kernel)⟩

end WhatwgUrl.Props.C17
