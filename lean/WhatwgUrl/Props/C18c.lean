import WhatwgUrl.Proofs.SpellingDots
import WhatwgUrl.Proofs.SimHost
import WhatwgUrl.Proofs.EvalEq
/-
  C18c — spellings the URL Standard itself normalises never change the parse result.

  Statements about TWO inputs parsed by the SAME parser giving the SAME result (url record and return value, so failures
  and their error values included).  The statements about spellings (1–3) are at parse level only: `url := none`,
  `ov := none` (nothing here is about a setter such as `SetProtocol("HTTP")`), no canonicalizer.  `Props/C18f.lean` lifts
  the port and dot-segment statements to the canonical text of a profile (`C18f_canon_*`); the scheme-case statement is
  not lifted.  What follows the differing piece is ARBITRARY (any bytes: non-ASCII, ill-formed UTF-8, blanks, tabs,
  newlines), the oracle `I` is arbitrary.

  0. the shift lemma (`C18c_shift`, `C18c_shift_prefixes`): every configuration, base, state override;
  1. case of the scheme (`C18c_scheme_case`, `_base`, `_ref`): every configuration, with or without a base;
  2. default port, empty port, default port with leading zeros (`C18c_default_port`, `C18c_empty_port`,
     `C18c_default_port_zeros`, all instances of `C18c_port_neutral`): default configuration, no base;
  3. dot segments (`C18c_single_dot`, `C18c_single_dot_end`, `C18c_dotdot`, `C18c_dotdot_end` for any prefix that ends at a
     segment start, `PrefixRun`; `C18c_dot_segment`, `C18c_dot_segment_end`, `C18c_up_segment`, `C18c_up_segment_end` in the
     `pre ++ "/." ++ post` form for the prefixes `scheme://host/seg/…/seg`): default configuration, no base; with the
     kernel-checked counterexample to the tempting law at the end of the path.  These are the instances at `{}` of the
     statements for any configuration in `Proofs/SpellingDots.lean` (`copiedSeg_default`: the default configuration copies
     every byte outside the path set).
-/
namespace WhatwgUrl.Props.C18c
open WhatwgUrl WhatwgUrl.Impl WhatwgUrl.Proofs.Spelling
open WhatwgUrl.Proofs.Web (portc_parse_eq specialSchemeC_default portTableOk_default portNeutral_default_c
  ins_mid_parse_c ins_end_parse_c SlashPrefix slashPrefix_path ins_mid_slash ins_end_slash)
open WhatwgUrl.Proofs.Sim (I0)
open WhatwgUrl.Proofs.RoundTrip (segOk pathText Graphic)
open WhatwgUrl.Proofs.IPv4 (asStr)

/-! ### 0. the shift lemma -/

/-- **Shift lemma.**  `e` reads the text `e.runes`, the second machine reads `rs₂`; from position `b` on the two texts
    coincide up to the offset `d` (`Shift`).  From two states that differ by the cursor offset only and satisfy the
    invariant `Inv b` (cursor at or after the boundary; not the scheme-start / scheme state, the only ones that reset the
    cursor; before the authority has been consumed, the buffer holds no more code points than were read since the
    boundary, so the authority state's rewind stays right of the boundary) the loops give the same result for every
    fuel — any configuration, oracle, base and state override. -/
theorem C18c_shift {e : Env} {src₂ : Bytes} {rs₂ : Str} {b d : Int} (S : Shift e src₂ rs₂ b d) (n : Nat) (ps : PS)
    (hI : Inv b ps) : loop (envWith e src₂ rs₂) n (sh d ps) = loop e n ps :=
  loop_shift S n ps hI

/-- **Shift lemma, concrete form**: two inputs `A₁ ++ Z`, `A₂ ++ Z` with ASCII prefixes and an arbitrary common rest `Z`
    (any bytes); the same machine state `F` at the end of either prefix (cursor on its last byte), not the scheme-start /
    scheme state and not before the authority: same result for every fuel.  Any configuration, oracle, base, override. -/
theorem C18c_shift_prefixes (cfg : Cfg) (I : Idna) (base : Option Url) (ov : Option State) (A₁ A₂ Z : Bytes)
    (hA₁ : WhatwgUrl.Proofs.IPv4.Ascii A₁) (hA₂ : WhatwgUrl.Proofs.IPv4.Ascii A₂) (F : PS)
    (hp : F.pointer + 1 = (A₁.length : Int)) (h1 : F.state ≠ .schemeStart) (h2 : F.state ≠ .scheme)
    (h3 : AuthReach F.state = false) (n : Nat) :
    loop (envOf cfg I base ov (A₂ ++ Z)) n { F with pointer := (A₂.length : Int) - 1 } = loop (envOf cfg I base ov (A₁ ++ Z)) n F :=
  loop_shift_prefixes cfg I base ov A₁ A₂ Z hA₁ hA₂ F _ hp (by simp) rfl h1 h2 h3 n

example : WhatwgUrl.Proofs.IPv4.Ascii (lit "http://h/a/./") ∧ WhatwgUrl.Proofs.IPv4.Ascii (lit "http://h/a/") ∧
    AuthReach .path = false := by
  refine ⟨?_, ?_, rfl⟩ <;> (unfold WhatwgUrl.Proofs.IPv4.Ascii; decide +kernel)

/-- non-vacuity: two texts `ab/c` and `xyz/c` (common suffix `/c`, offset +1), the path state on the last byte of the prefix -/
example (n : Nat) :
    loop (envWith (envOf {} I0 none none (lit "ab/c")) (utf8 (asStr (lit "xyz")) ++ lit "/c") (asStr (lit "xyz") ++ goRunes (lit "/c"))) n
      (sh (((asStr (lit "xyz")).length : Int) - ((asStr (lit "ab")).length : Int)) ⟨.path, 1, false, [], false, false, false, {}⟩) =
    loop (envOf {} I0 none none (lit "ab/c")) n ⟨.path, 1, false, [], false, false, false, {}⟩ :=
  C18c_shift (Shift.of_append _ (asStr (lit "ab")) (asStr (lit "xyz")) (lit "/c") (by decide +kernel) (by decide +kernel)) n _
    ⟨by decide +kernel, by decide +kernel, by decide +kernel, by simp [AuthReach]⟩
example : envWith (envOf {} I0 none none (lit "ab/c")) (utf8 (asStr (lit "xyz")) ++ lit "/c") (asStr (lit "xyz") ++ goRunes (lit "/c")) =
    envOf {} I0 none none (lit "xyz/c") := by
  simp only [envWith, envOf]
  congr 1 <;> decide +kernel

/-! ### 1. case of the scheme -/

/-- **Scheme case**, `basicParser` level: any configuration, any oracle, with or without a base. -/
theorem C18c_scheme_case_base (cfg : Cfg) (I : Idna) (base : Option Url) (w rest : Bytes) (hw : schemeText w = true) :
    basicParser cfg I (w ++ 0x3a :: rest) base none none = basicParser cfg I (asciiLower w ++ 0x3a :: rest) base none none := by
  have hlw := schemeText_lower w hw
  have hnw : ∀ v, schemeText v = true → NoWs (v ++ [0x3a]) := by
    intro v hv b hb
    rcases List.mem_append.mp hb with h | h
    · exact schemeText_noWs v hv b h
    · simp at h; subst h; decide
  have hn := hnw w hw
  have hn' := hnw _ hlw
  have e1 : w ++ 0x3a :: rest = (w ++ [0x3a]) ++ rest := by simp
  have e2 : asciiLower w ++ 0x3a :: rest = (asciiLower w ++ [0x3a]) ++ rest := by simp
  rw [e1, e2]
  refine basicParser_congr_prefixes cfg I base none _ _ rest (by simp) hn (by simp) hn' fun vs _ => ?_
  simp only [List.append_assoc, List.singleton_append, Option.getD_none]
  exact scheme_case_loop cfg I base w hw (restText rest) _

/-- **Scheme case** for `parse`: `w` is a scheme in any case (a letter, then letters / digits / `+` `-` `.`). -/
theorem C18c_scheme_case (cfg : Cfg) (I : Idna) (w rest : Bytes) (hw : schemeText w = true) :
    parse cfg I (w ++ 0x3a :: rest) = parse cfg I (asciiLower w ++ 0x3a :: rest) :=
  C18c_scheme_case_base cfg I none w rest hw

/-- … and for `(*Url).Parse(ref)` against any base -/
theorem C18c_scheme_case_ref (cfg : Cfg) (I : Idna) (base : Url) (w rest : Bytes) (hw : schemeText w = true) :
    urlParse cfg I base (w ++ 0x3a :: rest) = urlParse cfg I base (asciiLower w ++ 0x3a :: rest) :=
  C18c_scheme_case_base cfg I (some base) w rest hw

attribute [local instance 2000] Res.decEqByFields   -- equality of results field by field, for `decide +kernel`: see Proofs/EvalEq.lean

example : schemeText (lit "HtTp") = true ∧ asciiLower (lit "HtTp") = lit "http" := by decide +kernel
example : schemeText (lit "Web+X.y-Z") = true := by decide +kernel
/-- the theorem applied -/
example : parse {} I0 (lit "HtTp" ++ 0x3a :: lit "//[::1]/a?b#c") = parse {} I0 (lit "http://[::1]/a?b#c") :=
  C18c_scheme_case {} I0 (lit "HtTp") (lit "//[::1]/a?b#c") (by decide +kernel)
/-- a kernel-checked pair, and the result is a real one (not a shared failure) -/
example : parse {} I0 (lit "HtTp://[::1]/a?b#c") = parse {} I0 (lit "http://[::1]/a?b#c") ∧
    (parse {} I0 (lit "HtTp://[::1]/a?b#c")).ret = .url ∧ href (parse {} I0 (lit "HtTp://[::1]/a?b#c")).url false = lit "http://[::1]/a?b#c" := by
  decide +kernel
/-- failing inputs agree too (here: both fail with the same error) -/
example : parse {} I0 (lit "HTTP://[::1") = parse {} I0 (lit "http://[::1") ∧ (parse {} I0 (lit "HTTP://[::1")).ret ≠ .url := by
  decide +kernel
/-- the letters after the colon are not lower-cased: the path keeps its case -/
example : (parse {} I0 (lit "FOO:Bar")).url.path.segs = [lit "Bar"] ∧ (parse {} I0 (lit "FOO:Bar")).url.scheme = lit "foo" := by
  decide +kernel

/-! ### 2. default port, empty port, leading zeros (default configuration, no base)

  `s` is a special scheme with the (non-empty) default port `dp`; `a` is a host text (`hostText`: not empty, printable
  ASCII without `/ ? # @ \` and blanks, `:` only inside brackets, brackets closed — what the host state reads as the host,
  whatever the host parser then makes of it: domain, IPv4, IPv6, or a failure); `rest` is empty or starts with `/`, `?`, `#`
  and is otherwise ARBITRARY (any bytes: invalid UTF-8, blanks, tabs …). -/

/-- **Port spellings that mean "no port"**: digits only, and either none at all or (leading zeros allowed) the number of
    the default port.  Same result: record, return value, errors. -/
theorem C18c_port_neutral (I : Idna) (s dp a p rest : Bytes) (hsd : Cfg.special? {} s = some dp) (hdp : dp ≠ [])
    (ha : hostText a = true) (hp : PortNeutral dp p) (hrest : DelimB rest) :
    parse {} I (s ++ lit "://" ++ a ++ 0x3a :: p ++ rest) = parse {} I (s ++ lit "://" ++ a ++ rest) :=
  portc_parse_eq {} I s dp a p rest (specialSchemeC_default s dp hsd hdp) hsd (portTableOk_default.spec s dp hsd hdp).2.2 ha hp hrest

/-- the port is the default port of the scheme, written as the table has it -/
theorem C18c_default_port (I : Idna) (s dp a rest : Bytes) (hsd : Cfg.special? {} s = some dp) (hdp : dp ≠ [])
    (ha : hostText a = true) (hrest : DelimB rest) :
    parse {} I (s ++ lit "://" ++ a ++ 0x3a :: dp ++ rest) = parse {} I (s ++ lit "://" ++ a ++ rest) :=
  C18c_port_neutral I s dp a dp rest hsd hdp ha (by simpa using portNeutral_default_c portTableOk_default s dp hsd hdp 0) hrest

/-- a colon with no digits after it -/
theorem C18c_empty_port (I : Idna) (s dp a rest : Bytes) (hsd : Cfg.special? {} s = some dp) (hdp : dp ≠ [])
    (ha : hostText a = true) (hrest : DelimB rest) :
    parse {} I (s ++ lit "://" ++ a ++ 0x3a :: [] ++ rest) = parse {} I (s ++ lit "://" ++ a ++ rest) :=
  C18c_port_neutral I s dp a [] rest hsd hdp ha ⟨by simp, Or.inl rfl⟩ hrest

/-- **Leading zeros**: `:080`, `:0080`, … -/
theorem C18c_default_port_zeros (I : Idna) (s dp a rest : Bytes) (n : Nat) (hsd : Cfg.special? {} s = some dp) (hdp : dp ≠ [])
    (ha : hostText a = true) (hrest : DelimB rest) :
    parse {} I (s ++ lit "://" ++ a ++ 0x3a :: (List.replicate n 0x30 ++ dp) ++ rest) = parse {} I (s ++ lit "://" ++ a ++ rest) :=
  C18c_port_neutral I s dp a _ rest hsd hdp ha (portNeutral_default_c portTableOk_default s dp hsd hdp n) hrest

example : Cfg.special? {} (lit "http") = some (lit "80") ∧ lit "80" ≠ [] ∧ hostText (lit "[::1]") = true ∧
    hostText (lit "EXAMPLE.com") = true ∧ PortNeutral (lit "80") (lit "080") ∧ PortNeutral (lit "80") [] ∧
    DelimB (lit "/p?q#f") ∧ DelimB [] ∧ DelimB (lit "?q") := by decide +kernel
/-- a colon outside brackets, an `@`, an empty text are not host texts; `:81` is not neutral for `http` -/
example : hostText (lit "a:b") = false ∧ hostText (lit "u@h") = false ∧ hostText [] = false ∧ ¬ PortNeutral (lit "80") (lit "81") := by
  decide +kernel
/-- the theorems applied -/
example : parse {} I0 (lit "http" ++ lit "://" ++ lit "[::1]" ++ 0x3a :: lit "80" ++ lit "/p?q#f") =
    parse {} I0 (lit "http" ++ lit "://" ++ lit "[::1]" ++ lit "/p?q#f") :=
  C18c_default_port I0 _ _ _ _ (by decide +kernel) (by decide +kernel) (by decide +kernel) (by decide +kernel)
example : parse {} I0 (lit "wss" ++ lit "://" ++ lit "EXAMPLE.com" ++ 0x3a :: [] ++ lit "?q") =
    parse {} I0 (lit "wss" ++ lit "://" ++ lit "EXAMPLE.com" ++ lit "?q") :=
  C18c_empty_port I0 _ (lit "443") _ _ (by decide +kernel) (by decide +kernel) (by decide +kernel) (by decide +kernel)
/-- kernel-checked pairs (IPv6 host so that the evaluation reduces), with a real result -/
example : parse {} I0 (lit "http://[::1]:80/p?q#f") = parse {} I0 (lit "http://[::1]/p?q#f") ∧
    parse {} I0 (lit "http://[::1]:/p?q#f") = parse {} I0 (lit "http://[::1]/p?q#f") ∧
    parse {} I0 (lit "http://[::1]:0080") = parse {} I0 (lit "http://[::1]") ∧
    href (parse {} I0 (lit "http://[::1]:80/p?q#f")).url false = lit "http://[::1]/p?q#f" ∧
    (parse {} I0 (lit "http://[::1]:80/p?q#f")).ret = .url := by
  decide +kernel
/-- a non-default port is kept; and an empty host text is a different story (the hypothesis `hostText a = true` excludes it):
    `http://:80/[::1]` fails, `http:///[::1]` is `http://[::1]/` -/
example : parse {} I0 (lit "http://[::1]:81/") ≠ parse {} I0 (lit "http://[::1]/") ∧
    (parse {} I0 (lit "http://:80/[::1]")).ret ≠ .url ∧ (parse {} I0 (lit "http:///[::1]")).ret = .url ∧
    (parse {} I0 (lit "http:///[::1]")).url.host = some (lit "[::1]") := by
  decide +kernel

/-! ### 3. dot segments (default configuration, no base)

  The insertion happens at a SEGMENT START: `A` is a prefix after which the machine is in the path state with an empty
  buffer (`PrefixRun I A sp`: for every continuation; or the parse has already failed inside `A`, the same way for every
  continuation).  `sp` says whether the scheme read in `A` is special (`cfg.isSpecial ps.url.scheme = sp` in
  `PathReadyC`; for a special scheme `\` ends a segment like `/`).  `PrefixRun I A sp` unfolds to
  `PrefixRunC {} I A sp {}` (`Proofs/SpellingDots.lean`), so `Proofs.Web.prefixRunC_dirs {} I s a segs {} rfl …` is a proof
  of `PrefixRun I (scheme://host/dir/…/dir/) true`; the `PathPrefix` forms below get their prefixes from
  `slashPrefix_path`, which calls it.  (The four `PrefixRun` statements are instantiated by no example and called by no other
  theorem; the `pre ++ "/." ++ post` forms further down are the ones with examples.)  An inserted `M` followed by `/`
  disappears; an inserted `M` followed by `?`, `#` or the end of the input is the EMPTY segment — not nothing:
  `/a/.` is `/a/`, not `/a`.  What follows the insertion is otherwise arbitrary (any bytes). -/

/-- **single-dot segment before `/`** (`M` is `.`, `%2e` or `%2E`): `A ++ "./" ++ X` is `A ++ X` -/
theorem C18c_single_dot (I : Idna) (sp : Bool) (A M X : Bytes) (hA : A ≠ []) (gA : Graphic A) (hP : PrefixRun I A sp)
    (hM : isSingleDot M = true) :
    parse {} I (A ++ M ++ 0x2f :: X) = parse {} I (A ++ X) :=
  ins_mid_parse_c {} I sp A M X hA gA (dots_graphic (singleDot_spec hM).1) hP.fresh
    (neutral_singleDot_default sp hM)

/-- **single-dot segment at the end of the path**: `A ++ "." ++ post` is `A ++ post` (`post` empty, a query or a fragment) -/
theorem C18c_single_dot_end (I : Idna) (sp : Bool) (A M post : Bytes) (hA : A ≠ []) (gA : Graphic A) (hP : PrefixRun I A sp)
    (hM : isSingleDot M = true) (hpost : EndPost post) :
    parse {} I (A ++ M ++ post) = parse {} I (A ++ post) :=
  ins_end_parse_c {} I sp A M post hA gA (dots_graphic (singleDot_spec hM).1) hP.fresh
    (neutral_singleDot_default sp hM) hpost

/-- **`x/..` before `/`**: `x` an ordinary segment (`segOk`: bytes the path state copies, not a dot segment; it may be
    empty), not a Windows drive letter; `dd` a double-dot segment in any spelling: `A ++ "x/../" ++ X` is `A ++ X` -/
theorem C18c_dotdot (I : Idna) (sp : Bool) (A x dd X : Bytes) (hA : A ≠ []) (gA : Graphic A) (hP : PrefixRun I A sp)
    (hx : segOk sp x = true) (hxd : isWindowsDriveLetter x = false) (hdd : isDoubleDot dd = true) :
    parse {} I (A ++ (x ++ 0x2f :: dd) ++ 0x2f :: X) = parse {} I (A ++ X) :=
  ins_mid_parse_c {} I sp A _ X hA gA (up_graphic (segOk_graphic hx) hdd) hP.fresh (neutral_up_default sp x dd hx hxd hdd)

/-- **`x/..` at the end of the path** -/
theorem C18c_dotdot_end (I : Idna) (sp : Bool) (A x dd post : Bytes) (hA : A ≠ []) (gA : Graphic A) (hP : PrefixRun I A sp)
    (hx : segOk sp x = true) (hxd : isWindowsDriveLetter x = false) (hdd : isDoubleDot dd = true) (hpost : EndPost post) :
    parse {} I (A ++ (x ++ 0x2f :: dd) ++ post) = parse {} I (A ++ post) :=
  ins_end_parse_c {} I sp A _ post hA gA (up_graphic (segOk_graphic hx) hdd) hP.fresh (neutral_up_default sp x dd hx hxd hdd) hpost

/-! #### the prefixes `scheme://host/dir/…/dir/` and the statement in the `pre ++ "/." ++ post` form -/

/-- a prefix that ends inside the path: special scheme (not `file`), host text, ordinary segments -/
structure PathPrefix (pre : Bytes) : Prop where
  ex : ∃ s dp a segs, pre = s ++ lit "://" ++ a ++ pathText segs ∧ Cfg.special? {} s = some dp ∧ dp ≠ [] ∧
    hostText a = true ∧ ∀ x ∈ segs, segOk true x = true

theorem PathPrefix.run (I : Idna) {pre : Bytes} (h : PathPrefix pre) : SlashPrefix {} I true pre := by
  obtain ⟨s, dp, a, segs, rfl, hsd, hdp, ha, hsegs⟩ := h.ex
  exact slashPrefix_path {} I s a segs (specialSchemeC_default s dp hsd hdp) ha fun x hx =>
    ⟨dirSeg_default (hsegs x hx), segOk_graphic (hsegs x hx)⟩

/-- **Dot segment**: `pre ++ "/." ++ post = pre ++ post` when `post` starts with `/` … -/
theorem C18c_dot_segment (I : Idna) (pre M X : Bytes) (hpre : PathPrefix pre) (hM : isSingleDot M = true) :
    parse {} I (pre ++ 0x2f :: M ++ 0x2f :: X) = parse {} I (pre ++ 0x2f :: X) :=
  ins_mid_slash (hpre.run I) M X (dots_graphic (singleDot_spec hM).1)
    (neutral_singleDot_default true hM)

/-- … and at the END of the path the TRUE law is `pre ++ "/." ++ post = pre ++ "/" ++ post` (`post` empty, `?…` or `#…`) -/
theorem C18c_dot_segment_end (I : Idna) (pre M post : Bytes) (hpre : PathPrefix pre) (hM : isSingleDot M = true)
    (hpost : EndPost post) :
    parse {} I (pre ++ 0x2f :: M ++ post) = parse {} I (pre ++ 0x2f :: post) :=
  ins_end_slash (hpre.run I) M post (dots_graphic (singleDot_spec hM).1)
    (neutral_singleDot_default true hM) hpost

/-- `pre ++ "/x/.." ++ post = pre ++ post` when `post` starts with `/` … -/
theorem C18c_up_segment (I : Idna) (pre x dd X : Bytes) (hpre : PathPrefix pre) (hx : segOk true x = true)
    (hxd : isWindowsDriveLetter x = false) (hdd : isDoubleDot dd = true) :
    parse {} I (pre ++ 0x2f :: x ++ 0x2f :: dd ++ 0x2f :: X) = parse {} I (pre ++ 0x2f :: X) := by
  simpa using ins_mid_slash (hpre.run I) _ X (up_graphic (segOk_graphic hx) hdd) (neutral_up_default true x dd hx hxd hdd)

/-- … and `pre ++ "/x/.." ++ post = pre ++ "/" ++ post` at the end of the path -/
theorem C18c_up_segment_end (I : Idna) (pre x dd post : Bytes) (hpre : PathPrefix pre) (hx : segOk true x = true)
    (hxd : isWindowsDriveLetter x = false) (hdd : isDoubleDot dd = true) (hpost : EndPost post) :
    parse {} I (pre ++ 0x2f :: x ++ 0x2f :: dd ++ post) = parse {} I (pre ++ 0x2f :: post) := by
  simpa using ins_end_slash (hpre.run I) _ post (up_graphic (segOk_graphic hx) hdd) (neutral_up_default true x dd hx hxd hdd) hpost

/-! #### non-vacuity and the limits -/

/-- how the concatenations in the statements read -/
example : lit "http://[::1]/a/b" ++ 0x2f :: lit "%2E" ++ 0x2f :: lit "c?q" = lit "http://[::1]/a/b/%2E/c?q" ∧
    lit "http://[::1]/a" ++ 0x2f :: lit "x" ++ 0x2f :: lit ".." ++ lit "#f" = lit "http://[::1]/a/x/..#f" ∧
    lit "http" ++ lit "://" ++ lit "[::1]" ++ 0x3a :: lit "80" ++ lit "/p?q#f" = lit "http://[::1]:80/p?q#f" ∧
    lit "HtTp" ++ 0x3a :: lit "//[::1]/a?b#c" = lit "HtTp://[::1]/a?b#c" := by decide +kernel

example : PathPrefix (lit "http://[::1]/a/b") :=
  ⟨⟨lit "http", lit "80", lit "[::1]", [lit "a", lit "b"], by decide +kernel, by decide +kernel, by decide +kernel, by decide +kernel, by decide +kernel⟩⟩
example : PathPrefix (lit "wss://EXAMPLE.com") :=
  ⟨⟨lit "wss", lit "443", lit "EXAMPLE.com", [], by decide +kernel, by decide +kernel, by decide +kernel, by decide +kernel, by decide +kernel⟩⟩
example : isSingleDot (lit ".") = true ∧ isSingleDot (lit "%2e") = true ∧ isSingleDot (lit "%2E") = true ∧
    isDoubleDot (lit "..") = true ∧ isDoubleDot (lit ".%2E") = true ∧ isDoubleDot (lit "%2e%2E") = true ∧
    segOk true (lit "x") = true ∧ segOk true [] = true ∧ isWindowsDriveLetter (lit "x") = false ∧
    EndPost (lit "?q#f") ∧ EndPost [] ∧ ¬ EndPost (lit "/x") := by decide +kernel
/-- the theorems applied -/
example : parse {} I0 (lit "http://[::1]/a/b" ++ 0x2f :: lit "%2E" ++ 0x2f :: lit "c?q") =
    parse {} I0 (lit "http://[::1]/a/b" ++ 0x2f :: lit "c?q") :=
  C18c_dot_segment I0 _ _ _
    ⟨⟨lit "http", lit "80", lit "[::1]", [lit "a", lit "b"], by decide +kernel, by decide +kernel, by decide +kernel, by decide +kernel, by decide +kernel⟩⟩ (by decide +kernel)
example : parse {} I0 (lit "http://[::1]/a" ++ 0x2f :: lit "x" ++ 0x2f :: lit ".." ++ lit "#f") =
    parse {} I0 (lit "http://[::1]/a" ++ 0x2f :: lit "#f") :=
  C18c_up_segment_end I0 _ _ _ _
    ⟨⟨lit "http", lit "80", lit "[::1]", [lit "a"], by decide +kernel, by decide +kernel, by decide +kernel, by decide +kernel, by decide +kernel⟩⟩
    (by decide +kernel) (by decide +kernel) (by decide +kernel) (by decide +kernel)
/-- kernel-checked pairs -/
example :
    parse {} I0 (lit "http://[::1]/a/./b") = parse {} I0 (lit "http://[::1]/a/b") ∧
    parse {} I0 (lit "http://[::1]/./a") = parse {} I0 (lit "http://[::1]/a") ∧
    parse {} I0 (lit "http://[::1]/a/%2e/b?q") = parse {} I0 (lit "http://[::1]/a/b?q") ∧
    parse {} I0 (lit "http://[::1]/a/.") = parse {} I0 (lit "http://[::1]/a/") ∧
    parse {} I0 (lit "http://[::1]/a/%2E?q") = parse {} I0 (lit "http://[::1]/a/?q") ∧
    parse {} I0 (lit "http://[::1]/a/x/../b") = parse {} I0 (lit "http://[::1]/a/b") ∧
    parse {} I0 (lit "http://[::1]/a//../b") = parse {} I0 (lit "http://[::1]/a/b") ∧
    parse {} I0 (lit "http://[::1]/a/x/.%2e#f") = parse {} I0 (lit "http://[::1]/a/#f") ∧
    parse {} I0 (lit "http://[::1]/a/x/..") = parse {} I0 (lit "http://[::1]/a/") ∧
    href (parse {} I0 (lit "http://[::1]/a/x/../b")).url false = lit "http://[::1]/a/b" := by
  decide +kernel
/-- **the tempting law is false at the end of the path**: `pre ++ "/."` is `pre ++ "/"`, not `pre`
    (`/a/.` is `/a/`; likewise `/a/x/..` is `/a/`, not `/a`) -/
example :
    parse {} I0 (lit "http://[::1]/a" ++ lit "/.") ≠ parse {} I0 (lit "http://[::1]/a") ∧
    (parse {} I0 (lit "http://[::1]/a/.")).url.path.segs = [lit "a", []] ∧
    (parse {} I0 (lit "http://[::1]/a")).url.path.segs = [lit "a"] ∧
    parse {} I0 (lit "http://[::1]/a" ++ lit "/." ++ lit "?q") ≠ parse {} I0 (lit "http://[::1]/a" ++ lit "?q") ∧
    parse {} I0 (lit "http://[::1]/a" ++ lit "/x/..") ≠ parse {} I0 (lit "http://[::1]/a") := by
  decide +kernel
/-- the drive-letter exclusion is needed (`file`): `C:/..` does not go away -/
example : (parse {} I0 (lit "file:///C:/../x")).url.path.segs = [lit "C:", lit "x"] ∧
    (parse {} I0 (lit "file:///x")).url.path.segs = [lit "x"] := by
  decide +kernel

end WhatwgUrl.Props.C18c

#print axioms WhatwgUrl.Props.C18c.C18c_shift
#print axioms WhatwgUrl.Props.C18c.C18c_shift_prefixes
#print axioms WhatwgUrl.Props.C18c.C18c_scheme_case_base
#print axioms WhatwgUrl.Props.C18c.C18c_scheme_case
#print axioms WhatwgUrl.Props.C18c.C18c_scheme_case_ref
#print axioms WhatwgUrl.Props.C18c.C18c_port_neutral
#print axioms WhatwgUrl.Props.C18c.C18c_default_port
#print axioms WhatwgUrl.Props.C18c.C18c_empty_port
#print axioms WhatwgUrl.Props.C18c.C18c_default_port_zeros
#print axioms WhatwgUrl.Props.C18c.C18c_single_dot
#print axioms WhatwgUrl.Props.C18c.C18c_single_dot_end
#print axioms WhatwgUrl.Props.C18c.C18c_dotdot
#print axioms WhatwgUrl.Props.C18c.C18c_dotdot_end
#print axioms WhatwgUrl.Props.C18c.PathPrefix.run
#print axioms WhatwgUrl.Props.C18c.C18c_dot_segment
#print axioms WhatwgUrl.Props.C18c.C18c_dot_segment_end
#print axioms WhatwgUrl.Props.C18c.C18c_up_segment
#print axioms WhatwgUrl.Props.C18c.C18c_up_segment_end
