import WhatwgUrl.Proofs.NeutralSchemesSyn
import WhatwgUrl.Proofs.NeutralFrame
import WhatwgUrl.Proofs.SkipEquals
import WhatwgUrl.Props.C04b
/-
  C16 — special schemes, replaceable sets, skip-equals.

  1. special-schemes is a CONSERVATIVE EXTENSION: an added special scheme `s` changes the result of `basicParser` only for
     runs that look the scheme `s` up.
  2. a replaced percent-encode set governs EXACTLY the component it names (frame), for EVERY configuration (also in
     fail-on-validation-error mode, with hooks, with an encoding override).
  3. skip-equals omits `=` only for empty values.
  4. an added special scheme gets default-port elision (that it also gets special-scheme parsing is not stated).
-/
namespace WhatwgUrl.Props.C16c
open WhatwgUrl WhatwgUrl.Impl WhatwgUrl.Proofs.Neutral WhatwgUrl.Proofs.SkipEquals
open WhatwgUrl.Props.C04b

/-- the identity oracle: returns the domain unchanged and never reports an error -/
def idI : Idna := fun s => (s, false)

/-! ## 1. special schemes: a conservative extension -/

/-- `cfg` with the special scheme `s` (default port `p`) added -/
@[reducible] def addScheme (cfg : Cfg) (s p : Bytes) : Cfg := { cfg with specialSchemes := cfg.specialSchemes ++ [(s, p)] }

/-- a lookup of a scheme other than the appended one does not see the appended entry -/
theorem special?_append_ne (cfg : Cfg) (s p x : Bytes) (hx : x ≠ s) :
    (addScheme cfg s p).special? x = cfg.special? x := by
  unfold Cfg.special?
  simp only [List.find?_append]
  have : List.find? (fun e : Bytes × Bytes => e.1 == x) [(s, p)] = none := by
    simp only [List.find?_cons, List.find?_nil]
    have : (s == x) = false := by simpa using fun h : s = x => hx h.symm
    simp [this]
  rw [this, Option.or_none]

/-- the appended scheme is looked up with its port when it was not special before -/
theorem special?_append_new (cfg : Cfg) (s p : Bytes) (h : cfg.isSpecial s = false) :
    (addScheme cfg s p).special? s = some p := by
  unfold Cfg.isSpecial Cfg.special? at h
  unfold Cfg.special?
  simp only [List.find?_append]
  have h' : List.find? (fun e : Bytes × Bytes => e.1 == s) cfg.specialSchemes = none := by
    simpa using h
  rw [h']
  simp

/-- ANY change of the table that leaves the lookups of all schemes other than `s` alone (adding `s`, removing `s`, changing
    the default port of `s`) is neutral for the runs that never look the scheme `s` up (the hypothesis `h`, explained at
    `C16_specialSchemes_neutral`) -/
theorem C16_specialSchemes_table_neutral (cfg : Cfg) (ss : List (Bytes × Bytes)) (s : Bytes)
    (hA : ∀ x, x ≠ s → Cfg.special? { cfg with specialSchemes := ss } x = cfg.special? x)
    (I : Idna) (input : Bytes) (base url : Option Url) (ov : Option State)
    (h : parserVisits cfg I input base url ov (schemeTrig s (goRunes (prologueText url input)) base ov) = false) :
    basicParser { cfg with specialSchemes := ss } I input base url ov = basicParser cfg I input base url ov :=
  basicParser_agree_visits { cfg with specialSchemes := ss } cfg rfl rfl I input base url ov _
    (fun ps hp => { special := fun x hx => hA x (looksUp_ne hp hx) }) h

/-- VISITS FORM.  The run of the parser WITHOUT the added scheme never looks the scheme `s` up (`schemeTrig`: in the scheme
    state the buffer — and, under a state override, the url's scheme — when the next code point is `:`; in the relative
    state the base's scheme; in the ten states that call `isSpecial` / `cleanDefaultPort` the url's scheme; nothing in the
    other nine states).  `parserVisits` is `basicParser` with the loop replaced by "does the loop visit such a state", so
    the hypothesis is decidable by evaluation.  (`cfg.isSpecial s = false` is not needed for this direction.) -/
theorem C16_specialSchemes_neutral (cfg : Cfg) (s p : Bytes) (I : Idna) (input : Bytes) (base url : Option Url)
    (ov : Option State)
    (h : parserVisits cfg I input base url ov (schemeTrig s (goRunes (prologueText url input)) base ov) = false) :
    basicParser (addScheme cfg s p) I input base url ov = basicParser cfg I input base url ov :=
  C16_specialSchemes_table_neutral cfg _ s (special?_append_ne cfg s p) I input base url ov h

/-- SYNTACTIC FORM.  Neither the base's scheme, nor the scheme of the url being modified (`[]` for a fresh url), nor the
    scheme the text announces (`schemeOf`: the lower-cased code points before the first `:`, of the text after trimming
    and tab/newline removal) is `s`; and a state override does not start in the file state when `s` is `file` (the file
    state writes the scheme `file`). -/
theorem C16_specialSchemes_neutral_syntactic (cfg : Cfg) (s p : Bytes) (I : Idna) (input : Bytes) (base url : Option Url)
    (ov : Option State)
    (hb : ∀ b, base = some b → b.scheme ≠ s) (hu : (url.getD {}).scheme ≠ s)
    (hin : schemeOf (goRunes (prologueText url input)) ≠ some s)
    (hfile : ov = some .file → s ≠ lit "file") :
    basicParser (addScheme cfg s p) I input base url ov = basicParser cfg I input base url ov :=
  C16_specialSchemes_neutral cfg s p I input base url ov
    (parserVisits_schemeTrig s cfg I input base url ov hb hu hin hfile)

def foo : Bytes := lit "foo"
def cfgFoo : Cfg := addScheme Cfg.default foo (lit "99")

/-- non-vacuity (visits form): `foobar:` passes through the buffer `foo`, but is not followed by `:` there -/
example : parserVisits Cfg.default idI (lit "foobar://[::1]:99/x") none none none
    (schemeTrig foo (goRunes (prologueText none (lit "foobar://[::1]:99/x"))) none none) = false := by decide +kernel

/-- non-vacuity (syntactic form) -/
example : schemeOf (goRunes (prologueText none (lit "FooBar://[::1]:99/x"))) = some (lit "foobar") := by decide +kernel
example : schemeOf (goRunes (prologueText none (lit "FooBar://[::1]:99/x"))) ≠ some foo := by decide +kernel
example : schemeOf (goRunes (prologueText none (lit "foo/bar"))) ≠ some foo := by decide +kernel

/-- the syntactic form applied: a text announcing `foobar`, resolved against a `bar:` base -/
def uBar : Url := { scheme := lit "bar", host := some (lit "[::1]"), path := ⟨[lit "a"], false⟩ }
example : basicParser cfgFoo idI (lit "FooBar://[::1]:99/x") (some uBar) none none =
    basicParser Cfg.default idI (lit "FooBar://[::1]:99/x") (some uBar) none none :=
  C16_specialSchemes_neutral_syntactic Cfg.default foo (lit "99") idI _ (some uBar) none none
    (by intro b hb; cases hb; decide) (by decide) (by decide +kernel) (by intro h; cases h)

/-- each hypothesis matters.  The input announces the scheme: -/
example : basicParser cfgFoo idI (lit "Foo://[::1]:99/x") none none none ≠
    basicParser Cfg.default idI (lit "Foo://[::1]:99/x") none none none := by decide +kernel

def uFoo : Url := { scheme := foo, host := some (lit "[::1]"), path := ⟨[lit "a"], false⟩ }
/-- the base has the scheme -/
example : basicParser cfgFoo idI (lit "?'") (some uFoo) none none ≠
    basicParser Cfg.default idI (lit "?'") (some uFoo) none none := by decide +kernel
/-- the url that is modified has the scheme -/
example : basicParser cfgFoo idI (lit "'") none (some uFoo) (some .query) ≠
    basicParser Cfg.default idI (lit "'") none (some uFoo) (some .query) := by decide +kernel
/-- the file state writes the scheme `file` -/
def cfgNoFile : Cfg := { Cfg.default with specialSchemes := [(lit "http", lit "80")] }
example : cfgNoFile.isSpecial (lit "file") = false := by decide +kernel
example : basicParser (addScheme cfgNoFile (lit "file") []) idI (lit "a\\b") none (some {}) (some .file) ≠
    basicParser cfgNoFile idI (lit "a\\b") none (some {}) (some .file) := by decide +kernel

/-! ## 2. a replaced percent-encode set governs exactly the component it names -/

/-- all url fields but `path` agree (including the recorded validation errors and the ghost oracle log) -/
def SameExceptPath (u1 u2 : Url) : Prop :=
  u1.scheme = u2.scheme ∧ u1.username = u2.username ∧ u1.password = u2.password ∧ u1.host = u2.host ∧
  u1.port = u2.port ∧ u1.decodedPort = u2.decodedPort ∧ u1.query = u2.query ∧ u1.fragment = u2.fragment ∧
  u1.verrs = u2.verrs ∧ u1.qlog = u2.qlog
/-- all url fields but `query` agree -/
def SameExceptQuery (u1 u2 : Url) : Prop :=
  u1.scheme = u2.scheme ∧ u1.username = u2.username ∧ u1.password = u2.password ∧ u1.host = u2.host ∧
  u1.port = u2.port ∧ u1.decodedPort = u2.decodedPort ∧ u1.path = u2.path ∧ u1.fragment = u2.fragment ∧
  u1.verrs = u2.verrs ∧ u1.qlog = u2.qlog
/-- all url fields but `fragment` agree -/
def SameExceptFragment (u1 u2 : Url) : Prop :=
  u1.scheme = u2.scheme ∧ u1.username = u2.username ∧ u1.password = u2.password ∧ u1.host = u2.host ∧
  u1.port = u2.port ∧ u1.decodedPort = u2.decodedPort ∧ u1.path = u2.path ∧ u1.query = u2.query ∧
  u1.verrs = u2.verrs ∧ u1.qlog = u2.qlog

theorem SameExceptPath.refl (u : Url) : SameExceptPath u u := ⟨rfl, rfl, rfl, rfl, rfl, rfl, rfl, rfl, rfl, rfl⟩

private theorem sameP_of_mask (u1 u2 : Url) (h : mPU u1 = mPU u2) : SameExceptPath u1 u2 := by
  rw [mPU_eq u1 u2 h]; exact ⟨rfl, rfl, rfl, rfl, rfl, rfl, rfl, rfl, rfl, rfl⟩
private theorem sameQ_of_mask (u1 u2 : Url) (h : mQU u1 = mQU u2) : SameExceptQuery u1 u2 := by
  rw [mQU_eq u1 u2 h]; exact ⟨rfl, rfl, rfl, rfl, rfl, rfl, rfl, rfl, rfl, rfl⟩
private theorem sameF_of_mask (u1 u2 : Url) (h : mFU u1 = mFU u2) : SameExceptFragment u1 u2 := by
  rw [mFU_eq u1 u2 h]; exact ⟨rfl, rfl, rfl, rfl, rfl, rfl, rfl, rfl, rfl, rfl⟩

/-- PATH SET: same return value (outcome kind and error), every url field but the path equal.
    The five frame theorems are `basicParser_pathSet` … `basicParser_spFragSet` (`Proofs/NeutralFrame.lean`, instances of
    `basicParser_relM`) with the mask equation read as `SameExcept…`. -/
theorem C16_pathSet_frame (cfg : Cfg) (t : PSet) (I : Idna) (input : Bytes) (base url : Option Url) (ov : Option State) :
    (basicParser { cfg with pathSet := t } I input base url ov).ret = (basicParser cfg I input base url ov).ret ∧
    SameExceptPath (basicParser { cfg with pathSet := t } I input base url ov).url (basicParser cfg I input base url ov).url := by
  have h := basicParser_pathSet cfg t I input base url ov
  exact ⟨h.1, sameP_of_mask _ _ h.2⟩

/-- QUERY SET: same return value, every url field but the query equal; nothing changes when the scheme is special -/
theorem C16_querySet_frame (cfg : Cfg) (t : PSet) (I : Idna) (input : Bytes) (base url : Option Url) (ov : Option State) :
    (basicParser { cfg with querySet := t } I input base url ov).ret = (basicParser cfg I input base url ov).ret ∧
    SameExceptQuery (basicParser { cfg with querySet := t } I input base url ov).url (basicParser cfg I input base url ov).url ∧
    (cfg.isSpecial (basicParser cfg I input base url ov).url.scheme = true →
      basicParser { cfg with querySet := t } I input base url ov = basicParser cfg I input base url ov) := by
  have h := basicParser_querySet cfg t I input base url ov
  exact ⟨h.1, sameQ_of_mask _ _ h.2.1, h.2.2⟩

/-- SPECIAL-QUERY SET: likewise; nothing changes when the scheme is not special -/
theorem C16_spQuerySet_frame (cfg : Cfg) (t : PSet) (I : Idna) (input : Bytes) (base url : Option Url) (ov : Option State) :
    (basicParser { cfg with spQuerySet := t } I input base url ov).ret = (basicParser cfg I input base url ov).ret ∧
    SameExceptQuery (basicParser { cfg with spQuerySet := t } I input base url ov).url (basicParser cfg I input base url ov).url ∧
    (cfg.isSpecial (basicParser cfg I input base url ov).url.scheme = false →
      basicParser { cfg with spQuerySet := t } I input base url ov = basicParser cfg I input base url ov) := by
  have h := basicParser_spQuerySet cfg t I input base url ov
  exact ⟨h.1, sameQ_of_mask _ _ h.2.1, h.2.2⟩

/-- FRAGMENT SET: same return value, every url field but the fragment equal; nothing changes when the scheme is special -/
theorem C16_fragSet_frame (cfg : Cfg) (t : PSet) (I : Idna) (input : Bytes) (base url : Option Url) (ov : Option State) :
    (basicParser { cfg with fragSet := t } I input base url ov).ret = (basicParser cfg I input base url ov).ret ∧
    SameExceptFragment (basicParser { cfg with fragSet := t } I input base url ov).url (basicParser cfg I input base url ov).url ∧
    (cfg.isSpecial (basicParser cfg I input base url ov).url.scheme = true →
      basicParser { cfg with fragSet := t } I input base url ov = basicParser cfg I input base url ov) := by
  have h := basicParser_fragSet cfg t I input base url ov
  exact ⟨h.1, sameF_of_mask _ _ h.2.1, h.2.2⟩

/-- SPECIAL-FRAGMENT SET: likewise; nothing changes when the scheme is not special -/
theorem C16_spFragSet_frame (cfg : Cfg) (t : PSet) (I : Idna) (input : Bytes) (base url : Option Url) (ov : Option State) :
    (basicParser { cfg with spFragSet := t } I input base url ov).ret = (basicParser cfg I input base url ov).ret ∧
    SameExceptFragment (basicParser { cfg with spFragSet := t } I input base url ov).url (basicParser cfg I input base url ov).url ∧
    (cfg.isSpecial (basicParser cfg I input base url ov).url.scheme = false →
      basicParser { cfg with spFragSet := t } I input base url ov = basicParser cfg I input base url ov) := by
  have h := basicParser_spFragSet cfg t I input base url ov
  exact ⟨h.1, sameF_of_mask _ _ h.2.1, h.2.2⟩

/-! effect: the replaced set does govern its component (`;` is in the userinfo set only) -/

def exIn : Bytes := lit "foo://[::1]/a;b?c;d#e;f"
def exInS : Bytes := lit "http://[::1]/a;b?c;d#e;f"

example : (basicParser { Cfg.default with pathSet := userinfoSet } idI exIn none none none).url.path.segs = [lit "a%3Bb"] ∧
    (basicParser Cfg.default idI exIn none none none).url.path.segs = [lit "a;b"] := by decide +kernel
example : (basicParser { Cfg.default with querySet := userinfoSet } idI exIn none none none).url.query = some (lit "c%3Bd") ∧
    (basicParser Cfg.default idI exIn none none none).url.query = some (lit "c;d") := by decide +kernel
example : (basicParser { Cfg.default with spQuerySet := userinfoSet } idI exInS none none none).url.query = some (lit "c%3Bd") ∧
    (basicParser Cfg.default idI exInS none none none).url.query = some (lit "c;d") := by decide +kernel
example : (basicParser { Cfg.default with fragSet := userinfoSet } idI exIn none none none).url.fragment = some (lit "e%3Bf") ∧
    (basicParser Cfg.default idI exIn none none none).url.fragment = some (lit "e;f") := by decide +kernel
example : (basicParser { Cfg.default with spFragSet := userinfoSet } idI exInS none none none).url.fragment = some (lit "e%3Bf") ∧
    (basicParser Cfg.default idI exInS none none none).url.fragment = some (lit "e;f") := by decide +kernel
/-- non-vacuity of the "nothing changes" clauses -/
example : Cfg.default.isSpecial (basicParser Cfg.default idI exInS none none none).url.scheme = true ∧
    Cfg.default.isSpecial (basicParser Cfg.default idI exIn none none none).url.scheme = false := by decide +kernel

/-- outside the parser the query set is NOT scheme-selected: `SearchParams.String()` escapes with `cfg.querySet` whatever the
    url's scheme is, so a replaced query set reaches the query of a special url through a `SearchParams` mutation -/
example : spString { Cfg.default with querySet := userinfoSet } [(lit "a;b", lit "c")] = lit "a%3Bb=c" ∧
    spString Cfg.default [(lit "a;b", lit "c")] = lit "a;b=c" := by decide +kernel

/-! ## 3. skip-equals omits `=` only for empty values -/

theorem queryEscape_skipEquals (cfg : Cfg) (b : Bool) (s : Bytes) :
    queryEscape { cfg with skipEquals := b } s = queryEscape cfg s := rfl

/-- one pair, option off: name, `=`, value -/
theorem spPairString_off (cfg : Cfg) (nv : Bytes × Bytes) :
    spPairString { cfg with skipEquals := false } nv = queryEscape cfg nv.1 ++ [0x3d] ++ queryEscape cfg nv.2 := by
  unfold spPairString
  by_cases h : nv.2 = []
  · simp [h, queryEscape_skipEquals]; rfl
  · simp [h, queryEscape_skipEquals]

theorem spPairString_on (cfg : Cfg) (nv : Bytes × Bytes) :
    spPairString { cfg with skipEquals := true } nv =
      if nv.2 = [] then queryEscape cfg nv.1 else queryEscape cfg nv.1 ++ [0x3d] ++ queryEscape cfg nv.2 := by
  unfold spPairString
  by_cases h : nv.2 = [] <;> simp [h, queryEscape_skipEquals]

/-- a pair with an empty value: the serialization without the option is the one with the option plus a final `=` -/
theorem C16_skipEquals_pair_empty (cfg : Cfg) (nv : Bytes × Bytes) (h : nv.2 = []) :
    spPairString { cfg with skipEquals := false } nv = spPairString { cfg with skipEquals := true } nv ++ [0x3d] := by
  rw [spPairString_off, spPairString_on, if_pos h, h, show queryEscape cfg [] = [] from rfl, List.append_nil]

/-- a pair with a non-empty value: the option changes nothing -/
theorem C16_skipEquals_pair_nonempty (cfg : Cfg) (nv : Bytes × Bytes) (h : nv.2 ≠ []) :
    spPairString { cfg with skipEquals := true } nv = spPairString { cfg with skipEquals := false } nv := by
  rw [spPairString_off, spPairString_on, if_neg h]

/-- the serialization of one pair with the option, from the one without: drop the final byte (the `=`) iff the value is empty -/
def dropEq (nv : Bytes × Bytes) (s : Bytes) : Bytes := if nv.2 = [] then s.dropLast else s

theorem C16_skipEquals_pair (cfg : Cfg) (nv : Bytes × Bytes) :
    spPairString { cfg with skipEquals := true } nv = dropEq nv (spPairString { cfg with skipEquals := false } nv) := by
  unfold dropEq
  by_cases h : nv.2 = []
  · rw [if_pos h, C16_skipEquals_pair_empty cfg nv h, List.dropLast_concat]
  · rw [if_neg h, C16_skipEquals_pair_nonempty cfg nv h]

/-- the whole list: with the option the serialization is the one without it where exactly the pairs with an empty value
    have lost their (final) `=` -/
theorem C16_skipEquals_string (cfg : Cfg) (l : Pairs) :
    spString { cfg with skipEquals := true } l =
      intercalate [0x26] (l.map fun nv => dropEq nv (spPairString { cfg with skipEquals := false } nv)) := by
  unfold spString
  congr 1
  apply List.map_congr_left
  intro nv _
  exact C16_skipEquals_pair cfg nv

/-- and the byte that is dropped is a `=` -/
theorem C16_skipEquals_dropped_byte (cfg : Cfg) (nv : Bytes × Bytes) (h : nv.2 = []) :
    (spPairString { cfg with skipEquals := false } nv).getLast? = some 0x3d := by
  rw [C16_skipEquals_pair_empty cfg nv h]; simp

/-- no empty value: the option changes nothing -/
theorem C16_skipEquals_neutral (cfg : Cfg) (l : Pairs) (h : ∀ nv ∈ l, nv.2 ≠ []) :
    spString { cfg with skipEquals := true } l = spString { cfg with skipEquals := false } l := by
  unfold spString
  congr 1
  apply List.map_congr_left
  intro nv hnv
  exact C16_skipEquals_pair_nonempty cfg nv (h nv hnv)

/-- exactness: the serialization shrinks by one byte per pair with an empty value -/
theorem C16_skipEquals_length (cfg : Cfg) (l : Pairs) :
    (spString { cfg with skipEquals := false } l).length =
      (spString { cfg with skipEquals := true } l).length + (l.filter fun nv => nv.2 == []).length := by
  unfold spString
  rw [intercalate_length, intercalate_length]
  simp only [List.length_map]
  have : ((l.map (spPairString { cfg with skipEquals := false })).map List.length).sum =
      ((l.map (spPairString { cfg with skipEquals := true })).map List.length).sum + (l.filter fun nv => nv.2 == []).length := by
    induction l with
    | nil => rfl
    | cons nv rest ih =>
      simp only [List.map_cons, List.sum_cons, ih, List.filter_cons]
      by_cases h : nv.2 = []
      · rw [C16_skipEquals_pair_empty cfg nv h]; simp [h]; omega
      · rw [C16_skipEquals_pair_nonempty cfg nv h]; simp [h]; omega
  omega

/-- the option changes the serialization iff some value is empty -/
theorem C16_skipEquals_iff (cfg : Cfg) (l : Pairs) :
    spString { cfg with skipEquals := true } l = spString { cfg with skipEquals := false } l ↔ ∀ nv ∈ l, nv.2 ≠ [] := by
  constructor
  · intro h nv hnv he
    have hl := C16_skipEquals_length cfg l
    rw [h] at hl
    have : 0 < (l.filter fun nv => nv.2 == []).length :=
      List.length_pos_of_mem (List.mem_filter.mpr ⟨hnv, by simp [he]⟩)
    omega
  · exact C16_skipEquals_neutral cfg l

/-! ### re-parsing -/

/-- re-parsing does not see the difference, when the names of the pairs with an empty value are non-empty and their
    serializations contain neither `=` nor `&` -/
theorem C16_skipEquals_reparse_partial (cfg cfg0 : Cfg) (l : Pairs)
    (h : ∀ nv ∈ l, nv.2 = [] → queryEscape cfg nv.1 ≠ [] ∧ ∀ x ∈ queryEscape cfg nv.1, x ≠ 0x3d ∧ x ≠ 0x26) :
    spInit cfg0 (spString { cfg with skipEquals := true } l) = spInit cfg0 (spString { cfg with skipEquals := false } l) := by
  unfold spString
  rw [spInit_intercalate, spInit_intercalate, List.flatMap_map, List.flatMap_map]
  induction l with
  | nil => rfl
  | cons nv l ih =>
    rw [List.flatMap_cons, List.flatMap_cons, ih (fun p hp => h p (by simp [hp]))]
    congr 1
    rw [spPairString_off, spPairString_on]
    by_cases he : nv.2 = []
    · obtain ⟨hne, hx⟩ := h nv (by simp) he
      have hamp : ∀ x ∈ queryEscape cfg nv.1 ++ [0x3d], x ≠ 0x26 := by
        intro x hx'
        rcases List.mem_append.mp hx' with h1 | h1
        · exact (hx x h1).2
        · simp at h1; subst h1; decide
      rw [if_pos he, he, show queryEscape cfg [] = [] from rfl, List.append_nil, spInit_eq, spInit_eq,
        splitOn_no_sep 0x26 _ (fun x hx' => (hx x hx').2), splitOn_no_sep 0x26 _ hamp]
      simp only [List.filterMap_cons, List.filterMap_nil]
      rw [parseSeq_trailing_eq cfg0 _ hne (fun x hx' => (hx x hx').1)]
    · rw [if_neg he]

/-- the unconditional statement -/
def C16_skipEquals_reparse_Statement : Prop :=
  ∀ (cfg : Cfg) (l : Pairs),
    spInit cfg (spString { cfg with skipEquals := true } l) = spInit cfg (spString { cfg with skipEquals := false } l)

/-- it is false: the pair `("", "")` serializes to the empty string with the option (and is lost), to `=` without -/
theorem C16_skipEquals_reparse_Statement_false : ¬ C16_skipEquals_reparse_Statement := by
  intro h
  have h1 := h Cfg.default [([], [])]
  have h2 : spString { Cfg.default with skipEquals := true } [([], [])] = [] := by decide
  have h3 : spString { Cfg.default with skipEquals := false } [([], [])] = [0x3d] := by decide
  rw [h2, h3, spInit_eq, spInit_eq] at h1
  have h4 := congrArg List.length h1
  simp [splitOn, parseSeq] at h4

/-- closed evaluation of `spInit` on one `&`-free, `%`-free, `+`-free sequence -/
theorem spInit_single (cfg : Cfg) (q n v : Bytes) (hq : q ≠ []) (h26 : ∀ x ∈ q, x ≠ 0x26)
    (hs : splitFirst 0x3d q = (n, some v)) (hn : replaceByte 0x2b 0x20 n = n) (hv : replaceByte 0x2b 0x20 v = v)
    (hn' : ∀ x ∈ n, x ≠ 0x25) (hv' : ∀ x ∈ v, x ≠ 0x25) : spInit cfg q = [(n, v)] := by
  have hne : q.isEmpty = false := by simpa using hq
  rw [spInit_eq, splitOn_no_sep 0x26 q h26]
  simp only [List.filterMap_cons, List.filterMap_nil, parseSeq, hne, hs, hn, hv, WhatwgUrl.Proofs.Percent.decodePercent_no_pct cfg n fun hm => hn' _ hm rfl,
    WhatwgUrl.Proofs.Percent.decodePercent_no_pct cfg v fun hm => hv' _ hm rfl]
  rfl

/-- a `=` in a name is not escaped by the default query set, so the name `a=b` with an empty value re-parses to
    `("a", "b")` with the option and to `("a", "b=")` without -/
example : spInit Cfg.default (spString { Cfg.default with skipEquals := true } [(lit "a=b", [])]) = [(lit "a", lit "b")] ∧
    spInit Cfg.default (spString { Cfg.default with skipEquals := false } [(lit "a=b", [])]) = [(lit "a", lit "b=")] := by
  have h2 : spString { Cfg.default with skipEquals := true } [(lit "a=b", [])] = lit "a=b" := by decide
  have h3 : spString { Cfg.default with skipEquals := false } [(lit "a=b", [])] = lit "a=b=" := by decide
  rw [h2, h3]
  constructor <;> exact spInit_single _ _ _ _ (by decide) (by decide) (by decide) (by decide) (by decide) (by decide) (by decide)

/-- non-vacuity of the hypothesis of the re-parse theorem -/
example : ∀ nv ∈ [(lit "a", ([] : Bytes)), (lit "b", lit "c")], nv.2 = [] →
    queryEscape Cfg.default nv.1 ≠ [] ∧ ∀ x ∈ queryEscape Cfg.default nv.1, x ≠ 0x3d ∧ x ≠ 0x26 := by decide +kernel

/-- non-vacuity / effect of the option on the serialization -/
example : spString { Cfg.default with skipEquals := true } [(lit "a", []), (lit "b", lit "c")] = lit "a&b=c" ∧
    spString { Cfg.default with skipEquals := false } [(lit "a", []), (lit "b", lit "c")] = lit "a=&b=c" := by decide +kernel

/-! ## 4. an added special scheme gets default-port elision -/

/-- a structurally well-formed url never stores the default port of its scheme -/
theorem WFs_port_elided (cfg : Cfg) (u : Url) (s p : Bytes) (hw : WFs cfg u) (hs : cfg.special? s = some p)
    (hsch : u.scheme = s) : u.port ≠ some p := by
  intro hp
  have := hw.2.2.2.2.1
  unfold portOk at this
  rw [hp, hsch, hs] at this
  simp at this

theorem CfgOk_addScheme (cfg : Cfg) (I : Idna) (s p : Bytes) (h : CfgOk cfg I) : CfgOk (addScheme cfg s p) I :=
  ⟨h.hc, h.hpre, h.hpost, h.hI⟩

/-- parse: a url with the added scheme `s` never stores the port `p` -/
theorem C16_added_scheme_port_parse (cfg : Cfg) (s p : Bytes) (hns : cfg.isSpecial s = false) (I : Idna) (hcfg : CfgOk cfg I)
    (input : Bytes) (base : Option Url) (hb : ∀ b, base = some b → WFs (addScheme cfg s p) b)
    (hr : (basicParser (addScheme cfg s p) I input base none none).ret = .url)
    (hs : (basicParser (addScheme cfg s p) I input base none none).url.scheme = s) :
    (basicParser (addScheme cfg s p) I input base none none).url.port ≠ some p :=
  WFs_port_elided _ _ s p (C04_parse_WFs _ I input base hb (CfgOk_addScheme cfg I s p hcfg) hr)
    (special?_append_new cfg s p hns) hs

/-- any sequence of parse / resolve / setter calls -/
theorem C16_added_scheme_port_reach (cfg : Cfg) (s p : Bytes) (hns : cfg.isSpecial s = false) (I : Idna) (hcfg : CfgOk cfg I)
    (hfile : cfg.isSpecial (lit "file") = true) (hfail : cfg.failOnVErr = false) (u : Url)
    (h : Reach (addScheme cfg s p) I u) (hs : u.scheme = s) : u.port ≠ some p := by
  have hf : (addScheme cfg s p).isSpecial (lit "file") = true := by
    by_cases hx : lit "file" = s
    · rw [hx] at hfile; rw [hfile] at hns; cases hns
    · unfold Cfg.isSpecial at hfile ⊢
      rw [special?_append_ne cfg s p _ hx]; exact hfile
  exact WFs_port_elided _ u s p (C04_reachable_WFs _ I (CfgOk_addScheme cfg I s p hcfg) hf hfail u h)
    (special?_append_new cfg s p hns) hs

/-- the effect, concretely: `foo://[::1]:99/x` keeps the port `99` without the option and loses it with the option;
    another port is kept -/
example : (basicParser Cfg.default idI (lit "foo://[::1]:99/x") none none none).url.port = some (lit "99") ∧
    (basicParser cfgFoo idI (lit "foo://[::1]:99/x") none none none).url.port = none ∧
    (basicParser cfgFoo idI (lit "foo://[::1]:98/x") none none none).url.port = some (lit "98") := by decide +kernel

/-- non-vacuity of the hypotheses of `C16_added_scheme_port_parse` -/
example : Cfg.default.isSpecial foo = false ∧
    (basicParser cfgFoo idI (lit "foo://[::1]:99/x") none none none).ret = .url ∧
    (basicParser cfgFoo idI (lit "foo://[::1]:99/x") none none none).url.scheme = foo := by decide +kernel

/-- non-vacuity: the default configuration and the trivial oracle satisfy `CfgOk` -/
example : CfgOk Cfg.default idI := ⟨rfl, rfl, rfl, fun _ _ h => by cases h⟩

end WhatwgUrl.Props.C16c

#print axioms WhatwgUrl.Props.C16c.C16_specialSchemes_neutral
#print axioms WhatwgUrl.Props.C16c.C16_specialSchemes_table_neutral
#print axioms WhatwgUrl.Props.C16c.C16_specialSchemes_neutral_syntactic
#print axioms WhatwgUrl.Props.C16c.C16_pathSet_frame
#print axioms WhatwgUrl.Props.C16c.C16_querySet_frame
#print axioms WhatwgUrl.Props.C16c.C16_spQuerySet_frame
#print axioms WhatwgUrl.Props.C16c.C16_fragSet_frame
#print axioms WhatwgUrl.Props.C16c.C16_spFragSet_frame
#print axioms WhatwgUrl.Props.C16c.C16_skipEquals_pair
#print axioms WhatwgUrl.Props.C16c.C16_skipEquals_string
#print axioms WhatwgUrl.Props.C16c.C16_skipEquals_dropped_byte
#print axioms WhatwgUrl.Props.C16c.C16_skipEquals_neutral
#print axioms WhatwgUrl.Props.C16c.C16_skipEquals_length
#print axioms WhatwgUrl.Props.C16c.C16_skipEquals_iff
#print axioms WhatwgUrl.Props.C16c.C16_skipEquals_reparse_partial
#print axioms WhatwgUrl.Props.C16c.C16_skipEquals_reparse_Statement_false
#print axioms WhatwgUrl.Props.C16c.C16_added_scheme_port_parse
#print axioms WhatwgUrl.Props.C16c.C16_added_scheme_port_reach
