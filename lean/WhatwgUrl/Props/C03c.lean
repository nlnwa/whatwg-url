import WhatwgUrl.Proofs.RTcInvMachine
import WhatwgUrl.Proofs.RTcInvHost
import WhatwgUrl.Proofs.RTcInvSetters
import WhatwgUrl.Proofs.RTcInvV6
import WhatwgUrl.Props.C03b
import WhatwgUrl.Props.C04c
/-
  C03c — the round trip (C03b) for parse results and histories of the default configuration.  Of the oracle only the laws
  `IdnaLaws I` (L1–L4, see `Props/C01b.lean`) are assumed; `nonempty` and `out_ascii` carry the invariants, `ascii_lower` enters for
  domains (`L1_of_laws`), `repl_fails` is not used.

  (a) `RTc_of_WFc : WFs {} u → WFc u → RTx u → RTc u`: `RTx` (`Proofs/RTcInv.lean`, decidable; its seven clauses: `RTx_iff`) is
      the part of `RTc` that is NOT a consequence of the structural invariant `WFs` (C04b) and the character-set invariant
      `WFc` (C04c).  The bracket automaton `hostScan` and "host is not a drive letter" are consequences of `WFc` (`:` `|` `[` `]`
      are forbidden host code points; an IPv6 literal is `[` hex-or-colon `]`).
  (b) `C03_parse_invariants`: every parse result (base: none, or any record satisfying the three invariants) satisfies
      `WFs`, `WFc` and `RTc`.  Hence `C03_roundtrip_parse`, `_resolve`, `_parseRef`, `_reachPR` (chains of parse / resolve):
      `HostStable` is the only hypothesis left.
  (c) Setters: `C03_setter_invariants`: every setter keeps the three invariants except `protocol` switching a non-`file` url
      to `file` (`ToFile`), which can break TWO clauses: the documented `C|` one (`exP1`) and `host = localhost` (`exP2`: the
      file host state of the parser maps `localhost` to the empty host, the scheme state under a state override does not
      look at the host).  That the standard's own setter has both is a remark, not proved: no theorem runs `Spec`'s protocol
      setter on `exP1` / `exP2`.  `C03_roundtrip_reachX` is for `ReachX`, which leaves out every url that comes after ANY such
      switch, whatever its path and host, and everything reached from it.  This is coarser than the property's exception
      (the first path segment is a non-normalised drive letter): `http://h/a` → `SetProtocol("file")` → `SetPathname("/b")`
      round-trips but is outside `ReachX`, so no theorem speaks of it.
  (d) The host hypothesis reduced to IDN domains (`C03_roundtrip_parse_domain`, `_noIDN`, `_nonspecial`, `_bracket`,
      `C03_roundtrip_reachX_noIDN`).  By host provenance (`Proofs/RTcInvHostAll.lean`) the host of every url the parser leaves
      behind is `[]`, a host of the base, or an output of the host parser; a bracketed one is the serialization of an IPv6
      address (the standard's parser returns eight pieces < 2^16: `IPv6.spec_parseIPv6_addr`), an unbracketed host of a
      non-special url is a valid opaque host (`WFc`); both are stable.  Only the DOMAIN of a special url keeps the hypothesis
      (`DomainStable`), and it is discharged for `AsciiDomain`s (pure ASCII, lower case, no forbidden domain code point, no
      `xn--` label, a fixed point of the IPv4 parser if it ends in a number; every serialized IPv4 address).
  (e) Finding F6: for IDN / ACE domains `HostStable` cannot be derived from the oracle laws.  `I1` satisfies `IdnaLaws`
      (`I1_laws`) but is not idempotent on ACE labels, on which no law says anything (`I1_not_fixed`: `xn--a ↦ xn--aa`), and
      the hand-built record `exF6` with that host satisfies `WFs`, `WFc`, `RTc` but not `HostStable I1`.  This is all that is
      proved: no theorem says that `exF6` is a parse result under `I1`, nor what the parse of its serialization returns, and
      `C03.C03_roundtrip_Statement` is neither proved nor refuted.
-/
namespace WhatwgUrl.Props.C03c
open WhatwgUrl WhatwgUrl.Impl
open WhatwgUrl.Props.C04b (WFs)
open WhatwgUrl.Props.C04c (WFc)
open WhatwgUrl.Proofs.HostWF (Same IdnaNonEmpty)
open WhatwgUrl.Proofs.RoundTrip
open WhatwgUrl.Proofs.Sim (IdnaLaws)
open WhatwgUrl.Props.C03b (href_of_Same)

export WhatwgUrl.Proofs.RTcInv (RTx AsciiDomain)
open WhatwgUrl.Proofs.RTcInv

/-! ### (a) which clauses of `RTc` the two invariants do not give -/

theorem RTc_of_WFc (u : Url) (hs : WFs {} u) (hc : WFc u) (hx : RTx u) : RTc u :=
  WhatwgUrl.Proofs.RTcInv.RTc_of_WFc u hs hc hx

theorem RTc_iff_RTx (u : Url) (hs : WFs {} u) (hc : WFc u) : RTc u ↔ RTx u :=
  WhatwgUrl.Proofs.RTcInv.RTc_iff_RTx u hs hc

theorem RTx_iff (u : Url) : RTx u ↔
    ((u.port = none → u.decodedPort = 0) ∧
     (u.scheme = lit "file" → u.host ≠ some (lit "localhost")) ∧
     (u.path.opq = false → u.scheme = lit "file" →
        ∀ s ∈ u.path.segs.head?, isWindowsDriveLetter s = true → isNormalizedWindowsDriveLetter s = true) ∧
     (u.path.opq = true → u.path.segs.all (fun p => p.all fun b => b != 0x3f && b != 0x23) = true)) ∧
    (u.path.opq = false → u.host = none → u.path.segs ≠ []) ∧
    (u.path.opq = true → u.query = none → u.fragment = none → ∀ p ∈ u.path.segs, p.getLast? ≠ some 0x20) ∧
    (u.path.opq = true → ∀ s, u.path.segs.head? = some s → s.head? ≠ some 0x2f) := Iff.rfl

private def exA : Url := { scheme := lit "file", host := some [], path := ⟨[lit "C:", lit "x"], false⟩, fragment := some (lit "f") }
example : WFs {} exA ∧ WFc exA ∧ RTx exA := by decide +kernel
example : RTc exA := RTc_of_WFc exA (by decide +kernel) (by decide +kernel) (by decide +kernel)

/-- the oracle hypotheses of C04b / C04c are two of the four laws -/
theorem laws_nonEmpty (I : Idna) (hI : IdnaLaws I) : IdnaNonEmpty I := hI.nonempty
theorem laws_ascii (I : Idna) (hI : IdnaLaws I) : C04c.IdnaAscii I := hI.out_ascii

example : IdnaLaws WhatwgUrl.Proofs.Sim.I0 := WhatwgUrl.Proofs.Sim.I0_laws

/-! ### (b) parse results -/

def BaseOk (base : Option Url) : Prop := ∀ b, base = some b → WFs {} b ∧ WFc b ∧ RTc b

theorem BaseOk_none : BaseOk none := by intro b h; cases h
theorem BaseOk_some {b : Url} (h : WFs {} b ∧ WFc b ∧ RTc b) : BaseOk (some b) := by intro b' hb'; cases hb'; exact h

/-- of the oracle laws only `nonempty` is used -/
theorem C03_parse_RTx (I : Idna) (hI : IdnaLaws I) (input : Bytes) (base : Option Url) (hb : BaseOk base) :
    (basicParser {} I input base none none).ret = .url → RTx (basicParser {} I input base none none).url :=
  WhatwgUrl.Proofs.RTcInv.basicParser_RTx I hI.nonempty input base fun b h => ⟨(hb b h).1, RTx_of_RTc b (hb b h).2.2⟩

theorem C03_parse_invariants (I : Idna) (hI : IdnaLaws I) (input : Bytes) (base : Option Url) (hb : BaseOk base)
    (hr : (basicParser {} I input base none none).ret = .url) :
    WFs {} (basicParser {} I input base none none).url ∧ WFc (basicParser {} I input base none none).url ∧
    RTc (basicParser {} I input base none none).url :=
  have hs := C04b.C04_parse_WFs_default I hI.nonempty input base (fun b h => (hb b h).1) hr
  have hc := C04c.C04_parse_WFc_always I hI.out_ascii hI.nonempty input base (fun b h => ⟨(hb b h).2.1, (hb b h).1⟩)
  ⟨hs, hc, RTc_of_WFc _ hs hc (C03_parse_RTx I hI input base hb hr)⟩

theorem C03_parse_RTc (I : Idna) (hI : IdnaLaws I) (input : Bytes) (base : Option Url)
    (hb : ∀ b, base = some b → WFs {} b ∧ WFc b ∧ RTc b) :
    (basicParser {} I input base none none).ret = .url → RTc (basicParser {} I input base none none).url :=
  fun hr => (C03_parse_invariants I hI input base hb hr).2.2

/-- the oracle of the examples of this file: ASCII lower-casing, `Proofs.Sim.I0` (satisfies `IdnaLaws`) -/
private abbrev I0 := WhatwgUrl.Proofs.Sim.I0
private theorem hI0 : IdnaLaws I0 := WhatwgUrl.Proofs.Sim.I0_laws

/-- parses that exercise each clause of `RTx`: port equal to the default, `localhost` under `file`, a `C|` drive letter, an
    opaque path with inner and trailing spaces, `sc:/` -/
example : (basicParser {} I0 (lit "  HTTP://u@[0::1]:80/a/../b c?q#f ") none none none).ret = .url ∧
    (basicParser {} I0 (lit "file://[::1]/C|/../x") none none none).ret = .url ∧
    (basicParser {} I0 (lit "file:///C|/../x") none none none).ret = .url ∧
    (basicParser {} I0 (lit "sc:a b  \t?q ") none none none).ret = .url ∧
    (basicParser {} I0 (lit "sc:/") none none none).ret = .url := by decide +kernel
example : (basicParser {} I0 (lit "file:///C|/../x") none none none).url.path = ⟨[lit "C:", lit "x"], false⟩ ∧
    (basicParser {} I0 (lit "sc:a b  \t") none none none).url.path = ⟨[lit "a b"], true⟩ ∧
    (basicParser {} I0 (lit "HTTP://u@[0::1]:80/") none none none).url.decodedPort = 0 := by decide +kernel
example : RTc (basicParser {} I0 (lit "sc:a b  \t?q ") none none none).url :=
  C03_parse_RTc I0 hI0 _ none (by intro b h; cases h) (by decide +kernel)
private def bEx : Url := { scheme := lit "file", host := some [], path := ⟨[lit "C:", lit "d", lit "e"], false⟩ }
example : WFs {} bEx ∧ WFc bEx ∧ RTc bEx := by decide +kernel
example : (basicParser {} I0 (lit "../../../x y") (some bEx) none none).ret = .url ∧
    href (basicParser {} I0 (lit "../../../x y") (some bEx) none none).url false = lit "file:///C:/x%20y" := by decide +kernel
example : RTc (basicParser {} I0 (lit "../../../x y") (some bEx) none none).url :=
  C03_parse_RTc I0 hI0 _ (some bEx) (by intro b h; cases h; decide +kernel) (by decide +kernel)

/-- `parse` is the case `base = none`, `urlParse` on `b` the case `base = some b` -/
private theorem roundtrip_basicParser (I : Idna) (hI : IdnaLaws I) (input : Bytes) (base : Option Url) (hb : BaseOk base)
    (u : Url) (hp : basicParser {} I input base none none = ⟨u, .url⟩) (hh : HostStable I u) :
    ∃ u', parse {} I (href u false) = ⟨u', .url⟩ ∧ Same u' u := by
  obtain ⟨hr, rfl⟩ := C03b.ret_url_of_eq hp
  have h := C03_parse_invariants I hI input base hb hr
  exact C03b.C03_roundtrip_record I _ h.1 h.2.2 hh

/-- **C03 for parse results**: `HostStable` is the only condition -/
theorem C03_roundtrip_parse (I : Idna) (hI : IdnaLaws I) (input : Bytes) (u : Url) (hp : parse {} I input = ⟨u, .url⟩)
    (hh : HostStable I u) : ∃ u', parse {} I (href u false) = ⟨u', .url⟩ ∧ Same u' u :=
  roundtrip_basicParser I hI input none BaseOk_none u hp hh

theorem C03_roundtrip_resolve (I : Idna) (hI : IdnaLaws I) (b : Url) (hb : WFs {} b ∧ WFc b ∧ RTc b) (ref : Bytes) (u : Url)
    (hp : urlParse {} I b ref = ⟨u, .url⟩) (hh : HostStable I u) :
    ∃ u', parse {} I (href u false) = ⟨u', .url⟩ ∧ Same u' u :=
  roundtrip_basicParser I hI ref (some b) (BaseOk_some hb) u hp hh

theorem C03_roundtrip_parseRef (I : Idna) (hI : IdnaLaws I) (raw ref : Bytes) (u : Url)
    (hp : parseRef {} I raw ref = ⟨u, .url⟩) (hh : HostStable I u) :
    ∃ u', parse {} I (href u false) = ⟨u', .url⟩ ∧ Same u' u := by
  by_cases hne : raw = []
  · subst hne; exact C03_roundtrip_parse I hI ref u hp hh
  · rcases WhatwgUrl.Proofs.Run.parseRef_cases {} I raw ref hne with ⟨hb, h⟩ | ⟨_, h⟩
    · exact C03_roundtrip_resolve I hI _ (C03_parse_invariants I hI raw none BaseOk_none hb) ref u (h ▸ hp) hh
    · exact absurd (congrArg Res.ret hp) h

private def pR : Res := parseRef {} I0 (lit "sc://H%41/a/b?x#y") (lit "../c d")
example : pR.ret = .url ∧ href pR.url false = lit "sc://H%41/c%20d" := by decide +kernel
example : ∃ u', parse {} I0 (href pR.url false) = ⟨u', .url⟩ ∧ Same u' pR.url :=
  C03_roundtrip_parseRef I0 hI0 (lit "sc://H%41/a/b?x#y") (lit "../c d") pR.url (by decide +kernel) (by decide +kernel)
example : ∃ u', parse {} I0 (href (urlParse {} I0 bEx (lit "../../../x y")).url false) = ⟨u', .url⟩ ∧
    Same u' (urlParse {} I0 bEx (lit "../../../x y")).url :=
  C03_roundtrip_resolve I0 hI0 bEx (by decide +kernel) (lit "../../../x y") _ (by decide +kernel) (by decide +kernel)

theorem C03_roundtrip_parse_href (I : Idna) (hI : IdnaLaws I) (input : Bytes) (u : Url) (hp : parse {} I input = ⟨u, .url⟩)
    (hh : HostStable I u) :
    ∃ u', parse {} I (href u false) = ⟨u', .url⟩ ∧ href u' false = href u false := by
  obtain ⟨u', h1, h2⟩ := C03_roundtrip_parse I hI input u hp hh
  exact ⟨u', h1, href_of_Same h2 false⟩

/-! ### `HostStable` discharged, by host kind -/

theorem C03_hostStable_nohost (I : Idna) (u : Url) (h : u.host = none) : HostStable I u := by
  intro x hx; rw [h] at hx; cases hx

theorem C03_hostStable_empty (I : Idna) (u : Url) (h : u.host = some []) : HostStable I u := by
  intro x hx
  rw [h, Option.mem_def, Option.some.injEq] at hx
  subst hx; rfl

theorem C03_hostStable_ipv4 (I : Idna) (hI : IdnaLaws I) (u : Url) (hsp : Cfg.isSpecial {} u.scheme = true) (n : Nat)
    (hn : n < 2 ^ 32) (hh : u.host = some (ipv4String n)) : HostStable I u := by
  apply HostStable_asciiDomain I (L1_of_laws I hI) u hsp
  intro h hm
  rw [hh, Option.mem_def, Option.some.injEq] at hm
  subst hm
  exact asciiDomain_ipv4 n hn

theorem C03_hostStable_ascii_domain (I : Idna) (hI : IdnaLaws I) (u : Url) (hsp : Cfg.isSpecial {} u.scheme = true)
    (hd : ∀ h ∈ u.host, AsciiDomain h) : HostStable I u :=
  HostStable_asciiDomain I (L1_of_laws I hI) u hsp hd

/-- for a non-special url that satisfies `WFc` the host is an IPv6 literal or a valid opaque host in stored form -/
theorem opaqueHost_of_WFc (u : Url) (hc : WFc u) (hns : Cfg.isSpecial {} u.scheme = false) (h : Bytes) (hh : u.host = some h)
    (hv6 : h.head? ≠ some 0x5b) : ∀ b ∈ h, opaqueHostB b = true := by
  have h3 := hc.2.2.1
  rw [hh, hns] at h3
  have hb : ∀ b : UInt8, C04c.hostByteOk false b = true → opaqueHostB b = true := Proofs.forall_uint8 (by decide +kernel)
  unfold C04c.hostOk C04c.hostCharsOk at h3
  dsimp only at h3
  rcases Bool.or_eq_true_iff.mp h3 with hv | ha
  · obtain ⟨m, rfl, _⟩ := v6_shape h hv
    exact absurd rfl hv6
  · rw [List.all_eq_true] at ha
    exact fun b hb' => hb b (ha b hb')

/-! ### the round trip by host kind -/

theorem C03_roundtrip_parse_nohost (I : Idna) (hI : IdnaLaws I) (input : Bytes) (u : Url) (hp : parse {} I input = ⟨u, .url⟩)
    (hh : u.host = none) : ∃ u', parse {} I (href u false) = ⟨u', .url⟩ ∧ Same u' u :=
  C03_roundtrip_parse I hI input u hp (C03_hostStable_nohost I u hh)

theorem C03_roundtrip_parse_empty_host (I : Idna) (hI : IdnaLaws I) (input : Bytes) (u : Url) (hp : parse {} I input = ⟨u, .url⟩)
    (hh : u.host = some []) : ∃ u', parse {} I (href u false) = ⟨u', .url⟩ ∧ Same u' u :=
  C03_roundtrip_parse I hI input u hp (C03_hostStable_empty I u hh)

theorem C03_roundtrip_parse_ipv6_host (I : Idna) (hI : IdnaLaws I) (input : Bytes) (u : Url) (hp : parse {} I input = ⟨u, .url⟩)
    (a : List Nat) (ha : C08.Addr a) (hh : u.host = some ([0x5b] ++ ipv6String a ++ [0x5d])) :
    ∃ u', parse {} I (href u false) = ⟨u', .url⟩ ∧ Same u' u :=
  C03_roundtrip_parse I hI input u hp (C03b.C03_hostStable_ipv6 I u a ha hh)

theorem C03_roundtrip_parse_ipv4_host (I : Idna) (hI : IdnaLaws I) (input : Bytes) (u : Url) (hp : parse {} I input = ⟨u, .url⟩)
    (hsp : Cfg.isSpecial {} u.scheme = true) (n : Nat) (hn : n < 2 ^ 32) (hh : u.host = some (ipv4String n)) :
    ∃ u', parse {} I (href u false) = ⟨u', .url⟩ ∧ Same u' u :=
  C03_roundtrip_parse I hI input u hp (C03_hostStable_ipv4 I hI u hsp n hn hh)

theorem C03_roundtrip_parse_ascii_domain (I : Idna) (hI : IdnaLaws I) (input : Bytes) (u : Url) (hp : parse {} I input = ⟨u, .url⟩)
    (hsp : Cfg.isSpecial {} u.scheme = true) (hd : ∀ h ∈ u.host, AsciiDomain h) :
    ∃ u', parse {} I (href u false) = ⟨u', .url⟩ ∧ Same u' u :=
  C03_roundtrip_parse I hI input u hp (C03_hostStable_ascii_domain I hI u hsp hd)

private def iA : Bytes := lit "  sc:/a/./b/../c d?q'#f` "
private def iC : Bytes := lit "sc://u:p@H%41!:8/a\\b"
private def pA : Res := parse {} I0 iA
private def pB : Res := parse {} I0 (lit "file:/C|/x")
private def pC : Res := parse {} I0 iC
private def pD : Res := parse {} I0 (lit "wss://[0:0::0:1]:443/")
example : pA.ret = .url ∧ pA.url.host = none ∧ href pA.url false = lit "sc:/a/c%20d?q'#f%60" := by decide +kernel
example : pB.ret = .url ∧ pB.url.host = some [] ∧ href pB.url false = lit "file:///C:/x" := by decide +kernel
example : pC.ret = .url ∧ Cfg.isSpecial {} pC.url.scheme = false ∧ (∀ h ∈ pC.url.host, h.head? ≠ some 0x5b) ∧
    href pC.url false = lit "sc://u:p@H%41!:8/a\\b" := by decide +kernel
example : pD.ret = .url ∧ C08.Addr [0, 0, 0, 0, 0, 0, 0, 1] ∧
    pD.url.host = some ([0x5b] ++ ipv6String [0, 0, 0, 0, 0, 0, 0, 1] ++ [0x5d]) ∧ href pD.url false = lit "wss://[::1]/" := by
  unfold C08.Addr; decide +kernel
example : ∃ u', parse {} I0 (href pA.url false) = ⟨u', .url⟩ ∧ Same u' pA.url :=
  C03_roundtrip_parse_nohost I0 hI0 iA pA.url (by decide +kernel) (by decide +kernel)
/-- the record is given directly: a parse of a domain does not evaluate (remark on `decodePercent` in `Props/C02.lean`) -/
example : (2130706433 : Nat) < 2 ^ 32 ∧ ipv4String 2130706433 = lit "127.0.0.1" := by decide +kernel
example : HostStable I0 { scheme := lit "http", host := some (ipv4String 2130706433), path := ⟨[[]], false⟩ } :=
  C03_hostStable_ipv4 I0 hI0 _ (by decide) 2130706433 (by decide) rfl
example : HostStable I0 { scheme := lit "https", host := some (lit "www.example.com"), path := ⟨[[]], false⟩ } :=
  C03_hostStable_ascii_domain I0 hI0 _ (by decide) (by
    intro h hh
    rw [Option.mem_def, Option.some.injEq] at hh
    subst hh
    decide +kernel)

/-! ### (c) setters -/

def ToFile (I : Idna) (s : Setter) (u : Url) (v : Bytes) : Prop :=
  s = .protocol ∧ (setU {} I s u v).url.scheme = lit "file" ∧ u.scheme ≠ lit "file"

instance (I : Idna) (s : Setter) (u : Url) (v : Bytes) : Decidable (ToFile I s u v) := by unfold ToFile; infer_instance

/-- of the oracle laws only `nonempty` is used -/
theorem C03_setter_RTx (I : Idna) (hI : IdnaLaws I) (s : Setter) (u : Url) (v : Bytes) (hs : WFs {} u) (hx : RTx u)
    (hexc : ¬ ToFile I s u v) : RTx (setU {} I s u v).url := by
  apply setU_RTx I hI.nonempty s u v hs hx
  intro h1 h2
  by_cases h3 : u.scheme = lit "file"
  · exact h3
  · exact absurd ⟨h1, h2, h3⟩ hexc

/-- whatever the setter's inner parser call returned -/
theorem C03_setter_invariants (I : Idna) (hI : IdnaLaws I) (s : Setter) (u : Url) (v : Bytes)
    (h : WFs {} u ∧ WFc u ∧ RTc u) (hexc : ¬ ToFile I s u v) :
    WFs {} (setU {} I s u v).url ∧ WFc (setU {} I s u v).url ∧ RTc (setU {} I s u v).url := by
  have hs := C04b.C04_setter_WFs_default I hI.nonempty s u v h.1
  have hc := C04c.C04_setter_WFc I hI.out_ascii hI.nonempty s u v h.1 h.2.1
  exact ⟨hs, hc, RTc_of_WFc _ hs hc (C03_setter_RTx I hI s u v h.1 (RTx_of_RTc u h.2.2) hexc)⟩

/-- the records reachable through the API (parse, resolve, setters) without ANY protocol switch from a non-`file` scheme to
    `file` on the way: coarser than the property's exception, see (c) in the header -/
inductive ReachX (I : Idna) : Url → Prop
  | parse (input : Bytes) : (parse {} I input).ret = .url → ReachX I (parse {} I input).url
  | resolve (b : Url) (ref : Bytes) : ReachX I b → (urlParse {} I b ref).ret = .url → ReachX I (urlParse {} I b ref).url
  | set (s : Setter) (u : Url) (v : Bytes) : ReachX I u → ¬ ToFile I s u v → ReachX I (setU {} I s u v).url

theorem C03_reachX_invariants (I : Idna) (hI : IdnaLaws I) (u : Url) (h : ReachX I u) : WFs {} u ∧ WFc u ∧ RTc u := by
  induction h with
  | parse input hr => exact C03_parse_invariants I hI input none BaseOk_none hr
  | resolve b ref _ hr ih => exact C03_parse_invariants I hI ref (some b) (BaseOk_some ih) hr
  | set s u v _ hexc ih => exact C03_setter_invariants I hI s u v ih hexc

/-- **C03 for reachable records** (minus the exception `ToFile`) -/
theorem C03_roundtrip_reachX (I : Idna) (hI : IdnaLaws I) (u : Url) (h : ReachX I u) (hh : HostStable I u) :
    ∃ u', parse {} I (href u false) = ⟨u', .url⟩ ∧ Same u' u :=
  have hi := C03_reachX_invariants I hI u h
  C03b.C03_roundtrip_record I u hi.1 hi.2.2 hh

inductive ReachPR (I : Idna) : Url → Prop
  | parse (input : Bytes) : (parse {} I input).ret = .url → ReachPR I (parse {} I input).url
  | resolve (b : Url) (ref : Bytes) : ReachPR I b → (urlParse {} I b ref).ret = .url → ReachPR I (urlParse {} I b ref).url

theorem ReachPR.reachX {I : Idna} {u : Url} (h : ReachPR I u) : ReachX I u := by
  induction h with
  | parse input hr => exact .parse input hr
  | resolve b ref _ hr ih => exact .resolve b ref ih hr

theorem C03_reachPR_invariants (I : Idna) (hI : IdnaLaws I) (u : Url) (h : ReachPR I u) : WFs {} u ∧ WFc u ∧ RTc u :=
  C03_reachX_invariants I hI u h.reachX

theorem C03_roundtrip_reachPR (I : Idna) (hI : IdnaLaws I) (u : Url) (h : ReachPR I u) (hh : HostStable I u) :
    ∃ u', parse {} I (href u false) = ⟨u', .url⟩ ∧ Same u' u :=
  C03_roundtrip_reachX I hI u h.reachX hh

/-- parse → port setter → pathname setter → hash setter → protocol setter (`ws` → `wss`) -/
private def chain : Url :=
  (setU {} I0 .protocol (setU {} I0 .hash (setU {} I0 .pathname (setU {} I0 .port
    (parse {} I0 (lit "ws://[::1]/a")).url (lit "81")).url (lit "/C|/x y")).url (lit "#f g")).url (lit "wss")).url
example : href chain false = lit "wss://[::1]:81/C|/x%20y#f%20g" := by decide +kernel
private theorem chain_reach : ReachX I0 chain :=
  .set _ _ _ (.set _ _ _ (.set _ _ _ (.set _ _ _ (.parse _ (by decide +kernel)) (by decide +kernel)) (by decide +kernel))
    (by decide +kernel)) (by decide +kernel)
example : ReachX I0 chain := chain_reach

/-- the documented exception: `http://[::1]/C|` → `file://[::1]/C|`, a non-normalised drive letter in front, which the parser
    would normalise -/
private def exP1 : Url := { scheme := lit "http", host := some (lit "[::1]"), path := ⟨[lit "C|"], false⟩ }
example : WFs {} exP1 ∧ WFc exP1 ∧ RTc exP1 ∧ ToFile I0 .protocol exP1 (lit "file") ∧
    href (setU {} I0 .protocol exP1 (lit "file")).url false = lit "file://[::1]/C|" ∧
    ¬ RTc (setU {} I0 .protocol exP1 (lit "file")).url ∧
    (parse {} I0 (href (setU {} I0 .protocol exP1 (lit "file")).url false)).url.path = ⟨[lit "C:"], false⟩ := by decide +kernel
/-- the second one: `http://localhost/` → `file://localhost/`, which re-parses as `file:///` (`C09b.C09_file_localhost`) -/
private def exP2 : Url := { scheme := lit "http", host := some (lit "localhost"), path := ⟨[[]], false⟩ }
example : WFs {} exP2 ∧ WFc exP2 ∧ RTc exP2 ∧ ToFile I0 .protocol exP2 (lit "file") ∧
    href (setU {} I0 .protocol exP2 (lit "file")).url false = lit "file://localhost/" ∧
    ¬ RTc (setU {} I0 .protocol exP2 (lit "file")).url := by decide +kernel
example : HostStable I0 exP2 :=
  C03_hostStable_ascii_domain I0 hI0 _ (by decide) (by
    intro h hh
    have : h = lit "localhost" := by simpa [exP2] using hh.symm
    subst this
    decide +kernel)

/-! ### (d) the host hypothesis reduced to IDN domains -/

export WhatwgUrl.Proofs.RTcInv (V6h HostAll)

/-- the only part of `HostStable` that is not a theorem -/
def DomainStable (I : Idna) (u : Url) : Prop :=
  Cfg.isSpecial {} u.scheme = true → ∀ h ∈ u.host, h.head? ≠ some 0x5b → (parseHost {} I {} h false).out = .ok h

instance (I : Idna) (u : Url) : Decidable (DomainStable I u) := by unfold DomainStable; infer_instance

theorem hostStable_of_domainStable (I : Idna) (u : Url) (hc : WFc u) (hv : HostAll V6h u) (hd : DomainStable I u) :
    HostStable I u := by
  intro h hh
  by_cases hb : h.head? = some 0x5b
  · obtain ⟨a, ha, rfl⟩ := hv h hh hb
    exact parseHost_ipv6_fixed I a ha _
  · by_cases hsp : Cfg.isSpecial {} u.scheme = true
    · rw [hsp]
      exact hd hsp h hh hb
    · have hns : Cfg.isSpecial {} u.scheme = false := by simpa using hsp
      rw [hns]
      exact parseHost_opaque_fixed I h (opaqueHost_of_WFc u hc hns h hh hb)

theorem domainStable_of_ascii (I : Idna) (hI : IdnaLaws I) (u : Url)
    (hd : Cfg.isSpecial {} u.scheme = true → ∀ h ∈ u.host, h.head? ≠ some 0x5b → AsciiDomain h) : DomainStable I u :=
  fun hsp h hh hb => parseHost_asciiDomain I (L1_of_laws I hI) h (hd hsp h hh hb)

theorem C03_parse_V6 (I : Idna) (input : Bytes) (base : Option Url) (hb : ∀ b, base = some b → HostAll V6h b) :
    HostAll V6h (basicParser {} I input base none none).url :=
  basicParser_V6 I input base none none hb (fun _ hh => nomatch hh)

theorem C03_reachX_V6 (I : Idna) (u : Url) (h : ReachX I u) : HostAll V6h u := by
  induction h with
  | parse input _ => exact C03_parse_V6 I input none (by intro b h; cases h)
  | resolve b ref _ _ ih => exact C03_parse_V6 I ref (some b) (by intro b' hb'; cases hb'; exact ih)
  | set s u v _ _ ih => exact setU_V6 I s u v ih

/-- **C03 for parse results, the host hypothesis reduced to domains** -/
theorem C03_roundtrip_parse_domain (I : Idna) (hI : IdnaLaws I) (input : Bytes) (u : Url) (hp : parse {} I input = ⟨u, .url⟩)
    (hd : DomainStable I u) : ∃ u', parse {} I (href u false) = ⟨u', .url⟩ ∧ Same u' u := by
  obtain ⟨hr, rfl⟩ := C03b.ret_url_of_eq hp
  exact C03_roundtrip_parse I hI input _ hp (hostStable_of_domainStable I _
    (C03_parse_invariants I hI input none BaseOk_none hr).2.1 (C03_parse_V6 I input none nofun) hd)

theorem C03_roundtrip_parse_noIDN (I : Idna) (hI : IdnaLaws I) (input : Bytes) (u : Url) (hp : parse {} I input = ⟨u, .url⟩)
    (hd : Cfg.isSpecial {} u.scheme = true → ∀ h ∈ u.host, h.head? ≠ some 0x5b → AsciiDomain h) :
    ∃ u', parse {} I (href u false) = ⟨u', .url⟩ ∧ Same u' u :=
  C03_roundtrip_parse_domain I hI input u hp (domainStable_of_ascii I hI u hd)

theorem C03_roundtrip_parse_nonspecial (I : Idna) (hI : IdnaLaws I) (input : Bytes) (u : Url) (hp : parse {} I input = ⟨u, .url⟩)
    (hns : Cfg.isSpecial {} u.scheme = false) : ∃ u', parse {} I (href u false) = ⟨u', .url⟩ ∧ Same u' u :=
  C03_roundtrip_parse_domain I hI input u hp (fun hsp => by rw [hns] at hsp; cases hsp)

section
set_option linter.unusedVariables false
/-- an instance of `C03_roundtrip_parse_nonspecial`: `hv6` is not used -/
theorem C03_roundtrip_parse_opaque_host (I : Idna) (hI : IdnaLaws I) (input : Bytes) (u : Url) (hp : parse {} I input = ⟨u, .url⟩)
    (hns : Cfg.isSpecial {} u.scheme = false) (hv6 : ∀ h ∈ u.host, h.head? ≠ some 0x5b) :
    ∃ u', parse {} I (href u false) = ⟨u', .url⟩ ∧ Same u' u :=
  C03_roundtrip_parse_nonspecial I hI input u hp hns
end

example : ∃ u', parse {} I0 (href pC.url false) = ⟨u', .url⟩ ∧ Same u' pC.url :=
  C03_roundtrip_parse_opaque_host I0 hI0 iC pC.url (by decide +kernel) (by decide +kernel) (by decide +kernel)

theorem C03_roundtrip_parse_bracket (I : Idna) (hI : IdnaLaws I) (input : Bytes) (u : Url) (hp : parse {} I input = ⟨u, .url⟩)
    (hb : ∀ h ∈ u.host, h.head? = some 0x5b) : ∃ u', parse {} I (href u false) = ⟨u', .url⟩ ∧ Same u' u :=
  C03_roundtrip_parse_domain I hI input u hp (fun _ h hh hn => absurd (hb h hh) hn)

theorem C03_roundtrip_reachX_noIDN (I : Idna) (hI : IdnaLaws I) (u : Url) (h : ReachX I u)
    (hd : Cfg.isSpecial {} u.scheme = true → ∀ h ∈ u.host, h.head? ≠ some 0x5b → AsciiDomain h) :
    ∃ u', parse {} I (href u false) = ⟨u', .url⟩ ∧ Same u' u :=
  C03_roundtrip_reachX I hI u h (hostStable_of_domainStable I u (C03_reachX_invariants I hI u h).2.1 (C03_reachX_V6 I u h)
    (domainStable_of_ascii I hI u hd))

example : ∃ u', parse {} I0 (href pD.url false) = ⟨u', .url⟩ ∧ Same u' pD.url :=
  C03_roundtrip_parse_bracket I0 hI0 (lit "wss://[0:0::0:1]:443/") pD.url (by decide +kernel) (by decide +kernel)
example : ∃ u', parse {} I0 (href chain false) = ⟨u', .url⟩ ∧ Same u' chain :=
  C03_roundtrip_reachX_noIDN I0 hI0 chain chain_reach (by decide +kernel)
example : AsciiDomain [] := by decide +kernel

/-! ### (e) finding F6 -/

def I1 : Idna := fun s =>
  if s.all (fun x => x.toNat < 0x80) then
    (if asciiOrMiscNoPuny (goRunes s) 0 then (asciiLower s, false) else (s ++ [0x61], false))
  else ([0x78], true)

theorem I1_laws : IdnaLaws I1 where
  ascii_lower := by
    intro s hs h2
    have : s.all (fun x => decide (x.toNat < 0x80)) = true :=
      List.all_eq_true.mpr (fun x hx => by simpa using hs x hx)
    simp [I1, this, h2]
  out_ascii := by
    intro s x hx
    unfold I1 at hx
    split at hx
    · rename_i h
      split at hx
      · simp only [asciiLower, List.mem_map] at hx
        obtain ⟨y, hy, rfl⟩ := hx
        exact (WhatwgUrl.Proofs.AsciiCase.lowerB_lt_iff y).mpr (by simpa using List.all_eq_true.mp h y hy)
      · simp only [List.mem_append, List.mem_singleton] at hx
        rcases hx with hx | rfl
        · simpa using List.all_eq_true.mp h x hx
        · decide
    · simp only [List.mem_singleton] at hx
      subst hx; decide
  repl_fails := by
    intro d hd
    have : (utf8 d).all (fun x => decide (x.toNat < 0x80)) = false := by
      rw [List.all_eq_false]
      refine ⟨0xEF, ?_, by decide⟩
      unfold utf8
      rw [List.mem_flatMap]
      exact ⟨repl, hd, by decide⟩
    simp [I1, this]
  nonempty := by
    intro s _ hf _
    unfold I1 at hf ⊢
    by_cases h : (s.all fun x => decide (x.toNat < 0x80)) = true
    · rw [if_pos h] at hf
      split at hf <;> simp at hf
    · rw [if_neg h]; simp

theorem I1_not_fixed : (parseHost {} I1 {} (lit "xn--a") false).out = .ok (lit "xn--aa") := by
  have e := (WhatwgUrl.Proofs.Sim.eval_domain I1 {} "xn--a".toList (lit "xn--a") (by decide) (by decide)
    (by rw [show utf8 "xn--a".toList = lit "xn--a" by decide +kernel]; exact WhatwgUrl.Proofs.Sim.pd_nopct _ (by decide))).1
  rw [show utf8 "xn--a".toList = lit "xn--a" by decide +kernel] at e
  rw [e]
  decide +kernel

private def exF6 : Url := { scheme := lit "http", host := some (lit "xn--a"), path := ⟨[[]], false⟩ }
example : WFs {} exF6 ∧ WFc exF6 ∧ RTc exF6 := by decide +kernel
example : ¬ HostStable I1 exF6 := by
  intro h
  have := h (lit "xn--a") rfl
  rw [show (!Cfg.isSpecial {} exF6.scheme) = false by decide, I1_not_fixed] at this
  revert this; decide

end WhatwgUrl.Props.C03c

section AxiomCheck
open WhatwgUrl.Props.C03c
#print axioms RTc_of_WFc
#print axioms RTc_iff_RTx
#print axioms C03_parse_RTx
#print axioms C03_parse_RTc
#print axioms C03_parse_invariants
#print axioms C03_roundtrip_parse
#print axioms C03_roundtrip_resolve
#print axioms C03_roundtrip_reachPR
#print axioms C03_roundtrip_parseRef
#print axioms C03_roundtrip_parse_href
#print axioms C03_hostStable_ipv4
#print axioms C03_hostStable_ascii_domain
#print axioms C03_roundtrip_parse_nohost
#print axioms C03_roundtrip_parse_empty_host
#print axioms C03_roundtrip_parse_opaque_host
#print axioms C03_roundtrip_parse_ipv6_host
#print axioms C03_roundtrip_parse_ipv4_host
#print axioms C03_roundtrip_parse_ascii_domain
#print axioms C03_setter_RTx
#print axioms C03_setter_invariants
#print axioms C03_reachX_invariants
#print axioms C03_roundtrip_reachX
#print axioms C03_parse_V6
#print axioms C03_roundtrip_parse_domain
#print axioms C03_roundtrip_parse_noIDN
#print axioms C03_roundtrip_parse_nonspecial
#print axioms C03_roundtrip_parse_bracket
#print axioms C03_roundtrip_reachX_noIDN
end AxiomCheck
