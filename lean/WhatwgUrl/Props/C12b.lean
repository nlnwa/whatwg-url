import WhatwgUrl.Proofs.Frame
import WhatwgUrl.Props.C12
/-
  C12b — frame properties of the setters: "after any setter other than the search setter, the query is unchanged"
  (and the analogue for the fragment and the hash setter).

  The parser-level frame lemmas (`basicParser_query`, `basicParser_fragment`, `basicParser_path`: a run on a given url under
  a state override whose start state lies in the closed set `qSt` / `fSt` / `pSt` never writes the component) and the
  setter-level frames (`setU_query`, `setU_fragment`, `setU_path`) live in `Proofs/Frame.lean`.
  They hold for EVERY configuration, oracle, input and base: no hypothesis besides the start state.
-/
namespace WhatwgUrl.Props.C12b
open WhatwgUrl WhatwgUrl.Impl WhatwgUrl.Proofs WhatwgUrl.Proofs.Frame

/-! ### parser level -/

/-- frame lemma of the parser: under the overrides used by the setters other than `search`, the query is not written -/
theorem C12_parser_frame_query (cfg : Cfg) (I : Idna) (v : Bytes) (u : Url) (ov : State)
    (hov : ov = .schemeStart ∨ ov = .host ∨ ov = .hostname ∨ ov = .port ∨ ov = .pathStart ∨ ov = .fragment) :
    (basicParser cfg I v none (some u) (some ov)).url.query = u.query :=
  basicParser_query cfg I v none u ov (by rcases hov with h | h | h | h | h | h <;> subst h <;> rfl)

/-- the same for every start state of the closed set `qSt` and any base -/
theorem C12_parser_frame_query_gen (cfg : Cfg) (I : Idna) (v : Bytes) (base : Option Url) (u : Url) (ov : State)
    (hov : qSt ov = true) : (basicParser cfg I v base (some u) (some ov)).url.query = u.query :=
  basicParser_query cfg I v base u ov hov

/-- frame lemma of the parser for the fragment: under the overrides used by the setters other than `hash` -/
theorem C12_parser_frame_fragment (cfg : Cfg) (I : Idna) (v : Bytes) (u : Url) (ov : State)
    (hov : ov = .schemeStart ∨ ov = .host ∨ ov = .hostname ∨ ov = .port ∨ ov = .pathStart ∨ ov = .query) :
    (basicParser cfg I v none (some u) (some ov)).url.fragment = u.fragment :=
  basicParser_fragment cfg I v none u ov (by rcases hov with h | h | h | h | h | h <;> subst h <;> rfl)

theorem C12_parser_frame_fragment_gen (cfg : Cfg) (I : Idna) (v : Bytes) (base : Option Url) (u : Url) (ov : State)
    (hov : fSt ov = true) : (basicParser cfg I v base (some u) (some ov)).url.fragment = u.fragment :=
  basicParser_fragment cfg I v base u ov hov

/-! ### setter level -/

/-- after any setter other than the search setter, the query is unchanged (whatever the setter returned) -/
theorem C12_setter_frame_query (cfg : Cfg) (I : Idna) (s : Setter) (u : Url) (v : Bytes) (hs : s ≠ .search) :
    (setU cfg I s u v).url.query = u.query := Frame.setU_query cfg I s u v hs

/-- after any setter other than the hash setter, the fragment is unchanged -/
theorem C12_setter_frame_fragment (cfg : Cfg) (I : Idna) (s : Setter) (u : Url) (v : Bytes) (hs : s ≠ .hash) :
    (setU cfg I s u v).url.fragment = u.fragment := Frame.setU_fragment cfg I s u v hs

/-- the path: the setters for protocol / username / password / host / hostname / port never touch it (pathname
    replaces it; search and hash with an empty value strip trailing spaces of an opaque path) -/
theorem C12_setter_frame_path (cfg : Cfg) (I : Idna) (s : Setter) (u : Url) (v : Bytes)
    (hs : s ≠ .pathname ∧ s ≠ .search ∧ s ≠ .hash) : (setU cfg I s u v).url.path = u.path :=
  Frame.setU_path cfg I s u v hs

/-- search / hash with a non-empty value leave the path alone too -/
theorem C12_setter_frame_path_qf (cfg : Cfg) (I : Idna) (s : Setter) (u : Url) (v : Bytes)
    (hs : s = .search ∨ s = .hash) (hv : v ≠ []) : (setU cfg I s u v).url.path = u.path := by
  have hve : v.isEmpty = false := by cases v <;> simp_all
  rcases hs with rfl | rfl
  · simp only [setU, setSearchU, hve, Bool.false_eq_true, if_false]
    rw [Frame.basicParser_path cfg I _ none _ .query rfl]
    split <;> rfl
  · simp only [setU, setHash, hve, Bool.false_eq_true, if_false]
    exact Frame.basicParser_path cfg I _ none { u with fragment := some [] } .fragment rfl

/-! ### heap level: with `C12_frame_list` -/

/-- the other eight setters leave the list AND the query alone: together with `InSync` before, the pair stays in sync -/
theorem C12_frame_heap_query (I : Idna) (H : Heap) (i : Nat) (st : Setter) (v : Bytes) (hst : st ≠ .search) :
    (H.set I i st v).1.sps = H.sps ∧
      ∀ o, H.urls[i]? = some o → ∃ o', (H.set I i st v).1.urls[i]? = some o' ∧ o'.sp = o.sp ∧ o'.u.query = o.u.query := by
  obtain ⟨h1, h2⟩ := C12.C12_frame_list I H i st v hst
  refine ⟨h1, fun o ho => ?_⟩
  obtain ⟨o', ho', hsp, hu⟩ := h2 o ho
  exact ⟨o', ho', hsp, by rw [hu]; exact C12_setter_frame_query _ _ _ _ _ hst⟩

/-! ### non-vacuity -/

/-- `sc://h/p?a=1#f` (non-special scheme: the host parser's opaque branch evaluates under `decide`) -/
def exU : Url := { scheme := lit "sc", host := some (lit "h"), path := ⟨[lit "p"], false⟩, query := some (lit "a=1"),
                   fragment := some (lit "f") }
/-- the identity IDNA oracle, never an error (same as `C12.exI`) -/
def exI : Idna := fun b => (b, false)

-- the hypotheses are satisfiable
example : Setter.hash ≠ Setter.search := by decide
example : Setter.search ≠ Setter.hash := by decide
example : Setter.host ≠ .pathname ∧ Setter.host ≠ .search ∧ Setter.host ≠ .hash := by decide
example : (setU {} exI .host exU (lit "g/zzz")).url.host = some (lit "g") ∧
    (setU {} exI .host exU (lit "g/zzz")).url.path = ⟨[lit "p"], false⟩ := by decide +kernel
-- the excluded case of the path frame: the hash setter with an empty value strips trailing spaces of an opaque path
example : (setU {} exI .hash { scheme := lit "sc", path := ⟨[lit "x  "], true⟩, fragment := some (lit "f") } []).url.path =
    ⟨[lit "x"], true⟩ := by decide +kernel
example : State.pathStart = .schemeStart ∨ State.pathStart = .host ∨ State.pathStart = .hostname ∨ State.pathStart = .port ∨
    State.pathStart = .pathStart ∨ State.pathStart = .fragment := by decide

-- the setters really do something on this url, and keep the query (here the values contain `?` and `#`)
example : (setU {} exI .pathname exU (lit "/x?y#z")).url.path = ⟨[lit "x%3Fy%23z"], false⟩ ∧
    (setU {} exI .pathname exU (lit "/x?y#z")).url.query = some (lit "a=1") := by decide +kernel
example : (setU {} exI .host exU (lit "g:81/?q")).url.host = some (lit "g") ∧
    (setU {} exI .host exU (lit "g:81/?q")).url.port = some (lit "81") ∧
    (setU {} exI .host exU (lit "g:81/?q")).url.query = some (lit "a=1") := by decide +kernel
example : (setU {} exI .hash exU (lit "#n?w")).url.fragment = some (lit "n?w") ∧
    (setU {} exI .hash exU (lit "#n?w")).url.query = some (lit "a=1") := by decide +kernel
example : (setU {} exI .protocol exU (lit "tc")).url.scheme = lit "tc" ∧
    (setU {} exI .protocol exU (lit "tc")).url.query = some (lit "a=1") := by decide +kernel
-- the excluded setters do change the component: the side conditions cannot be dropped
example : (setU {} exI .search exU (lit "?b=2")).url.query = some (lit "b=2") ∧
    (setU {} exI .search exU (lit "?b=2")).url.fragment = some (lit "f") := by decide +kernel
example : (setU {} exI .hash exU []).url.fragment = none := by decide +kernel
-- a start state outside the closed set `qSt` does write the query (the search setter's override)
example : (basicParser {} exI (lit "zz") none (some exU) (some .query)).url.query = some (lit "zz") := by decide +kernel

end WhatwgUrl.Props.C12b

section AxiomCheck
open WhatwgUrl.Props.C12b
#print axioms C12_parser_frame_query
#print axioms C12_parser_frame_query_gen
#print axioms C12_parser_frame_fragment
#print axioms C12_parser_frame_fragment_gen
#print axioms C12_setter_frame_query
#print axioms C12_setter_frame_fragment
#print axioms C12_setter_frame_path
#print axioms C12_setter_frame_path_qf
#print axioms C12_frame_heap_query
end AxiomCheck
