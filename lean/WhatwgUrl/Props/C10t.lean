import WhatwgUrl.Impl.Canon
import WhatwgUrl.Proofs.Percent
import WhatwgUrl.Generated.Facts
import WhatwgUrl.Props.C10
/-
  C10t — the first clause of C10 ("each named set contains exactly the code points the standard lists") for the sets of the
  Go SOURCE: their range tables, regenerated on every run (T1), are the model's for all eleven sets and the standard's for the
  six the clause names.  The clauses on deriving sets and on the codec are model-level (`C10.lean`, `C10b.lean`).
  A module of its own, imported only by `C01t` (whose `C01_tables` is `C10_generated_tables`): a change of the source that
  breaks one of these facts does not take the model-level theorems down with it.
-/
namespace WhatwgUrl.Props.C10t
open WhatwgUrl WhatwgUrl.Impl WhatwgUrl.Proofs.Percent
open WhatwgUrl.Props.C10

/-- the model's tables are those of the code: same ranges for every set the model names (so theorems about the model's
    sets are theorems about the code's sets) -/
theorem C10_model_tables_are_generated :
    (∀ c, c ≤ 0x10ffff → inRanges Generated.set_c0 c = c0Set.has c) ∧ (∀ c, c ≤ 0x10ffff → inRanges Generated.set_c0sp c = c0OrSpaceSet.has c) ∧
    (∀ c, c ≤ 0x10ffff → inRanges Generated.set_fragment c = fragmentSet.has c) ∧ (∀ c, c ≤ 0x10ffff → inRanges Generated.set_query c = querySet.has c) ∧
    (∀ c, c ≤ 0x10ffff → inRanges Generated.set_specialQuery c = specialQuerySet.has c) ∧ (∀ c, c ≤ 0x10ffff → inRanges Generated.set_path c = pathSet.has c) ∧
    (∀ c, c ≤ 0x10ffff → inRanges Generated.set_userinfo c = userinfoSet.has c) ∧ (∀ c, c ≤ 0x10ffff → inRanges Generated.set_host c = hostSet.has c) ∧
    (∀ c, c ≤ 0x10ffff → inRanges Generated.set_laxPath c = laxPathSet.has c) ∧ (∀ c, c ≤ 0x10ffff → inRanges Generated.set_laxQuery c = laxQuerySet.has c) ∧
    (∀ c, c ≤ 0x10ffff → inRanges Generated.set_repeatedQuery c = repeatedQuerySet.has c) := by
  refine ⟨?_, ?_, ?_, ?_, ?_, ?_, ?_, ?_, ?_, ?_, ?_⟩ <;>
    exact inRanges_lift _ _ (by decide) (by intro c hc; simp [PSet.has, hc]) (by decide)

/-- each named set of the Go package — dumped by executing `RuneShouldBeEncoded` on every code point of the freshly built
    package — contains exactly the code points the standard lists, for every scalar value -/
theorem C10_generated_tables :
    (∀ c, c ≤ 0x10ffff → inRanges Generated.set_c0 c = Spec.c0ControlSet c) ∧
    (∀ c, c ≤ 0x10ffff → inRanges Generated.set_fragment c = Spec.fragmentSet c) ∧
    (∀ c, c ≤ 0x10ffff → inRanges Generated.set_query c = Spec.querySet c) ∧
    (∀ c, c ≤ 0x10ffff → inRanges Generated.set_specialQuery c = Spec.specialQuerySet c) ∧
    (∀ c, c ≤ 0x10ffff → inRanges Generated.set_path c = Spec.pathSet c) ∧
    (∀ c, c ≤ 0x10ffff → inRanges Generated.set_userinfo c = Spec.userinfoSet c) := by
  obtain ⟨m0, -, m1, m2, m3, m4, m5, -⟩ := C10_model_tables_are_generated
  obtain ⟨t0, t1, t2, t3, t4, t5⟩ := C10_tables
  exact ⟨fun c hc => (m0 c hc).trans (t0 c), fun c hc => (m1 c hc).trans (t1 c), fun c hc => (m2 c hc).trans (t2 c),
    fun c hc => (m3 c hc).trans (t3 c), fun c hc => (m4 c hc).trans (t4 c), fun c hc => (m5 c hc).trans (t5 c)⟩

end WhatwgUrl.Props.C10t
