import WhatwgUrl.Props.C17c
import WhatwgUrl.Props.C18e
/-
  C17d — C17 for the GoogleSafeBrowsing and Semantic profiles (`gsbProfile`, `semanticProfile` of Impl/Profiles.lean, tied
  to the Go profile objects by the `LPROF` leaf of the correspondence) on the texts `scheme://host/seg…?q#f` of the grammar
  `WebText`: no credentials, no port (those are C17f); what else the grammar leaves out is listed in the header of C17c.

  `C17_gsb_idempotent` and `C17_semantic_idempotent` are the theorems of C17c with the hypothesis `HalfB cfg I` (the parse
  of such a text is the record with exactly these components) discharged at `gsbCfg` and `semanticCfg`, so that nothing
  is assumed about the configuration; `C17_web_idempotent` has `WebCfg p.cfg` in its place.
  What remains assumed is host stability, `hst`: the serialized host is stable under the profile's own host parser.  It is
  no theorem for hosts that went through IDNA (finding F6; witness for the default parser options:
  `C17c.C17c_host_stability_needed`) and false under GoogleSafeBrowsing for an all-dots host text
  (`C17e.C17e_hst_false_gsb`); C17e proves it for the decidable class `EasyTextH` of host texts.
-/
namespace WhatwgUrl.Props.C17d
open WhatwgUrl WhatwgUrl.Impl WhatwgUrl.Proofs.Pipeline
open WhatwgUrl.Props.C17b (canonText)
open WhatwgUrl.Props.C18d (render WebText)
open WhatwgUrl.Proofs.Spelling (hostText)
open WhatwgUrl.Proofs.Web (WebCfg)

theorem halfB_gsb (I : Idna) : C17c.HalfB gsbCfg I := C17c.halfB_of_webCfg _ C18e.C18e_webCfg_gsb.toWebParseCfg I
theorem halfB_semantic (I : Idna) : C17c.HalfB semanticCfg I :=
  C17c.halfB_of_webCfg _ C18e.C18e_webCfg_semantic.toWebParseCfg I

theorem C17_gsb_idempotent (I : Idna) (s dp a : Bytes) (hsd : gsbCfg.special? s = some dp) (hdp : dp ≠ [])
    (ha : hostText a = true) (segs : List Bytes) (q : Option (List (Bytes × Bytes))) (f : Option Bytes) (hw : WebText segs q f)
    (hst : ∀ h, (parseHost gsbCfg I {} a false).out = .ok h →
      hostText h = true ∧ decodeEncode hostSet h = h ∧ (parseHost gsbCfg I {} h false).out = .ok h)
    (H H' : Heap) (t : Bytes)
    (ht : canonText (canonParse I gsbProfile H (render (s ++ lit "://" ++ a) segs q f)) = some t) :
    canonText (canonParse I gsbProfile H' t) = some t :=
  C17c.C17c_gsb_idempotent I (halfB_gsb I) s dp a hsd hdp ha segs q f hw hst H H' t ht

theorem C17_semantic_idempotent (I : Idna) (s dp a : Bytes) (hsd : semanticCfg.special? s = some dp) (hdp : dp ≠ [])
    (ha : hostText a = true) (segs : List Bytes) (q : Option (List (Bytes × Bytes))) (f : Option Bytes) (hw : WebText segs q f)
    (hst : ∀ h, (parseHost semanticCfg I {} a false).out = .ok h →
      hostText h = true ∧ decodeEncode hostSet h = h ∧ (parseHost semanticCfg I {} h false).out = .ok h)
    (H H' : Heap) (t : Bytes)
    (ht : canonText (canonParse I semanticProfile H (render (s ++ lit "://" ++ a) segs q f)) = some t) :
    canonText (canonParse I semanticProfile H' t) = some t :=
  C17c.C17c_semantic_idempotent I (halfB_semantic I) s dp a hsd hdp ha segs q f hw hst H H' t ht

/-- `hc` is what `canonicalize` needs of the configuration, `hW` what the parse needs; neither implies the other (header
    of C17c) -/
theorem C17_web_idempotent (I : Idna) (p : Profile) (hp : p.repeatedPercentDecoding = true) (hk : HooksOk p.cfg)
    (hc : WhatwgUrl.Proofs.Idem.CfgWeb p.cfg) (hW : WebCfg p.cfg) (s dp a : Bytes) (hsd : p.cfg.special? s = some dp) (hdp : dp ≠ [])
    (ha : hostText a = true) (segs : List Bytes) (q : Option (List (Bytes × Bytes))) (f : Option Bytes) (hw : WebText segs q f)
    (hst : C17c.HostStableC p.cfg I s a) (H H' : Heap) (t : Bytes)
    (ht : canonText (canonParse I p H (render (s ++ lit "://" ++ a) segs q f)) = some t) :
    canonText (canonParse I p H' t) = some t :=
  C17c.C17c_web_idempotent I p hp hk hc (C17c.halfB_of_webCfg _ hW.toWebParseCfg I) s dp a hsd hdp ha segs q f hw hst H H' t ht

end WhatwgUrl.Props.C17d
#print axioms WhatwgUrl.Props.C17d.C17_gsb_idempotent
#print axioms WhatwgUrl.Props.C17d.C17_semantic_idempotent
#print axioms WhatwgUrl.Props.C17d.C17_web_idempotent
