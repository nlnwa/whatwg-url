import WhatwgUrl.Generated.Facts
/-
  C12t — the part of C12 that is stated over facts REGENERATED from the Go source on every run (T1); imported by nothing,
  so that a change of the source that breaks one of them takes no model-level theorem down with it.
-/
namespace WhatwgUrl.Props.C12t

-- `Generated.spMethods` has an entry for every exported method of `SearchParams`: (method name, calls `update()` `m.2.1`,
-- assigns `s.params` or a pair `m.2.2`)
theorem C12_mutators_write_through : ∀ m ∈ Generated.spMethods, m.2.2 = true → m.2.1 = true := by decide

/-- `SetSearch` calls the in-place re-initialisation of the list, its creation and the parser.  The callee list says no
    more: that an existing list object is never replaced (a handle obtained before stays the URL's list) is
    `C12.C12_reinit`, about the model. -/
theorem C12_setsearch_reinit : ∀ c ∈ Generated.callees, c.1 = "Url.SetSearch" →
    "u.searchParams.init" ∈ c.2 ∧ "u.newUrlSearchParams" ∈ c.2 ∧ "u.parser.BasicParser" ∈ c.2 := by decide

end WhatwgUrl.Props.C12t
