import WhatwgUrl.Props.C10
import WhatwgUrl.Proofs.Utf8
/-
  C10b — Go-level consequences of the encoder laws of C10, through the UTF-8 round trip
  (`goRunes (utf8 s) = s`, Proofs/Utf8.lean): the Go encoder `percentEncodeString` (bytes → bytes, reading its input as
  `[]rune`) is idempotent for every set that contains neither `%` nor a hex digit, and leaves nothing of the set behind.
-/
namespace WhatwgUrl.Props.C10b
open WhatwgUrl WhatwgUrl.Impl WhatwgUrl.Proofs.Utf8 WhatwgUrl.Props

/-- what Go reads back from the encoder's output is the standard's encoding of what it read from the input -/
theorem C10_go_runes_encode (tr : PSet) (s : Bytes) :
    goRunes (percentEncodeString Cfg.default tr s) = Spec.utf8PercentEncode tr.has (goRunes s) := by
  rw [C10.C10_codec_conforms_encode, goRunes_utf8]

theorem C10_go_output_valid (tr : PSet) (s : Bytes) : validUtf8 (percentEncodeString Cfg.default tr s) = true := by
  rw [C10.C10_codec_conforms_encode]; exact validUtf8_utf8 _

theorem C10_go_idempotent (tr : PSet) (h : C10.EscStable tr.has) (s : Bytes) :
    percentEncodeString Cfg.default tr (percentEncodeString Cfg.default tr s) = percentEncodeString Cfg.default tr s := by
  rw [C10.C10_codec_conforms_encode tr (percentEncodeString Cfg.default tr s), C10_go_runes_encode,
    C10.C10_idempotent _ h, ← C10.C10_codec_conforms_encode]

theorem C10_go_nothing_left (tr : PSet) (h : C10.EscStable tr.has) (s : Bytes) :
    ∀ c ∈ goRunes (percentEncodeString Cfg.default tr s), tr.has c.toNat = false := by
  rw [C10_go_runes_encode]
  exact C10.C10_nothing_left _ h _

example (s : Bytes) : percentEncodeString Cfg.default pathSet (percentEncodeString Cfg.default pathSet s) =
    percentEncodeString Cfg.default pathSet s := C10_go_idempotent _ C10.C10_named_sets_ok.2.2.2.1 s
example (s : Bytes) : ∀ c ∈ goRunes (percentEncodeString Cfg.default userinfoSet s), userinfoSet.has c.toNat = false :=
  C10_go_nothing_left _ C10.C10_named_sets_ok.2.2.2.2.1 s

/-- well-formed 2- and 4-byte code points, an ill-formed byte (0xE9 alone, read as U+FFFD) and an encoded
    surrogate (three ill-formed bytes) -/
example : percentEncodeString Cfg.default pathSet [0x61, 0x20, 0xC3, 0xA9, 0xF0, 0x9F, 0x98, 0x80, 0xE9] =
    lit "a%20%C3%A9%F0%9F%98%80%EF%BF%BD" := by decide +kernel
example : percentEncodeString Cfg.default pathSet (lit "a%20%C3%A9%F0%9F%98%80%EF%BF%BD") =
    lit "a%20%C3%A9%F0%9F%98%80%EF%BF%BD" := by decide +kernel
example : percentEncodeString Cfg.default pathSet [0xED, 0xA0, 0x80] = lit "%EF%BF%BD%EF%BF%BD%EF%BF%BD" := by
  decide +kernel

/-- the hypothesis marks the boundary (as in `C10_idempotent`): with `%` in the set (here `pathSet.set 0x25`) the Go encoder
    is not idempotent.  The canonicalizer adds `%` in the same way: `canonEncode tr` (`Impl/Canon.lean`) encodes with
    `tr.set 0x25`, for `tr` one of `hostSet`, `laxPathSet`, `repeatedQuerySet` and through the byte-level
    `percentEncodeBytes`, not through `percentEncodeString`. -/
example : (pathSet.set 0x25).has 0x25 = true ∧
    percentEncodeString Cfg.default (pathSet.set 0x25) (lit "%") = lit "%25" ∧
    percentEncodeString Cfg.default (pathSet.set 0x25) (lit "%25") = lit "%2525" := by decide +kernel

end WhatwgUrl.Props.C10b
