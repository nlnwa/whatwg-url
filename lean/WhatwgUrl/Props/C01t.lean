import WhatwgUrl.Impl.Api
import WhatwgUrl.Spec.Url
import WhatwgUrl.Generated.Facts
import WhatwgUrl.Proofs.Percent
import WhatwgUrl.Props.C01
import WhatwgUrl.Props.C10t
/-
  C01t — what C01 reads off the Go SOURCE, regenerated on every run (T1), and not off the model: the default special
  schemes with their ports, the six percent-encode sets the parser consults and the forbidden host / domain code points are
  the standard's; the ASCII classes are the model's.  Nothing here speaks of what the parser does with them: that is `C01b`.
  A module of its own, imported by no model-level module: a change of the source that breaks one of these facts does not
  take the model-level theorems down with it.
-/
namespace WhatwgUrl.Props.C01t
open WhatwgUrl WhatwgUrl.Impl
open WhatwgUrl.Props.C01

/-- the default special-scheme table (regenerated from the Go code) is the standard's -/
theorem C01_special_schemes :
    Generated.defaultSpecialSchemes = [("file", ""), ("ftp", "21"), ("http", "80"), ("https", "443"), ("ws", "80"), ("wss", "443")] ∧
    (Cfg.default.specialSchemes.map fun p => (goRunes p.1, if p.2 = [] then none else some (digitsVal 10 p.2))) = Spec.specialSchemes := by
  constructor <;> decide

/-- every percent-encode set the parser consults, as regenerated from the Go code by executing `RuneShouldBeEncoded` on
    all code points, is the standard's set — for every scalar value -/
theorem C01_tables :
    (∀ c, c ≤ 0x10ffff → inRanges Generated.set_c0 c = Spec.c0ControlSet c) ∧
    (∀ c, c ≤ 0x10ffff → inRanges Generated.set_fragment c = Spec.fragmentSet c) ∧
    (∀ c, c ≤ 0x10ffff → inRanges Generated.set_query c = Spec.querySet c) ∧
    (∀ c, c ≤ 0x10ffff → inRanges Generated.set_specialQuery c = Spec.specialQuerySet c) ∧
    (∀ c, c ≤ 0x10ffff → inRanges Generated.set_path c = Spec.pathSet c) ∧
    (∀ c, c ≤ 0x10ffff → inRanges Generated.set_userinfo c = Spec.userinfoSet c) := C10t.C10_generated_tables

/-- forbidden host / domain code points and the character classes, as regenerated from the Go bit sets -/
theorem C01_bitsets :
    (∀ c, c < 256 → inRanges Generated.bitset_forbiddenhost c = Spec.forbiddenHostCp c) ∧
    (∀ c, c < 256 → inRanges Generated.bitset_forbiddendomain c = Spec.forbiddenDomainCp c) ∧
    (∀ c, c < 256 → inRanges Generated.bitset_alpha c = isAlphaN c) ∧
    (∀ c, c < 256 → inRanges Generated.bitset_digit c = isDigitN c) ∧
    (∀ c, c < 256 → inRanges Generated.bitset_hex c = isHexN c) ∧
    (∀ c, c < 256 → inRanges Generated.bitset_alnum c = isAlnumN c) := by
  refine ⟨?_, ?_, ?_, ?_, ?_, ?_⟩ <;> intro c hc <;> (revert hc; revert c; decide +kernel)

set_option maxRecDepth 100000 in
/-- non-vacuity of the conformance statement's two sides on a concrete URL -/
example : obsImpl (parse {} (fun s => (s, false)) (lit "HTTP://u@[::1]:80/a/../b?q#f")) =
    obsSpec (Spec.apiParse (specIdna fun s => (s, false)) "HTTP://u@[::1]:80/a/../b?q#f".toList none) := by decide +kernel

end WhatwgUrl.Props.C01t
