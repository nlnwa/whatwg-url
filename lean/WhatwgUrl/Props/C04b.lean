import WhatwgUrl.Proofs.WellFormed2
import WhatwgUrl.Proofs.Setters
/-
  C04 (structural half) — after any parse and any sequence of setter and resolve calls the URL record satisfies the
  standard's structural invariants `WFs`.  `WFs`, `portOk`, `schemeOk`, `CfgOk`, `CanPort` and the machine invariant `J`
  are declared in namespace `WhatwgUrl.Props.C04b` but in the file `Proofs/WellFormed.lean` (the machine proof:
  `Proofs/WellFormed2.lean`).  `WFs cfg u` is the conjunction of
      schemeOk u.scheme                                  (alpha *(alnum / + / - / .), lower case)
      special scheme → host ≠ null ∧ (host = "" → scheme = file) ∧ list path ∧ path ≠ []
      opaque path → host = null ∧ exactly one path element            (`WFsE`, below: the same with `∃ s, segs = [s]`)
      username ≠ "" ∨ password ≠ "" ∨ port ≠ null → host ≠ null ∧ host ≠ "" ∧ scheme ≠ file
      portOk cfg u                                       (canonical decimal ≤ 65535, cache in sync, not the default port)
      scheme = file → host ≠ null

  Hypotheses (all satisfied by the default configuration; each one is needed, see the counterexamples below):
   * `CfgOk cfg I`: `skipTrailingSlash = false`, `preHost = none`, `postHost = none`, and the oracle hypothesis
     `IdnaNonEmpty I` (the IDNA oracle never answers "error, empty output" on a non-empty ASCII-or-misc input — the only
     way the ASCII fallback of `toASCII` could produce an empty domain);
   * for the protocol setter: `file` is a special scheme (the special↔non-special guard of `stScheme` is what keeps a
     host-less non-special url from becoming a `file:` url);
   * for the pathname setter: `failOnVErr = false` (FINDING: in fail-on-validation-error mode the parser stops at the
     first non-fatal validation error and the setter keeps the url whose path has already been reset).
-/
namespace WhatwgUrl.Props.C04b
open WhatwgUrl.Impl WhatwgUrl.Proofs.HostWF

/-! ### parse -/

theorem C04_parse_WFs (cfg : Cfg) (I : Idna) (input : Bytes) (base : Option Url) (hb : ∀ b, base = some b → WFs cfg b)
    (hcfg : CfgOk cfg I) :
    (basicParser cfg I input base none none).ret = .url → WFs cfg (basicParser cfg I input base none none).url :=
  parse_WFs cfg I input base hb hcfg

/-- the same with the hypotheses spelled out -/
theorem C04_parse_WFs' (cfg : Cfg) (I : Idna) (input : Bytes) (base : Option Url) (hb : ∀ b, base = some b → WFs cfg b)
    (hc : cfg.skipTrailingSlash = false) (hpre : cfg.preHost = none) (hpost : cfg.postHost = none) (hI : IdnaNonEmpty I) :
    (basicParser cfg I input base none none).ret = .url → WFs cfg (basicParser cfg I input base none none).url :=
  C04_parse_WFs cfg I input base hb ⟨hc, hpre, hpost, hI⟩

theorem C04_parse_WFs_default (I : Idna) (hI : IdnaNonEmpty I) (input : Bytes) (base : Option Url)
    (hb : ∀ b, base = some b → WFs {} b) :
    (basicParser {} I input base none none).ret = .url → WFs {} (basicParser {} I input base none none).url :=
  C04_parse_WFs {} I input base hb (CfgOk_default I hI)

/-! ### resolve -/

theorem C04_resolve_WFs (cfg : Cfg) (I : Idna) (ref : Bytes) (b : Url) (hb : WFs cfg b) (hcfg : CfgOk cfg I) :
    (urlParse cfg I b ref).ret = .url → WFs cfg (urlParse cfg I b ref).url :=
  C04_parse_WFs cfg I ref (some b) (by intro b' h; cases h; exact hb) hcfg

/-! ### setters -/

theorem cannotHaveUPP_false {u : Url} (h : ¬ cannotHaveUPP u = true) : CanPort u := by
  simp only [cannotHaveUPP, Bool.or_eq_true, beq_iff_eq, not_or] at h
  exact ⟨h.1.1, h.1.2, h.2⟩

/-- the machine invariant at the start of a setter's override run on a well-formed url (every override state except
    `pathStart`, whose url has had its path reset) -/
theorem J_start {cfg : Cfg} {I : Idna} {src : Bytes} {runes : Str} {base : Option Url} {u u2 : Url} {st : State}
    (hs : Same u u2) (hu : WFs cfg u)
    (hst : st = .schemeStart ∨ ((st = .host ∨ st = .hostname) ∧ ¬ u.path.opq = true) ∨ (st = .port ∧ CanPort u) ∨
      st = .query ∨ st = .fragment) :
    J { cfg := cfg, I := I, src := src, runes := runes, base := base, ov := some st } (Proofs.Machine.start st u2) 0 := by
  have hw : WFs cfg u2 := (WFs_same hs).mpr hu
  rcases hst with rfl | ⟨hst, ho⟩ | ⟨rfl, c1, c2, c3⟩ | rfl | rfl
  · exact ⟨rfl, Or.inr ⟨rfl, hw⟩⟩
  · have hop : u2.path.opq = false := by rw [hs.path]; simpa using ho
    rcases hst with rfl | rfl <;> exact Or.inr ⟨rfl, hw, hop⟩
  · refine ⟨((WFs_iff _ _).mp hw).1, ?_, (by intro h; cases h), fun _ => hw⟩
    unfold CanPort
    rw [hs.1, hs.2.2.2.1]; exact ⟨c1, c2, c3⟩
  · exact hw
  · exact hw

theorem setCred_WFs (cfg : Cfg) (u : Url) (x y : Bytes) (hu : WFs cfg u) (hc : CanPort u) :
    WFs cfg { u with username := x, password := y } := by
  obtain ⟨c1, c2, c3⟩ := hc
  unfold WFs at hu ⊢
  rw [portOk_eq] at hu ⊢
  obtain ⟨h1, h2, h3, h4, h5, h6⟩ := hu
  exact ⟨h1, h2, h3, fun _ => ⟨c1, c2, c3⟩, h5, h6⟩

theorem strip_WFs (cfg : Cfg) (u : Url) (p : Path) (hu : WFs cfg u) (h : stripTrailingSpacesIfOpaque u.path = some p) :
    WFs cfg { u with path := p } := by
  rcases (Proofs.Setters.strip_eq_some_iff _ _).1 h with ⟨_, rfl⟩ | ⟨ho, s0, rest, hs, rfl⟩
  · exact hu
  · unfold WFs at hu ⊢
    rw [portOk_eq] at hu ⊢
    obtain ⟨h1, h2, h3, h4, h5, h6⟩ := hu
    refine ⟨h1, ?_, ?_, h4, h5, h6⟩
    · intro hsp; have := (h2 hsp).2.2.1; rw [ho] at this; cases this
    · intro _; have := h3 ho; rw [hs] at this; exact ⟨this.1, by simpa using this.2⟩

/-- the machine invariant at the start of every override run of a setter on a well-formed url -/
theorem J_of_run {cfg : Cfg} {I : Idna} {src : Bytes} {runes : Str} {base : Option Url} {u u' u2 : Url} {s : Setter}
    {st : State} (h : Proofs.Setters.Run u s st u') (hu : WFs cfg u) (hs : Same u' u2) :
    J { cfg := cfg, I := I, src := src, runes := runes, base := base, ov := some st } (Proofs.Machine.start st u2) 0 := by
  cases h
  case protocol => exact J_start hs hu (Or.inl rfl)
  case host ho => exact J_start hs hu (Or.inr (Or.inl ⟨Or.inl rfl, ho⟩))
  case hostname ho => exact J_start hs hu (Or.inr (Or.inl ⟨Or.inr rfl, ho⟩))
  case port hc => exact J_start hs hu (Or.inr (Or.inr (Or.inl ⟨rfl, cannotHaveUPP_false hc⟩)))
  case pathname =>
    obtain ⟨h1, h2, h3, h4, h5, h6, h7, -⟩ := hs
    have ha := ((WFs_iff _ _).mp hu).1
    refine ⟨?_, h7, Or.inr rfl⟩
    unfold WFa at ha ⊢
    rw [h1, h2, h3, h4, h5, h6]; exact ha
  case search => exact J_start hs hu (Or.inr (Or.inr (Or.inr (Or.inl rfl))))
  case hash => exact J_start hs hu (Or.inr (Or.inr (Or.inr (Or.inr rfl))))

/-- every setter keeps the record well-formed, whatever the inner parser call returned -/
theorem C04_setter_WFs (cfg : Cfg) (I : Idna) (s : Setter) (u : Url) (v : Bytes) (hu : WFs cfg u) (hcfg : CfgOk cfg I)
    (hfile : s = .protocol → cfg.isSpecial (lit "file") = true)
    (hfail : s = .pathname → cfg.failOnVErr = false) : WFs cfg (setU cfg I s u v).url := by
  refine Proofs.Setters.setU_cases cfg I s u v (R := fun r => WFs cfg r.url) (fun r h => ?_) (fun st u' input h => ?_)
  · -- the results without a parser run replace fields that `WFs` does not read, or credentials / port where there may be some
    cases h
    case keep => exact hu
    case username | password => exact setCred_WFs cfg u _ _ hu (cannotHaveUPP_false ‹_›)
    case port h =>
      obtain ⟨c1, c2, c3⟩ := cannotHaveUPP_false h
      unfold WFs at hu ⊢
      rw [portOk_eq] at hu ⊢
      obtain ⟨h1, h2, h3, h4, h5, h6⟩ := hu
      exact ⟨h1, h2, h3, fun _ => ⟨c1, c2, c3⟩, rfl, h6⟩
    case searchStrip p h | hashStrip p h => exact strip_WFs cfg u p hu h
    case searchNone | hashNone => exact hu
  · -- the runs: `J` holds at the start; a prologue that stops returns the prepared url
    apply basicParser_WF cfg I _ none (some u') (some st) hcfg (by intro b h; cases h)
    · rintro ⟨⟩; cases h; exact hfile rfl
    · rintro ⟨⟩; cases h; exact hfail rfl
    · intro hs _
      cases h
      case pathname => rw [(Proofs.Machine.stops_false_iff cfg).2 (hfail rfl)] at hs; cases hs
      all_goals exact hu
    · exact fun u2 hs => J_of_run h hu hs
    · exact Or.inl rfl

/-- the full statement one would like (no restriction on `failOnVErr`); it is FALSE, see below -/
def C04_setter_WFs_Statement : Prop :=
  ∀ (cfg : Cfg) (I : Idna) (s : Setter) (u : Url) (v : Bytes), WFs cfg u → CfgOk cfg I →
    cfg.isSpecial (lit "file") = true → WFs cfg (setU cfg I s u v).url

/-- what is proved: the extra hypothesis is the decidable `s = .pathname → cfg.failOnVErr = false` -/
theorem C04_setter_WFs_partial (cfg : Cfg) (I : Idna) (s : Setter) (u : Url) (v : Bytes) (hu : WFs cfg u) (hcfg : CfgOk cfg I)
    (hfile : cfg.isSpecial (lit "file") = true) (hfail : s = .pathname → cfg.failOnVErr = false) :
    WFs cfg (setU cfg I s u v).url :=
  C04_setter_WFs cfg I s u v hu hcfg (fun _ => hfile) hfail

theorem C04_setter_WFs_default (I : Idna) (hI : IdnaNonEmpty I) (s : Setter) (u : Url) (v : Bytes) (hu : WFs {} u) :
    WFs {} (setU {} I s u v).url :=
  C04_setter_WFs {} I s u v hu (CfgOk_default I hI) (fun _ => by decide) (fun _ => rfl)

/-! ### any sequence of parse / resolve / setter calls -/

/-- the url records reachable through the API (value level): a successful parse, a successful resolve against a
    reachable url, any setter call on a reachable url (whatever the setter's inner parser call returned).  A parse with a
    base text has no constructor of its own: a successful `Impl.parseRef cfg I raw ref` is `parse cfg I ref` (empty `raw`) or
    `urlParse cfg I (parse cfg I raw).url ref`, i.e. `parse` followed by `resolve` (by the definition of `parseRef`). -/
inductive Reach (cfg : Cfg) (I : Idna) : Url → Prop
  | parse (input : Bytes) : (parse cfg I input).ret = .url → Reach cfg I (parse cfg I input).url
  | resolve (b : Url) (ref : Bytes) : Reach cfg I b → (urlParse cfg I b ref).ret = .url → Reach cfg I (urlParse cfg I b ref).url
  | set (s : Setter) (u : Url) (v : Bytes) : Reach cfg I u → Reach cfg I (setU cfg I s u v).url

theorem C04_reachable_WFs (cfg : Cfg) (I : Idna) (hcfg : CfgOk cfg I) (hfile : cfg.isSpecial (lit "file") = true)
    (hfail : cfg.failOnVErr = false) (u : Url) (h : Reach cfg I u) : WFs cfg u := by
  induction h with
  | parse input hr => exact C04_parse_WFs cfg I input none (by intro b h; cases h) hcfg hr
  | resolve b ref _ hr ih => exact C04_resolve_WFs cfg I ref b ih hcfg hr
  | set s u v _ ih => exact C04_setter_WFs cfg I s u v ih hcfg (fun _ => hfile) (fun _ => hfail)

theorem C04_reachable_WFs_default (I : Idna) (hI : IdnaNonEmpty I) (u : Url) (h : Reach {} I u) : WFs {} u :=
  C04_reachable_WFs {} I (CfgOk_default I hI) (by decide) rfl u h

/-! ### the literal form of the opaque-path clause -/

/-- `WFs` with the opaque-path clause phrased with `∃` as in the property text -/
def WFsE (cfg : Cfg) (u : Url) : Prop :=
  schemeOk u.scheme = true ∧
  (cfg.isSpecial u.scheme = true → u.host ≠ none ∧ (u.host = some [] → u.scheme = lit "file") ∧ u.path.opq = false ∧ u.path.segs ≠ []) ∧
  (u.path.opq = true → u.host = none ∧ ∃ s, u.path.segs = [s]) ∧
  ((u.username ≠ [] ∨ u.password ≠ [] ∨ u.port ≠ none) → u.host ≠ none ∧ u.host ≠ some [] ∧ u.scheme ≠ lit "file") ∧
  portOk cfg u = true ∧
  (u.scheme = lit "file" → u.host ≠ none)

theorem WFs_iff_WFsE (cfg : Cfg) (u : Url) : WFs cfg u ↔ WFsE cfg u := by
  unfold WFs WFsE
  have : u.path.segs.length = 1 ↔ ∃ s, u.path.segs = [s] := List.length_eq_one_iff
  rw [this]

/-! ### non-vacuity -/

/-- the oracle of the examples of this file: the identity, no error flag -/
private def I0 : Idna := fun s => (s, false)
private theorem hI0 : IdnaNonEmpty I0 := by intro s _ h; cases h

/-- the identity oracle and an always-failing oracle that echoes its input both satisfy the oracle hypothesis -/
example : IdnaNonEmpty (fun s => (s, false)) := hI0
example : IdnaNonEmpty (fun s => (s, true)) := by intro s h _ _; exact h
example : CfgOk {} (fun s => (s, false)) := CfgOk_default _ hI0
/-- the default table has `file` as a special scheme, and the default does not fail on validation errors -/
example : (Cfg.isSpecial {} (lit "file") = true) ∧ ({} : Cfg).failOnVErr = false := by decide

/-- the parser really returns a url and it is well-formed (decided by evaluation) … -/
example : (basicParser {} I0 (lit "HTTP://u:p@[::1]:8080/a/../b?q#f") none none none).ret = .url := by decide +kernel
example : WFs {} (basicParser {} (fun s => (s, false)) (lit "HTTP://u:p@[::1]:8080/a/../b?q#f") none none none).url := by
  decide +kernel
/-- … and by the theorem -/
example : WFs {} (basicParser {} I0 (lit "HTTP://u:p@[::1]:8080/a/../b?q#f") none none none).url :=
  C04_parse_WFs_default I0 hI0 _ none (by intro b h; cases h) (by decide +kernel)

/-- a well-formed base (hypothesis `hb` is satisfiable) and a resolve against it, through the theorem -/
private def bEx : Url := { scheme := lit "http", host := some (lit "h"), path := ⟨[lit "a"], false⟩ }
example : WFs {} bEx := by decide +kernel
example : (urlParse {} I0 bEx (lit "../x?y")).ret = .url ∧ (urlParse {} I0 bEx (lit "../x?y")).url.path.segs = [lit "x"] := by
  decide +kernel
example : WFs {} (urlParse {} I0 bEx (lit "../x?y")).url :=
  C04_resolve_WFs {} I0 _ bEx (by decide +kernel) (CfgOk_default _ hI0) (by decide +kernel)

/-- setters: the url really changes, and stays well-formed (by the theorem) -/
example : (setU {} I0 .port bEx (lit "8080")).url.port = some (lit "8080") ∧
    (setU {} I0 .protocol bEx (lit "ws")).url.scheme = lit "ws" ∧
    (setU {} I0 .pathname bEx (lit "/p/../q")).url.path.segs = [lit "q"] ∧
    (setU {} I0 .host bEx (lit "[::1]:81")).url.host = some (lit "[::1]") ∧
    (setU {} I0 .username bEx (lit "me")).url.username = lit "me" := by decide +kernel
example : WFs {} (setU {} I0 .host bEx (lit "[::1]:81")).url :=
  C04_setter_WFs_default I0 hI0 .host bEx _ (by decide +kernel)
/-- a setter whose inner parser call fails keeps a well-formed url: the port state fails on "99999" -/
example : (setU {} I0 .port bEx (lit "99999")).ret ≠ .url ∧ WFs {} (setU {} I0 .port bEx (lit "99999")).url := by
  decide +kernel
/-- a chain parse → setter → resolve is `Reach`able -/
example : Reach {} I0 (urlParse {} I0 (setU {} I0 .port (parse {} I0 (lit "ws://[::1]/a")).url (lit "81")).url (lit "b")).url :=
  .resolve _ _ (.set _ _ _ (.parse _ (by decide +kernel))) (by decide +kernel)

/-! ### every hypothesis is needed (counterexamples, decided by evaluation) -/

/-- FINDING. In fail-on-validation-error mode the pathname setter breaks the record: `http://h/a`, `SetPathname("\\")`
    stops at the non-fatal `InvalidReverseSolidus` after the path was reset, the setter keeps the url: `http://h`
    (a special url with an EMPTY path).  The same happens with any value that triggers a non-fatal validation error
    (`"x\ty"`: tab removal; `"^"`: invalid URL unit). -/
theorem C04_setPathname_failOnVErr_counterexample :
    WFs { failOnVErr := true } bEx ∧
    (setU { failOnVErr := true } I0 .pathname bEx (lit "\\")).url.path.segs = [] ∧
    href (setU { failOnVErr := true } I0 .pathname bEx (lit "\\")).url false = lit "http://h" ∧
    ¬ WFs { failOnVErr := true } (setU { failOnVErr := true } I0 .pathname bEx (lit "\\")).url ∧
    ¬ WFs { failOnVErr := true } (setU { failOnVErr := true } I0 .pathname bEx (lit "x\ty")).url ∧
    ¬ WFs { failOnVErr := true } (setU { failOnVErr := true } I0 .pathname bEx (lit "^")).url := by decide +kernel

theorem C04_setter_WFs_Statement_false : ¬ C04_setter_WFs_Statement := by
  intro h
  have c := C04_setPathname_failOnVErr_counterexample
  exact c.2.2.2.1 (h { failOnVErr := true } I0 .pathname bEx (lit "\\") c.1 ⟨rfl, rfl, rfl, hI0⟩ (by decide +kernel))

/-- without `file` in the special-scheme table the protocol setter turns the host-less `sc:/p` into `file:/p` -/
private def cfgNoFile : Cfg := { specialSchemes := [(lit "http", lit "80")] }
private def uSc : Url := { scheme := lit "sc", path := ⟨[lit "p"], false⟩ }
example : WFs cfgNoFile uSc ∧ href (setU cfgNoFile I0 .protocol uSc (lit "file")).url false = lit "file:/p" ∧
    ¬ WFs cfgNoFile (setU cfgNoFile I0 .protocol uSc (lit "file")).url := by decide +kernel

/-- `skipTrailingSlash`: a special url with an empty path -/
example : (basicParser { skipTrailingSlash := true } I0 (lit "http://[::1]") none none none).ret = .url ∧
    ¬ WFs { skipTrailingSlash := true } (basicParser { skipTrailingSlash := true } I0 (lit "http://[::1]") none none none).url := by
  decide +kernel

/-- a `preHost` hook may empty the host of a special url -/
private def cfgPre : Cfg := { preHost := some fun _ _ => [] }
example : (basicParser cfgPre I0 (lit "http://x/") none none none).ret = .url ∧
    ¬ WFs cfgPre (basicParser cfgPre I0 (lit "http://x/") none none none).url := by decide +kernel

/-- the oracle hypothesis: an oracle that answers "error, empty output" makes `ToASCII` succeed with an empty domain through
    the ASCII fallback.  Only this fact about `toASCII` is stated; what a whole parse of `http://x/` returns under that
    oracle is stated by nothing here (it does not evaluate: remark on `decodePercent` in `Props/C02.lean`) -/
example : (match (toASCII {} (fun _ => ([], true)) {} (lit "x")).1 with | .ok a => a.isEmpty | .err _ => false) = true := by
  decide +kernel

end WhatwgUrl.Props.C04b

#print axioms WhatwgUrl.Props.C04b.C04_parse_WFs
#print axioms WhatwgUrl.Props.C04b.C04_parse_WFs_default
#print axioms WhatwgUrl.Props.C04b.C04_resolve_WFs
#print axioms WhatwgUrl.Props.C04b.C04_setter_WFs
#print axioms WhatwgUrl.Props.C04b.C04_setter_WFs_default
#print axioms WhatwgUrl.Props.C04b.C04_reachable_WFs
#print axioms WhatwgUrl.Props.C04b.C04_setter_WFs_Statement_false
