import WhatwgUrl.Proofs.Heap
import WhatwgUrl.Proofs.SpEval
/-
  C12 — a URL and its SearchParams describe the same query: the one-step theorems, for a url `i` whose list `s` points back
  at it (`hso`, `hown`).  Props/C12c.lean shows that this holds on every reachable heap, and has the interleavings.
  * After a mutation, Query and Search are the list's serialization: `C12_write_through`.  No theorem states the
    serialization (`href`): it follows from the record equation of `C12c.C12c_after_mutation` and is evaluated in an example.
  * After `SetSearch` the same list object holds the urlencoded parse of the query the setter leaves, and is empty after the
    query is cleared: `C12_reinit`.
  * The other eight setters do not touch the lists: `C12_frame_list`.  Of the query it says only that it changes by what the
    value-level setter does; that this leaves the query alone is Props/C12b.lean.
  * Lazy creation yields the parse of the current query: `C12_lazy_creation`.
  The facts regenerated from the Go source are in Props/C12t.lean.
-/
namespace WhatwgUrl.Props.C12
open WhatwgUrl WhatwgUrl.Impl WhatwgUrl.Proofs

theorem C12_write_through (H : Heap) (i s : Nat) (m : Heap.SpMut) (o : UrlObj) (so : SpObj)
    (ho : H.urls[i]? = some o) (hs : o.sp = some s) (hso : H.sps[s]? = some so) (hown : so.url = some i) :
    let H' := H.spMutate s m
    ∃ o' so', H'.urls[i]? = some o' ∧ H'.sps[s]? = some so' ∧ so'.params = Heap.applyMut m so.params ∧
      o'.sp = some s ∧ queryG o'.u = spString o.cfg so'.params ∧
      (search o'.u = if spString o.cfg so'.params = [] then [] else 0x3f :: spString o.cfg so'.params) := by
  intro H'
  obtain ⟨hsps, hu⟩ := Heap.spMutate_owner H i s m o so ho hso hown
  exact ⟨_, _, hu, hsps, rfl, hs, Heap.updQuery_getD _ _, Heap.search_updQuery _ _⟩

theorem C12_write_through_inSync (H : Heap) (i s : Nat) (m : Heap.SpMut) (o : UrlObj) (so : SpObj)
    (ho : H.urls[i]? = some o) (hs : o.sp = some s) (hso : H.sps[s]? = some so) (hown : so.url = some i) :
    InSync (H.spMutate s m) i ∧ OwnSp (H.spMutate s m) i := by
  obtain ⟨hsps, hu⟩ := Heap.spMutate_owner H i s m o so ho hso hown
  constructor
  · intro o2 ho2 s2 hs2 so2 hso2
    rw [hu] at ho2; cases ho2
    cases hs.symm.trans hs2
    rw [hsps] at hso2; cases hso2
    exact Heap.updQuery_getD _ _
  · intro o2 ho2 s2 hs2
    rw [hu] at ho2; cases ho2
    cases hs.symm.trans hs2
    exact ⟨_, hsps, hown⟩

/-- The hypothesis `∀ n, r.2 ≠ .panic n` is not used (`C12c.C12c_after_setSearch` has none). -/
theorem C12_reinit (I : Idna) (H : Heap) (i s : Nat) (v : Bytes) (o : UrlObj) (so : SpObj)
    (ho : H.urls[i]? = some o) (hs : o.sp = some s) (hso : H.sps[s]? = some so) (hown : so.url = some i) :
    let r := H.setSearch I i v
    (∀ n, r.2 ≠ .panic n) → ∃ o' so', r.1.urls[i]? = some o' ∧ o'.sp = some s ∧ r.1.sps[s]? = some so' ∧ so'.url = some i ∧
      (v = [] → so'.params = [] ∧ o'.u.query = none) ∧
      (v ≠ [] → ∃ q, o'.u.query = some q ∧ so'.params = spInit o.cfg q) := by
  intro r _
  obtain ⟨hu, hl⟩ := Heap.setSearch_of_list_spec I H i s v o so ho hs hso hown
  obtain ⟨hE, hN⟩ := Heap.setSearchU_params o.cfg I o.u v
  exact ⟨_, _, hu, hs, hl, hown, fun hv => ⟨(hE hv).2, (hE hv).1⟩, hN⟩

theorem C12_frame_list (I : Idna) (H : Heap) (i : Nat) (st : Setter) (v : Bytes) (hst : st ≠ .search) :
    (H.set I i st v).1.sps = H.sps ∧ ∀ o, H.urls[i]? = some o → ∃ o', (H.set I i st v).1.urls[i]? = some o' ∧ o'.sp = o.sp ∧ o'.u = (setU o.cfg I st o.u v).url := by
  rw [Heap.set_eq_of_ne_search I H i st v hst]
  cases h : H.urls[i]? with
  | none => exact ⟨rfl, fun o ho => by cases ho⟩
  | some uo =>
    refine ⟨Heap.setValue_sps _ _ _, ?_⟩
    intro o ho; cases ho
    refine ⟨{ uo with u := (setU uo.cfg I st uo.u v).url }, ?_, rfl, rfl⟩
    show (H.setValue i _).urls[i]? = _
    rw [Heap.setValue_urls_self, h]; rfl

theorem C12_lazy_creation (H : Heap) (i : Nat) (o : UrlObj) (ho : H.urls[i]? = some o) (hn : o.sp = none) :
    let r := H.searchParams i
    ∃ s so o', r.2 = some s ∧ r.1.urls[i]? = some o' ∧ o'.sp = some s ∧ o'.u = o.u ∧ r.1.sps[s]? = some so ∧ so.url = some i ∧
      so.params = (match o.u.query with | some q => spInit o.cfg q | none => []) := by
  intro r
  have hu : (H.newUrlSearchParams i).urls[i]? = some { o with sp := some H.sps.length } := by
    rw [Heap.newUrlSearchParams_eq H i o ho, Heap.attach_urls H i _ o ho, if_pos rfl]
  have hr : r = (H.newUrlSearchParams i, some H.sps.length) := by
    show H.searchParams i = _
    unfold Heap.searchParams
    simp only [ho, hn, hu]
    rfl
  refine ⟨H.sps.length, { url := some i, params := (match o.u.query with | some q => spInit o.cfg q | none => []) },
    { o with sp := some H.sps.length }, ?_, ?_, rfl, rfl, ?_, rfl, ?_⟩
  · rw [hr]
  · rw [hr]; exact hu
  · rw [hr]; show (H.newUrlSearchParams i).sps[H.sps.length]? = _
    rw [Heap.newUrlSearchParams_eq H i o ho, Heap.attach_sps]; exact List.getElem?_concat_length
  · cases o.u.query <;> rfl

/-- `http://h/?a=1` -/
def exU : Url := { scheme := lit "http", host := some (lit "h"), path := ⟨[[]], false⟩, query := some (lit "a=1") }
def exH0 : Heap := { urls := [{ u := exU, sp := none, cfg := {} }], sps := [] }
def exH1 (p : Pairs) : Heap := { urls := [{ u := exU, sp := some 0, cfg := {} }], sps := [{ url := some 0, params := p }] }
/-- an IDNA oracle (identity, no error); the query state does not consult it -/
def exI : Idna := fun b => (b, false)

/-- for `rw [Idem.spInit_funC]; decide` see Props/C11.lean -/
theorem ex_spInit : spInit {} (lit "a=1") = [(lit "a", lit "1")] := by
  rw [Idem.spInit_funC]; decide

theorem ex_lazy : (exH0.searchParams 0).1 = exH1 [(lit "a", lit "1")] := by
  show exH1 (spInit {} (lit "a=1")) = _
  rw [ex_spInit]

example : exH0.urls[0]? = some { u := exU, sp := none, cfg := {} } ∧ (exH0.searchParams 0).2 = some 0 := ⟨rfl, rfl⟩
example := C12_lazy_creation exH0 0 _ rfl rfl

example (p : Pairs) (m : Heap.SpMut) := C12_write_through (exH1 p) 0 0 m _ _ rfl rfl rfl rfl
example (p : Pairs) : OwnSp (exH1 p) 0 := by
  intro o ho s hs
  cases ho; cases hs
  exact ⟨_, rfl, rfl⟩

example :
    ((((exH0.searchParams 0).1.spMutate 0 (.append (lit "b") (lit "2"))).urls[0]?).map
        fun o => (queryG o.u, search o.u, href o.u false)) =
      some (lit "a=1&b=2", lit "?a=1&b=2", lit "http://h/?a=1&b=2") ∧
    ((((exH0.searchParams 0).1.spMutate 0 (.append (lit "b") (lit "2"))).sps[0]?).map (·.params)) =
      some [(lit "a", lit "1"), (lit "b", lit "2")] := by
  rw [ex_lazy]; decide +kernel

example :
    ((((exH1 [(lit "a", lit "1")]).spMutate 0 (.delete (lit "a"))).urls[0]?).map fun o => (o.u.query, search o.u)) =
      some (some [], []) := by decide +kernel

-- the hypothesis `∀ n, r.2 ≠ .panic n` of `C12_reinit` can be met, for a non-empty and for the empty value
theorem ex_reinit_ret (p : Pairs) : ((exH1 p).setSearch exI 0 (lit "?x=1&y=2")).2 = .url := by
  have : ∀ q, ((exH1 q).setSearch exI 0 (lit "?x=1&y=2")).2 = ((exH1 []).setSearch exI 0 (lit "?x=1&y=2")).2 := fun _ => rfl
  rw [this]; decide +kernel
example (p : Pairs) : ∀ n, ((exH1 p).setSearch exI 0 (lit "?x=1&y=2")).2 ≠ .panic n := by
  intro n; rw [ex_reinit_ret]; exact fun h => by cases h
example (p : Pairs) : ∀ n, ((exH1 p).setSearch exI 0 []).2 ≠ .panic n := by
  have : ((exH1 p).setSearch exI 0 []).2 = .url := rfl
  intro n; rw [this]; exact fun h => by cases h
example (p : Pairs) := C12_reinit exI (exH1 p) 0 0 (lit "?x=1&y=2") _ _ rfl rfl rfl rfl
example : ((((exH1 []).setSearch exI 0 (lit "?x=1&y=2")).1.urls[0]?).map fun o => o.u.query) = some (some (lit "x=1&y=2")) := by
  decide +kernel

example : Setter.hash ≠ Setter.search := by decide
example (p : Pairs) := (C12_frame_list exI (exH1 p) 0 .hash (lit "f") (by decide)).2 _ rfl

end WhatwgUrl.Props.C12
