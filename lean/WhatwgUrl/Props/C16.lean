import WhatwgUrl.Proofs.Lawful
import WhatwgUrl.Proofs.Canon
import WhatwgUrl.Generated.Facts
/-
  C16 — every option has its documented effect and is otherwise neutral.
  This file: what each option constructor and each predefined profile sets when EXECUTED in Go (regenerated, T1), and the
  retry with the default scheme. The parser options' neutrality and effects are in C16b.lean, C16c.lean.
  Clauses of the property without a `C16_` theorem in the three files:
  * remove-user-info / remove-port / remove-fragment as the standard's setter steps, and sort-query keeping the multiset
    of pairs: only that each option sets its own field is here (`C16_canon_option_effects`); the sort itself is
    `C11.C11_sort_perm` / `C11_sort_stable`;
  * "built without options behaves like the default parser": `C17b.canonParseBase_whatWg`;
  * default-scheme "leaves other inputs unaffected": `Proofs.Pipeline.canonParseBase_eq_parse`;
  * collapsing leaves no empty non-final segment (false of the code: F14, F14b);
  * special-scheme parsing of an added scheme (C16c states default-port elision only).
-/
namespace WhatwgUrl.Props.C16
open WhatwgUrl WhatwgUrl.Impl

/-- every `WithX` parser option, executed alone (`url.NewParser(WithX(arg))`, options read back through the hook),
    changes exactly its namesake field of the parser's options, however the constructors are written.
    (`WithFragmentPathPercentEncodeSet` / `WithSpecialFragmentPathPercentEncodeSet` name the fragment sets. F13, the
    special-fragment constructor assigning the non-special set, shows in this table as a second component that differs
    from the name.) -/
theorem C16_option_effects : Generated.parserOptionEffects = [
    ("WithReportValidationErrors", ["ReportValidationErrors"]),
    ("WithFailOnValidationError", ["FailOnValidationError"]),
    ("WithLaxHostParsing", ["LaxHostParsing"]),
    ("WithCollapseConsecutiveSlashes", ["CollapseConsecutiveSlashes"]),
    ("WithAcceptInvalidCodepoints", ["AcceptInvalidCodepoints"]),
    ("WithPreParseHostFunc", ["PreParseHostFunc"]),
    ("WithPostParseHostFunc", ["PostParseHostFunc"]),
    ("WithPercentEncodeSinglePercentSign", ["PercentEncodeSinglePercentSign"]),
    ("WithAllowSettingPathForNonBaseUrl", ["AllowSettingPathForNonBaseUrl"]),
    ("WithSkipWindowsDriveLetterNormalization", ["SkipWindowsDriveLetterNormalization"]),
    ("WithSpecialSchemes", ["SpecialSchemes"]),
    ("WithSkipTrailingSlashNormalization", ["SkipTrailingSlashNormalization"]),
    ("WithEncodingOverride", ["EncodingOverride"]),
    ("WithPathPercentEncodeSet", ["PathPercentEncodeSet"]),
    ("WithQueryPercentEncodeSet", ["QueryPercentEncodeSet"]),
    ("WithSpecialQueryPercentEncodeSet", ["SpecialQueryPercentEncodeSet"]),
    ("WithFragmentPathPercentEncodeSet", ["FragmentPercentEncodeSet"]),
    ("WithSpecialFragmentPathPercentEncodeSet", ["SpecialFragmentPercentEncodeSet"]),
    ("WithSkipEqualsForEmptySearchParamsValue", ["SkipEqualsForEmptySearchParamsValue"])] := by decide

/-- the same for `canonicalizer.New(WithX(arg))`: its namesake field of the profile and no option of the underlying parser -/
theorem C16_canon_option_effects : Generated.canonOptionEffects = [
    ("WithRemoveUserInfo", ["RemoveUserInfo"]), ("WithRemovePort", ["RemovePort"]), ("WithRemoveFragment", ["RemoveFragment"]),
    ("WithRepeatedPercentDecoding", ["RepeatedPercentDecoding"]), ("WithDefaultScheme", ["DefaultScheme"]),
    ("WithSortQuery(SortKeys)", ["SortQuery"]), ("WithSortQuery(SortParameter)", ["SortQuery"])] := by decide

/-- the predefined profiles are built from exactly the documented option lists -/
theorem C16_profiles : Generated.profileOptions = [
  ("WhatWg", []),
  ("WhatWgSortQuery", ["WithSortQuery(SortKeys)"]),
  ("GoogleSafeBrowsing", ["WithLaxHostParsing", "WithQueryPercentEncodeSet(LaxQueryPercentEncodeSet)", "WithCollapseConsecutiveSlashes", "WithAcceptInvalidCodepoints", "WithPercentEncodeSinglePercentSign", "WithPreParseHostFunc(…)", "WithSkipEqualsForEmptySearchParamsValue", "WithRemovePort", "WithRemoveFragment", "WithRepeatedPercentDecoding", "WithDefaultScheme(http)"]),
  ("Semantic", ["WithLaxHostParsing", "WithPathPercentEncodeSet(LaxPathPercentEncodeSet)", "WithQueryPercentEncodeSet(LaxQueryPercentEncodeSet)", "WithCollapseConsecutiveSlashes", "WithAcceptInvalidCodepoints", "WithPercentEncodeSinglePercentSign", "WithAllowSettingPathForNonBaseUrl", "WithEncodingOverride(charmap.ISO8859_1)", "WithPreParseHostFunc(…)", "WithSpecialSchemes(…)", "WithRemoveUserInfo", "WithDefaultScheme(http)", "WithSortQuery(SortKeys)", "WithRepeatedPercentDecoding", "WithRemoveFragment"])] := by decide

/-- the option values of the executed profiles. Format (`harness/exec.go`): `canonicalizer flags;sort;x<default scheme in
    hex>;` then, comma-separated, the parser's flags (bit i: the i-th flag option), pre- and post-host closure, encoding
    override, special schemes (`name=port` in hex) and the path, special-query, query, special-fragment, fragment sets -/
theorem C16_profiles_executed :
    Generated.profile_WhatWg = "0;0;x;0,0,0,0,66696c65=+667470=3231+68747470=3830+6874747073=343433+7773=3830+777373=343433,21:2800000100000000d000000c00000000,21:5000008c00000000,21:5000000c00000000,21:1000000005000000400000000,21:1000000005000000400000000" ∧
    Generated.profile_WhatWgSortQuery = "0;1;x;0,0,0,0,66696c65=+667470=3231+68747470=3830+6874747073=343433+7773=3830+777373=343433,21:2800000100000000d000000c00000000,21:5000008c00000000,21:5000000c00000000,21:1000000005000000400000000,21:1000000005000000400000000" ∧
    Generated.profile_GoogleSafeBrowsing = "14;0;x68747470;572,1,0,0,66696c65=+667470=3231+68747470=3830+6874747073=343433+7773=3830+777373=343433,21:2800000100000000d000000c00000000,21:5000008c00000000,21:5000000800000000,21:1000000005000000400000000,21:1000000005000000400000000" ∧
    Generated.profile_Semantic = "13;1;x68747470;124,2,0,1,66696c65=+667470=3231+676f70686572=3730+68747470=3830+6874747073=343433+7773=3830+777373=343433,21:28000001000000008000000c00000000,21:5000008c00000000,21:5000000800000000,21:1000000005000000400000000,21:1000000005000000400000000" := by decide +kernel

theorem C16_default_scheme_effect (I : Idna) (p : Profile) (raw : Bytes) (w : Bool) (f : Bool)
    (h : (parse p.cfg I raw).ret = .err ⟨.MissingSchemeNonRelativeURL, f⟩ w) (hd : p.defaultScheme ≠ []) :
    canonParseBase I p raw = parse p.cfg I (p.defaultScheme ++ lit "://" ++ raw) := by
  simp only [canonParseBase, h]
  simp [hd]

end WhatwgUrl.Props.C16
