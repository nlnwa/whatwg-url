import WhatwgUrl.Proofs.HeapInvNP
import WhatwgUrl.Proofs.SaneInv
/-
  C02b — absence of Go run-time panics (nil dereference, index out of range) in the host parser, in a fresh
  `BasicParser` call and in the nine setters.

  Panics are an explicit outcome of the model (`HOut.panic n`, `Ret.panic n`); the theorems say that this outcome is
  never produced.  Technique (see `Proofs/NoPanic.lean`): `Machine.Sh P D` with `P` the loop invariant `Safe` (what the
  panic sites need: a base in the relative states, a non-nil query in the query state) and `D` "not a panic".

  The fresh-parse instance `parse_np`, the predicate `PathOk` and the setter lemma `setU_np` are in `Proofs/HeapInvNP.lean`.
  That the fuel of the IPv6 loops (`hexLoop6`, `digitLoop6`, `v4Loop6`, `loop6`, `swap6`; silent at fuel 0) suffices is part
  of `Proofs.IPv6.parseIPv6_closed` (`Proofs/IPv6Parse.lean`; C08), not of this file.

  Section 3: setter panic freedom needs only `PathOk u` (an opaque path has its element; the second clause of `Sane`).
  `PathOk` holds of every url returned by a fresh parse (the base, if any, being `PathOk`) and of the url left by every setter
  call on a `PathOk` url, for every outcome and EVERY configuration: `Proofs.HeapInvPath.parse_pathOk`, `setU_pathOk`.  So no
  sequence of setter calls on a parsed url panics, whatever the configuration; this file has no `C02_` theorem for that
  closure, the heap-level one is `C02c.C02_heap_no_panic`.

  Sections 4 and 4': the record predicate `Sane` (both clauses) is NOT inductive (`C02_sane_invariant_Statement`, refuted
  below: `C02_sane_invariant_Statement_false`); the invariant `SaneC cfg` is (`Proofs/SaneInv.lean`: same technique
  with the per-state invariant `SaneInv.J`, not the `J` of C04b), provided "file" is a special scheme of the configuration.
  "file" special is a condition of `SaneC` only, not of panic freedom.
-/
namespace WhatwgUrl.Props.C02b
open WhatwgUrl WhatwgUrl.Impl WhatwgUrl.Proofs.NoPanic
open WhatwgUrl.Proofs.SaneInv (SP SaneC)

/-! ### 1. host level -/

/-- site 1 (`numbers[len(numbers)-1]` on an empty slice) is unreachable -/
theorem C02_parseIPv4_no_panic (cfg : Cfg) (u : Url) (s : Bytes) : ∀ n, (parseIPv4 cfg u s).out ≠ .panic n :=
  parseIPv4_np cfg u s

/-- sites 2, 3 (`address[pieceIndex] = …` out of range) and 4 (the swap loop) are unreachable -/
theorem C02_parseIPv6_no_panic (cfg : Cfg) (u : Url) (s : Bytes) : ∀ n, (parseIPv6 cfg u s).out ≠ .panic n :=
  parseIPv6_np cfg u s

theorem C02_parseHost_no_panic (cfg : Cfg) (I : Idna) (u : Url) (s : Bytes) (ns : Bool) :
    ∀ n, (parseHost cfg I u s ns).out ≠ .panic n :=
  parseHost_np cfg I u s ns

/-! ### 2. a fresh parse -/

theorem C02_parse_no_panic (cfg : Cfg) (I : Idna) (input : Bytes) (base : Option Url) :
    ∀ n, (basicParser cfg I input base none none).ret ≠ .panic n :=
  Proofs.HeapInvNP.parse_np cfg I input base

/-! ### 3. the setters -/

/-- what every url produced by the parser satisfies and (second clause) what the setters need.  The second clause is
    `Proofs.HeapInvNP.PathOk u`, the form in which `Props/C02c.lean` (`HInv`) states it; `C02_setter_no_panic` uses only
    this clause (`hu.2`), the first one is idle there. -/
def Sane (u : Url) : Prop := (u.scheme = lit "file" → u.host ≠ none) ∧ (u.path.opq = true → u.path.segs ≠ [])

instance (u : Url) : Decidable (Sane u) := by unfold Sane; infer_instance

/-- no setter panics on a url whose opaque path has its element; of the hypothesis `Sane u` only the second clause is used -/
theorem C02_setter_no_panic (cfg : Cfg) (I : Idna) (s : Setter) (u : Url) (v : Bytes) (hu : Sane u) :
    ∀ n, (setU cfg I s u v).ret ≠ .panic n :=
  Proofs.HeapInvNP.setU_np cfg I s u v hu.2

/-! ### non-vacuity -/

/-- the identity oracle (no error flag) -/
private def idI : Idna := fun s => (s, false)

/-- the host parsers return hosts and errors (so "not a panic" is not vacuous), including on the paths next to the
    guarded stores: 8 pieces, a 9th piece, an IPv4 tail after 6 and after 7 pieces -/
example : (parseIPv4 {} {} (lit "1.2.3.4")).out = .ok (lit "1.2.3.4") := by decide +kernel
example : (parseIPv4 {} {} (lit "0x7f.1")).out = .ok (lit "127.0.0.1") := by decide +kernel
example : (parseIPv6 {} {} (lit "1::2:1.2.3.4")).out = .ok (lit "[1::2:102:304]") := by decide +kernel
example : (parseIPv6 {} {} (lit "1:2:3:4:5:6:7:8")).out = .ok (lit "[1:2:3:4:5:6:7:8]") := by decide +kernel
example : (parseIPv6 {} {} (lit "1:2:3:4:5:6:1.2.3.4")).out = .ok (lit "[1:2:3:4:5:6:102:304]") := by decide +kernel
example : (parseIPv6 {} {} (lit "1:2:3:4:5:6:7:8:9")).out = .err ⟨.IPv6TooManyPieces, true⟩ := by decide +kernel
example : (parseIPv6 {} {} (lit "1:2:3:4:5:6:7:1.2.3.4")).out = .err ⟨.IPv4InIPv6TooManyPieces, true⟩ := by decide +kernel
example : (parseHost {} idI {} (lit "[::1]") false).out = .ok (lit "[::1]") := by decide +kernel
example : (parseHost {} idI {} (lit "a b") true).out = .err ⟨.HostInvalidCodePoint, true⟩ := by decide +kernel
/-- the modelled panics of the host level are real outcomes of the primitives when the index invariants are violated -/
example : setPiece (List.replicate 8 0) 8 1 = none := by decide +kernel
example : swap6 8 (List.replicate 8 0) 7 5 4 = none := by decide +kernel

/-- `Sane` holds of a concrete parsed url, and a setter call on it returns `.url` -/
example : Sane (basicParser {} idI (lit "http://[::1]:8/a?q#f") none none none).url := by decide +kernel
example : (setU {} idI .port (basicParser {} idI (lit "http://[::1]:8/a?q#f") none none none).url (lit "81")).ret = .url := by
  decide +kernel
example : (setU {} idI .protocol (basicParser {} idI (lit "http://[::1]:8/a?q#f") none none none).url (lit "ws")).ret = .url := by
  decide +kernel

/-- the second clause of `Sane` in the hypothesis of `C02_setter_no_panic` cannot be dropped: sites 20, 21 are reached from
    urls with an empty opaque path -/
example : (setU {} idI .search { scheme := lit "a", path := ⟨[], true⟩ } []).ret = .panic 20 := by decide +kernel
example : (setU {} idI .hash { scheme := lit "a", path := ⟨[], true⟩ } []).ret = .panic 21 := by decide +kernel
/-- … and the restriction to the override states used by the setters / to the loop invariant matters: sites 11, 12, 15 are
    reached from the states `relative`, `relativeSlash` (no base) and `query` (nil query) -/
example : (basicParser {} idI (lit "x") none (some {}) (some .relative)).ret = .panic 11 := by decide +kernel
example : (basicParser {} idI (lit "x") none (some {}) (some .relativeSlash)).ret = .panic 12 := by decide +kernel
example : (loop { cfg := {}, I := idI, src := lit "#", runes := goRunes (lit "#"), base := none, ov := none } 5
    { state := .query, pointer := -1, eof := false, buffer := [], atFlag := false, bracketFlag := false, pwSeen := false,
      url := {} }).ret = .panic 15 := by decide +kernel

/-! ### 4. `Sane` alone is not inductive -/

/-- "`Sane` is an invariant of the parser and of the setters" (refuted below) -/
def C02_sane_invariant_Statement : Prop :=
  (∀ (cfg : Cfg) (I : Idna) (input : Bytes) (base : Option Url),
      (basicParser cfg I input base none none).ret = .url → (∀ b, base = some b → Sane b) →
      Sane (basicParser cfg I input base none none).url) ∧
  (∀ (cfg : Cfg) (I : Idna) (s : Setter) (u : Url) (v : Bytes), Sane u → Sane (setU cfg I s u v).url)

/-- a `Sane` base with scheme "file" and an opaque path: the fragment-only reference copies scheme and path but not the host -/
private def bFileOpq : Url := { scheme := lit "file", host := some [], path := ⟨[lit "x"], true⟩ }
/-- a `Sane` url with a special scheme and no host -/
private def uHttpNoHost : Url := { scheme := lit "http", host := none, path := ⟨[lit "x"], false⟩ }

theorem C02_sane_invariant_setter_false :
    ¬ (∀ (cfg : Cfg) (I : Idna) (s : Setter) (u : Url) (v : Bytes), Sane u → Sane (setU cfg I s u v).url) := by
  intro h
  have := h {} idI .protocol uHttpNoHost (lit "file") (by decide +kernel)
  revert this
  decide +kernel

theorem C02_sane_invariant_Statement_false : ¬ C02_sane_invariant_Statement := by
  intro h
  have := h.1 {} idI (lit "#f") (some bFileOpq) (by decide +kernel) (by intro b hb; cases hb; decide +kernel)
  revert this
  decide +kernel

/-- FINDING.  With a configuration whose special-scheme table does not contain "file", a url PRODUCED BY THE PARSER leaves
    `Sane` through the protocol setter: parse "foo:/x", set protocol "file" (accepted: both schemes are non-special) gives
    scheme "file" with a nil host. -/
private def cfgNoFile : Cfg := { specialSchemes := [(lit "http", lit "80")] }
example : (basicParser cfgNoFile idI (lit "foo:/x") none none none).ret = .url ∧
    Sane (basicParser cfgNoFile idI (lit "foo:/x") none none none).url := by decide +kernel
example : (setU cfgNoFile idI .protocol (basicParser cfgNoFile idI (lit "foo:/x") none none none).url (lit "file")).ret = .url ∧
    ¬ Sane (setU cfgNoFile idI .protocol (basicParser cfgNoFile idI (lit "foo:/x") none none none).url (lit "file")).url := by
  decide +kernel

/-! ### 4'. the inductive invariant `SaneC`

  `SaneC cfg u` (defined in `Proofs/SaneInv.lean`):
      (u.scheme = "file" ∨ cfg.isSpecial u.scheme → u.host ≠ none ∧ u.path.opq = false) ∧ (u.path.opq = true → u.path.segs ≠ [])
  It implies `Sane`, every url returned by a fresh parse satisfies it (given a `SaneC` base), and every setter preserves it
  — for EVERY outcome of the setter, since Go mutates the url in place — provided "file" is a special scheme of the
  configuration (without that hypothesis the FINDING above is a counterexample). -/

theorem SaneC_Sane {cfg : Cfg} {u : Url} (h : SaneC cfg u) : Sane u :=
  ⟨fun hs => (h.1 (Or.inl hs)).1, h.2⟩

instance (cfg : Cfg) (u : Url) : Decidable (SaneC cfg u) := by unfold SaneC SP; infer_instance

/-- a url returned by a fresh parse is `SaneC` (the base, if any, being `SaneC`) -/
theorem C02_parse_saneC (cfg : Cfg) (I : Idna) (input : Bytes) (base : Option Url)
    (hB : ∀ b, base = some b → SaneC cfg b) (h : (basicParser cfg I input base none none).ret = .url) :
    SaneC cfg (basicParser cfg I input base none none).url :=
  Proofs.SaneInv.parse_saneC cfg I input base hB h

/-- hence it is `Sane`: the strongest true variant of the first half of `C02_sane_invariant_Statement` -/
theorem C02_parse_sane (cfg : Cfg) (I : Idna) (input : Bytes) (base : Option Url)
    (hB : ∀ b, base = some b → SaneC cfg b) (h : (basicParser cfg I input base none none).ret = .url) :
    Sane (basicParser cfg I input base none none).url :=
  SaneC_Sane (C02_parse_saneC cfg I input base hB h)

/-- without a base no hypothesis is needed -/
theorem C02_parse_sane_nobase (cfg : Cfg) (I : Idna) (input : Bytes)
    (h : (basicParser cfg I input none none none).ret = .url) : Sane (basicParser cfg I input none none none).url :=
  C02_parse_sane cfg I input none (by intro b hb; cases hb) h

/-- every setter preserves `SaneC` (for every outcome) when "file" is a special scheme of the configuration:
    the strongest true variant of the second half of `C02_sane_invariant_Statement` -/
theorem C02_setter_saneC (cfg : Cfg) (I : Idna) (s : Setter) (u : Url) (v : Bytes)
    (hF : cfg.isSpecial (lit "file") = true) (hu : SaneC cfg u) : SaneC cfg (setU cfg I s u v).url :=
  Proofs.SaneInv.setU_saneC cfg I s u v hF hu

/-- so, with "file" special, no sequence of setter calls on a parsed url ever panics: `SaneC` is preserved and implies the
    hypothesis of `C02_setter_no_panic`.  `hF` serves the second conjunct only; without it the first conjunct still holds
    along every sequence, through `PathOk` (header, section 3). -/
theorem C02_setter_no_panic_saneC (cfg : Cfg) (I : Idna) (s : Setter) (u : Url) (v : Bytes)
    (hF : cfg.isSpecial (lit "file") = true) (hu : SaneC cfg u) :
    (∀ n, (setU cfg I s u v).ret ≠ .panic n) ∧ SaneC cfg (setU cfg I s u v).url :=
  ⟨C02_setter_no_panic cfg I s u v (SaneC_Sane hu), C02_setter_saneC cfg I s u v hF hu⟩

/-- non-vacuity: the default configuration has "file" special; a parsed url is `SaneC`; a `SaneC` base -/
example : (Cfg.default).isSpecial (lit "file") = true := by decide +kernel
example : SaneC {} (basicParser {} idI (lit "http://[::1]:8/a?q#f") none none none).url := by decide +kernel
example : SaneC {} { scheme := lit "http", host := some (lit "h"), path := ⟨[lit "a"], false⟩ } ∧
    (basicParser {} idI (lit "../b") (some { scheme := lit "http", host := some (lit "h"), path := ⟨[lit "a"], false⟩ }) none none).ret
      = .url := by decide +kernel
/-- the hypothesis "file is special" of `C02_setter_saneC` cannot be dropped (the FINDING above, on `SaneC`) -/
example : SaneC cfgNoFile (basicParser cfgNoFile idI (lit "foo:/x") none none none).url ∧
    ¬ SaneC cfgNoFile (setU cfgNoFile idI .protocol (basicParser cfgNoFile idI (lit "foo:/x") none none none).url (lit "file")).url := by
  decide +kernel
/-- the two counterexample urls above are `Sane` but not `SaneC` -/
example : Sane bFileOpq ∧ ¬ SaneC {} bFileOpq := by decide +kernel
example : Sane uHttpNoHost ∧ ¬ SaneC {} uHttpNoHost := by decide +kernel

end WhatwgUrl.Props.C02b

#print axioms WhatwgUrl.Props.C02b.C02_parseIPv4_no_panic
#print axioms WhatwgUrl.Props.C02b.C02_parseIPv6_no_panic
#print axioms WhatwgUrl.Props.C02b.C02_parseHost_no_panic
#print axioms WhatwgUrl.Props.C02b.C02_parse_no_panic
#print axioms WhatwgUrl.Props.C02b.C02_setter_no_panic
#print axioms WhatwgUrl.Props.C02b.C02_sane_invariant_Statement_false
#print axioms WhatwgUrl.Props.C02b.C02_parse_saneC
#print axioms WhatwgUrl.Props.C02b.C02_parse_sane
#print axioms WhatwgUrl.Props.C02b.C02_setter_saneC
#print axioms WhatwgUrl.Props.C02b.C02_setter_no_panic_saneC
