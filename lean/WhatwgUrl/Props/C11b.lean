import WhatwgUrl.Proofs.SpExactD
import WhatwgUrl.Proofs.SpEval
/-
  C11b — `SearchParams`: the EXACT class of lists that survive serialize-then-parse under the default configuration.

  The clause "serializing any list of pairs and parsing the result returns the same list" is false for the code (finding
  F8, `C11.C11_roundtrip_false`).  `C11b_roundtrip_iff` delimits the finding: `RtExact l` (decidable) says that every name
  and value is well-formed UTF-8 and contains no `%` followed by two hex digits, no name contains `&`, `=`, `+`, and no
  value contains `&`, `+`.  (A `=` inside a value, a `%` that starts no escape — also as the last byte of a name, right
  before the `=` separator —, the pair `("","")` and the empty list all survive.)  The `C11b_roundtrip_only_if_*` theorems
  are the `→` clause by clause, for every list that contains an offending pair.

  Proof idea (`Proofs/SpExact*.lean`): the serializer is `E ∘ join`, where `E` escapes byte by byte and the parser does
  not see `E` (`spInit (E s) = spInit s`); the parse of a join is the concatenation of the parses of the pairs, each of
  which is non-empty, so the list survives iff every pair does; for one pair, bytes ≥ 0x80 never disappear in the parser
  (so Go's U+FFFD substitution cannot be undone) and lengths never grow (so there is no `&`, `+`, escape or `=` in a name).

  "Stable after one round" (`C11b_lost_pairs_Statement`) is FALSE as well (`C11b_lost_pairs_false`); it holds on the
  class (`C11b_lost_pairs_partial`).
-/
namespace WhatwgUrl.Props.C11b
open WhatwgUrl WhatwgUrl.Impl
open WhatwgUrl.Proofs.SpExact (RtExact noPct goodName_iff goodValue_iff)

abbrev rt (l : Pairs) : Pairs := spInit Cfg.default (spString Cfg.default l)

theorem C11b_roundtrip_utf8_partial (l : Pairs) (h : RtExact l) :
    spInit Cfg.default (spString Cfg.default l) = l :=
  Proofs.SpExact.rt_of_exact l h

theorem C11b_roundtrip_iff (l : Pairs) : spInit Cfg.default (spString Cfg.default l) = l ↔ RtExact l :=
  Proofs.SpExact.rt_iff l

/-- read off the iff here; the proof of the iff itself goes through this fact (`rt_flatMap` + `flatMap_fix` in
    Proofs/SpExactD.lean) -/
theorem C11b_roundtrip_pairwise (l : Pairs) : rt l = l ↔ ∀ p ∈ l, rt [p] = [p] := by
  simp only [rt, C11b_roundtrip_iff, RtExact]
  constructor
  · intro h p hp q hq
    rw [List.mem_singleton] at hq
    subst hq
    exact h q hp
  · intro h p hp
    exact h p hp p (by simp)

theorem C11b_roundtrip_flatMap (l : Pairs) : rt l = l.flatMap (fun p => rt [p]) :=
  Proofs.SpExact.rt_flatMap l

theorem C11b_roundtrip_only_if_utf8 (l : Pairs) (p : Bytes × Bytes) (hp : p ∈ l)
    (h : validUtf8 p.1 = false ∨ validUtf8 p.2 = false) : rt l ≠ l := by
  intro e
  have := (C11b_roundtrip_iff l).mp e p hp
  have h1 := (goodName_iff.1 this.1).1
  have h2 := (goodValue_iff.1 this.2).1
  rcases h with h | h <;> simp_all

theorem C11b_roundtrip_only_if_name (l : Pairs) (p : Bytes × Bytes) (hp : p ∈ l)
    (h : 0x26 ∈ p.1 ∨ 0x3d ∈ p.1 ∨ 0x2b ∈ p.1) : rt l ≠ l := by
  intro e
  have h1 := (goodName_iff.1 ((C11b_roundtrip_iff l).mp e p hp).1).2.2
  rcases h with h | h | h
  · exact (h1 _ h).1 rfl
  · exact (h1 _ h).2.1 rfl
  · exact (h1 _ h).2.2 rfl

theorem C11b_roundtrip_only_if_value (l : Pairs) (p : Bytes × Bytes) (hp : p ∈ l)
    (h : 0x26 ∈ p.2 ∨ 0x2b ∈ p.2) : rt l ≠ l := by
  intro e
  have h1 := (goodValue_iff.1 ((C11b_roundtrip_iff l).mp e p hp).2).2.2
  rcases h with h | h
  · exact (h1 _ h).1 rfl
  · exact (h1 _ h).2 rfl

theorem C11b_roundtrip_only_if_escape (l : Pairs) (p : Bytes × Bytes) (hp : p ∈ l)
    (h : noPct p.1 = false ∨ noPct p.2 = false) : rt l ≠ l := by
  intro e
  have := (C11b_roundtrip_iff l).mp e p hp
  have h1 := (goodName_iff.1 this.1).2.1
  have h2 := (goodValue_iff.1 this.2).2.1
  rcases h with h | h <;> simp_all

/-- FALSE: `a&b=` parses to two pairs, which serialize to `a=&b=` -/
def C11b_lost_pairs_Statement : Prop :=
  ∀ l : Pairs, spString Cfg.default (spInit Cfg.default (spString Cfg.default l)) = spString Cfg.default l

theorem C11b_lost_pairs_counterexample :
    spString Cfg.default (spInit Cfg.default (spString Cfg.default [(lit "a&b", [])])) ≠
      spString Cfg.default [(lit "a&b", [])] := by
  rw [Proofs.Idem.spInit_funC]; decide

theorem C11b_lost_pairs_false : ¬ C11b_lost_pairs_Statement :=
  fun h => C11b_lost_pairs_counterexample (h _)

example : spString Cfg.default (rt [(lit "a&b", [])]) = lit "a=&b=" := by
  simp only [rt]; rw [Proofs.Idem.spInit_funC]; decide
-- nor is the LIST stable after one round
example : rt [(lit "%2541", [])] = [(lit "%41", [])] ∧ rt [(lit "%41", [])] = [(lit "A", [])] := by
  simp only [rt]; rw [Proofs.Idem.spInit_funC]; decide

theorem C11b_lost_pairs_partial (l : Pairs) (h : RtExact l) :
    spString Cfg.default (spInit Cfg.default (spString Cfg.default l)) = spString Cfg.default l := by
  rw [C11b_roundtrip_utf8_partial l h]

set_option maxRecDepth 100000 in
-- é, €, 😀; `=` in a value; `%` that starts no escape, also at the end of a name; empty name and value
example : RtExact [([0xc3, 0xa9], [0xe2, 0x82, 0xac]), (lit "a%", lit "=b=%zz%4"), ([], []),
    ([0xf0, 0x9f, 0x98, 0x80, 0x20], lit "100%")] := by decide +kernel
example : RtExact [] := by decide
set_option maxRecDepth 100000 in
example : spString Cfg.default [([0xc3, 0xa9], [0xe2, 0x82, 0xac]), (lit "a%", lit "=b=%zz%4"), ([], [])] =
    lit "%C3%A9=%E2%82%AC&a%==b=%zz%4&=" := by decide +kernel
set_option maxRecDepth 100000 in
example : spInit Cfg.default (lit "%C3%A9=%E2%82%AC&a%==b=%zz%4&=") =
    [([0xc3, 0xa9], [0xe2, 0x82, 0xac]), (lit "a%", lit "=b=%zz%4"), ([], [])] := by
  rw [Proofs.Idem.spInit_funC]; decide +kernel
set_option maxRecDepth 100000 in
example : ¬ RtExact [([0xff], [])] ∧ ¬ RtExact [([], [0xc3])] ∧ ¬ RtExact [(lit "a&b", [])] ∧
    ¬ RtExact [(lit "a=", [])] ∧ ¬ RtExact [(lit "a+b", [])] ∧ ¬ RtExact [(lit "%41", [])] ∧
    ¬ RtExact [([], lit "a&b")] ∧ ¬ RtExact [([], lit "a+b")] ∧ ¬ RtExact [([], lit "%4f")] := by decide +kernel
set_option maxRecDepth 100000 in
-- the hypotheses of `C11b_roundtrip_only_if_utf8`, `_escape` can be met
example : validUtf8 ([0xe2, 0x82] : Bytes) = false ∧ noPct (lit "x%4F") = false := by decide +kernel
example : rt [(lit "a", lit "1"), (lit "k", lit "a+b")] = [(lit "a", lit "1"), (lit "k", lit "a b")] := by
  simp only [rt]; rw [Proofs.Idem.spInit_funC]; decide

section AxiomCheck
#print axioms C11b_roundtrip_utf8_partial
#print axioms C11b_roundtrip_iff
#print axioms C11b_roundtrip_pairwise
#print axioms C11b_roundtrip_flatMap
#print axioms C11b_roundtrip_only_if_utf8
#print axioms C11b_roundtrip_only_if_name
#print axioms C11b_roundtrip_only_if_value
#print axioms C11b_roundtrip_only_if_escape
#print axioms C11b_lost_pairs_counterexample
#print axioms C11b_lost_pairs_false
#print axioms C11b_lost_pairs_partial
end AxiomCheck

end WhatwgUrl.Props.C11b
