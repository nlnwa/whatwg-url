import WhatwgUrl.Props.C09b
/-
  C09c — percent-encoding independence of the host pipeline for EVERY host and EVERY oracle.

  `Props/C09b.lean` proves escape independence for pure-ASCII hosts in closed form (under law L1). The independence
  itself needs no law at all: the special-scheme branch of the host parser looks at its input only through the
  percent-decoded bytes (after the test for a leading `[`), so any two spellings of the same text — each byte literal or
  written `%XX`, in particular every whole-code-point escape of a non-ASCII host — give the same result, whatever the
  IDNA library answers.
-/
namespace WhatwgUrl.Props.C09c
open WhatwgUrl WhatwgUrl.Impl WhatwgUrl.Props.C09b

/-- **C09, escape independence, general form**: all spellings of `d` are parsed to the same result (the whole result:
    record, outcome, and the oracle query log), for every oracle.  `hfix`: `d` contains no complete escape itself; `hv`: in
    the lax branch an ill-formed host is re-encoded from its raw spelling (the last example below). -/
theorem C09_spelling_independent (cfg : Cfg) (hpre : cfg.preHost = none) (henc : cfg.encOverride = none) (I : Idna)
    (u : Url) (d s t : Bytes) (hs : Spelling d s) (ht : Spelling d t) (hne : d ≠ []) (hb : d.head? ≠ some 0x5b)
    (hfix : hasEscape d = false) (hv : validUtf8 d = true ∨ cfg.laxHost = false) :
    parseHost cfg I u s false = parseHost cfg I u t false := by
  obtain ⟨h1, h2⟩ := Proofs.Domain.spelling_head hs hne hb
  obtain ⟨h3, h4⟩ := Proofs.Domain.spelling_head ht hne hb
  have e1 := C09_decode_spelling_cfg cfg henc d s hs hfix
  have e2 := C09_decode_spelling_cfg cfg henc d t ht hfix
  exact Proofs.Domain.parseHost_via_decoded cfg hpre I u s t h1 h2 h3 h4 (by rw [e1, e2]) (by rw [e1]; exact hv)

/-- non-vacuity: a non-ASCII host (U+00E9 "é" = C3 A9) written literally and with the two bytes escaped -/
theorem ex_spelled : Spelling [0x61, 0xc3, 0xa9] [0x61, 0x25, 0x43, 0x33, 0x25, 0x61, 0x39] :=
  Proofs.Domain.spells_sound _ _ (by decide)

example : Spelling [0x61, 0xc3, 0xa9] [0x61, 0xc3, 0xa9] ∧
    ([0x61, 0xc3, 0xa9] : Bytes) ≠ [] ∧ ([0x61, 0xc3, 0xa9] : Bytes).head? ≠ some 0x5b ∧
    hasEscape [0x61, 0xc3, 0xa9] = false ∧ validUtf8 [0x61, 0xc3, 0xa9] = true :=
  ⟨.lit _ (.lit _ (.lit _ .nil)), by decide, by decide, by decide, by decide⟩

/-- the theorem applied: "aé" and "a%C3%a9" give the same result under every oracle and every such configuration -/
example (cfg : Cfg) (hpre : cfg.preHost = none) (henc : cfg.encOverride = none) (I : Idna) (u : Url) :
    parseHost cfg I u [0x61, 0xc3, 0xa9] false = parseHost cfg I u [0x61, 0x25, 0x43, 0x33, 0x25, 0x61, 0x39] false :=
  C09_spelling_independent cfg hpre henc I u [0x61, 0xc3, 0xa9] _ _ (.lit _ (.lit _ (.lit _ .nil))) ex_spelled
    (by decide) (by decide) (by decide) (Or.inl (by decide))

/-- the lax branch really depends on the raw spelling of an ill-formed host (why `hv` is there) -/
example : (parseHost { laxHost := true } (fun s => (s, false)) {} [0xff] false).out ≠
    (parseHost { laxHost := true } (fun s => (s, false)) {} [0x25, 0x66, 0x66] false).out := by
  have e : decodePercent { laxHost := true } [0x25, 0x66, 0x66] = [0xff] := by
    rw [Proofs.Domain.decodePercent_esc_byte _ rfl _ _ _ (by decide) (by decide), Proofs.Domain.decodePercent_nil]
    decide
  have e0 : decodePercent { laxHost := true } [0xff] = [0xff] := Proofs.Domain.decodePercent_no_pct _ _ (by decide)
  unfold parseHost
  simp only [e, e0]
  decide

end WhatwgUrl.Props.C09c
