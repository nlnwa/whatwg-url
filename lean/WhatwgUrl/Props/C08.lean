import WhatwgUrl.Proofs.IPv6RT
import WhatwgUrl.Proofs.IPv6Parse
/-
  C08 — IPv6.  The Go serializer is the standard's (`C08_serializer_conforms`); it picks the standard's compress index, the
  first longest run of two or more zero pieces (`C08_compress_is_first_longest`), and renders canonical pieces
  (`C08_piece_canonical`).  Serialize-then-parse is the identity on all 2^128 addresses (`C08_roundtrip`).  The Go parser
  computes what the standard's parser computes on every text, and never panics (`C08_parse_conforms`).
  Stated elsewhere: the bracket clause (a host that starts with `[` is accepted exactly when it ends with `]` and the text
  between that one pair of brackets parses) is the definition `HostWF.bracketHost` of the host parser's branch, with
  `Domain.parseHost_bracket` and `C19b.C19_ipv6_is_literal` for an accepted host; "the parser returns an address" (8 pieces
  below 2^16, so that `C08_roundtrip` applies to every result of `Spec.parseIPv6`) is `Proofs.IPv6.spec_parseIPv6_addr`.
-/
namespace WhatwgUrl.Props.C08
open WhatwgUrl WhatwgUrl.Impl WhatwgUrl.Proofs.IPv6

theorem C08_compress_is_first_longest (a : List Nat) (h : a.length = 8) :
    ipv6CompressScan a = match Spec.compressIndex a with | some i => (i : Int) | none => -1 :=
  compressScan_eq a h

example : ([1, 0, 0, 1, 0, 0, 1, 1] : List Nat).length = 8 := by decide
example : ipv6CompressScan [1, 0, 0, 1, 0, 0, 1, 1] = 1 := by decide
example : Spec.compressIndex [1, 0, 0, 1, 0, 0, 1, 1] = some 1 := by decide
example : ipv6CompressScan [1, 0, 1, 0, 1, 0, 1, 0] = -1 := by decide
example : ipv6CompressScan [1, 0, 0, 1, 0, 0, 0, 1] = 4 := by decide

theorem C08_serializer_conforms (a : List Nat) (h : a.length = 8) : ipv6String a = utf8 (Spec.serializeIPv6 a) :=
  ipv6String_eq a h

example : ipv6String [0, 0, 1, 0, 0, 0, 0, 1] = lit "0:0:1::1" := by decide
example : ipv6String [1, 0, 0, 1, 0, 0, 1, 1] = lit "1::1:0:0:1:1" := by decide
example : Spec.serializeIPv6 [1, 0, 0, 1, 0, 0, 1, 1] = "1::1:0:0:1:1".toList := by decide
example : ipv6String [0, 0, 0, 0, 0, 0, 0, 0] = lit "::" := by decide
example : ipv6String [0x2001, 0xdb8, 0, 0, 0, 0, 0, 0xffff] = lit "2001:db8::ffff" := by decide +kernel

/-- every piece is rendered as the shortest lowercase hexadecimal numeral -/
theorem C08_piece_canonical (n : Nat) (h : n < 65536) :
    let s := Spec.hexLowerStr n
    1 ≤ s.length ∧ s.length ≤ 4 ∧ (∀ c ∈ s, isDigitN c.toNat ∨ (0x61 ≤ c.toNat ∧ c.toNat ≤ 0x66)) ∧
      (s.head? = some '0' → n = 0) ∧ Spec.strVal 16 s = n := by
  intro s
  have hs : s = (toDigits 16 n).map fun d => bc (hexLower d) := rfl
  have hlt := toDigits_lt 16 (by omega) n
  refine ⟨?_, ?_, ?_, ?_, ?_⟩
  · rw [hs, List.length_map]; exact List.length_pos_iff.mpr (toDigits_ne 16 n)
  · rw [hs, List.length_map]; exact toDigits_length_le 16 (by omega) n 3 h
  · intro c hc
    rw [hs, List.mem_map] at hc
    obtain ⟨d, hd, rfl⟩ := hc
    exact (hexChar_facts ⟨d, hlt d hd⟩).1
  · intro h0
    apply toDigits_head 16 (by omega)
    rw [hs, List.head?_map] at h0
    cases hd : (toDigits 16 n).head? with
    | none => rw [hd] at h0; cases h0
    | some d =>
      rw [hd] at h0
      have hm : d ∈ toDigits 16 n := List.mem_of_head? hd
      have := (hexChar_facts ⟨d, hlt d hm⟩).2.1 (by simpa using h0)
      simp only at this
      rw [this]
  · rw [hs, Spec.strVal, strVal_digits _ hlt, toDigits_val 16 (by omega) n]

example : Spec.hexLowerStr 0xdb8 = "db8".toList := by decide
example : Spec.hexLowerStr 0 = "0".toList := by decide
example : Spec.hexLowerStr 65535 = "ffff".toList := by decide +kernel

/-- the standard's hex loop run over the rendering of a piece followed by anything that does not
    start with a hex digit consumes exactly the piece and returns its value -/
theorem C08_hex_piece (input rest : Str) (v p : Nat) (hv : v < 65536) (hrest : Spec.isHexC rest.head? = false)
    (hd : input.drop p = Spec.hexLowerStr v ++ rest) :
    Spec.hexRun input 5 0 0 p = (v, (Spec.hexLowerStr v).length, p + (Spec.hexLowerStr v).length) :=
  hexRun_piece input rest v p hv hrest hd

example : Spec.hexRun "1:db8::".toList 5 0 0 2 = (0xdb8, 3, 5) := by decide +kernel
example : Spec.hexRun "1:db8::".toList 5 0 0 2 =
    (0xdb8, (Spec.hexLowerStr 0xdb8).length, 2 + (Spec.hexLowerStr 0xdb8).length) :=
  C08_hex_piece _ "::".toList 0xdb8 2 (by decide) (by decide) (by decide +kernel)

-- `Addr a` : `a.length = 8 ∧ ∀ x ∈ a, x < 65536`; declared at the end of Proofs/IPv6Parse.lean (in this namespace), where
-- `spec_parseIPv6_addr` is proved
theorem C08_roundtrip (a : List Nat) (h : Addr a) : Spec.parseIPv6 (Spec.serializeIPv6 a) = some a :=
  roundtrip a h.1 h.2

example : Addr [0x2001, 0xdb8, 0, 0, 1, 0, 0, 0xffff] := by unfold Addr; decide
example : Spec.parseIPv6 "1::2".toList = some [1, 0, 0, 0, 0, 0, 0, 2] := by decide
example : Spec.parseIPv6 (Spec.serializeIPv6 [1, 0, 0, 1, 0, 0, 1, 1]) = some [1, 0, 0, 1, 0, 0, 1, 1] := by decide +kernel
example : Spec.parseIPv6 "::".toList = some [0, 0, 0, 0, 0, 0, 0, 0] := by decide

/-- both fail, or both succeed and the Go result is the bracketed Go serialization of the address the standard computes.
    From the closed form `Proofs.IPv6.parseIPv6_closed`, whose proof also shows that the fuel of the model's IPv6 loops
    suffices (they return silently at fuel 0): `loop6_eq` carries `rs.length + 1 ≤ fuel + pointer`, so fuel 0 is reached at
    the end of input only. -/
theorem C08_parse_conforms (cfg : Cfg) (u : Url) (t : Bytes) :
    match (parseIPv6 cfg u t).out, Spec.parseIPv6 (goRunes t) with
    | .ok h, some a => h = [0x5b] ++ ipv6String a ++ [0x5d]
    | .err _, none => True
    | _, _ => False :=
  parse_conforms cfg u t

/-- `ha` follows from `h` by `Proofs.IPv6.spec_parseIPv6_addr` -/
theorem C08_parse_conforms_serialized (cfg : Cfg) (u : Url) (t : Bytes) (a : List Nat)
    (h : Spec.parseIPv6 (goRunes t) = some a) (ha : a.length = 8) :
    (parseIPv6 cfg u t).out = .ok ([0x5b] ++ utf8 (Spec.serializeIPv6 a) ++ [0x5d]) :=
  parse_conforms_serialized cfg u t a h ha

example : Spec.parseIPv6 (goRunes (lit "1::2")) = some [1, 0, 0, 0, 0, 0, 0, 2] := by decide +kernel
example : (parseIPv6 {} {} (lit "1::2")).out = .ok (lit "[1::2]") := by decide +kernel
example : (parseIPv6 {} {} (lit "::ffff:1.2.3.4")).out = .ok (lit "[::ffff:102:304]") := by decide +kernel
example : Spec.parseIPv6 "::ffff:1.2.3.4".toList = some [0, 0, 0, 0, 0, 0xffff, 0x102, 0x304] := by decide +kernel
example : (parseIPv6 {} {} (lit "1:2:3")).out = .err ⟨.IPv6TooFewPieces, true⟩ := by decide +kernel
example : Spec.parseIPv6 "1:2:3".toList = none := by decide +kernel

end WhatwgUrl.Props.C08
