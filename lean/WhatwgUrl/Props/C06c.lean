import WhatwgUrl.Proofs.SelfResolve
import WhatwgUrl.Proofs.SelfResolveHref
import WhatwgUrl.Props.C06b
import WhatwgUrl.Props.C03c
/-
  C06c — the self-resolution law: "for every parsed URL u and every base, the serialization of u resolves to u itself
  against any base" (default configuration).

  Base-independence of `href u false` (section 1) needs NO condition on the bytes of the components: the prologue (trim,
  tab / newline removal) may change the rest of the text, but the scheme, the `:` and the `//` that the serializer writes
  when there is a host are visible ASCII (`Proofs/SelfResolveHref.lean`); `WFs` gives a well-formed scheme and
  "special ⇒ host present".  The machine then reaches a base-free state without reading the base
  (`Proofs/SelfResolve.lean`): non-special → path-or-authority / opaque path; special + `//` → special authority ignore
  slashes; and, beyond `C06_absolute_ignores_base` (C06b), `file` + `//` → file → file slash → file host.

  The hypothesis `HostStable` of sections 2–4 is the one of the round trip (C03b/C03c, finding F6) and is needed already
  at the record level: `exV6` below is `WFs`, `RTc`, its serialization resolves base-independently, but to a record with
  another host.  Section 4 covers every record reachable by parse / resolve / setters minus the protocol switch to `file`
  (see C03c).
-/
namespace WhatwgUrl.Props.C06c
open WhatwgUrl.Impl WhatwgUrl.Proofs.Resolve
open WhatwgUrl.Props.C04b (WFs)
open WhatwgUrl.Props.C04c (WFc)
open WhatwgUrl.Proofs.HostWF (Same IdnaNonEmpty)
open WhatwgUrl.Proofs.RoundTrip (RTc HostStable)
open WhatwgUrl.Proofs.Sim (IdnaLaws)
open WhatwgUrl.Props.C03b (href_of_Same)
open WhatwgUrl.Props.C03c (ReachPR ReachX AsciiDomain DomainStable)
open WhatwgUrl.Props.C06b (schemeAndRest bSc bHttp bFile bOpq I0)

/-! ### 0. absolute references that do not read the base, `file` included -/

/-- **Absolute references ignore the base** (generalises `C06_absolute_ignores_base`: `file` is allowed, and the base may
    be absent): a reference with a scheme that is not special, or is followed by `//`, is parsed to the same result with
    any base and with none. -/
theorem C06c_absolute_ignores_base (I : Idna) (o₁ o₂ : Option Url) (ref : Bytes) (sch : Bytes) (after : Str)
    (hs : schemeAndRest ref = some (sch, after))
    (hc : ({} : Cfg).isSpecial sch = false ∨ ['/', '/'].isPrefixOf after = true) :
    basicParser {} I ref o₁ none none = basicParser {} I ref o₂ none none :=
  C06b.absolute_ignores_base I o₁ o₂ ref sch after hs hc

/-- … in particular resolving it against a base record is parsing it -/
theorem C06c_absolute_as_parse (I : Idna) (b : Url) (ref : Bytes) (sch : Bytes) (after : Str)
    (hs : schemeAndRest ref = some (sch, after))
    (hc : ({} : Cfg).isSpecial sch = false ∨ ['/', '/'].isPrefixOf after = true) :
    urlParse {} I b ref = parse {} I ref :=
  C06c_absolute_ignores_base I (some b) none ref sch after hs hc

/-! ### 1. the serialization of a well-formed record does not read the base -/

/-- the serialization of a structurally well-formed record has the record's scheme, and `//` after the `:` whenever the
    record has a host — in particular whenever the scheme is special -/
theorem C06c_href_scheme (u : Url) (hw : WFs {} u) :
    ∃ after, schemeAndRest (href u false) = some (u.scheme, after) ∧
      (u.host ≠ none → ['/', '/'].isPrefixOf after = true) ∧
      (({} : Cfg).isSpecial u.scheme = true → ['/', '/'].isPrefixOf after = true) := by
  obtain ⟨e, hp⟩ := WhatwgUrl.Proofs.SelfResolve.href_splitScheme u hw.1
  exact ⟨_, e, hp, fun hsp => hp (hw.2.1 hsp).1⟩

/-- **1.** the serialization of a structurally well-formed record resolves to the same result against any two bases -/
theorem C06c_href_ignores_base (I : Idna) (u : Url) (hw : WFs {} u) (b₁ b₂ : Url) :
    urlParse {} I b₁ (href u false) = urlParse {} I b₂ (href u false) :=
  basicParser_self_indep I _ (WhatwgUrl.Proofs.SelfResolve.href_selfIndep u hw) (some b₁) (some b₂)

/-- … namely to what parsing it without a base gives -/
theorem C06c_href_resolves_as_parse (I : Idna) (u : Url) (hw : WFs {} u) (b : Url) :
    urlParse {} I b (href u false) = parse {} I (href u false) :=
  basicParser_self_indep I _ (WhatwgUrl.Proofs.SelfResolve.href_selfIndep u hw) (some b) none

/-- the same through `ParseRef` with a base STRING that is empty ("no base") or parses -/
theorem C06c_href_parseRef (I : Idna) (u : Url) (hw : WFs {} u) (base : Bytes)
    (hb : base = [] ∨ (parse {} I base).ret = .url) :
    parseRef {} I base (href u false) = parse {} I (href u false) := by
  by_cases hne : base = []
  · subst hne; rfl
  · rcases WhatwgUrl.Proofs.Run.parseRef_cases {} I base (href u false) hne with ⟨_, h⟩ | ⟨h, _⟩
    · rw [h]; exact C06c_href_resolves_as_parse I u hw _
    · exact absurd (hb.resolve_left hne) h

/-- a base string that does not parse makes `ParseRef` fail whatever the reference (so the hypothesis above is needed) -/
theorem C06c_parseRef_bad_base (I : Idna) (base ref : Bytes) (hne : base ≠ []) (hb : (parse {} I base).ret ≠ .url) :
    (parseRef {} I base ref).ret ≠ .url :=
  (WhatwgUrl.Proofs.Run.parseRef_cases {} I base ref hne).elim (fun h => absurd h.1 hb) (fun h => h.2)

/-! ### 2. records: the serialization resolves to the record itself -/

/-- the ghost fields aside, `Same` is equality -/
theorem same_clear {u' u : Url} (h : Same u' u) : { u' with verrs := [], qlog := [] } = { u with verrs := [], qlog := [] } := by
  obtain ⟨h1, h2, h3, h4, h5, h6, h7, h8, h9⟩ := h
  cases u'; cases u
  simp_all

/-- transport of a round-trip fact to resolution against a base -/
theorem self_of_roundtrip (I : Idna) (u : Url) (hw : WFs {} u)
    (h : ∃ u', parse {} I (href u false) = ⟨u', .url⟩ ∧ Same u' u) (b : Url) :
    ∃ u', urlParse {} I b (href u false) = ⟨u', .url⟩ ∧ Same u' u ∧ href u' false = href u false := by
  obtain ⟨u', h1, h2⟩ := h
  exact ⟨u', by rw [C06c_href_resolves_as_parse I u hw b, h1], h2, href_of_Same h2 false⟩

/-- the full statement of 2. -/
def C06c_self_resolution_record_Statement : Prop :=
  ∀ (I : Idna) (u : Url), WFs {} u → RTc u → HostStable I u → ∀ b : Url,
    ∃ u', urlParse {} I b (href u false) = ⟨u', .url⟩ ∧ Same u' u ∧ href u' false = href u false

/-- **2. Self-resolution, record form.**  Every well-formed record whose components are in stored form and whose host is
    a fixed point of the host parser (the hypotheses of `C03_roundtrip_record`) is reproduced — up to the ghost fields
    `verrs`, `qlog` — by resolving its serialization against ANY base record. -/
theorem C06c_self_resolution_record (I : Idna) (u : Url) (hw : WFs {} u) (hc : RTc u) (hh : HostStable I u) (b : Url) :
    ∃ u', urlParse {} I b (href u false) = ⟨u', .url⟩ ∧ Same u' u ∧ href u' false = href u false :=
  self_of_roundtrip I u hw (C03b.C03_roundtrip_record I u hw hc hh) b

theorem C06c_self_resolution_record_holds : C06c_self_resolution_record_Statement := C06c_self_resolution_record

/-- the same with the ghost fields cleared on both sides: an equation between records -/
theorem C06c_self_resolution_record_eq (I : Idna) (u : Url) (hw : WFs {} u) (hc : RTc u) (hh : HostStable I u) (b : Url) :
    (urlParse {} I b (href u false)).ret = .url ∧
    { (urlParse {} I b (href u false)).url with verrs := [], qlog := [] } = { u with verrs := [], qlog := [] } ∧
    href (urlParse {} I b (href u false)).url false = href u false := by
  obtain ⟨u', h1, h2, h3⟩ := C06c_self_resolution_record I u hw hc hh b
  rw [h1]
  exact ⟨rfl, same_clear h2, h3⟩

/-- the result is a fixed point, exactly (ghost fields included): resolving ITS serialization against any other base gives
    it back -/
theorem C06c_self_resolution_fixed (I : Idna) (u : Url) (hw : WFs {} u) (hc : RTc u) (hh : HostStable I u) (b : Url) :
    ∃ u', urlParse {} I b (href u false) = ⟨u', .url⟩ ∧ ∀ b' : Url, urlParse {} I b' (href u' false) = ⟨u', .url⟩ := by
  obtain ⟨u', h1, h2, h3⟩ := C06c_self_resolution_record I u hw hc hh b
  refine ⟨u', h1, fun b' => ?_⟩
  rw [h3, C06c_href_ignores_base I u hw b' b, h1]

/-- through `ParseRef` with a base string -/
theorem C06c_self_resolution_record_parseRef (I : Idna) (u : Url) (hw : WFs {} u) (hc : RTc u) (hh : HostStable I u)
    (base : Bytes) (hb : base = [] ∨ (parse {} I base).ret = .url) :
    ∃ u', parseRef {} I base (href u false) = ⟨u', .url⟩ ∧ Same u' u ∧ href u' false = href u false := by
  obtain ⟨u', h1, h2⟩ := C03b.C03_roundtrip_record I u hw hc hh
  exact ⟨u', by rw [C06c_href_parseRef I u hw base hb, h1], h2, href_of_Same h2 false⟩

/-! ### 3. parse results -/

theorem wfs_of_parse (I : Idna) (hI : IdnaLaws I) (input : Bytes) (u : Url) (hp : parse {} I input = ⟨u, .url⟩) : WFs {} u := by
  obtain ⟨hr, hu⟩ := C03b.ret_url_of_eq hp
  have hw := C04b.C04_parse_WFs_default I hI.nonempty input none (by intro b h; cases h) hr
  rwa [show (basicParser {} I input none none none).url = u from hu] at hw

/-- **3. Self-resolution for parse results**: the serialization of a parsed url resolves, against any base record, to
    the url itself (up to `verrs`, `qlog`), and the result serializes to the same text.  `HostStable` is the only
    hypothesis, as in `C03_roundtrip_parse`. -/
theorem C06c_self_resolution_parse (I : Idna) (hI : IdnaLaws I) (input : Bytes) (u : Url) (hp : parse {} I input = ⟨u, .url⟩)
    (hh : HostStable I u) (b : Url) :
    ∃ u', urlParse {} I b (href u false) = ⟨u', .url⟩ ∧ Same u' u ∧ href u' false = href u false :=
  self_of_roundtrip I u (wfs_of_parse I hI input u hp) (C03c.C03_roundtrip_parse I hI input u hp hh) b

/-- … and against any base STRING (empty = no base, or one that parses) through `ParseRef` -/
theorem C06c_self_resolution_parseRef (I : Idna) (hI : IdnaLaws I) (input : Bytes) (u : Url) (hp : parse {} I input = ⟨u, .url⟩)
    (hh : HostStable I u) (base : Bytes) (hb : base = [] ∨ (parse {} I base).ret = .url) :
    ∃ u', parseRef {} I base (href u false) = ⟨u', .url⟩ ∧ Same u' u ∧ href u' false = href u false := by
  obtain ⟨u', h1, h2⟩ := C03c.C03_roundtrip_parse I hI input u hp hh
  exact ⟨u', by rw [C06c_href_parseRef I u (wfs_of_parse I hI input u hp) base hb, h1], h2, href_of_Same h2 false⟩

/-- the host hypothesis reduced to the domain of a special url -/
theorem C06c_self_resolution_parse_domain (I : Idna) (hI : IdnaLaws I) (input : Bytes) (u : Url) (hp : parse {} I input = ⟨u, .url⟩)
    (hd : DomainStable I u) (b : Url) :
    ∃ u', urlParse {} I b (href u false) = ⟨u', .url⟩ ∧ Same u' u ∧ href u' false = href u false :=
  self_of_roundtrip I u (wfs_of_parse I hI input u hp) (C03c.C03_roundtrip_parse_domain I hI input u hp hd) b

/-- … discharged for everything but IDN / ACE domains (as `C03_roundtrip_parse_noIDN`) -/
theorem C06c_self_resolution_parse_noIDN (I : Idna) (hI : IdnaLaws I) (input : Bytes) (u : Url) (hp : parse {} I input = ⟨u, .url⟩)
    (hd : Cfg.isSpecial {} u.scheme = true → ∀ h ∈ u.host, h.head? ≠ some 0x5b → AsciiDomain h) (b : Url) :
    ∃ u', urlParse {} I b (href u false) = ⟨u', .url⟩ ∧ Same u' u ∧ href u' false = href u false :=
  self_of_roundtrip I u (wfs_of_parse I hI input u hp) (C03c.C03_roundtrip_parse_noIDN I hI input u hp hd) b

/-- a non-special url needs no hypothesis at all -/
theorem C06c_self_resolution_parse_nonspecial (I : Idna) (hI : IdnaLaws I) (input : Bytes) (u : Url)
    (hp : parse {} I input = ⟨u, .url⟩) (hns : Cfg.isSpecial {} u.scheme = false) (b : Url) :
    ∃ u', urlParse {} I b (href u false) = ⟨u', .url⟩ ∧ Same u' u ∧ href u' false = href u false :=
  self_of_roundtrip I u (wfs_of_parse I hI input u hp) (C03c.C03_roundtrip_parse_nonspecial I hI input u hp hns) b

/-! ### 4. resolution results and reachable records -/

/-- the serialization of a RESOLUTION result resolves to that result against any (other) base -/
theorem C06c_self_resolution_resolve (I : Idna) (hI : IdnaLaws I) (b₀ : Url) (hb : WFs {} b₀ ∧ WFc b₀ ∧ RTc b₀) (ref : Bytes)
    (u : Url) (hp : urlParse {} I b₀ ref = ⟨u, .url⟩) (hh : HostStable I u) (b : Url) :
    ∃ u', urlParse {} I b (href u false) = ⟨u', .url⟩ ∧ Same u' u ∧ href u' false = href u false := by
  have h := C04b.C04_resolve_WFs {} I ref b₀ hb.1 (C04b.CfgOk_default I hI.nonempty)
  rw [hp] at h
  exact self_of_roundtrip I u (h rfl) (C03c.C03_roundtrip_resolve I hI b₀ hb ref u hp hh) b

/-- **4. Self-resolution for reachable records**: any chain of parse / resolve / setter calls (minus the protocol switch
    to `file`, which can leave `file://h/C|` and `file://localhost/`: C03c) -/
theorem C06c_self_resolution_reachX (I : Idna) (hI : IdnaLaws I) (u : Url) (h : ReachX I u) (hh : HostStable I u) (b : Url) :
    ∃ u', urlParse {} I b (href u false) = ⟨u', .url⟩ ∧ Same u' u ∧ href u' false = href u false :=
  self_of_roundtrip I u (C03c.C03_reachX_invariants I hI u h).1 (C03c.C03_roundtrip_reachX I hI u h hh) b

/-- every record reachable by parse and resolve: `ReachPR` is `ReachX` without setters (`C03c.ReachPR.reachX`) -/
theorem C06c_self_resolution_reachPR (I : Idna) (hI : IdnaLaws I) (u : Url) (h : ReachPR I u) (hh : HostStable I u) (b : Url) :
    ∃ u', urlParse {} I b (href u false) = ⟨u', .url⟩ ∧ Same u' u ∧ href u' false = href u false :=
  C06c_self_resolution_reachX I hI u h.reachX hh b

theorem C06c_self_resolution_reachX_noIDN (I : Idna) (hI : IdnaLaws I) (u : Url) (h : ReachX I u)
    (hd : Cfg.isSpecial {} u.scheme = true → ∀ h ∈ u.host, h.head? ≠ some 0x5b → AsciiDomain h) (b : Url) :
    ∃ u', urlParse {} I b (href u false) = ⟨u', .url⟩ ∧ Same u' u ∧ href u' false = href u false :=
  self_of_roundtrip I u (C03c.C03_reachX_invariants I hI u h).1 (C03c.C03_roundtrip_reachX_noIDN I hI u h hd) b

/-- base-independence alone needs neither `HostStable` nor the oracle laws beyond `IdnaNonEmpty`: for every reachable
    record (setters and the protocol switch included: `C04b.Reach`) the serialization resolves as it parses -/
theorem C06c_reachable_ignores_base (I : Idna) (hI : IdnaNonEmpty I) (u : Url) (hr : C04b.Reach {} I u) (b : Url) :
    urlParse {} I b (href u false) = parse {} I (href u false) :=
  C06c_href_resolves_as_parse I u (C04b.C04_reachable_WFs_default I hI u hr) b

/-! ### 5. non-vacuity: concrete urls of every kind against concrete bases of every kind -/

/-- two oracles: `I0` is the identity oracle `C06b.I0`; `J0` is ASCII lower-casing, `Proofs.Sim.I0`, which satisfies
    `IdnaLaws` -/
private abbrev J0 := WhatwgUrl.Proofs.Sim.I0
private theorem hJ0 : IdnaLaws J0 := WhatwgUrl.Proofs.Sim.I0_laws

/-- a file base with a drive letter (the file slash state inherits it only in its branch for a single `/`; after `//` it
    goes on to the file host state) -/
def bDrive : Url := (parse {} I0 (lit "file:///C:/x")).url

/-- special -/
def uHttp : Url := (parse {} I0 (lit "http://u:pw@[::1]:8/a/b?q#f")).url
/-- `file` with a host -/
def uFileH : Url := (parse {} I0 (lit "file://[::1]/x?q")).url
/-- `file` without a host -/
def uFile0 : Url := (parse {} I0 (lit "file:///d/e#f")).url
/-- non-special with an authority -/
def uSc : Url := (parse {} I0 (lit "sc://u:pw@h:8/p/r?q#f")).url
/-- non-special with an empty host -/
def uScE : Url := (parse {} I0 (lit "sc:///p")).url
/-- opaque path -/
def uOpq : Url := (parse {} I0 (lit "mailto:a@b c?q#f")).url
/-- path only -/
def uPath : Url := (parse {} I0 (lit "sc:/p")).url
/-- path only, first segment empty: the serializer writes the `/.` guard -/
def uDot : Url := (parse {} I0 (lit "sc:/.//p")).url

example : href uHttp false = lit "http://u:pw@[::1]:8/a/b?q#f" ∧ href uFileH false = lit "file://[::1]/x?q" ∧
    href uFile0 false = lit "file:///d/e#f" ∧ href uSc false = lit "sc://u:pw@h:8/p/r?q#f" ∧ href uScE false = lit "sc:///p" ∧
    href uOpq false = lit "mailto:a@b c?q#f" ∧ href uPath false = lit "sc:/p" ∧ href uDot false = lit "sc:/.//p" ∧
    href bDrive false = lit "file:///C:/x" := by decide +kernel

-- the hypotheses of 1. and 2. hold for each of them
example : WFs {} uHttp ∧ RTc uHttp ∧ HostStable I0 uHttp := by decide +kernel
example : WFs {} uFileH ∧ RTc uFileH ∧ HostStable I0 uFileH := by decide +kernel
theorem uFile0_ok : WFs {} uFile0 ∧ RTc uFile0 ∧ HostStable I0 uFile0 := by decide +kernel
example : WFs {} uFile0 ∧ RTc uFile0 ∧ HostStable I0 uFile0 := uFile0_ok
example : WFs {} uSc ∧ RTc uSc ∧ HostStable I0 uSc := by decide +kernel
theorem uScE_ok : WFs {} uScE ∧ RTc uScE ∧ HostStable I0 uScE := by decide +kernel
example : WFs {} uScE ∧ RTc uScE ∧ HostStable I0 uScE := uScE_ok
theorem uOpq_ok : WFs {} uOpq ∧ RTc uOpq ∧ HostStable I0 uOpq := by decide +kernel
example : WFs {} uOpq ∧ RTc uOpq ∧ HostStable I0 uOpq := uOpq_ok
example : WFs {} uPath ∧ RTc uPath ∧ HostStable I0 uPath := by decide +kernel
theorem uDot_ok : WFs {} uDot ∧ RTc uDot ∧ HostStable I0 uDot := by decide +kernel
example : WFs {} uDot ∧ RTc uDot ∧ HostStable I0 uDot := uDot_ok

-- 0. the scheme and what follows it, for the `file` case; `file` without `//` does read the base (C06b)
example : schemeAndRest (lit "FILE://[::1]/x") = some (lit "file", ['/', '/', '[', ':', ':', '1', ']', '/', 'x']) ∧
    ({} : Cfg).isSpecial (lit "file") = true := by decide +kernel
example : basicParser {} I0 (lit "FILE://[::1]/x") (some bFile) none none = basicParser {} I0 (lit "FILE://[::1]/x") none none none :=
  C06c_absolute_ignores_base I0 _ _ _ (lit "file") ['/', '/', '[', ':', ':', '1', ']', '/', 'x'] (by decide +kernel)
    (Or.inr (by decide))

-- the conclusion of 2., evaluated: every url against every base, ghost fields included
example : ∀ b ∈ [bSc, bHttp, bFile, bOpq, bDrive], urlParse {} I0 b (href uHttp false) = ⟨uHttp, .url⟩ := by decide +kernel
example : ∀ b ∈ [bSc, bHttp, bFile, bOpq, bDrive], urlParse {} I0 b (href uFileH false) = ⟨uFileH, .url⟩ := by decide +kernel
example : ∀ b ∈ [bSc, bHttp, bFile, bOpq, bDrive], urlParse {} I0 b (href uFile0 false) = ⟨uFile0, .url⟩ := by decide +kernel
example : ∀ b ∈ [bSc, bHttp, bFile, bOpq, bDrive], urlParse {} I0 b (href uSc false) = ⟨uSc, .url⟩ := by decide +kernel
example : ∀ b ∈ [bSc, bHttp, bFile, bOpq, bDrive], urlParse {} I0 b (href uScE false) = ⟨uScE, .url⟩ := by decide +kernel
example : ∀ b ∈ [bSc, bHttp, bFile, bOpq, bDrive], urlParse {} I0 b (href uOpq false) = ⟨uOpq, .url⟩ := by decide +kernel
example : ∀ b ∈ [bSc, bHttp, bFile, bOpq, bDrive], urlParse {} I0 b (href uPath false) = ⟨uPath, .url⟩ := by decide +kernel
/-- the `/.` guard: `sc:/.//p` does not become `sc://p` (host `p`), against any base -/
example : ∀ b ∈ [bSc, bHttp, bFile, bOpq, bDrive], urlParse {} I0 b (href uDot false) = ⟨uDot, .url⟩ := by decide +kernel
example : uDot.host = none ∧ uDot.path = ⟨[[], lit "p"], false⟩ := by decide +kernel
/-- an opaque-path base accepts nothing relative (C06b) — but a serialization is never relative -/
example : (urlParse {} I0 bOpq (lit "/p")).ret = .err ⟨.MissingSchemeNonRelativeURL, true⟩ false ∧
    urlParse {} I0 bOpq (href uPath false) = ⟨uPath, .url⟩ := by decide +kernel
/-- the base matters for the same text without its scheme, so the law is not a triviality -/
example : href (urlParse {} I0 bSc (lit "/p")).url false = lit "sc://u:pw@h:8/p" ∧
    href (urlParse {} I0 bFile (lit "/p")).url false = lit "file:///p" ∧
    href (urlParse {} I0 bDrive (lit "/p")).url false = lit "file:///C:/p" := by decide +kernel

-- through the theorems
example : ∃ u', urlParse {} I0 bOpq (href uFile0 false) = ⟨u', .url⟩ ∧ Same u' uFile0 ∧ href u' false = href uFile0 false :=
  C06c_self_resolution_record I0 uFile0 uFile0_ok.1 uFile0_ok.2.1 uFile0_ok.2.2 bOpq
example : urlParse {} I0 bDrive (href uDot false) = urlParse {} I0 bOpq (href uDot false) :=
  C06c_href_ignores_base I0 uDot uDot_ok.1 _ _

-- 1. for `parseRef`: base strings
example : (parse {} I0 (lit "sc:opaque?q#f")).ret = .url ∧ (parse {} I0 (lit "file:///C:/x")).ret = .url := by decide +kernel
example : parseRef {} I0 (lit "sc:opaque?q#f") (href uFileH false) = ⟨uFileH, .url⟩ ∧
    parseRef {} I0 [] (href uFileH false) = ⟨uFileH, .url⟩ := by decide +kernel
example : lit "http://" ≠ [] ∧ (parse {} I0 (lit "http://")).ret ≠ .url ∧
    (parseRef {} I0 (lit "http://") (href uFileH false)).ret ≠ .url := by decide +kernel

-- 3. parse results under an oracle that satisfies the laws
private def iP : Bytes := lit "  FILE://[0::1]/C|/../x y?q "
private def pP : Res := parse {} J0 iP
example : pP.ret = .url ∧ href pP.url false = lit "file://[::1]/C:/x%20y?q" ∧ parse {} J0 iP = ⟨pP.url, .url⟩ ∧
    HostStable J0 pP.url := by decide +kernel
example : ∃ u', urlParse {} J0 bDrive (href pP.url false) = ⟨u', .url⟩ ∧ Same u' pP.url ∧ href u' false = href pP.url false :=
  C06c_self_resolution_parse J0 hJ0 iP pP.url (by decide +kernel) (by decide +kernel) bDrive
example : ∃ u', parseRef {} J0 (lit "sc:opaque") (href pP.url false) = ⟨u', .url⟩ ∧ Same u' pP.url ∧
    href u' false = href pP.url false :=
  C06c_self_resolution_parseRef J0 hJ0 iP pP.url (by decide +kernel) (by decide +kernel) _ (Or.inr (by decide +kernel))
private def iN : Bytes := lit "sc://u:p@H%41!:8/a\\b"
example : parse {} J0 iN = ⟨(parse {} J0 iN).url, .url⟩ ∧ Cfg.isSpecial {} (parse {} J0 iN).url.scheme = false := by decide +kernel
example : ∃ u', urlParse {} J0 bHttp (href (parse {} J0 iN).url false) = ⟨u', .url⟩ ∧ Same u' (parse {} J0 iN).url ∧
    href u' false = href (parse {} J0 iN).url false :=
  C06c_self_resolution_parse_nonspecial J0 hJ0 iN _ (by decide +kernel) (by decide +kernel) bHttp
example : ∃ u', urlParse {} J0 bHttp (href pP.url false) = ⟨u', .url⟩ ∧ Same u' pP.url ∧ href u' false = href pP.url false :=
  C06c_self_resolution_parse_noIDN J0 hJ0 iP pP.url (by decide +kernel) (by decide +kernel) bHttp

-- 4. a resolution result, and a chain parse → resolve → setter
private def rR : Res := urlParse {} J0 bDrive (lit "..\\y z")
example : WFs {} bDrive ∧ WFc bDrive ∧ RTc bDrive := by decide +kernel
example : urlParse {} J0 bDrive (lit "..\\y z") = ⟨rR.url, .url⟩ ∧ href rR.url false = lit "file:///C:/y%20z" ∧
    HostStable J0 rR.url := by decide +kernel
example : ∃ u', urlParse {} J0 bOpq (href rR.url false) = ⟨u', .url⟩ ∧ Same u' rR.url ∧ href u' false = href rR.url false :=
  C06c_self_resolution_resolve J0 hJ0 bDrive (by decide +kernel) (lit "..\\y z") rR.url (by decide +kernel) (by decide +kernel) bOpq
private def chain : Url :=
  (setU {} J0 .hash (urlParse {} J0 (parse {} J0 (lit "ws://[::1]/a/b")).url (lit "../c d")).url (lit "#f g")).url
example : href chain false = lit "ws://[::1]/c%20d#f%20g" := by decide +kernel
private theorem chain_reach : ReachX J0 chain :=
  .set _ _ _ (.resolve _ _ (.parse _ (by decide +kernel)) (by decide +kernel)) (by decide +kernel)
example : ∃ u', urlParse {} J0 bFile (href chain false) = ⟨u', .url⟩ ∧ Same u' chain ∧ href u' false = href chain false :=
  C06c_self_resolution_reachX_noIDN J0 hJ0 chain chain_reach (by decide +kernel) bFile
example : urlParse {} J0 bFile (href chain false) = ⟨chain, .url⟩ := by decide +kernel
example : HostStable J0 chain ∧ DomainStable J0 pP.url := by decide +kernel
example : ∃ u', urlParse {} J0 bOpq (href chain false) = ⟨u', .url⟩ ∧ Same u' chain ∧ href u' false = href chain false :=
  C06c_self_resolution_reachX J0 hJ0 chain chain_reach (by decide +kernel) bOpq
example : ∃ u', urlParse {} J0 bOpq (href pP.url false) = ⟨u', .url⟩ ∧ Same u' pP.url ∧ href u' false = href pP.url false :=
  C06c_self_resolution_parse_domain J0 hJ0 iP pP.url (by decide +kernel) (by decide +kernel) bOpq
private def prU : Url := (urlParse {} J0 (parse {} J0 (lit "ws://[::1]/a/b")).url (lit "../c d")).url
private theorem prU_reach : ReachPR J0 prU := .resolve _ _ (.parse _ (by decide +kernel)) (by decide +kernel)
example : ∃ u', urlParse {} J0 bDrive (href prU false) = ⟨u', .url⟩ ∧ Same u' prU ∧ href u' false = href prU false :=
  C06c_self_resolution_reachPR J0 hJ0 prU prU_reach (by decide +kernel) bDrive
-- the record forms
example : ∃ u', urlParse {} I0 bHttp (href uOpq false) = ⟨u', .url⟩ ∧ ∀ b' : Url, urlParse {} I0 b' (href u' false) = ⟨u', .url⟩ :=
  C06c_self_resolution_fixed I0 uOpq uOpq_ok.1 uOpq_ok.2.1 uOpq_ok.2.2 bHttp
example : ∃ u', parseRef {} I0 (lit "file:///C:/x") (href uScE false) = ⟨u', .url⟩ ∧ Same u' uScE ∧ href u' false = href uScE false :=
  C06c_self_resolution_record_parseRef I0 uScE uScE_ok.1 uScE_ok.2.1 uScE_ok.2.2 _
    (Or.inr (by decide +kernel))
/-- the protocol switch to `file` (excluded from `ReachX`) leaves `file://[::1]/C|`: its serialization still resolves
    base-independently (1.), namely — like its parse — to the record with the normalised drive letter -/
private def swU : Url := (setU {} J0 .protocol (parse {} J0 (lit "http://[::1]/C|")).url (lit "file")).url
private theorem swU_reach : C04b.Reach {} J0 swU := .set _ _ _ (.parse _ (by decide +kernel))
example : href swU false = lit "file://[::1]/C|" ∧ href (parse {} J0 (href swU false)).url false = lit "file://[::1]/C:" := by
  decide +kernel
example : urlParse {} J0 bDrive (href swU false) = parse {} J0 (href swU false) :=
  C06c_reachable_ignores_base J0 hJ0.nonempty swU swU_reach bDrive

/-! ### `HostStable` is needed in 2.: a record that satisfies everything else and resolves to ANOTHER record -/

/-- an IPv6 literal that is not in canonical form (no parse produces it: `C03_parse_V6`) -/
def exV6 : Url := { scheme := lit "http", host := some (lit "[0::1]"), path := ⟨[[]], false⟩ }
example : WFs {} exV6 ∧ RTc exV6 ∧ ¬ HostStable I0 exV6 := by decide +kernel

/-- the statement of 2. without the host hypothesis … -/
def C06c_self_resolution_noHost_Statement : Prop :=
  ∀ (I : Idna) (u : Url), WFs {} u → RTc u → ∀ b : Url,
    ∃ u', urlParse {} I b (href u false) = ⟨u', .url⟩ ∧ Same u' u

/-- … is false: `http://[0::1]/` resolves (against any base, by 1.) to the record with host `[::1]` -/
theorem C06c_self_resolution_noHost_false : ¬ C06c_self_resolution_noHost_Statement := by
  intro h
  obtain ⟨u', h1, h2⟩ := h I0 exV6 (by decide +kernel) (by decide +kernel) bSc
  have e : (urlParse {} I0 bSc (href exV6 false)).url.host = some (lit "[::1]") := by decide +kernel
  rw [h1] at e
  have e' : u'.host = some (lit "[::1]") := e
  rw [← h2.2.2.2.1] at e'
  revert e'
  decide +kernel

end WhatwgUrl.Props.C06c

section AxiomCheck
open WhatwgUrl.Props.C06c
#print axioms C06c_absolute_ignores_base
#print axioms C06c_absolute_as_parse
#print axioms C06c_href_scheme
#print axioms C06c_href_ignores_base
#print axioms C06c_href_resolves_as_parse
#print axioms C06c_href_parseRef
#print axioms C06c_parseRef_bad_base
#print axioms C06c_self_resolution_record
#print axioms C06c_self_resolution_record_holds
#print axioms C06c_self_resolution_record_eq
#print axioms C06c_self_resolution_fixed
#print axioms C06c_self_resolution_record_parseRef
#print axioms C06c_self_resolution_parse
#print axioms C06c_self_resolution_parseRef
#print axioms C06c_self_resolution_parse_domain
#print axioms C06c_self_resolution_parse_noIDN
#print axioms C06c_self_resolution_parse_nonspecial
#print axioms C06c_self_resolution_resolve
#print axioms C06c_self_resolution_reachPR
#print axioms C06c_self_resolution_reachX
#print axioms C06c_self_resolution_reachX_noIDN
#print axioms C06c_reachable_ignores_base
#print axioms C06c_self_resolution_noHost_false
end AxiomCheck
