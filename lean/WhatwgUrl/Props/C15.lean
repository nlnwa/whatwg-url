import WhatwgUrl.Impl.Parser
import WhatwgUrl.Generated.Facts
/-
  C15 — diagnostics options never change results; errors are classified.
  The clauses about whole runs (reporting is neutral, fail mode, the flags of returned and recorded entries) are in
  Props/C15b.lean. This file: the single choke point `handleError` as the model has it (`record`: what it records,
  `stops`: whether the caller gets the error back), and three theorems that tie the model's error sites and error types
  to those regenerated from the Go source (T1).
  "Every returned error carries a non-empty error type from the documented set" has no theorem of its own: on the model
  it holds by the type `ErrT` of the error component (an enumeration), and `C15_catalogue` says that this enumeration is
  the catalogue of errors/codes.go.
-/
namespace WhatwgUrl.Props.C15
open WhatwgUrl WhatwgUrl.Impl

-- an entry of `Generated.errorSites` is (function `s.1`, error type `s.2.1`, failure flag `s.2.2.1`, guarded `s.2.2.2`)
/-- every call of `handleError*` in the Go source is followed by `if err != nil { return … }`: no error is swallowed
    (a call in `endsInANumber` without that guard, F11, falsifies it) -/
theorem C15_sites_guarded : ∀ s ∈ Generated.errorSites, s.2.2.2 = true := by decide

/-- as a multiset: the constants of errors/codes.go are strings, the order of their declarations means nothing -/
theorem C15_catalogue : Generated.errorCatalogue.isPerm ["DomainToASCII", "DomainToUnicode", "DomainInvalidCodePoint", "HostInvalidCodePoint",
    "IPv4EmptyPart", "IPv4TooManyParts", "IPv4NonNumericPart", "IPv4NonDecimalPart", "IPv4OutOfRangePart", "IPv6Unclosed",
    "IPv6InvalidCompression", "IPv6TooManyPieces", "IPv6MultipleCompression", "IPv6InvalidCodePoint", "IPv6TooFewPieces",
    "IPv4InIPv6TooManyPieces", "IPv4InIPv6InvalidCodePoint", "IPv4InIPv6OutOfRangePart", "IPv4InIPv6TooFewParts", "InvalidURLUnit",
    "SpecialSchemeMissingFollowingSolidus", "MissingSchemeNonRelativeURL", "InvalidReverseSolidus", "InvalidCredentials", "HostMissing",
    "PortMissing", "PortOutOfRange", "PortInvalid", "FileInvalidWindowsDriveLetter", "FileInvalidWindowsDriveLetterHost"] = true ∧
    Generated.errorCatalogue.length = ErrT.all.length := by decide

/-- the sites (function, error type `s.2.1`, failure flag `s.2.2`) in the order of the model's walk; the function names
    and the multiplicities document the walk and are used by no theorem -/
def modelledSites : List (String × String × Bool) := [
  ("parser.parseHost", "IPv6Unclosed", true),
  ("parser.parseHost", "DomainToASCII", true),
  ("parser.parseHost", "DomainToASCII", true),
  ("parser.parseHost", "DomainInvalidCodePoint", true),
  ("parser.parseIPv4Number", "IPv4EmptyPart", true),
  ("parser.parseIPv4", "IPv4EmptyPart", false),
  ("parser.parseIPv4", "IPv4TooManyParts", true),
  ("parser.parseIPv4", "IPv4NonNumericPart", true),
  ("parser.parseIPv4", "IPv4NonDecimalPart", false),
  ("parser.parseIPv4", "IPv4OutOfRangePart", false),
  ("parser.parseIPv4", "IPv4OutOfRangePart", true),
  ("parser.parseIPv4", "IPv4OutOfRangePart", true),
  ("parser.parseIPv6", "IPv6InvalidCompression", true),
  ("parser.parseIPv6", "IPv6TooManyPieces", true),
  ("parser.parseIPv6", "IPv6MultipleCompression", true),
  ("parser.parseIPv6", "IPv4InIPv6InvalidCodePoint", true),
  ("parser.parseIPv6", "IPv4InIPv6TooManyPieces", true),
  ("parser.parseIPv6", "IPv4InIPv6InvalidCodePoint", true),
  ("parser.parseIPv6", "IPv4InIPv6InvalidCodePoint", true),
  ("parser.parseIPv6", "IPv4InIPv6InvalidCodePoint", true),
  ("parser.parseIPv6", "IPv4InIPv6OutOfRangePart", true),
  ("parser.parseIPv6", "IPv4InIPv6TooFewParts", true),
  ("parser.parseIPv6", "IPv6InvalidCodePoint", true),
  ("parser.parseIPv6", "IPv6InvalidCodePoint", true),
  ("parser.parseIPv6", "IPv6TooFewPieces", true),
  ("parser.parseOpaqueHost", "HostInvalidCodePoint", true),
  ("parser.parseOpaqueHost", "InvalidURLUnit", false),
  ("parser.parseOpaqueHost", "InvalidURLUnit", false),
  ("parser.BasicParser", "InvalidURLUnit", false),
  ("parser.BasicParser", "InvalidURLUnit", false),
  ("parser.BasicParser", "InvalidURLUnit", true),
  ("parser.BasicParser", "SpecialSchemeMissingFollowingSolidus", false),
  ("parser.BasicParser", "InvalidURLUnit", true),
  ("parser.BasicParser", "MissingSchemeNonRelativeURL", true),
  ("parser.BasicParser", "SpecialSchemeMissingFollowingSolidus", false),
  ("parser.BasicParser", "InvalidReverseSolidus", false),
  ("parser.BasicParser", "InvalidReverseSolidus", false),
  ("parser.BasicParser", "SpecialSchemeMissingFollowingSolidus", false),
  ("parser.BasicParser", "SpecialSchemeMissingFollowingSolidus", false),
  ("parser.BasicParser", "InvalidCredentials", false),
  ("parser.BasicParser", "InvalidCredentials", true),
  ("parser.BasicParser", "HostMissing", true),
  ("parser.BasicParser", "HostMissing", true),
  ("parser.BasicParser", "PortOutOfRange", true),
  ("parser.BasicParser", "PortMissing", true),
  ("parser.BasicParser", "PortInvalid", true),
  ("parser.BasicParser", "InvalidReverseSolidus", false),
  ("parser.BasicParser", "FileInvalidWindowsDriveLetter", false),
  ("parser.BasicParser", "InvalidReverseSolidus", false),
  ("parser.BasicParser", "FileInvalidWindowsDriveLetterHost", false),
  ("parser.BasicParser", "InvalidReverseSolidus", false),
  ("parser.BasicParser", "InvalidReverseSolidus", false),
  ("parser.BasicParser", "InvalidURLUnit", false),
  ("parser.BasicParser", "InvalidURLUnit", false),
  ("parser.BasicParser", "InvalidURLUnit", false),
  ("parser.BasicParser", "InvalidURLUnit", false),
  ("parser.BasicParser", "InvalidURLUnit", false),
  ("parser.BasicParser", "InvalidURLUnit", false),
  ("parser.BasicParser", "InvalidURLUnit", false),
  ("parser.BasicParser", "InvalidURLUnit", false)]

/-- the (error type, failure flag) pairs of the Go source and of the model's walk are the same SET: moving a site to
    another function, merging equal sites into one helper (the URL-unit validation is one method with three callers)
    or reordering changes nothing; a pair that appears or disappears does. Which of several equal sites runs is decided
    by the correspondence and the property's oracle, not by this fact. -/
theorem C15_sites_classified :
    (Generated.errorSites.map (fun s => (s.2.1, s.2.2.1))).all (fun p => (modelledSites.map (fun s => (s.2.1, s.2.2))).contains p) = true ∧
    (modelledSites.map (fun s => (s.2.1, s.2.2))).all (fun p => (Generated.errorSites.map (fun s => (s.2.1, s.2.2.1))).contains p) = true := by
  decide +kernel

theorem C15_fatal_always_stops (cfg : Cfg) : stops cfg true = true := by simp [stops]

theorem C15_record (cfg : Cfg) (u : Url) (t : ErrT) (f : Bool) :
    (cfg.report = false → record cfg u t f = u) ∧
    (cfg.report = true → record cfg u t f = { u with verrs := u.verrs ++ [⟨t, f⟩] }) := by
  constructor <;> intro h <;> simp [record, h]

theorem C15_stops_independent_of_reporting (cfg : Cfg) (f b : Bool) : stops { cfg with report := b } f = stops cfg f := rfl

end WhatwgUrl.Props.C15
