import WhatwgUrl.Props.C17d
import WhatwgUrl.Proofs.IdemGsbDots
/-
  C17e — C17 for the GoogleSafeBrowsing and Semantic profiles with the host hypothesis `hst` of C17d proved:
  `C17e_gsb_idempotent` and `C17e_semantic_idempotent` assume the grammar of C17d (no credentials, no port), the oracle laws
  `IdnaLaws I`, and a host text of the decidable class `EasyTextH`.

  The property names hosts made of letter-digit-hyphen labels and IPv4 / IPv6 literals.  `EasyTextH` contains them
  (`easyTextH_of_ldh`; `%` in the host text is outside) but for two exclusions the property does not make:
    * a label that begins with `xn--` (finding F6);
    * a text made of dots only.  For GoogleSafeBrowsing this has to be: it is not idempotent on `http://.../x/y`, a url of
      the grammar whose host text is in C17c's class `EasyText` (↦ `http:///x/y` ↦ `http://x/y`:
      `C17e_all_dots_not_idempotent_gsb_grammar`, `C17e_gsb_idempotent_false_for_EasyText`, kernel-checked under the oracle
      `I0`, which satisfies the laws).  The Semantic profile maps an all-dots host to `0.0.0.0` and is idempotent there
      (`C17e_semantic_idempotent_wide`, over the class `EasyTextS`).
-/
namespace WhatwgUrl.Props.C17e
open WhatwgUrl WhatwgUrl.Impl WhatwgUrl.Proofs.Pipeline WhatwgUrl.Proofs.Idem WhatwgUrl.Proofs.IdemGsb
open WhatwgUrl.Proofs.IPv4 (Ascii goRunes_ascii)
open WhatwgUrl.Proofs.Domain (asciiOrMisc_pure asciiOrMisc_eq_autB autB)
open WhatwgUrl.Props.C17b (canonText)
open WhatwgUrl.Props.C18d (render WebText canonOut canonText_canonParse)
open WhatwgUrl.Proofs.Spelling (hostText)
open WhatwgUrl.Proofs.Sim (I0 IdnaLaws)
open WhatwgUrl.Proofs.RTcInv (AsciiDomain)
open WhatwgUrl.Props.C17c (EasyText)

/-- a condition on the host TEXT of the input, not on the parsed host.  First disjunct: anything in brackets (if the parser
    rejects it there is nothing to prove).  Second: `forbiddenDomain` excludes `%`; there is no condition on texts that end
    in a number (`0x7f.1`, `1.2.3.4.`, `1..`: the IPv4 parser normalizes or rejects them), and empty labels, leading and
    trailing dots are allowed (`.a..B.` ↦ `a.b`) -/
def EasyTextH (a : Bytes) : Prop :=
  a.head? = some 0x5b ∨
  ((∀ b ∈ a, b.toNat < 0x80 ∧ forbiddenDomain b.toNat = false) ∧
   (∀ l ∈ splitOn 0x2e (asciiLower a), ¬ (lit "xn--").isPrefixOf l = true) ∧
   ∃ b ∈ a, b ≠ 0x2e)

instance (a : Bytes) : Decidable (EasyTextH a) := by unfold EasyTextH; infer_instance

example : EasyTextH (lit "example.com") ∧ EasyTextH (lit "Example.COM") ∧ EasyTextH (lit "Example.COM.") ∧
    EasyTextH (lit "[::1]") ∧ EasyTextH (lit "[0::1]") ∧ EasyTextH (lit "1.2.3.4") ∧ EasyTextH (lit "192.168.0.1.") ∧
    EasyTextH (lit "0x7f.1") ∧ EasyTextH (lit ".a..B-c.") ∧ EasyTextH (lit "1..") ∧
    ¬ EasyTextH (lit "xn--a") ∧ ¬ EasyTextH (lit "a.XN--b") ∧ ¬ EasyTextH (lit "ex%41mple.com") ∧ ¬ EasyTextH (lit "...") ∧
    ¬ EasyTextH (lit "a b") := by
  decide +kernel

theorem easyTextH_of_easyText (a : Bytes) (h : EasyText a) (hd : ∃ b ∈ a, b ≠ 0x2e) : EasyTextH a := by
  rcases h with h | ⟨_, hA⟩
  · exact Or.inl h
  · have lower_back : ∀ b : UInt8, (lowerB b).toNat < 0x80 → forbiddenDomain (lowerB b).toNat = false →
        b.toNat < 0x80 ∧ forbiddenDomain b.toNat = false :=
      Proofs.forall_uint8 (by decide +kernel)
    refine Or.inr ⟨fun b hb => ?_, hA.2.2.1, hd⟩
    have := hA.1 (lowerB b) (List.mem_map_of_mem hb)
    exact lower_back b this.1 this.2

example : EasyTextH (lit "0x7f.1") ∧ ¬ EasyText (lit "0x7f.1") ∧ EasyTextH (lit "1.2.3.4.") ∧ ¬ EasyText (lit "1.2.3.4.") := by
  decide +kernel

/-- ASCII letter (either case), digit, `-` (0x2d) or the label separator `.` (0x2e) -/
def ldhB (b : UInt8) : Bool :=
  isDigitN b.toNat || isUpperN b.toNat || (decide (0x61 ≤ b.toNat) && decide (b.toNat ≤ 0x7a)) || b == 0x2d || b == 0x2e

theorem ldhB_ok : ∀ b : UInt8, ldhB b = true → b.toNat < 0x80 ∧ forbiddenDomain b.toNat = false :=
  Proofs.forall_uint8 (by decide +kernel)

/-- the hosts the property names: letter-digit-hyphen labels in any letter case separated by dots (empty labels, a trailing
    dot allowed); dotted-decimal IPv4 addresses are of this form.  `h2`, `h3` are the two exclusions of the header -/
theorem easyTextH_of_ldh (a : Bytes) (h1 : ∀ b ∈ a, ldhB b = true)
    (h2 : ∀ l ∈ splitOn 0x2e (asciiLower a), ¬ (lit "xn--").isPrefixOf l = true) (h3 : ∃ b ∈ a, b ≠ 0x2e) : EasyTextH a :=
  Or.inr ⟨fun b hb => ldhB_ok b (h1 b hb), h2, h3⟩

example : ∀ b ∈ lit "Sub-1.Example.COM.", ldhB b = true := by decide +kernel

/-- `DotCfg cfg`: the host hook of `cfg` is the dot normalizer `norm` (trim dots, collapse runs of dots), as `gsbPre` and
    `semanticPre` are -/
theorem host_stable (cfg : Cfg) (hc : DotCfg cfg) (I : Idna) (hI : IdnaLaws I) (u : Url) (a : Bytes) (ha : hostText a = true)
    (hA : EasyTextH a) :
    ∀ h, (parseHost cfg I u a false).out = .ok h →
      hostText h = true ∧ decodeEncode hostSet h = h ∧ (parseHost cfg I u h false).out = .ok h := by
  intro h hout
  rcases hA with hb | ⟨h1, h2, h3⟩
  · exact bracket_stable cfg hc I u a hb h hout
  · have hne := norm_ne_nil a h3
    have hasc : Ascii a := fun b hb => (h1 b hb).1
    have haut : autB (asciiLower (norm a)) 0 = true := by
      rw [norm_lower, autB_norm, ← asciiOrMisc_eq_autB a hasc, ← goRunes_ascii a hasc]
      exact asciiOrMisc_pure a ⟨hasc, h2⟩
    exact domain_stable cfg hc I hI u a (norm a) (hc.pre u a (WhatwgUrl.Proofs.Spelling.hostText_spec ha).1 hne)
      (clean_norm a hne) (fun b hb => (h1 b (norm_mem a b hb)).1) (fun b hb => (h1 b (norm_mem a b hb)).2) haut h hout

theorem C17e_host_stable_gsb (I : Idna) (hI : IdnaLaws I) (a : Bytes) (ha : hostText a = true) (hA : EasyTextH a) :
    ∀ h, (parseHost gsbCfg I {} a false).out = .ok h →
      hostText h = true ∧ decodeEncode hostSet h = h ∧ (parseHost gsbCfg I {} h false).out = .ok h :=
  host_stable gsbCfg dotCfg_gsb I hI {} a ha hA

theorem C17e_host_stable_semantic (I : Idna) (hI : IdnaLaws I) (a : Bytes) (ha : hostText a = true) (hA : EasyTextH a) :
    ∀ h, (parseHost semanticCfg I {} a false).out = .ok h →
      hostText h = true ∧ decodeEncode hostSet h = h ∧ (parseHost semanticCfg I {} h false).out = .ok h :=
  host_stable semanticCfg dotCfg_semantic I hI {} a ha hA

example : hostText (lit "Example.COM.") = true ∧ EasyTextH (lit "Example.COM.") ∧ hostText (lit "[0::1]") = true ∧
    EasyTextH (lit "[0::1]") ∧ (parseHost gsbCfg I0 {} (lit "[0::1]") false).out = .ok (lit "[::1]") ∧
    (parseHost semanticCfg I0 {} (lit "[0::1]") false).out = .ok (lit "[::1]") := by
  decide +kernel

theorem ex_host_gsb (I : Idna) (hI : IdnaLaws I) :
    (parseHost gsbCfg I {} (lit "Example.COM.") false).out = .ok (lit "example.com") := by
  have hin : WhatwgUrl.Proofs.Web.preIn gsbCfg {} (lit "Example.COM.") = lit "Example.COM" := by decide +kernel
  rw [parseHost_domain_closed gsbCfg rfl dotCfg_gsb.enc I hI {} _ _ hin (by decide +kernel) (by unfold Ascii; decide) (by decide +kernel)
    (by decide +kernel),
    finishDomain_good gsbCfg rfl {} _ (by unfold Ascii; decide +kernel) (by decide +kernel)]
  decide +kernel

example (I : Idna) (hI : IdnaLaws I) : (parseHost gsbCfg I {} (lit "example.com") false).out = .ok (lit "example.com") :=
  (C17e_host_stable_gsb I hI (lit "Example.COM.") (by decide +kernel) (by decide +kernel) _ (ex_host_gsb I hI)).2.2

theorem norm_all_dots (a : Bytes) (h : ∀ b ∈ a, b = 0x2e) : norm a = [] := by
  have : trimLeftByte 0x2e a = [] := by
    unfold trimLeftByte
    induction a with
    | nil => rfl
    | cons x r ih =>
      have : x = 0x2e := h x (by simp)
      subst this
      rw [List.dropWhile_cons]
      simp only [beq_self_eq_true, if_true]
      exact ih (fun b hb => h b (List.mem_cons_of_mem _ hb))
  unfold norm
  rw [this]; rfl

theorem C17e_host_stable_semantic_dots (I : Idna) (hI : IdnaLaws I) (a : Bytes) (ha : a ≠ []) (hd : ∀ b ∈ a, b = 0x2e) :
    ∀ h, (parseHost semanticCfg I {} a false).out = .ok h →
      hostText h = true ∧ decodeEncode hostSet h = h ∧ (parseHost semanticCfg I {} h false).out = .ok h := by
  intro h hout
  have hin : WhatwgUrl.Proofs.Web.preIn semanticCfg {} a = lit "0.0.0.0" := by
    show semanticPre {} a = _
    unfold semanticPre
    have e1 : a.isEmpty = false := by cases a <;> simp_all
    simp only [e1, Bool.false_eq_true, if_false]
    show (if (norm a).isEmpty = true then lit "0.0.0.0" else norm a) = _
    rw [norm_all_dots a hd]; rfl
  exact domain_stable semanticCfg dotCfg_semantic I hI {} a (lit "0.0.0.0") hin (by decide) (by unfold Ascii; decide)
    (by decide) (by decide) h hout

def EasyTextS (a : Bytes) : Prop := EasyTextH a ∨ ∀ b ∈ a, b = 0x2e

instance (a : Bytes) : Decidable (EasyTextS a) := by unfold EasyTextS; infer_instance

theorem C17e_host_stable_semantic_wide (I : Idna) (hI : IdnaLaws I) (a : Bytes) (ha : hostText a = true) (hA : EasyTextS a) :
    ∀ h, (parseHost semanticCfg I {} a false).out = .ok h →
      hostText h = true ∧ decodeEncode hostSet h = h ∧ (parseHost semanticCfg I {} h false).out = .ok h := by
  rcases hA with hA | hA
  · exact C17e_host_stable_semantic I hI a ha hA
  · exact C17e_host_stable_semantic_dots I hI a (WhatwgUrl.Proofs.Spelling.hostText_spec ha).1 hA

theorem easyTextS_of_easyText (a : Bytes) (h : EasyText a) : EasyTextS a := by
  by_cases hd : ∃ b ∈ a, b ≠ 0x2e
  · exact Or.inl (easyTextH_of_easyText a h hd)
  · refine Or.inr (fun b hb => ?_)
    by_cases e : b = 0x2e
    · exact e
    · exact absurd ⟨b, hb, e⟩ hd

theorem C17e_gsb_idempotent (I : Idna) (hI : IdnaLaws I) (s dp a : Bytes) (hsd : gsbCfg.special? s = some dp) (hdp : dp ≠ [])
    (ha : hostText a = true) (hA : EasyTextH a) (segs : List Bytes) (q : Option (List (Bytes × Bytes))) (f : Option Bytes)
    (hw : WebText segs q f) (H H' : Heap) (t : Bytes)
    (ht : canonText (canonParse I gsbProfile H (render (s ++ lit "://" ++ a) segs q f)) = some t) :
    canonText (canonParse I gsbProfile H' t) = some t :=
  C17d.C17_gsb_idempotent I s dp a hsd hdp ha segs q f hw (C17e_host_stable_gsb I hI a ha hA) H H' t ht

theorem C17e_semantic_idempotent (I : Idna) (hI : IdnaLaws I) (s dp a : Bytes) (hsd : semanticCfg.special? s = some dp)
    (hdp : dp ≠ []) (ha : hostText a = true) (hA : EasyTextH a) (segs : List Bytes) (q : Option (List (Bytes × Bytes)))
    (f : Option Bytes) (hw : WebText segs q f) (H H' : Heap) (t : Bytes)
    (ht : canonText (canonParse I semanticProfile H (render (s ++ lit "://" ++ a) segs q f)) = some t) :
    canonText (canonParse I semanticProfile H' t) = some t :=
  C17d.C17_semantic_idempotent I s dp a hsd hdp ha segs q f hw (C17e_host_stable_semantic I hI a ha hA) H H' t ht

theorem C17e_semantic_idempotent_wide (I : Idna) (hI : IdnaLaws I) (s dp a : Bytes) (hsd : semanticCfg.special? s = some dp)
    (hdp : dp ≠ []) (ha : hostText a = true) (hA : EasyTextS a) (segs : List Bytes) (q : Option (List (Bytes × Bytes)))
    (f : Option Bytes) (hw : WebText segs q f) (H H' : Heap) (t : Bytes)
    (ht : canonText (canonParse I semanticProfile H (render (s ++ lit "://" ++ a) segs q f)) = some t) :
    canonText (canonParse I semanticProfile H' t) = some t :=
  C17d.C17_semantic_idempotent I s dp a hsd hdp ha segs q f hw (C17e_host_stable_semantic_wide I hI a ha hA) H H' t ht

private def segsX : List Bytes := [lit "%7Efoo", lit "a"]
private def qX : Option Pairs := some [(lit "b", lit "%41"), (lit "a", lit "1")]
private def fX : Option Bytes := some (lit "y")
private def psegsX : List Bytes := [lit "~foo", lit "a"]
private def pqX : Option Pairs := some [(lit "b", lit "A"), (lit "a", lit "1")]

private theorem ex_spells : Spells psegsX pqX fX segsX qX fX := spells_tilde_foo

private theorem sp_y (x : Bytes) (hx : (x != [] && x.all unres) = true) (h1 : x ≠ lit ".") (h2 : x ≠ lit "..") :
    Spells [x] none none [x] none none :=
  spells_self (fun p hp => by
      simp only [List.mem_cons, List.not_mem_nil, or_false] at hp
      subst hp
      exact ⟨plain_lit _ hx, h1, h2⟩)
    (by simp) (fun l hl => by cases hl) (fun y hy => by cases hy)

private theorem wt_one (x : Bytes) (hx : (x != [] && x.all unres) = true) (h1 : x ≠ lit ".") (h2 : x ≠ lit "..") :
    WebText [x] none none :=
  (sp_y x hx h1 h2).webText

private theorem ex_render : lit "http://Example.COM/%7Efoo/a?b=%41&a=1#y" =
    render (lit "http" ++ lit "://" ++ lit "Example.COM") segsX qX fX := by decide +kernel

example (I : Idna) (hI : IdnaLaws I) (H H' : Heap) (t : Bytes)
    (ht : canonText (canonParse I gsbProfile H (lit "http://Example.COM/%7Efoo/a?b=%41&a=1#y")) = some t) :
    canonText (canonParse I gsbProfile H' t) = some t := by
  rw [ex_render] at ht
  exact C17e_gsb_idempotent I hI (lit "http") (lit "80") (lit "Example.COM") (by decide +kernel) (by decide +kernel) (by decide +kernel)
    (by decide +kernel) segsX qX fX ex_spells.webText H H' t ht

example (I : Idna) (hI : IdnaLaws I) (H H' : Heap) (t : Bytes)
    (ht : canonText (canonParse I semanticProfile H (lit "http://Example.COM/%7Efoo/a?b=%41&a=1#y")) = some t) :
    canonText (canonParse I semanticProfile H' t) = some t := by
  rw [ex_render] at ht
  exact C17e_semantic_idempotent I hI (lit "http") (lit "80") (lit "Example.COM") (by decide +kernel) (by decide +kernel) (by decide +kernel)
    (by decide +kernel) segsX qX fX ex_spells.webText H H' t ht

example (I : Idna) (hI : IdnaLaws I) (H H' : Heap) (t : Bytes)
    (ht : canonText (canonParse I gsbProfile H (lit "https://[::1]/a")) = some t) :
    canonText (canonParse I gsbProfile H' t) = some t := by
  rw [show lit "https://[::1]/a" = render (lit "https" ++ lit "://" ++ lit "[::1]") [lit "a"] none none by decide +kernel] at ht
  exact C17e_gsb_idempotent I hI (lit "https") (lit "443") (lit "[::1]") (by decide +kernel) (by decide +kernel) (by decide +kernel)
    (by decide +kernel) _ _ _ (wt_one (lit "a") (by decide +kernel) (by decide +kernel) (by decide +kernel)) H H' t ht

example (I : Idna) (hI : IdnaLaws I) (H H' : Heap) (t : Bytes)
    (ht : canonText (canonParse I semanticProfile H (lit "https://[::1]/a")) = some t) :
    canonText (canonParse I semanticProfile H' t) = some t := by
  rw [show lit "https://[::1]/a" = render (lit "https" ++ lit "://" ++ lit "[::1]") [lit "a"] none none by decide +kernel] at ht
  exact C17e_semantic_idempotent I hI (lit "https") (lit "443") (lit "[::1]") (by decide +kernel) (by decide +kernel) (by decide +kernel)
    (by decide +kernel) _ _ _ (wt_one (lit "a") (by decide +kernel) (by decide +kernel) (by decide +kernel)) H H' t ht

example (I : Idna) (hI : IdnaLaws I) (H H' : Heap) (t : Bytes)
    (ht : canonText (canonParse I gsbProfile H (lit "ftp://1.2.3.4/x")) = some t) :
    canonText (canonParse I gsbProfile H' t) = some t := by
  rw [show lit "ftp://1.2.3.4/x" = render (lit "ftp" ++ lit "://" ++ lit "1.2.3.4") [lit "x"] none none by decide +kernel] at ht
  exact C17e_gsb_idempotent I hI (lit "ftp") (lit "21") (lit "1.2.3.4") (by decide +kernel) (by decide +kernel) (by decide +kernel)
    (by decide +kernel) _ _ _ (wt_one (lit "x") (by decide +kernel) (by decide +kernel) (by decide +kernel)) H H' t ht

example (I : Idna) (hI : IdnaLaws I) (H H' : Heap) (t : Bytes)
    (ht : canonText (canonParse I semanticProfile H (lit "ftp://1.2.3.4/x")) = some t) :
    canonText (canonParse I semanticProfile H' t) = some t := by
  rw [show lit "ftp://1.2.3.4/x" = render (lit "ftp" ++ lit "://" ++ lit "1.2.3.4") [lit "x"] none none by decide +kernel] at ht
  exact C17e_semantic_idempotent I hI (lit "ftp") (lit "21") (lit "1.2.3.4") (by decide +kernel) (by decide +kernel) (by decide +kernel)
    (by decide +kernel) _ _ _ (wt_one (lit "x") (by decide +kernel) (by decide +kernel) (by decide +kernel)) H H' t ht

/-- `ht` is satisfiable (an IPv6 host, so that everything reduces in the kernel) -/
example : canonText (canonParse I0 gsbProfile {} (lit "https://[0::1]/%61")) = some (lit "https://[::1]/a") ∧
    canonText (canonParse I0 gsbProfile {} (lit "https://[::1]/a")) = some (lit "https://[::1]/a") ∧
    canonText (canonParse I0 semanticProfile {} (lit "https://[0::1]/%61")) = some (lit "https://[::1]/a") ∧
    canonText (canonParse I0 semanticProfile {} (lit "https://[::1]/a")) = some (lit "https://[::1]/a") := by
  refine ⟨?_, ?_, ?_, ?_⟩ <;> eval_canon

/-- `...` is in C17c's class `EasyText`; the hook of GoogleSafeBrowsing trims it away, the host parser returns the EMPTY
    host, and the empty text is not a host text -/
theorem C17e_all_dots_host_gsb : hostText (lit "...") = true ∧ EasyText (lit "...") ∧
    (parseHost gsbCfg I0 {} (lit "...") false).out = .ok [] ∧ hostText [] = false := by
  decide +kernel

/-- `hst` of `C17d.C17_gsb_idempotent` at the host text `...` -/
theorem C17e_hst_false_gsb (I : Idna) :
    ¬ (∀ h, (parseHost gsbCfg I {} (lit "...") false).out = .ok h →
        hostText h = true ∧ decodeEncode hostSet h = h ∧ (parseHost gsbCfg I {} h false).out = .ok h) := by
  intro h
  have := (h [] (by rw [WhatwgUrl.Proofs.Web.parseHost_pre_nil gsbCfg I {} _ false (norm_all_dots (lit "...") (by decide))])).1
  exact absurd this (by decide)

/-- the empty host is accepted for a special scheme too -/
theorem C17e_all_dots_canonical_gsb :
    canonText (canonParse I0 gsbProfile {} (lit "http://.../x")) = some (lit "http:///x") := by
  eval_canon

/-- the next run takes the first path segment for the host (a bracketed one here, so that the second run evaluates without
    the oracle) -/
theorem C17e_all_dots_not_idempotent_gsb :
    canonText (canonParse I0 gsbProfile {} (lit "http://.../[::1]")) = some (lit "http:///[::1]") ∧
    canonText (canonParse I0 gsbProfile {} (lit "http:///[::1]")) = some (lit "http://[::1]/") := by
  constructor <;> eval_canon

/-- a url of the grammar of C17 but for the all-dots host; `I0` satisfies the laws.  Second run: the parser reads
    `http:///x/y` as `http://x/y` (`parse_slash3`), whose canonical text is given by the closed form of C17c -/
theorem C17e_all_dots_not_idempotent_gsb_grammar :
    canonText (canonParse I0 gsbProfile {} (lit "http://.../x/y")) = some (lit "http:///x/y") ∧
    canonText (canonParse I0 gsbProfile {} (lit "http:///x/y")) = some (lit "http://x/y") := by
  constructor
  · eval_canon
  · have hy := sp_y (lit "y") (by decide) (by decide) (by decide)
    have hx := parseHost_x I0 WhatwgUrl.Proofs.Sim.I0_laws
    have h2 : parse gsbCfg I0 (render (lit "http" ++ lit "://" ++ lit "x") [lit "y"] none none) = ⟨recD, .url⟩ := by
      rw [C17d.halfB_gsb I0 (lit "http") (lit "80") (lit "x") (by decide +kernel) (by decide +kernel) (by decide +kernel) [lit "y"] none none hy.webText]
      unfold C17c.webResC
      rw [hx]
      rfl
    have h1 : parse gsbCfg I0 (lit "http:///x/y") = ⟨recD, .url⟩ := parse_slash3
    have hbase : ∀ raw, (parse gsbCfg I0 raw).ret = .url → canonParseBase I0 gsbProfile raw = parse gsbCfg I0 raw :=
      fun raw h => canonParseBase_eq_parse I0 gsbProfile raw (Or.inl h)
    have e : canonText (canonParse I0 gsbProfile {} (lit "http:///x/y")) =
        canonText (canonParse I0 gsbProfile {} (render (lit "http" ++ lit "://" ++ lit "x") [lit "y"] none none)) := by
      rw [canonText_canonParse, canonText_canonParse, hbase _ (by rw [h1]), hbase _ (by rw [h2]), h1, h2]
    rw [e]
    have hfix : decodeEncode hostSet (lit "x") = lit "x" := dE_host_fix (by decide +kernel)
    rw [C17c.C17c_canonical_text_spells I0 gsbProfile rfl C17c.hooksOk_gsb C17c.cfgWeb_gsb (C17d.halfB_gsb I0) {} (lit "http")
      (lit "80") (lit "x") (lit "x") (lit "x") (by decide +kernel) (by decide +kernel) (by decide +kernel) [lit "y"] [lit "y"] none none none none
      hy.webText hy (congrArg HR.out (hx _)) ⟨by rw [hfix]; decide, by rw [hfix]; exact congrArg HR.out (hx _)⟩ (by decide +kernel)]
    decide

/-- `C17e_gsb_idempotent` with C17c's class `EasyText` in place of `EasyTextH` is false -/
theorem C17e_gsb_idempotent_false_for_EasyText :
    ¬ (∀ (I : Idna), IdnaLaws I → ∀ (s dp a : Bytes), gsbCfg.special? s = some dp → dp ≠ [] → hostText a = true → EasyText a →
        ∀ (segs : List Bytes) (q : Option (List (Bytes × Bytes))) (f : Option Bytes), WebText segs q f →
        ∀ (H H' : Heap) (t : Bytes), canonText (canonParse I gsbProfile H (render (s ++ lit "://" ++ a) segs q f)) = some t →
          canonText (canonParse I gsbProfile H' t) = some t) := by
  intro h
  have h1 := C17e_all_dots_not_idempotent_gsb_grammar.1
  rw [show lit "http://.../x/y" = render (lit "http" ++ lit "://" ++ lit "...") [lit "x", lit "y"] none none by decide +kernel] at h1
  have hw : WebText [lit "x", lit "y"] none none :=
    (spells_self (psegs := [lit "x", lit "y"]) (pq := none) (pf := none) (fun p hp => by
        simp only [List.mem_cons, List.not_mem_nil, or_false] at hp
        rcases hp with rfl | rfl
        · exact ⟨plain_lit _ (by decide +kernel), by decide +kernel, by decide +kernel⟩
        · exact ⟨plain_lit _ (by decide +kernel), by decide +kernel, by decide +kernel⟩)
      (by simp) (fun l hl => by cases hl) (fun x hx => by cases hx)).webText
  have h2 := h I0 WhatwgUrl.Proofs.Sim.I0_laws (lit "http") (lit "80") (lit "...") (by decide +kernel) (by decide +kernel) (by decide +kernel)
    (by decide +kernel) _ _ _ hw {} {} _ h1
  rw [C17e_all_dots_not_idempotent_gsb_grammar.2] at h2
  exact absurd h2 (by decide +kernel)

/- `#guard`: evaluation of the COMPILED model, not kernel-checked (the second runs have a domain host, which goes through
   the percent decoder: see `Props/C16b.lean`, "The refutation of the full statement").  Only the first line has a
   kernel-checked twin, `C17e_all_dots_canonical_gsb`; the kernel-checked non-idempotence is on another input
   (`C17e_all_dots_not_idempotent_gsb_grammar`). -/
#guard canonText (canonParse I0 gsbProfile {} (lit "http://.../x")) == some (lit "http:///x")
#guard canonText (canonParse I0 gsbProfile {} (lit "http:///x")) == some (lit "http://x/")
#guard canonText (canonParse I0 gsbProfile {} (lit "https://../a/b?c=d")) == some (lit "https:///a/b?c=d")
#guard canonText (canonParse I0 gsbProfile {} (lit "https:///a/b?c=d")) == some (lit "https://a/b?c=d")
#guard canonText (canonParse I0 semanticProfile {} (lit "http://.../x")) == some (lit "http://0.0.0.0/x")
#guard canonText (canonParse I0 semanticProfile {} (lit "http://0.0.0.0/x")) == some (lit "http://0.0.0.0/x")

example (I : Idna) (hI : IdnaLaws I) : (parseHost semanticCfg I {} (lit "...") false).out = .ok (lit "0.0.0.0") := by
  have hin : WhatwgUrl.Proofs.Web.preIn semanticCfg {} (lit "...") = lit "0.0.0.0" := by decide +kernel
  rw [parseHost_domain_closed semanticCfg rfl dotCfg_semantic.enc I hI {} _ _ hin (by decide +kernel) (by unfold Ascii; decide)
    (by decide +kernel) (by decide +kernel),
    finishDomain_good semanticCfg rfl {} _ (by unfold Ascii; decide +kernel) (by decide +kernel)]
  decide +kernel
example : EasyTextS (lit "...") ∧ hostText (lit "...") = true ∧ ¬ EasyTextH (lit "...") := by decide +kernel

end WhatwgUrl.Props.C17e

section AxiomCheck
open WhatwgUrl.Props.C17e
#print axioms host_stable
#print axioms C17e_host_stable_gsb
#print axioms C17e_host_stable_semantic
#print axioms C17e_host_stable_semantic_dots
#print axioms C17e_host_stable_semantic_wide
#print axioms C17e_gsb_idempotent
#print axioms C17e_semantic_idempotent
#print axioms C17e_semantic_idempotent_wide
#print axioms easyTextH_of_easyText
#print axioms easyTextS_of_easyText
#print axioms easyTextH_of_ldh
#print axioms C17e_all_dots_host_gsb
#print axioms C17e_hst_false_gsb
#print axioms C17e_all_dots_canonical_gsb
#print axioms C17e_all_dots_not_idempotent_gsb
#print axioms C17e_all_dots_not_idempotent_gsb_grammar
#print axioms C17e_gsb_idempotent_false_for_EasyText
end AxiomCheck
