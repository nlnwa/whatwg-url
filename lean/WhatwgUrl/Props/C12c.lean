import WhatwgUrl.Proofs.SyncInvOps
import WhatwgUrl.Props.C12
import WhatwgUrl.Props.C12b
/-
  C12c — C12 under any interleaving: "a url and its list describe the same query" as ONE inductive invariant (`Sync`,
  Proofs/SyncInv.lean), proved for every heap reachable (`Reach`) by any history of API calls (setters, list mutations,
  lazy creation, `Clone`, `Parse`, the canonicalizer, …, with arbitrary arguments and handles) in which
  `SetSearchParams(i, s)` is only called with the url's OWN list (`OwnList`).  This restriction of the histories cannot be
  dropped: `C12c_foreign_list_breaks`.
    `Linked H`  : a url's list exists and points back at the url; EVERY list has an owner, and it is the owner's current list.
    `SyncAt H i`: the list of url `i` is the urlencoded parse of the query text (the state after `SetSearch` or lazy
                  creation) OR the query text is the list's serialization (the state after a mutation; it fails in general
                  after `SetSearch`: `C12c_second_disjunct_fails`).
  The clauses of the property are read off the invariant by `C12c_after_mutation`, `C12c_after_setSearch` (the SAME list
  object: a handle obtained before the call stays valid) and `C12c_after_other_setter`; `C12c_reach_closed` (the next
  operation of the history finds the same situation) is what "under any interleaving" means.
  No hypothesis on configurations, oracles, inputs or return values is needed: the panic sites 30/31 of `SetSearch` and the
  dangling-handle branch, in which the query would be rewritten without the list, are excluded by `Linked` and by
  `setSearchU_query_isSome`; an inner parser call that fails or panics (site 20) still leaves query and list related.
  (The numbers are the arguments of `.panic n` in the model: 30, 31 in `Heap.setSearch` (Impl/Heap.lean: `s.url.parser` on
  a nil back pointer, `*u.query` on nil), 20 in `setSearchU` (Impl/Api.lean).)
-/
namespace WhatwgUrl.Props.C12c
open WhatwgUrl WhatwgUrl.Impl WhatwgUrl.Proofs.SyncInv
open WhatwgUrl.Proofs.HeapInv (HReachC)

abbrev Reach : Heap → Prop := HReachC (fun _ => True) OwnList

theorem C12c_sync_step_empty : Sync {} := sync_empty

theorem C12c_sync_step_set (I : Idna) (H : Heap) (i : Nat) (st : Setter) (v : Bytes) (h : Sync H) :
    Sync (H.set I i st v).1 := set_sync I i st v h

theorem C12c_sync_step_searchParams (H : Heap) (i : Nat) (h : Sync H) : Sync (H.searchParams i).1 :=
  searchParams_sync i h

theorem C12c_sync_step_spMutate (H : Heap) (s : Nat) (m : Heap.SpMut) (h : Sync H) : Sync (H.spMutate s m) :=
  spMutate_sync s m h

theorem C12c_sync_step_clone (H : Heap) (i : Nat) (h : Sync H) : Sync (H.clone i).1 := clone_sync i h

theorem C12c_sync_step_urlParse (I : Idna) (H : Heap) (i : Nat) (ref : Bytes) (h : Sync H) :
    Sync (H.urlParse I i ref).1 := (stable_sync (C := fun _ => True)).urlParse I i ref h

theorem C12c_sync_step_allocRes (H : Heap) (cfg : Cfg) (r : Res) (h : Sync H) : Sync (H.allocRes cfg r).1 :=
  allocRes_sync cfg r h

theorem C12c_sync_step_parse (cfg : Cfg) (I : Idna) (H : Heap) (raw : Bytes) (h : Sync H) :
    Sync (H.allocRes cfg (Impl.parse cfg I raw)).1 := allocRes_sync _ _ h

theorem C12c_sync_step_parseRef (cfg : Cfg) (I : Idna) (H : Heap) (raw ref : Bytes) (h : Sync H) :
    Sync (H.allocRes cfg (Impl.parseRef cfg I raw ref)).1 := allocRes_sync _ _ h

theorem C12c_sync_step_setSearchParams (H : Heap) (i s : Nat) (hV : OwnList H i s) (h : Sync H) :
    Sync (H.setSearchParams i s) := setSearchParams_sync i s hV h

theorem C12c_sync_step_canonicalize (I : Idna) (p : Profile) (H : Heap) (i : Nat) (h : Sync H) :
    Sync (canonicalize I p H i).1 := (stable_sync (C := fun _ => True)).canonicalize I p i h

theorem C12c_sync_step_canonParse (I : Idna) (p : Profile) (H : Heap) (raw : Bytes) (h : Sync H) :
    Sync (canonParse I p H raw).1 := (stable_sync (C := fun _ => True)).canonParse I p raw trivial h

theorem C12c_sync_step_canonParseRef (I : Idna) (p : Profile) (H : Heap) (raw ref : Bytes) (h : Sync H) :
    Sync (canonParseRef I p H raw ref).1 := (stable_sync (C := fun _ => True)).canonParseRef I p raw ref trivial h

theorem C12c_reachable_sync {H : Heap} (h : Reach H) : Sync H := stable_sync.reach h

theorem C12c_reachable_pair {H : Heap} (h : Reach H) (i s : Nat) (o : UrlObj) (ho : H.urls[i]? = some o)
    (hs : o.sp = some s) :
    ∃ so, H.sps[s]? = some so ∧ so.url = some i ∧
      (so.params = spInit o.cfg (queryG o.u) ∨ queryG o.u = spString o.cfg so.params) := by
  have hS := stable_sync.reach h
  obtain ⟨so, hso, hown⟩ := hS.1.1 i o s ho hs
  exact ⟨so, hso, hown, hS.2 i o s so ho hs hso⟩

/-- no sharing, no orphans: a list handle designates the current list of exactly one url -/
theorem C12c_reachable_owner {H : Heap} (h : Reach H) (s : Nat) (so : SpObj) (hso : H.sps[s]? = some so) :
    ∃ j o, so.url = some j ∧ H.urls[j]? = some o ∧ o.sp = some s ∧
      ∀ k ok, H.urls[k]? = some ok → ok.sp = some s → k = j := by
  have hS := stable_sync.reach h
  obtain ⟨j, o, hj, ho, hs⟩ := hS.1.2 s so hso
  exact ⟨j, o, hj, ho, hs, fun k ok hok hks => hS.1.inj ho hok hs hks⟩

theorem C12c_reachable_linked {H : Heap} (h : Reach H) :
    (∀ (i : Nat) (o : UrlObj) (s : Nat), H.urls[i]? = some o → o.sp = some s →
      ∃ so : SpObj, H.sps[s]? = some so ∧ so.url = some i) ∧
    (∀ (s : Nat) (so : SpObj) (j : Nat), H.sps[s]? = some so → so.url = some j →
      ∃ o : UrlObj, H.urls[j]? = some o ∧ o.sp = some s) ∧
    (∀ (s : Nat) (so : SpObj), H.sps[s]? = some so → so.url ≠ none) := by
  have hS := stable_sync.reach h
  refine ⟨hS.1.1, fun s so j hso hj => hS.1.back hso hj, fun s so hso hn => ?_⟩
  obtain ⟨j, _, hj, _⟩ := hS.1.2 s so hso
  rw [hn] at hj; cases hj

/-- No theorem states the serialization (`href`): it is a function of the record `o'.u`, and is evaluated in an example
    below.  The record equation states the exception in `update()`: an empty serialization does not turn a `none` query
    into `some []` (`Query()` is the empty string either way, so the conjunct on `queryG` has no exception). -/
theorem C12c_after_mutation {H : Heap} (h : Reach H) (i s : Nat) (o : UrlObj) (ho : H.urls[i]? = some o)
    (hs : o.sp = some s) (m : Heap.SpMut) :
    ∃ so o' so', H.sps[s]? = some so ∧ (H.spMutate s m).urls[i]? = some o' ∧ (H.spMutate s m).sps[s]? = some so' ∧
      so'.params = Heap.applyMut m so.params ∧ so'.url = some i ∧ o'.sp = some s ∧ o'.cfg = o.cfg ∧
      queryG o'.u = spString o.cfg so'.params ∧
      search o'.u = (if spString o.cfg so'.params = [] then [] else 0x3f :: spString o.cfg so'.params) ∧
      o'.u = { o.u with query :=
        (if (spString o.cfg so'.params = [] ∧ o.u.query = none) then none else some (spString o.cfg so'.params)) } := by
  have hS := stable_sync.reach h
  obtain ⟨so, hso, hown⟩ := hS.1.1 i o s ho hs
  obtain ⟨hsps, hu⟩ := Heap.spMutate_owner H i s m o so ho hso hown
  exact ⟨so, _, _, hso, hu, hsps, rfl, hown, hs, rfl, Heap.updQuery_getD _ _, Heap.search_updQuery _ _, rfl⟩

theorem C12c_after_setSearch {H : Heap} (h : Reach H) (I : Idna) (i s : Nat) (o : UrlObj) (ho : H.urls[i]? = some o)
    (hs : o.sp = some s) (v : Bytes) :
    ∃ so o' so', H.sps[s]? = some so ∧ (H.set I i .search v).1.urls[i]? = some o' ∧
      (H.set I i .search v).1.sps[s]? = some so' ∧ so'.url = some i ∧ o'.sp = some s ∧ o'.cfg = o.cfg ∧
      o'.u = (setSearchU o.cfg I o.u v).url ∧
      so'.params = spInit o.cfg (queryG o'.u) ∧
      (o'.u.query = none → so'.params = []) ∧
      (v = [] → o'.u.query = none ∧ so'.params = []) ∧
      (v ≠ [] → ∃ q, o'.u.query = some q ∧ so'.params = spInit o.cfg q) := by
  have hS := stable_sync.reach h
  obtain ⟨so, hso, hown⟩ := hS.1.1 i o s ho hs
  obtain ⟨hu, hl⟩ := Heap.setSearch_of_list_spec I H i s v o so ho hs hso hown
  obtain ⟨hE, hN⟩ := Heap.setSearchU_params o.cfg I o.u v
  refine ⟨so, _, _, hso, hu, hl, hown, hs, rfl, rfl, rfl, fun hq => ?_, hE, hN⟩
  show spInit o.cfg ((setSearchU o.cfg I o.u v).url.query.getD []) = []
  rw [hq]; exact Heap.spInit_nil _

theorem C12c_after_other_setter {H : Heap} (h : Reach H) (I : Idna) (i s : Nat) (o : UrlObj) (ho : H.urls[i]? = some o)
    (hs : o.sp = some s) (st : Setter) (v : Bytes) (hst : st ≠ .search) :
    ∃ so o', H.sps[s]? = some so ∧ (H.set I i st v).1.sps = H.sps ∧ (H.set I i st v).1.sps[s]? = some so ∧
      (H.set I i st v).1.urls[i]? = some o' ∧ o'.sp = some s ∧ o'.u.query = o.u.query := by
  have hS := stable_sync.reach h
  obtain ⟨so, hso, _⟩ := hS.1.1 i o s ho hs
  obtain ⟨h1, h2⟩ := C12b.C12_frame_heap_query I H i st v hst
  obtain ⟨o', ho', hsp, hq⟩ := h2 o ho
  exact ⟨so, o', hso, h1, by rw [h1]; exact hso, ho', hsp.trans hs, hq⟩

theorem C12c_reach_closed {H : Heap} (h : Reach H) :
    (∀ I i st v, Reach (H.set I i st v).1) ∧ (∀ s m, Reach (H.spMutate s m)) ∧ (∀ i, Reach (H.searchParams i).1) ∧
    (∀ i, Reach (H.clone i).1) :=
  ⟨fun I i st v => .set I i st v h, fun s m => .spMutate s m h, fun i => .searchParams i h, fun i => .clone i h⟩

/-- an IDNA oracle (identity, no error), the same as `C12.exI`; not consulted: the scheme `sc` is not special -/
def exI : Idna := fun b => (b, false)

/-- `u0 := Parse("sc://h/p")`; `l0 := u0.SearchParams()`; `l0.Append("a","1")`; `u1 := u0.Clone()` (with its list `l1`);
    `l1.Append("b","2")`; `u0.SetSearch("?x=1")` -/
def exHist : Heap :=
  ((((((({} : Heap).allocRes {} (Impl.parse {} exI (lit "sc://h/p"))).1.searchParams 0).1.spMutate 0
    (.append (lit "a") (lit "1"))).clone 0).1.spMutate 1 (.append (lit "b") (lit "2"))).set exI 0 .search (lit "?x=1")).1

theorem exHist_reach : Reach exHist :=
  .set _ _ _ _ (.spMutate _ _ (.clone _ (.spMutate _ _ (.searchParams _ (.parse _ _ _ trivial .empty)))))

theorem exHist_sync : Sync exHist := C12c_reachable_sync exHist_reach

theorem exHist_shape :
    (exHist.urls.map fun o => (o.sp, o.u.query)) = [(some 0, some (lit "x=1")), (some 1, some (lit "a=1&b=2"))] ∧
    (exHist.sps.map (·.url)) = [some 0, some 1] ∧
    ((exHist.sps[1]?).map (·.params)) = some [(lit "a", lit "1"), (lit "b", lit "2")] := by decide +kernel

theorem handle_of_bind {H : Heap} {i s : Nat} (h : (H.urls[i]?).bind (·.sp) = some s) :
    ∃ o, H.urls[i]? = some o ∧ o.sp = some s := by
  cases ho : H.urls[i]? with
  | none => rw [ho] at h; cases h
  | some o => rw [ho] at h; exact ⟨o, rfl, h⟩

theorem exHist_handle0 : ∃ o, exHist.urls[0]? = some o ∧ o.sp = some 0 := handle_of_bind (by decide +kernel)
theorem exHist_handle1 : ∃ o, exHist.urls[1]? = some o ∧ o.sp = some 1 := handle_of_bind (by decide +kernel)
example : OwnList exHist 1 1 := exHist_handle1
example : Reach (exHist.setSearchParams 1 1) := .setSearchParams 1 1 exHist_handle1 exHist_reach

-- the hypotheses of the three corollaries can be met
example (m : Heap.SpMut) : True := by
  obtain ⟨o, ho, hs⟩ := exHist_handle1
  have := C12c_after_mutation exHist_reach 1 1 o ho hs m
  trivial
example (v : Bytes) : True := by
  obtain ⟨o, ho, hs⟩ := exHist_handle0
  have := C12c_after_setSearch exHist_reach exI 0 0 o ho hs v
  trivial
example : True := by
  obtain ⟨o, ho, hs⟩ := exHist_handle1
  have := C12c_after_other_setter exHist_reach exI 1 1 o ho hs .hash (lit "f") (by decide)
  trivial

-- `l1.Delete("a")`, with `href`
example :
    (((exHist.spMutate 1 (.delete (lit "a"))).urls[1]?).map fun o => (queryG o.u, search o.u, href o.u false)) =
      some (lit "b=2", lit "?b=2", lit "sc://h/p?b=2") ∧
    (((exHist.spMutate 1 (.delete (lit "a"))).sps[1]?).map (·.params)) = some [(lit "b", lit "2")] ∧
    (((exHist.spMutate 1 (.delete (lit "a"))).urls[0]?).map fun o => queryG o.u) = some (lit "x=1") := by decide +kernel

-- `update()` with an empty serialization: an existing query becomes `some []` …
example :
    ((((exHist.spMutate 1 (.delete (lit "a"))).spMutate 1 (.delete (lit "b"))).urls[1]?).map fun o => (o.u.query, search o.u)) =
      some (some [], []) := by decide +kernel

-- … and a `none` query (`sc://h/p`; sorting the empty list) stays `none`
example :
    ((((((({} : Heap).allocRes {} (Impl.parse {} exI (lit "sc://h/p"))).1.searchParams 0).1.spMutate 0 .sort).urls[0]?).map
      fun o => (o.u.query, o.sp)) = some (none, some 0)) := by decide +kernel

theorem exHist_setSearch :
    (((exHist.set exI 1 .search (lit "?y=3")).1.urls[1]?).map fun o => (o.u.query, o.sp)) = some (some (lit "y=3"), some 1) ∧
    (((exHist.set exI 1 .search (lit "?y=3")).1.sps[1]?).map (·.url)) = some (some 1) := by decide +kernel

/-- one pair without `+` and `%`, under any configuration -/
theorem ex_spInit_y3 (cfg : Cfg) : spInit cfg (lit "y=3") = [(lit "y", lit "3")] := by
  rw [show lit "y=3" = lit "y" ++ 0x3d :: lit "3" from by decide,
    Proofs.SkipEquals.spInit_pair cfg _ _ (by decide) (by decide),
    Proofs.Percent.decodePercent_no_pct cfg _ (by decide), Proofs.Percent.decodePercent_no_pct cfg _ (by decide)]

theorem exHist_setSearch_list :
    (((exHist.set exI 1 .search (lit "?y=3")).1.sps[1]?).map (·.params)) = some [(lit "y", lit "3")] := by
  obtain ⟨o, ho, hs⟩ := exHist_handle1
  obtain ⟨so, o', so', _, ho', hso', _, _, hcfg, _, hp, _⟩ := C12c_after_setSearch exHist_reach exI 1 1 o ho hs (lit "?y=3")
  have hq : (((exHist.set exI 1 .search (lit "?y=3")).1.urls[1]?).map fun o => queryG o.u) = some (lit "y=3") := by
    decide +kernel
  rw [ho'] at hq
  rw [hso']
  simp only [Option.map_some, Option.some.injEq] at hq ⊢
  rw [hp, hq]
  exact ex_spInit_y3 _

example :
    (((exHist.set exI 1 .search []).1.urls[1]?).map fun o => (o.u.query, o.sp)) = some (none, some 1) ∧
    (((exHist.set exI 1 .search []).1.sps[1]?).map fun so => (so.url, so.params)) = some (some 1, []) := by decide +kernel

example :
    (((exHist.set exI 1 .hash (lit "f")).1.urls[1]?).map fun o => (o.u.query, o.u.fragment, o.sp)) =
      some (some (lit "a=1&b=2"), some (lit "f"), some 1) ∧
    (((exHist.set exI 1 .hash (lit "f")).1.sps[1]?).map (·.params)) = some [(lit "a", lit "1"), (lit "b", lit "2")] := by
  decide +kernel

/-- `u0.SetSearchParams(l1)` with the list of ANOTHER url: the list keeps pointing at `u1` (the Go method does not
    change the back pointer), so url 0 and "its" list are not linked and `update()` of that list writes to url 1 —
    `Sync` fails on a heap that is reachable when foreign lists are allowed (`fun _ _ _ => True` in the place of `OwnList`) -/
theorem C12c_foreign_list_breaks :
    HReachC (fun _ => True) (fun _ _ _ => True) (exHist.setSearchParams 0 1) ∧ ¬ Sync (exHist.setSearchParams 0 1) := by
  refine ⟨.setSearchParams 0 1 trivial (exHist_reach.mono (fun _ _ _ _ => trivial)), ?_⟩
  intro hS
  obtain ⟨o, ho, hs⟩ := handle_of_bind (H := exHist.setSearchParams 0 1) (i := 0) (s := 1) (by decide +kernel)
  obtain ⟨so, hso, hown⟩ := hS.1.1 0 o 1 ho hs
  have h1 : (((exHist.setSearchParams 0 1).sps[1]?).map (·.url)) = some (some 1) := by decide +kernel
  rw [hso] at h1
  simp only [Option.map_some, Option.some.injEq] at h1
  rw [hown] at h1
  cases h1

example :
    (((exHist.setSearchParams 0 1).urls[0]?).map fun o => (queryG o.u, o.sp)) = some (lit "x=1", some 1) ∧
    (((exHist.setSearchParams 0 1).sps[1]?).map fun so => spString {} so.params) = some (lit "a=1&b=2") := by decide +kernel

/-- why `SyncAt` is a disjunction: `SetSearch("?a&&b")` leaves the query `a&&b` (example below), whose parse
    `[(a,""),(b,"")]` serializes to `a=&b=` -/
theorem C12c_second_disjunct_fails : lit "a&&b" ≠ spString {} (spInit {} (lit "a&&b")) := by
  rw [Proofs.Idem.spInit_funC]; decide +kernel

example : (((exHist.set exI 1 .search (lit "?a&&b")).1.urls[1]?).map fun o => queryG o.u) = some (lit "a&&b") := by
  decide +kernel

end WhatwgUrl.Props.C12c

section AxiomCheck
open WhatwgUrl.Props.C12c
#print axioms C12c_sync_step_empty
#print axioms C12c_sync_step_set
#print axioms C12c_sync_step_searchParams
#print axioms C12c_sync_step_spMutate
#print axioms C12c_sync_step_clone
#print axioms C12c_sync_step_urlParse
#print axioms C12c_sync_step_allocRes
#print axioms C12c_sync_step_parse
#print axioms C12c_sync_step_parseRef
#print axioms C12c_sync_step_setSearchParams
#print axioms C12c_sync_step_canonicalize
#print axioms C12c_sync_step_canonParse
#print axioms C12c_sync_step_canonParseRef
#print axioms C12c_reachable_sync
#print axioms C12c_reachable_pair
#print axioms C12c_reachable_owner
#print axioms C12c_reachable_linked
#print axioms C12c_after_mutation
#print axioms C12c_after_setSearch
#print axioms C12c_after_other_setter
#print axioms C12c_reach_closed
#print axioms exHist_reach
#print axioms exHist_sync
#print axioms exHist_shape
#print axioms exHist_setSearch
#print axioms exHist_setSearch_list
#print axioms C12c_foreign_list_breaks
#print axioms C12c_second_disjunct_fails
end AxiomCheck
