import WhatwgUrl.Proofs.WebHost6
import WhatwgUrl.Props.C18d
/-
  C18e — the canonicalization theorem for the REAL GoogleSafeBrowsing and Semantic profiles.

  `Props/C18d.lean` proves "two spellings of the same ordinary web url canonicalize to the same text" for every profile with
  repeated percent-decoding and DEFAULT parser options.  The predefined profiles `canonicalizer.GoogleSafeBrowsing` and
  `canonicalizer.Semantic` (`Impl/Profiles.lean`: `gsbProfile`, `semanticProfile`) have other parser options: lax host parsing,
  collapse consecutive slashes, accept invalid code points, percent-encode single percent sign, lax query / path sets, a Latin-1
  encoding override, a pre-parse-host closure, skip-equals, allow-non-base path, a special-scheme table with `gopher`.

  1. `WebCfg cfg` (`Proofs/WebDefs.lean`): five Boolean tests on the fields of a configuration.  `WebParseCfg` (what Half B
     needs): the path / special-query / special-fragment sets contain none of `A-Z a-z 0-9 - . _ ~ %` (the query set: nor `&`,
     `=`), the (unshadowed) entries of the special-scheme table with a default port have lower-case scheme texts other than
     `file` as keys; `WebCfg` in addition (needed for the canonicalizer's query list only): an encoding override decodes the
     bytes `A-Z a-z 0-9 - . _ ~ %` to themselves.  It holds for `{}`, `gsbCfg`, `semanticCfg`.
     EVERYTHING ELSE is unconstrained: report / fail on validation errors, lax host, hooks, percent-encode-single-percent,
     collapse, accept-invalid, allow-non-base-path, skip drive letter / trailing slash / equals, the non-special sets.
     Each clause is NEEDED (section "the limits": evaluated counterexamples for the three sets, `C18e_parse_render_needs_schemes`
     for the table (its `file` part), `C18e_capstone_needs_charmap` for the charmap).
  2. `C18e_parse_render` (Half B): under such a configuration `scheme://host/seg…?n=v…#frag` parses to the host parser's
     failure or to the record with exactly these segments, this query and this fragment (`webResC`; the host parser — which IS
     different under lax host parsing / hooks — enters only through its result on the host text).
     `WebText` admits no empty segment (every segment spells a NON-EMPTY plain text), so collapsing has nothing to do and the
     path is stated as the list itself; the underlying `Proofs/WebParse.lean: parse_web_c` allows an empty LAST segment
     (hypothesis "no empty non-final segment").  `s ≠ "file"` follows from `dp ≠ []` by the `schemes` clause of `WebCfg` (the
     scheme state goes to the file state for `file` whatever the table says, so a table that gives `file` a port is excluded).
  3. `C18e_spellings_same_canonical` (generic: `WebCfg p.cfg`, `HooksOk p.cfg`), `C18e_gsb`, `C18e_semantic` (no hypothesis
     about the configuration left: `hooksOk_gsb`, `hooksOk_semantic` — both closures ignore the record).  Both inputs have
     the SAME host text `a`; what varies is the spelling of segments, names, values and fragment (`SameWeb`).  `SameWeb` wants
     both fragments absent or both spellings of a non-empty text: `…/a#` against `…/a` is not an instance of `C18e_gsb` /
     `C18e_semantic`, although both profiles remove fragments; the property's clause "an empty fragment" has the record-level
     `C18d.C18d_canonicalize_congr_rf` only.
  4. the ASCII letter case of the host (`C18e_host_case`, `C18e_host_case_partial`, `C18e_spellings_same_canonical_hostcase`,
     `C18e_gsb_hostcase`, `C18e_semantic_hostcase`): the outcome of the host parser is the same for two host texts that differ in
     letter case only, PROVIDED what the host parser gets to see after the hook (`preIn`) is empty, or ASCII starting with `[`
     (IPv6: `HostCase6.parseIPv6_congr` through `Web.host_case`, no law needed), or not bracketed, without `%`, pure ASCII without an
     `xn--` label start (law L1).  Without the proviso the statement is FALSE under the oracle laws `IdnaLaws`
     (`C18e_host_case_Statement_false`: the laws say nothing about ACE labels).
  Helper files: `Proofs/PipelineWeb.lean` (Half B and the capstone for two host texts, `same_canonical_of_out`),
  `Proofs/Web{Defs,Steps,Reach,Parse,Query,Host,Host6}.lean` (the run lemmas of `Proofs/RunScan.lean`, which hold for any
  environment, applied under `WebParseCfg`, with what they need from the configuration as explicit hypotheses).
-/
namespace WhatwgUrl.Props.C18e
open WhatwgUrl WhatwgUrl.Impl WhatwgUrl.Proofs.Pipeline WhatwgUrl.Proofs.Web
open WhatwgUrl.Props.C17b (canonText)
open WhatwgUrl.Props.C18d (render WebText SameWeb canonOut canonText_canonParse)
open WhatwgUrl.Proofs.RoundTrip (pathText qTail fTail setQ setF)
open WhatwgUrl.Proofs.Spelling (hostText hostFail)
open WhatwgUrl.Proofs.Sim (I0)

-- the definitions the statements of this file are about (declared in `Proofs/WebDefs.lean`, `Proofs/WebParse.lean`); the
-- `export` makes them reachable as `Props.C18e.WebCfg` … too, so that a user of these theorems need not open `Proofs.Web`
export WhatwgUrl.Proofs.Web (WebParseCfg WebCfg webResC)

/-! ### 1. the configurations -/

/-- the default configuration, and the parser options of the two predefined profiles, are web configurations -/
theorem C18e_webCfg_default : WebCfg {} := webCfg_default
theorem C18e_webCfg_gsb : WebCfg gsbCfg := webCfg_gsb
theorem C18e_webCfg_semantic : WebCfg semanticCfg := webCfg_semantic

/-- the hooks of the two profiles ignore the record (`Proofs.Web.hooksOk_gsb`, `Proofs.Web.hooksOk_semantic` under the names
    of this namespace) -/
theorem hooksOk_gsb : HooksOk gsbCfg := WhatwgUrl.Proofs.Web.hooksOk_gsb
theorem hooksOk_semantic : HooksOk semanticCfg := WhatwgUrl.Proofs.Web.hooksOk_semantic

/-! ### 2. Half B -/

/-- **Half B, one input** under a configuration with `WebParseCfg` (the four clauses about the sets and the table; the
    charmap clause of `WebCfg` is not needed): the parse result is the host parser's failure, or the record with exactly
    these segments, this query text and this fragment -/
theorem C18e_parse_render' (cfg : Cfg) (hW : WebParseCfg cfg) (I : Idna) (s dp a : Bytes) (hsd : cfg.special? s = some dp)
    (hdp : dp ≠ []) (ha : hostText a = true)
    (segs : List Bytes) (q : Option (List (Bytes × Bytes))) (f : Option Bytes) (hw : WebText segs q f) :
    parse cfg I (render (s ++ lit "://" ++ a) segs q f) = webResC cfg I s a segs (q.map qText) f :=
  parse_render_c cfg hW I s dp a hsd hdp ha segs q f hw

theorem C18e_parse_render (cfg : Cfg) (hW : WebCfg cfg) (I : Idna) (s dp a : Bytes) (hsd : cfg.special? s = some dp) (hdp : dp ≠ [])
    (ha : hostText a = true)
    (segs : List Bytes) (q : Option (List (Bytes × Bytes))) (f : Option Bytes) (hw : WebText segs q f) :
    parse cfg I (render (s ++ lit "://" ++ a) segs q f) = webResC cfg I s a segs (q.map qText) f :=
  C18e_parse_render' cfg hW.toWebParseCfg I s dp a hsd hdp ha segs q f hw

/-- **Half B, two inputs**: when the host parser accepts the host text, both parses succeed and the two records are related
    as Half A requires -/
theorem C18e_parse_related (cfg : Cfg) (hW : WebCfg cfg) (I : Idna) (s dp a h : Bytes) (hsd : cfg.special? s = some dp)
    (hdp : dp ≠ []) (ha : hostText a = true) (hout : (parseHost cfg I (hostU s) a false).out = .ok h)
    (segs₁ segs₂ : List Bytes) (q₁ q₂ : Option (List (Bytes × Bytes))) (f₁ f₂ : Option Bytes)
    (hw : SameWeb segs₁ segs₂ q₁ q₂ f₁ f₂) :
    ∃ u₁ u₂, parse cfg I (render (s ++ lit "://" ++ a) segs₁ q₁ f₁) = ⟨u₁, .url⟩ ∧
      parse cfg I (render (s ++ lit "://" ++ a) segs₂ q₂ f₂) = ⟨u₂, .url⟩ ∧
      C18d.Agree u₁ u₂ ∧ PathEq u₁.path u₂.path ∧ QueryEq cfg u₁.query u₂.query ∧ FragEq u₁.fragment u₂.fragment ∧
      u₁.path = ⟨segs₁, false⟩ ∧ u₂.path = ⟨segs₂, false⟩ ∧ u₁.query = q₁.map qText ∧ u₂.query = q₂.map qText ∧
      u₁.fragment = f₁ ∧ u₂.fragment = f₂ :=
  parse_related_hosts cfg hW I s dp a a h hsd hdp ha ha hout hout segs₁ segs₂ q₁ q₂ f₁ f₂ hw

/-! ### 3. the capstone -/

/-- **C18e.**  For every profile with repeated percent-decoding whose parser options satisfy `WebCfg` and whose host hooks do
    not read the spelled fields (any combination of the other parser options and of remove-port, remove-user-info,
    remove-fragment, query sorting, default scheme), `(*profile).Parse` of two spellings of the same ordinary web url — on any
    two heaps — returns the same canonical text.  (If the host parser rejects the host text, both calls fail in the same way
    and there is no text for either; the retry with the default scheme is not triggered.) -/
theorem C18e_spellings_same_canonical (I : Idna) (p : Profile) (hp : p.repeatedPercentDecoding = true) (hW : WebCfg p.cfg)
    (hk : HooksOk p.cfg) (H₁ H₂ : Heap) (s dp a : Bytes) (hsd : p.cfg.special? s = some dp) (hdp : dp ≠ [])
    (ha : hostText a = true)
    (segs₁ segs₂ : List Bytes) (q₁ q₂ : Option (List (Bytes × Bytes))) (f₁ f₂ : Option Bytes)
    (hw : SameWeb segs₁ segs₂ q₁ q₂ f₁ f₂) :
    canonText (canonParse I p H₁ (render (s ++ lit "://" ++ a) segs₁ q₁ f₁)) =
      canonText (canonParse I p H₂ (render (s ++ lit "://" ++ a) segs₂ q₂ f₂)) :=
  same_canonical_of_out I p hp hW hk H₁ H₂ s dp a a hsd hdp ha ha rfl segs₁ segs₂ q₁ q₂ f₁ f₂ hw

/-- **`canonicalizer.GoogleSafeBrowsing`**: no hypothesis about the configuration is left -/
theorem C18e_gsb (I : Idna) (H₁ H₂ : Heap) (s dp a : Bytes) (hsd : gsbCfg.special? s = some dp) (hdp : dp ≠ [])
    (ha : hostText a = true)
    (segs₁ segs₂ : List Bytes) (q₁ q₂ : Option (List (Bytes × Bytes))) (f₁ f₂ : Option Bytes)
    (hw : SameWeb segs₁ segs₂ q₁ q₂ f₁ f₂) :
    canonText (canonParse I gsbProfile H₁ (render (s ++ lit "://" ++ a) segs₁ q₁ f₁)) =
      canonText (canonParse I gsbProfile H₂ (render (s ++ lit "://" ++ a) segs₂ q₂ f₂)) :=
  C18e_spellings_same_canonical I gsbProfile rfl webCfg_gsb hooksOk_gsb H₁ H₂ s dp a hsd hdp ha segs₁ segs₂ q₁ q₂ f₁ f₂ hw

/-- **`canonicalizer.Semantic`** (its table has `gopher` in addition) -/
theorem C18e_semantic (I : Idna) (H₁ H₂ : Heap) (s dp a : Bytes) (hsd : semanticCfg.special? s = some dp) (hdp : dp ≠ [])
    (ha : hostText a = true)
    (segs₁ segs₂ : List Bytes) (q₁ q₂ : Option (List (Bytes × Bytes))) (f₁ f₂ : Option Bytes)
    (hw : SameWeb segs₁ segs₂ q₁ q₂ f₁ f₂) :
    canonText (canonParse I semanticProfile H₁ (render (s ++ lit "://" ++ a) segs₁ q₁ f₁)) =
      canonText (canonParse I semanticProfile H₂ (render (s ++ lit "://" ++ a) segs₂ q₂ f₂)) :=
  C18e_spellings_same_canonical I semanticProfile rfl webCfg_semantic hooksOk_semantic H₁ H₂ s dp a hsd hdp ha
    segs₁ segs₂ q₁ q₂ f₁ f₂ hw

/-- … and when the host parser accepts the host text, both parses do succeed -/
theorem C18e_both_parse (cfg : Cfg) (hW : WebCfg cfg) (I : Idna) (s dp a h : Bytes) (hsd : cfg.special? s = some dp)
    (hdp : dp ≠ []) (ha : hostText a = true) (hout : (parseHost cfg I (hostU s) a false).out = .ok h)
    (segs₁ segs₂ : List Bytes) (q₁ q₂ : Option (List (Bytes × Bytes))) (f₁ f₂ : Option Bytes)
    (hw : SameWeb segs₁ segs₂ q₁ q₂ f₁ f₂) :
    (parse cfg I (render (s ++ lit "://" ++ a) segs₁ q₁ f₁)).ret = .url ∧
    (parse cfg I (render (s ++ lit "://" ++ a) segs₂ q₂ f₂)).ret = .url := by
  obtain ⟨u₁, u₂, r1, r2, _⟩ := C18e_parse_related cfg hW I s dp a h hsd hdp ha hout segs₁ segs₂ q₁ q₂ f₁ f₂ hw
  rw [r1, r2]; exact ⟨rfl, rfl⟩

/-! ### non-vacuity -/

private theorem tok_refl (s : Bytes) (h : (s != [] && s.all unres) = true) : Tok s s := Proofs.Idem.tok_refl (plain_lit s h)

private def segsA : List Bytes := [lit "%7Efoo", lit "a"]
private def segsB : List Bytes := [lit "~foo", lit "a"]
private def qA : Option (List (Bytes × Bytes)) := some [(lit "x", lit "%41")]
private def qB' : Option (List (Bytes × Bytes)) := some [(lit "x", lit "A")]
private def fA : Option Bytes := some (lit "y")

/-- the two inputs of the example are spellings of the same plain url `…/~foo/a?x=A#y` -/
private theorem ex_same : SameWeb segsA segsB qA qB' fA fA where
  hsegs := .cons ⟨lit "~foo", ⟨⟨plain_lit _ (by decide), spelled_tilde_foo⟩, by decide, by decide⟩, ⟨tok_refl _ (by decide), by decide, by decide⟩⟩
    (.cons ⟨lit "a", ⟨tok_refl _ (by decide), by decide, by decide⟩, ⟨tok_refl _ (by decide), by decide, by decide⟩⟩ .nil)
  hne := by decide
  hquery := .cons ⟨⟨lit "x", tok_refl _ (by decide), tok_refl _ (by decide)⟩,
      ⟨lit "A", ⟨plain_lit _ (by decide), spelled_A⟩, tok_refl _ (by decide)⟩⟩ .nil
  hfrag := ⟨lit "y", tok_refl _ (by decide), tok_refl _ (by decide)⟩

/-- how the two inputs read -/
private theorem ex_render :
    render (lit "http" ++ lit "://" ++ lit "example.com") segsA qA fA = lit "http://example.com/%7Efoo/a?x=%41#y" ∧
    render (lit "http" ++ lit "://" ++ lit "example.com") segsB qB' fA = lit "http://example.com/~foo/a?x=A#y" := by decide +kernel

example : render (lit "http" ++ lit "://" ++ lit "example.com") segsA qA fA = lit "http://example.com/%7Efoo/a?x=%41#y" ∧
    render (lit "http" ++ lit "://" ++ lit "example.com") segsB qB' fA = lit "http://example.com/~foo/a?x=A#y" := ex_render

/-- the hypotheses about scheme and host text -/
private theorem ex_hyps : gsbCfg.special? (lit "http") = some (lit "80") ∧ lit "80" ≠ [] ∧ hostText (lit "example.com") = true := by
  decide +kernel
example : gsbCfg.special? (lit "http") = some (lit "80") ∧ lit "80" ≠ [] ∧ hostText (lit "example.com") = true := ex_hyps
private theorem ex_hyps_gopher :
    semanticCfg.special? (lit "gopher") = some (lit "70") ∧ lit "70" ≠ [] ∧ hostText (lit "[::1]") = true := by decide +kernel
example : semanticCfg.special? (lit "gopher") = some (lit "70") ∧ lit "70" ≠ [] ∧ hostText (lit "[::1]") = true := ex_hyps_gopher

/-- **`C18e_gsb` applied**: `http://example.com/%7Efoo/a?x=%41#y` and `http://example.com/~foo/a?x=A#y` have the same canonical
    text under the GoogleSafeBrowsing profile (any oracle, any two heaps) -/
example (I : Idna) (H₁ H₂ : Heap) :
    canonText (canonParse I gsbProfile H₁ (lit "http://example.com/%7Efoo/a?x=%41#y")) =
    canonText (canonParse I gsbProfile H₂ (lit "http://example.com/~foo/a?x=A#y")) := by
  rw [← ex_render.1, ← ex_render.2]
  exact C18e_gsb I H₁ H₂ (lit "http") (lit "80") (lit "example.com") ex_hyps.1 ex_hyps.2.1 ex_hyps.2.2 segsA segsB qA qB' fA fA ex_same

/-- … and under the Semantic profile, also with the `gopher` scheme of its table -/
example (I : Idna) (H₁ H₂ : Heap) :
    canonText (canonParse I semanticProfile H₁ (lit "http://example.com/%7Efoo/a?x=%41#y")) =
    canonText (canonParse I semanticProfile H₂ (lit "http://example.com/~foo/a?x=A#y")) := by
  rw [← ex_render.1, ← ex_render.2]
  exact C18e_semantic I H₁ H₂ (lit "http") (lit "80") (lit "example.com") (by decide +kernel) ex_hyps.2.1 ex_hyps.2.2
    segsA segsB qA qB' fA fA ex_same

example (I : Idna) (H₁ H₂ : Heap) :
    canonText (canonParse I semanticProfile H₁ (lit "gopher://[::1]/%7Efoo/a?x=%41#y")) =
    canonText (canonParse I semanticProfile H₂ (lit "gopher://[::1]/~foo/a?x=A#y")) := by
  rw [show lit "gopher://[::1]/%7Efoo/a?x=%41#y" = render (lit "gopher" ++ lit "://" ++ lit "[::1]") segsA qA fA by decide +kernel,
    show lit "gopher://[::1]/~foo/a?x=A#y" = render (lit "gopher" ++ lit "://" ++ lit "[::1]") segsB qB' fA by decide +kernel]
  exact C18e_semantic I H₁ H₂ (lit "gopher") (lit "70") (lit "[::1]") ex_hyps_gopher.1 ex_hyps_gopher.2.1 ex_hyps_gopher.2.2
    segsA segsB qA qB' fA fA ex_same

private theorem ex_host : (parseHost gsbCfg I0 (hostU (lit "http")) (lit "[::1]") false).out = .ok (lit "[::1]") := by decide +kernel

/-- Half B on the first input under the GoogleSafeBrowsing options (IPv6 host, so that the host parser evaluates) -/
example : ∃ u, parse gsbCfg I0 (lit "http://[::1]/%7Efoo/a?x=%41#y") = ⟨u, .url⟩ ∧
    u.path = ⟨[lit "%7Efoo", lit "a"], false⟩ ∧ u.query = some (lit "x=%41") ∧ u.fragment = some (lit "y") := by
  obtain ⟨u₁, u₂, r1, _, _, _, _, _, h1, _, h2, _, h3, _⟩ :=
    C18e_parse_related gsbCfg webCfg_gsb I0 (lit "http") (lit "80") (lit "[::1]") _ ex_hyps.1 ex_hyps.2.1 ex_hyps_gopher.2.2 ex_host
      segsA segsB qA qB' fA fA ex_same
  rw [show lit "http://[::1]/%7Efoo/a?x=%41#y" = render (lit "http" ++ lit "://" ++ lit "[::1]") segsA qA fA by decide +kernel]
  exact ⟨u₁, r1, h1, h2, h3⟩

/-- … which agrees with evaluation (kernel-checked) -/
example : (parse gsbCfg I0 (lit "http://[::1]/%7Efoo/a?x=%41#y")).url.path = ⟨[lit "%7Efoo", lit "a"], false⟩ := by decide +kernel
example : (parse semanticCfg I0 (lit "gopher://[::1]/%7Efoo/a?x=%41#y")).url.query = some (lit "x=%41") := by decide +kernel

/-- the underlying `parse_web_c` admits an empty LAST segment (a trailing slash) also under collapsing -/
example : parse gsbCfg I0 (lit "http://[::1]/a/") = webResC gsbCfg I0 (lit "http") (lit "[::1]") [lit "a", []] none none := by
  have h := parse_web_c gsbCfg webCfg_gsb.toWebParseCfg I0 (lit "http") (lit "80") (lit "[::1]") (by decide) (by decide) (by decide)
    [lit "a", []]
    (by
      intro x hx
      simp only [List.mem_cons, List.not_mem_nil, or_false] at hx
      rcases hx with rfl | rfl <;> exact ⟨by decide, by decide, by decide, by decide⟩)
    (by decide) (by decide) none none (fun x hx => by cases hx) (fun x hx => by cases hx)
  rw [show lit "http://[::1]/a/" = lit "http" ++ lit "://" ++ lit "[::1]" ++ (pathText [lit "a", []] ++ (qTail none ++ fTail none))
    by decide]
  exact h

/-! ### 4. the ASCII letter case of the host -/

open WhatwgUrl.Proofs.Domain (L1)
open WhatwgUrl.Proofs.Sim (IdnaLaws)

/-- the statement without the `HostInput` proviso: NOT a theorem under the oracle laws — they say nothing about ACE (`xn--`)
    labels, nor about non-ASCII domains (a host text may contain escapes of non-ASCII bytes).  The refutation is
    `C18e_host_case_Statement_false` (an oracle with all four laws); `C18e_host_case_Statement_false_L1` is the same pair of
    host texts evaluated under an oracle with law L1 alone — a conjunction of facts, not the negation of this statement -/
def C18e_host_case_Statement : Prop :=
  ∀ (cfg : Cfg), (cfg = {} ∨ cfg = gsbCfg ∨ cfg = semanticCfg) → ∀ (I : Idna), IdnaLaws I → ∀ (s a₁ a₂ : Bytes),
    hostText a₁ = true → hostText a₂ = true → asciiLower a₁ = asciiLower a₂ →
    (parseHost cfg I (hostU s) a₁ false).out = (parseHost cfg I (hostU s) a₂ false).out

/-- the general form: any configuration without post-parse-host hook whose pre-parse-host hook commutes with lower-casing and
    whose encoding override leaves ASCII alone, any record; `HostInput` (decidable, `Proofs/WebHost6.lean`): what the host
    parser gets to see after the hook is empty, or ASCII starting with `[` (the IPv6 parser does not see the letter case:
    `HostCase6.parseIPv6_congr`; the proof reads only "starts with `[`", the `Ascii` clause of `HostInput` serves no step), or
    not bracketed, without `%`, pure ASCII without `xn--` label start (law L1 of the oracle) -/
theorem C18e_host_case (cfg : Cfg) (hpost : cfg.postHost = none) (hcase : HookCase cfg) (henc : EncAscii cfg) (I : Idna)
    (hI : L1 I) (u : Url) (a₁ a₂ : Bytes) (hl : asciiLower a₁ = asciiLower a₂) (hD : HostInput (preIn cfg u a₁)) :
    (parseHost cfg I u a₁ false).out = (parseHost cfg I u a₂ false).out :=
  host_case cfg hpost hcase henc I hI u a₁ a₂ hl hD

section
set_option linter.unusedVariables false

/-- **with the proviso**: `C18e_host_case_Statement` with the extra hypothesis `HostInput (preIn cfg (hostU s) a₁)`.  The
    hypotheses `ha₁`, `ha₂` (`hostText`) come from that statement; the proof does not read them. -/
theorem C18e_host_case_partial (cfg : Cfg) (hcfg : cfg = {} ∨ cfg = gsbCfg ∨ cfg = semanticCfg) (I : Idna) (hI : IdnaLaws I)
    (s a₁ a₂ : Bytes) (ha₁ : hostText a₁ = true) (ha₂ : hostText a₂ = true) (hl : asciiLower a₁ = asciiLower a₂)
    (hD : HostInput (preIn cfg (hostU s) a₁)) :
    (parseHost cfg I (hostU s) a₁ false).out = (parseHost cfg I (hostU s) a₂ false).out := by
  rcases hcfg with rfl | rfl | rfl
  · exact host_case {} rfl hookCase_default (encAscii_none {} rfl) I (WhatwgUrl.Proofs.RTcInv.L1_of_laws I hI) _ a₁ a₂ hl hD
  · exact host_case gsbCfg rfl hookCase_gsb (encAscii_none gsbCfg rfl) I (WhatwgUrl.Proofs.RTcInv.L1_of_laws I hI) _ a₁ a₂ hl hD
  · exact host_case semanticCfg rfl hookCase_semantic encAscii_semantic I (WhatwgUrl.Proofs.RTcInv.L1_of_laws I hI) _ a₁ a₂ hl hD

end

/-- non-vacuity: `EXAMPLE.com.` / `example.COM.` under the three configurations (the hooks of the two profiles strip the dot) -/
example : hostText (lit "EXAMPLE.com.") = true ∧ hostText (lit "example.COM.") = true ∧
    asciiLower (lit "EXAMPLE.com.") = asciiLower (lit "example.COM.") ∧
    HostInput (preIn {} (hostU (lit "http")) (lit "EXAMPLE.com.")) ∧
    HostInput (preIn gsbCfg (hostU (lit "http")) (lit "EXAMPLE.com.")) ∧
    HostInput (preIn semanticCfg (hostU (lit "http")) (lit "EXAMPLE.com.")) ∧
    HostInput (preIn gsbCfg (hostU (lit "http")) (lit "[::A:b]")) ∧
    preIn gsbCfg (hostU (lit "http")) (lit "EXAMPLE.com.") = lit "EXAMPLE.com" := by decide +kernel
/-- … and what it excludes -/
example : ¬ HostInput (lit "XN--a.com") ∧ ¬ HostInput (lit "a%41.com") ∧ ¬ HostInput (lit "a.b.xn--c") := by decide +kernel

/-- the IPv6 parser, evaluated: `[::A:b]` and `[::a:B]` -/
example : (parseHost gsbCfg I0 (hostU (lit "http")) (lit "[::A:b]") false).out = .ok (lit "[::a:b]") ∧
    (parseHost gsbCfg I0 (hostU (lit "http")) (lit "[::a:B]") false).out = .ok (lit "[::a:b]") := by decide +kernel

/-- two texts told apart by a property are different -/
theorem beq_false_of {P : Bytes → Prop} {s t : Bytes} (hs : P s) (ht : ¬ P t) : (s == t) = false := by
  cases h : s == t
  · rfl
  · exact absurd (eq_of_beq h ▸ hs) ht

/-- an oracle that obeys L1 but treats `xn--a` (an ACE label: outside L1) in its own way -/
def Iace : Idna := fun s => if s == lit "xn--a" then (lit "b", false) else (asciiLower s, false)

theorem l1_Iace : L1 Iace := by
  intro s hs
  have hne : (s == lit "xn--a") = false := beq_false_of hs (by decide +kernel)
  simp [Iace, hne]

/-- **evaluated facts under law L1 alone** (a conjunction; it does not mention `C18e_host_case_Statement`, which assumes
    `IdnaLaws` and is refuted by `C18e_host_case_Statement_false` below): `Iace` obeys L1; `XN--A` and `xn--a` are host texts
    that differ in letter case only; with the oracle `Iace` the host parser returns `xn--a` for the first and `b` for the
    second.  So L1, the only law `C18e_host_case` uses, does not give the conclusion without `HostInput`.  (The laws do not
    constrain the oracle on ACE labels; the real library is case-insensitive there, but that is not among the laws checked
    by the correspondence.) -/
theorem C18e_host_case_Statement_false_L1 :
    L1 Iace ∧ hostText (lit "XN--A") = true ∧ hostText (lit "xn--a") = true ∧ asciiLower (lit "XN--A") = asciiLower (lit "xn--a") ∧
    (parseHost {} Iace (hostU (lit "http")) (lit "XN--A") false).out = .ok (lit "xn--a") ∧
    (parseHost {} Iace (hostU (lit "http")) (lit "xn--a") false).out = .ok (lit "b") := by
  refine ⟨l1_Iace, by decide, by decide, by decide, ?_, ?_⟩
  · rw [parseHost_pre_cons {} Iace _ (lit "XN--A") 0x58 (lit "N--A") rfl (by decide), WhatwgUrl.Proofs.HostWF.domainHost,
      WhatwgUrl.Proofs.Domain.decodePercent_no_pct {} _ (by decide)]
    decide +kernel
  · rw [parseHost_pre_cons {} Iace _ (lit "xn--a") 0x78 (lit "n--a") rfl (by decide), WhatwgUrl.Proofs.HostWF.domainHost,
      WhatwgUrl.Proofs.Domain.decodePercent_no_pct {} _ (by decide)]
    decide +kernel

/-- … and the same with ALL four oracle laws (`IdnaLaws`): an oracle that lower-cases (dropping non-ASCII bytes), flags U+FFFD,
    and treats `xn--a` in its own way -/
def Iace2 : Idna := fun s =>
  if s == lit "xn--a" then (lit "b", false) else ((asciiLower s).filter (fun x => decide (x.toNat < 0x80)), decide (repl ∈ goRunes s))

theorem laws_Iace2 : IdnaLaws Iace2 where
  ascii_lower := by
    intro s hs hm
    have hne : (s == lit "xn--a") = false :=
      beq_false_of (P := fun t => asciiOrMiscNoPuny (goRunes t) 0 = true) hm (by decide +kernel)
    simp only [Iace2, hne, Bool.false_eq_true, if_false]
    apply List.filter_eq_self.mpr
    intro x hx
    simpa using WhatwgUrl.Proofs.Domain.asciiLower_ascii hs x hx
  out_ascii := by
    intro s x hx
    unfold Iace2 at hx
    split at hx
    · revert x; decide
    · simpa using (List.mem_filter.mp hx).2
  repl_fails := by
    intro d hd
    have hne : (utf8 d == lit "xn--a") = false :=
      beq_false_of (P := fun t => repl ∈ goRunes t) (by rw [WhatwgUrl.Proofs.Utf8.goRunes_utf8]; exact hd) (by decide +kernel)
    simp only [Iace2, hne, Bool.false_eq_true, if_false, WhatwgUrl.Proofs.Utf8.goRunes_utf8]
    simpa using hd
  nonempty := by
    intro s hs hf hm
    cases hne : s == lit "xn--a" with
    | true => simp only [Iace2, hne, if_true]; decide
    | false =>
      simp only [Iace2, hne, Bool.false_eq_true, if_false, decide_eq_true_eq] at hf
      rw [WhatwgUrl.Proofs.Sim.aom_repl _ _ hf] at hm
      cases hm

/-- **the statement without the `HostInput` proviso is false** (already for the default configuration): `XN--A` / `xn--a`
    under `Iace2` -/
theorem C18e_host_case_Statement_false : ¬ C18e_host_case_Statement := by
  intro h
  have := h {} (Or.inl rfl) Iace2 laws_Iace2 (lit "http") (lit "XN--A") (lit "xn--a") (by decide) (by decide) (by decide)
  rw [parseHost_pre_cons {} Iace2 _ (lit "XN--A") 0x58 (lit "N--A") rfl (by decide),
    parseHost_pre_cons {} Iace2 _ (lit "xn--a") 0x78 (lit "n--a") rfl (by decide),
    WhatwgUrl.Proofs.HostWF.domainHost, WhatwgUrl.Proofs.HostWF.domainHost,
    WhatwgUrl.Proofs.Domain.decodePercent_no_pct {} _ (by decide),
    WhatwgUrl.Proofs.Domain.decodePercent_no_pct {} _ (by decide)] at this
  revert this
  decide +kernel

/-- **the capstone with the host spelled in either letter case** -/
theorem C18e_spellings_same_canonical_hostcase (I : Idna) (hI : L1 I) (p : Profile) (hp : p.repeatedPercentDecoding = true)
    (hW : WebCfg p.cfg) (hk : HooksOk p.cfg) (hpost : p.cfg.postHost = none) (hcase : HookCase p.cfg) (henc : EncAscii p.cfg)
    (H₁ H₂ : Heap) (s dp a₁ a₂ : Bytes) (hsd : p.cfg.special? s = some dp) (hdp : dp ≠ [])
    (ha₁ : hostText a₁ = true) (ha₂ : hostText a₂ = true) (hl : asciiLower a₁ = asciiLower a₂)
    (hD : HostInput (preIn p.cfg (hostU s) a₁))
    (segs₁ segs₂ : List Bytes) (q₁ q₂ : Option (List (Bytes × Bytes))) (f₁ f₂ : Option Bytes)
    (hw : SameWeb segs₁ segs₂ q₁ q₂ f₁ f₂) :
    canonText (canonParse I p H₁ (render (s ++ lit "://" ++ a₁) segs₁ q₁ f₁)) =
      canonText (canonParse I p H₂ (render (s ++ lit "://" ++ a₂) segs₂ q₂ f₂)) :=
  same_canonical_of_out I p hp hW hk H₁ H₂ s dp a₁ a₂ hsd hdp ha₁ ha₂ (host_case p.cfg hpost hcase henc I hI (hostU s) a₁ a₂ hl hD)
    segs₁ segs₂ q₁ q₂ f₁ f₂ hw

/-- … for the two profiles -/
theorem C18e_gsb_hostcase (I : Idna) (hI : L1 I) (H₁ H₂ : Heap) (s dp a₁ a₂ : Bytes) (hsd : gsbCfg.special? s = some dp)
    (hdp : dp ≠ []) (ha₁ : hostText a₁ = true) (ha₂ : hostText a₂ = true) (hl : asciiLower a₁ = asciiLower a₂)
    (hD : HostInput (preIn gsbCfg (hostU s) a₁))
    (segs₁ segs₂ : List Bytes) (q₁ q₂ : Option (List (Bytes × Bytes))) (f₁ f₂ : Option Bytes)
    (hw : SameWeb segs₁ segs₂ q₁ q₂ f₁ f₂) :
    canonText (canonParse I gsbProfile H₁ (render (s ++ lit "://" ++ a₁) segs₁ q₁ f₁)) =
      canonText (canonParse I gsbProfile H₂ (render (s ++ lit "://" ++ a₂) segs₂ q₂ f₂)) :=
  C18e_spellings_same_canonical_hostcase I hI gsbProfile rfl webCfg_gsb hooksOk_gsb rfl hookCase_gsb (encAscii_none gsbCfg rfl)
    H₁ H₂ s dp a₁ a₂ hsd hdp ha₁ ha₂ hl hD segs₁ segs₂ q₁ q₂ f₁ f₂ hw

theorem C18e_semantic_hostcase (I : Idna) (hI : L1 I) (H₁ H₂ : Heap) (s dp a₁ a₂ : Bytes) (hsd : semanticCfg.special? s = some dp)
    (hdp : dp ≠ []) (ha₁ : hostText a₁ = true) (ha₂ : hostText a₂ = true) (hl : asciiLower a₁ = asciiLower a₂)
    (hD : HostInput (preIn semanticCfg (hostU s) a₁))
    (segs₁ segs₂ : List Bytes) (q₁ q₂ : Option (List (Bytes × Bytes))) (f₁ f₂ : Option Bytes)
    (hw : SameWeb segs₁ segs₂ q₁ q₂ f₁ f₂) :
    canonText (canonParse I semanticProfile H₁ (render (s ++ lit "://" ++ a₁) segs₁ q₁ f₁)) =
      canonText (canonParse I semanticProfile H₂ (render (s ++ lit "://" ++ a₂) segs₂ q₂ f₂)) :=
  C18e_spellings_same_canonical_hostcase I hI semanticProfile rfl webCfg_semantic hooksOk_semantic rfl hookCase_semantic
    encAscii_semantic H₁ H₂ s dp a₁ a₂ hsd hdp ha₁ ha₂ hl hD segs₁ segs₂ q₁ q₂ f₁ f₂ hw

/-- `http://EXAMPLE.com./%7Efoo/a?x=%41#y` and `http://example.COM./~foo/a?x=A#y` under the GoogleSafeBrowsing profile -/
example (I : Idna) (hI : L1 I) (H₁ H₂ : Heap) :
    canonText (canonParse I gsbProfile H₁ (lit "http://EXAMPLE.com./%7Efoo/a?x=%41#y")) =
    canonText (canonParse I gsbProfile H₂ (lit "http://example.COM./~foo/a?x=A#y")) :=
  by
  rw [show lit "http://EXAMPLE.com./%7Efoo/a?x=%41#y" = render (lit "http" ++ lit "://" ++ lit "EXAMPLE.com.") segsA qA fA by
      decide +kernel,
    show lit "http://example.COM./~foo/a?x=A#y" = render (lit "http" ++ lit "://" ++ lit "example.COM.") segsB qB' fA by
      decide +kernel]
  exact C18e_gsb_hostcase I hI H₁ H₂ (lit "http") (lit "80") (lit "EXAMPLE.com.") (lit "example.COM.") ex_hyps.1 ex_hyps.2.1
    (by decide +kernel) (by decide +kernel) (by decide +kernel) (by decide +kernel) segsA segsB qA qB' fA fA ex_same

/-! ### the limits -/

/-- collapsing DOES remove an empty non-final segment: the hypothesis "no empty non-final segment" of `parse_web_c` (implied by
    `WebText`) is needed under the options of the two profiles -/
example : (parse gsbCfg I0 (lit "http://[::1]/a//b")).url.path.segs = [lit "a", lit "b"] ∧
    (parse {} I0 (lit "http://[::1]/a//b")).url.path.segs = [lit "a", [], lit "b"] := by decide +kernel

/-- a lone `%` is re-encoded under percent-encode-single-percent: the "no lone `%`" property of spellings is needed -/
example : (parse gsbCfg I0 (lit "http://[::1]/a%zz")).url.path.segs = [lit "a%25zz"] ∧
    (parse {} I0 (lit "http://[::1]/a%zz")).url.path.segs = [lit "a%zz"] := by decide +kernel

/-- the clauses about the sets are needed for Half B: a path set with `~`, a special-query set with `=`, a special-fragment
    set with `%` in it re-spell the text -/
example : (parse { pathSet := pathSet.set 0x7e } I0 (lit "http://[::1]/~a")).url.path.segs = [lit "%7Ea"] ∧
    (parse { spQuerySet := specialQuerySet.set 0x3d } I0 (lit "http://[::1]/a?x=1")).url.query = some (lit "x%3D1") ∧
    (parse { spFragSet := fragmentSet.set 0x25 } I0 (lit "http://[::1]/a#%41")).url.fragment = some (lit "%2541") ∧
    ¬ WebParseCfg { pathSet := pathSet.set 0x7e } ∧ ¬ WebParseCfg { spQuerySet := specialQuerySet.set 0x3d } ∧
    ¬ WebParseCfg { spFragSet := fragmentSet.set 0x25 } :=
  ⟨by decide +kernel, by decide +kernel, by decide +kernel, fun h => absurd h.pathSet (by rw [spBytes_eq]; decide +kernel),
    fun h => absurd h.spQuerySet (by rw [qBytes, spBytes_eq]; decide +kernel),
    fun h => absurd h.spFragSet (by rw [spBytes_eq]; decide +kernel)⟩

/-- `file` goes to the file state whatever the special-scheme table says: the `schemes` clause of `WebCfg` is needed.
    With a table that gives `file` a default port every other hypothesis of Half B holds for `file://C|/a`, but the file
    host state takes `C|` for a drive letter: the record has the empty host and the path `C:` / `a` -/
def cfgFilePort : Cfg := { specialSchemes := [(lit "file", lit "1")] }

example : ¬ WebParseCfg cfgFilePort := fun h => absurd h.schemes (by decide +kernel)

theorem C18e_parse_render_needs_schemes :
    cfgFilePort.special? (lit "file") = some (lit "1") ∧ lit "1" ≠ ([] : Bytes) ∧ hostText (lit "C|") = true ∧
    WebText [lit "a"] none none ∧
    parse cfgFilePort I0 (render (lit "file" ++ lit "://" ++ lit "C|") [lit "a"] none none) ≠
      webResC cfgFilePort I0 (lit "file") (lit "C|") [lit "a"] none none := by
  refine ⟨by decide, by decide, by decide, ?_, ?_⟩
  · refine ⟨fun x hx => ?_, by decide, fun l hl => (by cases hl), fun x hx => (by cases hx)⟩
    simp only [List.mem_cons, List.not_mem_nil, or_false] at hx
    subst hx
    exact ⟨lit "a", tok_refl _ (by decide), by decide, by decide⟩
  · intro h
    have hp : (parse cfgFilePort I0 (render (lit "file" ++ lit "://" ++ lit "C|") [lit "a"] none none)).url.path.segs =
        [lit "C:", lit "a"] := by decide +kernel
    rw [h] at hp
    unfold webResC at hp
    split at hp
    · simp [setQ, setF] at hp
    · have hu : ∀ hr : HR, (hostFail hr).url = hr.url := fun hr => by unfold hostFail; split <;> rfl
      rw [hu, WhatwgUrl.Proofs.Machine.parseHost_path] at hp
      revert hp; decide

/-- the `charmap` clause of `WebCfg` is needed for the capstone: under an encoding override that decodes `%41` to `B`
    (`badMap`, `Proofs/WebDefs.lean`; all other clauses hold: `WebParseCfg`) the two spellings `x=%41` and `x=A` of the same
    query end with different canonical texts — the query list of the canonicalizer decodes through the charmap -/
def cfgBadMap : Cfg := { encOverride := some badMap }
def pBadMap : Profile := { cfg := cfgBadMap, repeatedPercentDecoding := true }

example : WebParseCfg cfgBadMap ∧ HooksOk cfgBadMap ∧ ¬ WebCfg cfgBadMap :=
  ⟨by decide +kernel, hooksOk_none _ rfl rfl, fun h => absurd h.charmap (by rw [spBytes_eq]; decide +kernel)⟩

/-- `http://[::1]/a?x=%41` ends as `…?x=B`, `http://[::1]/a?x=A` as `…?x=A` -/
theorem C18e_capstone_needs_charmap :
    canonText (canonParse I0 pBadMap {} (lit "http://[::1]/a?x=%41")) = some (lit "http://[::1]/a?x=B") ∧
    canonText (canonParse I0 pBadMap {} (lit "http://[::1]/a?x=A")) = some (lit "http://[::1]/a?x=A") := by
  constructor <;> eval_canon

end WhatwgUrl.Props.C18e

section AxiomCheck
open WhatwgUrl.Props.C18e
#print axioms C18e_webCfg_default
#print axioms C18e_webCfg_gsb
#print axioms C18e_webCfg_semantic
#print axioms hooksOk_gsb
#print axioms hooksOk_semantic
#print axioms C18e_parse_render
#print axioms C18e_parse_related
#print axioms C18e_spellings_same_canonical
#print axioms C18e_gsb
#print axioms C18e_semantic
#print axioms C18e_both_parse
#print axioms C18e_parse_render'
#print axioms C18e_parse_render_needs_schemes
#print axioms C18e_capstone_needs_charmap
#print axioms C18e_host_case
#print axioms C18e_host_case_partial
#print axioms C18e_host_case_Statement_false_L1
#print axioms C18e_host_case_Statement_false
#print axioms C18e_spellings_same_canonical_hostcase
#print axioms C18e_gsb_hostcase
#print axioms C18e_semantic_hostcase
end AxiomCheck
