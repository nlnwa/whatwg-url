import WhatwgUrl.Proofs.Frame
import WhatwgUrl.Proofs.OpaqueSlash
import WhatwgUrl.Proofs.RTcInvV6
import WhatwgUrl.Props.C04b
import WhatwgUrl.Props.C09b
/-
  C19b — derived accessors against how the primary components were produced.
  * `DecodedPort`, `OpaquePath`: on every REACHABLE record (parse, resolve, setters): `C19_decoded_port_reachable`,
    `C19_opaque_path_reachable` (opaque ⇒ no host, one path element, no leading `/`).
  * `IsIPv4`, `IsIPv6` (`C19_isIPv4_iff`, `C19_isIPv6_iff`): about a url whose host is an output of `parseHost` for some
    text `s` (hypotheses `hp`, `hu`), under a strict configuration without hooks.  That the host of a reachable url is such
    an output (host provenance, `Proofs/RTcInvHostAll.lean`) is not joined with them here.
  * `IsSpecialScheme` has no accessor in `Impl/Api.lean` and no theorem.
-/
namespace WhatwgUrl.Props.C19b
open WhatwgUrl WhatwgUrl.Impl WhatwgUrl.Proofs.Frame
open WhatwgUrl.Props.C04b (WFs portOk Reach CfgOk C04_reachable_WFs)

/-- `hp`: `parseHost … false` is the host parser for a special scheme (the flag is `isNotSpecial`).  Neither side mentions the
    parser: that `h` came out of the IPv4 branch is a step of the proof of (→) (four canonical octets end in a number, so
    `h` is the `ipv4String` case of `C09b.C09_output_shape`), and `hc`, `hp`, `hb` serve that route only.  A host text of
    this shape that the IPv4 parser did not produce (the opaque host `1.2.3.4` of a non-special url) satisfies both sides as
    well.  The same holds of `C19_isIPv4_iff`. -/
theorem C19_ipv4_iff_parser (cfg : Cfg) (I : Idna) (u0 : Url) (s : Bytes) (h : Bytes)
    (hc : cfg.preHost = none ∧ cfg.postHost = none ∧ cfg.laxHost = false ∧ cfg.failOnVErr = false)
    (hp : (parseHost cfg I u0 s false).out = .ok h) (hb : s.head? ≠ some 0x5b) :
    ((splitOn 0x2e h).length = 4 ∧ (splitOn 0x2e h).all isCanonicalOctet = true) ↔ (∃ n, n < 2^32 ∧ h = ipv4String n) := by
  obtain ⟨hpre, hpost, hlax, hf⟩ := hc
  constructor
  · rintro ⟨hl, ha⟩
    obtain ⟨a, -, -, hcase⟩ := Props.C09b.C09_output_shape cfg hpre hpost hlax hf I u0 s h hp hb
    rcases hcase with ⟨he, rfl⟩ | ⟨-, n, -, hn, rfl⟩
    · rw [endsInANumber_of_octets cfg u0 h hl ha] at he
      cases he
    · exact ⟨n, hn, rfl⟩
  · rintro ⟨n, -, rfl⟩
    exact ipv4String_octets n

theorem C19_ipv4String_canonical (n : Nat) :
    (splitOn 0x2e (ipv4String n)).length = 4 ∧ (splitOn 0x2e (ipv4String n)).all isCanonicalOctet = true :=
  ipv4String_octets n

theorem C19_isIPv4_iff (cfg : Cfg) (I : Idna) (u0 u : Url) (s h : Bytes)
    (hc : cfg.preHost = none ∧ cfg.postHost = none ∧ cfg.laxHost = false ∧ cfg.failOnVErr = false)
    (hp : (parseHost cfg I u0 s false).out = .ok h) (hb : s.head? ≠ some 0x5b)
    (hu : u.host = some h) (hsp : cfg.isSpecial u.scheme = true) :
    isIPv4 cfg u = true ↔ ∃ n, n < 2^32 ∧ h = ipv4String n := by
  rw [← C19_ipv4_iff_parser cfg I u0 s h hc hp hb]
  unfold isIPv4
  simp only [hu, hsp, Bool.true_and, Bool.and_eq_true, beq_iff_eq]

/-- the fourth conjunct of `hc` (`cfg.failOnVErr = false`) is not used, here and in `C19_isIPv6_iff`: `hc` has the shape of
    `C19_ipv4_iff_parser`'s, which needs all four -/
theorem C19_ipv6_iff_bracket (cfg : Cfg) (I : Idna) (u0 : Url) (s : Bytes) (ns : Bool) (h : Bytes)
    (hc : cfg.preHost = none ∧ cfg.postHost = none ∧ cfg.laxHost = false ∧ cfg.failOnVErr = false)
    (hp : (parseHost cfg I u0 s ns).out = .ok h) :
    h.head? = some 0x5b ↔ s.head? = some 0x5b :=
  Proofs.RTcInv.parseHost_bracket_iff cfg I u0 s ns h hc.1 hc.2.1 hc.2.2.1 hp

theorem C19_ipv6_is_literal (cfg : Cfg) (I : Idna) (u0 : Url) (s : Bytes) (ns : Bool) (h : Bytes)
    (hpre : cfg.preHost = none) (hp : (parseHost cfg I u0 s ns).out = .ok h) (hb : s.head? = some 0x5b) :
    ∃ a, Spec.parseIPv6 (goRunes (trimSuffix1 (trimPrefix1 s [0x5b]) [0x5d])) = some a ∧ h = [0x5b] ++ ipv6String a ++ [0x5d] :=
  Proofs.Domain.parseHost_bracket cfg I u0 s ns h hpre hp hb

theorem C19_isIPv6_iff (cfg : Cfg) (I : Idna) (u0 u : Url) (s : Bytes) (ns : Bool) (h : Bytes)
    (hc : cfg.preHost = none ∧ cfg.postHost = none ∧ cfg.laxHost = false ∧ cfg.failOnVErr = false)
    (hp : (parseHost cfg I u0 s ns).out = .ok h) (hu : u.host = some h) :
    isIPv6 u = true ↔ s.head? = some 0x5b := by
  rw [← C19_ipv6_iff_bracket cfg I u0 s ns h hc hp]
  unfold isIPv6
  simp only [hu, beq_iff_eq]

/-- `strconv.Atoi(strconv.Itoa(n)) = n` -/
theorem C19_atoi_itoa (n : Nat) : digitsVal 10 (itoa n) = n := Proofs.IPv6.digitsVal_itoa n

theorem C19_decoded_port_sync (cfg : Cfg) (u : Url) (h : WFs cfg u) :
    decodedPortG cfg u = match u.port with | some p => digitsVal 10 p | none => defaultPort cfg u := by
  unfold decodedPortG
  cases hp : u.port with
  | none => simp
  | some p =>
    have hpo := h.2.2.2.2.1
    unfold portOk at hpo
    rw [hp] at hpo
    simp only [Bool.and_eq_true, beq_iff_eq] at hpo
    simp only [reduceCtorEq, beq_iff_eq, if_false]
    rw [hpo.1.1, Proofs.IPv6.digitsVal_itoa]

theorem C19_port_text (cfg : Cfg) (u : Url) (h : WFs cfg u) (p : Bytes) (hp : u.port = some p) :
    p = itoa (decodedPortG cfg u) ∧ decodedPortG cfg u ≤ 65535 := by
  have hpo := h.2.2.2.2.1
  unfold portOk at hpo
  rw [hp] at hpo
  simp only [Bool.and_eq_true, beq_iff_eq, decide_eq_true_eq] at hpo
  unfold decodedPortG
  simp only [hp, reduceCtorEq, beq_iff_eq, if_false]
  exact ⟨hpo.1.1, hpo.1.2⟩

theorem C19_decoded_port_reachable (cfg : Cfg) (I : Idna) (hcfg : CfgOk cfg I) (hfile : cfg.isSpecial (lit "file") = true)
    (hfail : cfg.failOnVErr = false) (u : Url) (h : Reach cfg I u) :
    decodedPortG cfg u = match u.port with | some p => digitsVal 10 p | none => defaultPort cfg u :=
  C19_decoded_port_sync cfg u (C04_reachable_WFs cfg I hcfg hfile hfail u h)

theorem C19_opaque_path (cfg : Cfg) (u : Url) (h : WFs cfg u) (ho : u.path.opq = true) :
    u.host = none ∧ u.username = [] ∧ u.password = [] ∧ u.port = none ∧ cfg.isSpecial u.scheme = false ∧
      ∃ s, u.path.segs = [s] ∧ pathname u = s := by
  obtain ⟨-, h2, h3, h4, -, -⟩ := h
  have hh := (h3 ho).1
  obtain ⟨s, hs⟩ : ∃ s, u.path.segs = [s] := List.length_eq_one_iff.mp (h3 ho).2
  have hcred : ¬ (u.username ≠ [] ∨ u.password ≠ [] ∨ u.port ≠ none) := fun hc => (h4 hc).1 hh
  simp only [not_or, ne_eq, Decidable.not_not] at hcred
  refine ⟨hh, hcred.1, hcred.2.1, hcred.2.2, ?_, s, hs, ?_⟩
  · cases hsp : cfg.isSpecial u.scheme with
    | false => rfl
    | true => exact absurd hh (h2 hsp).1
  · simp [pathname, Path.str, Path.str?, ho, hs]

/-- why it holds: the scheme state enters the opaque-path state only when the remaining input does not start with `/`, the
    text then only grows at its end, and the setters for search / hash strip trailing spaces only -/
def C19_opaque_path_no_slash_Statement : Prop :=
  ∀ (cfg : Cfg) (I : Idna), CfgOk cfg I → cfg.isSpecial (lit "file") = true → cfg.failOnVErr = false →
    ∀ u : Url, Reach cfg I u → u.path.opq = true → (pathname u).head? ≠ some 0x2f

theorem C19_reachable_NoSl (cfg : Cfg) (I : Idna) (hcfg : CfgOk cfg I) (hfile : cfg.isSpecial (lit "file") = true)
    (hfail : cfg.failOnVErr = false) (u : Url) (h : Reach cfg I u) : WhatwgUrl.Proofs.OpaqueSlash.NoSl u := by
  induction h with
  | parse input _ =>
    exact WhatwgUrl.Proofs.OpaqueSlash.basicParser_NoSl cfg I input none hcfg (by intro b h; cases h) (by intro b h; cases h)
  | resolve b ref hb _ ih =>
    exact WhatwgUrl.Proofs.OpaqueSlash.basicParser_NoSl cfg I ref (some b) hcfg
      (by intro b' h; cases h; exact C04_reachable_WFs cfg I hcfg hfile hfail b hb) (by intro b' h; cases h; exact ih)
  | set s u v _ ih => exact WhatwgUrl.Proofs.OpaqueSlash.setU_NoSl cfg I s u v ih

theorem C19_opaque_path_no_slash : C19_opaque_path_no_slash_Statement := by
  intro cfg I hcfg hfile hfail u h ho
  exact (WhatwgUrl.Proofs.OpaqueSlash.NoSl_iff_pathname u).mp (C19_reachable_NoSl cfg I hcfg hfile hfail u h) ho

theorem C19_opaque_path_reachable (cfg : Cfg) (I : Idna) (hcfg : CfgOk cfg I) (hfile : cfg.isSpecial (lit "file") = true)
    (hfail : cfg.failOnVErr = false) (u : Url) (h : Reach cfg I u) (ho : u.path.opq = true) :
    u.host = none ∧ (∃ s, u.path.segs = [s] ∧ pathname u = s) ∧ (pathname u).head? ≠ some 0x2f :=
  have hw := C19_opaque_path cfg u (C04_reachable_WFs cfg I hcfg hfile hfail u h) ho
  ⟨hw.1, hw.2.2.2.2.2, C19_opaque_path_no_slash cfg I hcfg hfile hfail u h ho⟩

theorem C19_opaque_path_parse (cfg : Cfg) (I : Idna) (hcfg : CfgOk cfg I) (input : Bytes)
    (ho : (parse cfg I input).url.path.opq = true) : (pathname (parse cfg I input).url).head? ≠ some 0x2f :=
  (WhatwgUrl.Proofs.OpaqueSlash.NoSl_iff_pathname _).mp
    (WhatwgUrl.Proofs.OpaqueSlash.basicParser_NoSl cfg I input none hcfg (by intro b h; cases h) (by intro b h; cases h)) ho

/-- `C19_opaque_path_no_slash` does NOT follow from `WFs` alone: a well-formed record with the opaque path `/x` -/
example : WFs {} { scheme := lit "sc", path := ⟨[lit "/x"], true⟩ } ∧
    (pathname { scheme := lit "sc", path := ⟨[lit "/x"], true⟩ }).head? = some 0x2f := by decide

section Examples
open WhatwgUrl.Props.C09b (I0 exS exS_out)

example : ({} : Cfg).preHost = none ∧ ({} : Cfg).postHost = none ∧ ({} : Cfg).laxHost = false ∧ ({} : Cfg).failOnVErr = false :=
  ⟨rfl, rfl, rfl, rfl⟩

/-- through the closed form of C09b: the kernel does not evaluate `decodePercent` (see `Props/C16b.lean`, `probe`) -/
theorem ex4_out : (parseHost {} I0 {} (lit "0X7f.1") false).out = .ok (lit "127.0.0.1") := by
  have hdec : decodePercent {} (lit "0X7f.1") = lit "0X7f.1" := WhatwgUrl.Proofs.Domain.decodePercent_no_pct {} _ (by decide)
  rw [Props.C09b.C09_ascii_host {} rfl rfl rfl I0 (fun _ _ => rfl) {} _ (by decide) (by decide) (by rw [hdec]; decide), hdec]
  decide +kernel

example : (lit "0X7f.1").head? ≠ some 0x5b := by decide
example : ∃ n, n < 2^32 ∧ lit "127.0.0.1" = ipv4String n := ⟨2130706433, by decide, by decide +kernel⟩
example : (splitOn 0x2e (lit "127.0.0.1")).length = 4 ∧ (splitOn 0x2e (lit "127.0.0.1")).all isCanonicalOctet = true :=
  (C19_ipv4_iff_parser {} I0 {} _ _ ⟨rfl, rfl, rfl, rfl⟩ ex4_out (by decide)).mpr ⟨2130706433, by decide, by decide +kernel⟩
example : exS.head? ≠ some 0x5b := by decide
example : ¬ ((splitOn 0x2e (lit "example.com")).length = 4 ∧ (splitOn 0x2e (lit "example.com")).all isCanonicalOctet = true) := by
  decide
example : ¬ ∃ n, n < 2^32 ∧ lit "example.com" = ipv4String n := fun hn =>
  absurd ((C19_ipv4_iff_parser {} I0 {} _ _ ⟨rfl, rfl, rfl, rfl⟩ exS_out (by decide)).mpr hn) (by decide)
example : isIPv4 {} { scheme := lit "http", host := some (lit "127.0.0.1") } = true := by decide
example : isCanonicalOctet (lit "01") = false ∧ isCanonicalOctet (lit "256") = false ∧ isCanonicalOctet [] = false := by decide

example : (parseHost {} I0 {} (lit "[::1]") false).out = .ok (lit "[::1]") := by decide +kernel
example : (parseHost {} I0 {} (lit "[0:0::0:1]") true).out = .ok (lit "[::1]") := by decide +kernel
example : (parseHost {} I0 {} (lit "h%41") true).out = .ok (lit "h%41") := by decide +kernel
example : (lit "[::1]").head? = some 0x5b ∧ (lit "h%41").head? ≠ some 0x5b := by decide
example : (parseHost {} I0 {} (lit "h[") true).out = .err ⟨.HostInvalidCodePoint, true⟩ := by decide +kernel
-- `laxHost = false` is needed by `C19_ipv6_iff_bracket`: in lax mode a forbidden code point is let through (here a later `[`;
-- the special-scheme input `%5bx` comes back as `[x`, against the statement)
example : (parseHost { laxHost := true } I0 {} (lit "h[") true).out = .ok (lit "h[") := by decide +kernel

def exP : Url := { scheme := lit "http", host := some (lit "h"), port := some (lit "8080"), decodedPort := 8080, path := ⟨[[]], false⟩ }
example : WFs {} exP := by decide
example : decodedPortG {} exP = 8080 ∧ digitsVal 10 (lit "8080") = 8080 := by decide
example : WFs {} { exP with port := none, decodedPort := 0 } ∧ decodedPortG {} { exP with port := none, decodedPort := 0 } = 80 := by
  decide
example : ¬ WFs {} { exP with decodedPort := 1 } := by decide
example : digitsVal 10 (itoa 65535) = 65535 := by decide +kernel

example : (parse {} I0 (lit "mailto:a@b")).url.path = ⟨[lit "a@b"], true⟩ ∧ (parse {} I0 (lit "mailto:a@b")).ret = .url := by
  decide +kernel
example : (parse {} I0 (lit "sc:x/y")).url.path = ⟨[lit "x/y"], true⟩ := by decide +kernel
example : (parse {} I0 (lit "sc:/x")).url.path = ⟨[lit "x"], false⟩ := by decide +kernel
example : WFs {} { scheme := lit "mailto", path := ⟨[lit "a@b"], true⟩ } := by decide
example : pathname { scheme := lit "mailto", path := ⟨[lit "a@b"], true⟩ } = lit "a@b" := by decide

end Examples

end WhatwgUrl.Props.C19b

section AxiomCheck
open WhatwgUrl.Props.C19b
#print axioms C19_ipv4_iff_parser
#print axioms C19_ipv4String_canonical
#print axioms C19_isIPv4_iff
#print axioms C19_ipv6_iff_bracket
#print axioms C19_ipv6_is_literal
#print axioms C19_isIPv6_iff
#print axioms C19_atoi_itoa
#print axioms C19_decoded_port_sync
#print axioms C19_port_text
#print axioms C19_decoded_port_reachable
#print axioms C19_opaque_path
#print axioms C19_reachable_NoSl
#print axioms C19_opaque_path_no_slash
#print axioms C19_opaque_path_reachable
#print axioms C19_opaque_path_parse
end AxiomCheck
