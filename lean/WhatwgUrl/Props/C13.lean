import WhatwgUrl.Proofs.HeapLocal
/-
  C13 — resolving a reference changes nothing observable about the base, and the result, like a `Clone`, shares no state
  with its source. This file is about ONE operation: `C13_resolve`, `C13_clone` say what the two allocating calls leave
  untouched and what they return; `C13_setter_frame`, `C13_mutation_frame`: one setter / one list mutation on `a` is
  invisible through `b` (`obsAll`: the value and the list); `C13_clone_separated`, `C13_clone_independent`: source and
  clone meet the frames' hypotheses. Operation sequences, interleavings and "the operated-on value reflects the
  operations" are in Props/C13b.lean. `Separated`, `OwnSp` are hypotheses on an arbitrary heap (see the header of C13b).
-/
namespace WhatwgUrl.Props.C13
open WhatwgUrl WhatwgUrl.Impl WhatwgUrl.Proofs

/-- `Clone` only allocates; the clone has the source's value without its recorded validation errors and `qlog`, and an
    equal list of its own (if the source has one) that points back at the clone -/
theorem C13_clone (H : Heap) (i : Nat) (o : UrlObj) (ho : H.urls[i]? = some o) :
    let r := H.clone i
    ∃ c oc, r.2 = some c ∧ c = H.urls.length ∧ r.1.urls[c]? = some oc ∧
      (∀ j, j < H.urls.length → r.1.urls[j]? = H.urls[j]?) ∧ (∀ t, t < H.sps.length → r.1.sps[t]? = H.sps[t]?) ∧
      oc.cfg = o.cfg ∧ { oc.u with verrs := [], qlog := [] } = { o.u with verrs := [], qlog := [] } ∧
      (o.sp = none → oc.sp = none) ∧
      (∀ s so, o.sp = some s → H.sps[s]? = some so → ∃ s' so', oc.sp = some s' ∧ s' = H.sps.length ∧ r.1.sps[s']? = some so' ∧ so'.params = so.params ∧ so'.url = some c) :=
  Heap.clone_spec H i o ho

/-- `r.2.1`: the handle of the result, `none` when resolution fails -/
theorem C13_resolve (I : Idna) (H : Heap) (i : Nat) (ref : Bytes) :
    let r := H.urlParse I i ref
    (∀ j, j < H.urls.length → r.1.urls[j]? = H.urls[j]?) ∧ r.1.sps = H.sps ∧
    (∀ k, r.2.1 = some k → k = H.urls.length ∧ ∃ ok, r.1.urls[k]? = some ok ∧ ok.sp = none) :=
  Heap.urlParse_spec I H i ref

/-- the setter frame when only `a` is assumed to own its list. FALSE: `C13_setter_frame_Statement_false`. -/
def C13_setter_frame_Statement : Prop :=
  ∀ (I : Idna) (H : Heap) (a b : Nat) (st : Setter) (v : Bytes), a ≠ b →
    Separated H a b → OwnSp H a → obsAll (H.set I a st v).1 b = obsAll H b

/-- `spLive H b`: `b`'s list handle, if any, designates an existing list -/
theorem C13_setter_frame_partial (I : Idna) (H : Heap) (a b : Nat) (st : Setter) (v : Bytes)
    (hsep : Separated H a b) (hlive : spLive H b = true) : obsAll (H.set I a st v).1 b = obsAll H b :=
  IndepHist.local_obs (IndepHist.local_set I H a st v) hsep (fun ob sb hob hsb => Or.inl (by
    unfold spLive at hlive
    simp only [hob, hsb] at hlive
    exact of_decide_eq_true hlive))

/-- `hab` and `_hown` are not used: `Separated H a b` contains `a ≠ b`, and of the lists only `spLive H b` is needed.
    Without `hownb` the statement is false: `C13_setter_frame_Statement_false`. -/
theorem C13_setter_frame (I : Idna) (H : Heap) (a b : Nat) (st : Setter) (v : Bytes) (hab : a ≠ b)
    (hsep : Separated H a b) (_hown : OwnSp H a) (hownb : OwnSp H b) : obsAll (H.set I a st v).1 b = obsAll H b :=
  C13_setter_frame_partial I H a b st v hsep (spLive_of_ownSp hownb)

/-- a mutation allocates no list, so nothing is asked of `b`'s list handle (it may dangle). `hab` is not used. -/
theorem C13_mutation_frame (H : Heap) (a b s : Nat) (m : Heap.SpMut) (oa : UrlObj) (hab : a ≠ b)
    (hoa : H.urls[a]? = some oa) (hs : oa.sp = some s) (hsep : Separated H a b) (hown : OwnSp H a) :
    obsAll (H.spMutate s m) b = obsAll H b := by
  obtain ⟨so, hso, hb⟩ := hown oa hoa s hs
  refine IndepHist.local_obs (IndepHist.local_spMutate H a s m oa so hoa hs hso hb) hsep (fun _ sb _ _ => ?_)
  have : (H.spMutate s m).sps.length = H.sps.length := by unfold Heap.spMutate; simp
  rw [this]; exact Nat.lt_or_ge _ _

theorem C13_clone_separated (H : Heap) (i : Nat) (o : UrlObj) (ho : H.urls[i]? = some o) (hown : OwnSp H i) :
    ∀ c, (H.clone i).2 = some c → Separated (H.clone i).1 i c ∧ OwnSp (H.clone i).1 i ∧ OwnSp (H.clone i).1 c := by
  intro c' hc'
  obtain ⟨c, oc, hc, hcl, hoc, hurls, hsps, _, _, hnone, hsome⟩ := C13_clone H i o ho
  rw [hc] at hc'; cases hc'
  have hi : i < H.urls.length := Heap.lt_of_getElem?_eq_some ho
  have hoi : (H.clone i).1.urls[i]? = some o := by rw [hurls i hi]; exact ho
  refine ⟨⟨?_, ?_⟩, ?_, ?_⟩
  · rw [hcl]; exact Nat.ne_of_lt hi
  · intro oa ob hoa hob sa sb hsa hsb
    rw [hoi] at hoa; cases hoa
    rw [hoc] at hob; cases hob
    obtain ⟨so, hso, _⟩ := hown o ho sa hsa
    obtain ⟨s', so', hs', hs'l, _⟩ := hsome sa so hsa hso
    rw [hs'] at hsb; cases hsb
    rw [hs'l]
    exact Nat.ne_of_lt (Heap.lt_of_getElem?_eq_some hso)
  · intro o2 ho2 s hs
    rw [hoi] at ho2; cases ho2
    obtain ⟨so, hso, hsou⟩ := hown o ho s hs
    exact ⟨so, by rw [hsps s (Heap.lt_of_getElem?_eq_some hso)]; exact hso, hsou⟩
  · intro o2 ho2 s hs
    rw [hoc] at ho2; cases ho2
    cases hosp : o.sp with
    | none => rw [hnone hosp] at hs; cases hs
    | some s0 =>
      obtain ⟨so, hso, _⟩ := hown o ho s0 hosp
      obtain ⟨s', so', hs', _, hso', _, hu'⟩ := hsome s0 so hosp hso
      rw [hs'] at hs; cases hs
      exact ⟨so', hso', hu'⟩

theorem C13_clone_independent (I : Idna) (H : Heap) (i : Nat) (o : UrlObj) (ho : H.urls[i]? = some o) (hown : OwnSp H i)
    (c : Nat) (hc : (H.clone i).2 = some c) (st : Setter) (v : Bytes) :
    obsAll ((H.clone i).1.set I c st v).1 i = obsAll (H.clone i).1 i ∧
    obsAll ((H.clone i).1.set I i st v).1 c = obsAll (H.clone i).1 c := by
  obtain ⟨hsep, hi, hcown⟩ := C13_clone_separated H i o ho hown c hc
  exact ⟨C13_setter_frame I _ c i st v (fun e => hsep.1 e.symm) hsep.symm hcown hi,
         C13_setter_frame I _ i c st v hsep.1 hsep hi hcown⟩

/-- `http://h/?a=1` -/
def exU : Url := { scheme := lit "http", host := some (lit "h"), path := ⟨[[]], false⟩, query := some (lit "a=1") }
/-- one object owning list 0 with contents `p` -/
def exH1 (p : Pairs) : Heap := { urls := [{ u := exU, sp := some 0, cfg := {} }], sps := [{ url := some 0, params := p }] }
/-- the identity IDNA oracle, never an error -/
def exI : Idna := fun b => (b, false)

/-- a two-object heap built with the API: two allocations, then `SearchParams()` on both -/
def exH2 : Heap :=
  ((((({} : Heap).allocUrl { u := exU, sp := none, cfg := {} }).1.allocUrl { u := exU, sp := none, cfg := {} }).1.searchParams 0).1.searchParams 1).1

theorem exH2_eq : exH2 =
    { urls := [{ u := exU, sp := some 0, cfg := {} }, { u := exU, sp := some 1, cfg := {} }],
      sps := [{ url := some 0, params := spInit {} (lit "a=1") }, { url := some 1, params := spInit {} (lit "a=1") }] } := rfl

example : OwnSp exH2 0 := by
  rw [exH2_eq]; intro o ho s hs; cases ho; cases hs; exact ⟨_, rfl, rfl⟩
example : OwnSp exH2 1 := by
  rw [exH2_eq]; intro o ho s hs; cases ho; cases hs; exact ⟨_, rfl, rfl⟩
example : Separated exH2 0 1 := by
  rw [exH2_eq]
  refine ⟨by decide, ?_⟩
  intro oa ob hoa hob sa sb hsa hsb
  cases hoa; cases hob; cases hsa; cases hsb
  decide
example : spLive exH2 0 = true ∧ spLive exH2 1 = true := by rw [exH2_eq]; exact ⟨rfl, rfl⟩
example (m : Heap.SpMut) : obsAll (exH2.spMutate 0 m) 1 = obsAll exH2 1 := by
  refine C13_mutation_frame exH2 0 1 0 m _ (by decide) (by rw [exH2_eq]; rfl) rfl ?_ ?_
  · rw [exH2_eq]
    refine ⟨by decide, ?_⟩
    intro oa ob hoa hob sa sb hsa hsb
    cases hoa; cases hob; cases hsa; cases hsb
    decide
  · rw [exH2_eq]; intro o ho s hs; cases ho; cases hs; exact ⟨_, rfl, rfl⟩

example (p : Pairs) : OwnSp (exH1 p) 0 := by
  intro o ho s hs; cases ho; cases hs; exact ⟨_, rfl, rfl⟩
example (p : Pairs) : ((exH1 p).clone 0).2 = some 1 := rfl
example (p : Pairs) := C13_clone (exH1 p) 0 _ rfl
example (p : Pairs) := C13_clone_separated (exH1 p) 0 _ rfl (by intro o ho s hs; cases ho; cases hs; exact ⟨_, rfl, rfl⟩) 1 rfl

example : ((exH1 []).urlParse exI 0 (lit "p?z")).2.1 = some 1 := by decide +kernel

/-- append `b=2` through the CLONE's list (list 1): the source keeps query and list, the clone shows both changed -/
example :
    obsAll ((((exH1 [(lit "a", lit "1")]).clone 0).1).spMutate 1 (.append (lit "b") (lit "2"))) 0 =
      some (exU, some [(lit "a", lit "1")]) ∧
    obsAll ((((exH1 [(lit "a", lit "1")]).clone 0).1).spMutate 1 (.append (lit "b") (lit "2"))) 1 =
      some ({ exU with query := some (lit "a=1&b=2") }, some [(lit "a", lit "1"), (lit "b", lit "2")]) := by
  decide +kernel

/-- object 1 carries a list handle (0) that designates no list; object 0 has no list -/
def exBad : Heap := { urls := [{ u := exU, sp := none, cfg := {} }, { u := exU, sp := some 0, cfg := {} }], sps := [] }

example : spLive exBad 1 = false := by decide

/-- `b`'s handle dangles at the next free list slot: `SetSearch("x=1")` on object 0 of `exBad` allocates list 0, which
    then shows through object 1 -/
theorem C13_setter_frame_Statement_false : ¬ C13_setter_frame_Statement := by
  intro h
  have hsep : Separated exBad 0 1 := by
    refine ⟨by decide, ?_⟩
    intro oa ob hoa hob sa sb hsa
    cases hoa; cases hsa
  have hown : OwnSp exBad 0 := by
    intro o ho s hs; cases ho; cases hs
  have heq := h exI exBad 0 1 .search (lit "x=1") (by decide) hsep hown
  have h1 : (obsAll (exBad.set exI 0 .search (lit "x=1")).1 1).map (fun p => p.2.isSome) = some true := by decide +kernel
  have h2 : (obsAll exBad 1).map (fun p => p.2.isSome) = some false := by decide +kernel
  rw [heq, h2] at h1
  cases h1

end WhatwgUrl.Props.C13
