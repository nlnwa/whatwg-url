import WhatwgUrl.Proofs.IdemPipeline
import WhatwgUrl.Props.C18d
import WhatwgUrl.Props.C09b
import WhatwgUrl.Proofs.IdemHost
import WhatwgUrl.Proofs.IdemWeb
import WhatwgUrl.Impl.Profiles
/-
  C17c — idempotence of the repeated-decoding profiles on ordinary web urls, through the CLOSED FORM of the canonical text.

  For a profile with repeated percent-decoding (any combination of remove-port / remove-user-info / remove-fragment /
  query sorting / default scheme) and an ordinary web url `s://a/seg/…/seg?n=v&…#frag` (`render`, `WebText` of `Proofs/PipelineWeb.lean`,
  namespace `Props.C18d`) whose components spell the plain url (`psegs`, `pq`, `pf`; `Spells`, `webText_spells`):

      canonical text  =  s://hc/pseg/…/pseg?pn=pv&… (sorted as the profile says) #pf (unless removed)    (`C17c_canonical_text`)

  where `hc` is the host the first step of the pipeline writes (`CanonHost`).  No `%` after the host
  (`C17c_canonical_no_escape`).  The canonical text is again an ordinary web url — which spells ITSELF — so applying the
  closed form twice gives idempotence (`C17c_web_idempotent`; the stable sort is idempotent, `Proofs/StableSort.lean`), given
  that the host `hc` is stable (`HostStableC`).

  The theorems are relative to the parser options `p.cfg` through
    * `HalfB p.cfg I`  : what the parser makes of a web url (`halfB_of_webCfg`, `halfB_default`);
    * `HooksOk p.cfg`  : the host hooks read the record only through scheme, credentials, host and port
                         (cannot be dropped: `C17c_hooks_needed`);
    * `CfgWeb p.cfg`   : data conditions (`Proofs/IdemPipeline.lean`) — `file` has no default port; the path set, the
                         `SearchParams` query set and the special fragment set leave the unreserved characters alone; the
                         charmap of an encoding override decodes ASCII to itself.  True for `{}`, `gsbCfg`, `semanticCfg`
                         (`cfgWeb_default`, `cfgWeb_gsb`, `cfgWeb_semantic`).  They are what the closed form needs; the
                         statement without them is `C17c_web_idempotent_Statement`.
  and on the input through host stability (`HostStableC`; simplest instance `HostFix`; cannot be dropped and does not follow
  from the oracle laws: `C17c_host_stability_needed`).  Note that the host hypothesis has to talk about the record the
  hostname setter of step 1 hands to the hooks (it HAS the host `h`, the parser's record has none): `hostRec s (some h)`.

  Default parser options (`C17c_web_idempotent_default`, `C17c_web_idempotent_default_text`): the host hypothesis is
  discharged for IPv6 literals, dotted-decimal IPv4 addresses and letter-digit-hyphen domains without `xn--` label, under the
  oracle laws `IdnaLaws` — the host of a parse result is a host text and a fixed point of decode + re-encode
  (`hostFix_default` below; the fixed point of decode + re-encode is `dE_host_fix`, `Proofs/IdemHost.lean`).

  Outside the grammar (kernel-checked evaluations): an escaped `+` in the query breaks idempotence for the default options
  and both predefined profiles (`C17c_escaped_plus_not_idempotent`); the Semantic profile re-encodes non-ASCII escapes of
  the query on every run (`C17c_semantic_nonascii_not_idempotent`); an empty fragment and nested-escaped dot segments next
  to empty segments do not matter for idempotence.

  What the grammar `WebText` leaves out: it requires at least one segment, and every segment, name, value and fragment spells
  a NON-EMPTY plain text, no segment spells `.` / `..`.  So no theorem of this file is about `http://h` or `http://h/` (no
  segment, an empty segment), a trailing slash `…/a/`, an empty or missing value (`?a=`, `?a`), an empty fragment `…/a#`,
  `.` / `..` segments in the input.  (A present but empty query `…/a?` is in the grammar.)  The host classes exclude `xn--`
  labels and `%` in the host text.

  Every closed-form and idempotence theorem of this file assumes `p.repeatedPercentDecoding = true` (or is about `gsbProfile` / `semanticProfile`, which
  have it): a sorting profile without repeated decoding, such as WhatWgSortQuery, has no theorem here (see `C17b.Plain`).
  No theorem of `Props/C17.lean` (the codec alone) is called: what carries the closed form is `dE_tok` / `dE_path` and
  `Spells.canonical` of `Proofs/IdemPipeline.lean`.

  Helper files: `Proofs/Idem{Decode,Machine,Pipeline,Host}.lean`, `Proofs/IdemWeb.lean` (closed form and idempotence for a text
  with an optional port: `C17c_canonical_text_spells`, `C17c_no_text`, `C17c_web_idempotent` are the instances without a port),
  `Proofs/StableSort.lean` (the sort), `Proofs/SpEval.lean` (the evaluators).  The tactic `eval_canon` that closes the evaluated examples here and in C17e, C17f is
  the macro of `Props/C18d.lean`.
-/
namespace WhatwgUrl.Props.C17c
open WhatwgUrl WhatwgUrl.Impl WhatwgUrl.Proofs.Pipeline WhatwgUrl.Proofs.Idem
open WhatwgUrl.Props.C17b (canonText)
open WhatwgUrl.Props.C18d (render WebText)
open WhatwgUrl.Proofs.RoundTrip (pathText qTail fTail setQ setF)
open WhatwgUrl.Proofs.Spelling (hostText hostFail)
open WhatwgUrl.Proofs.Sim (I0 IdnaLaws)

/-! ### Half B as a hypothesis about the configuration

  (Half A — `canonicalize` is a congruence — and Half B — what the parser makes of a web url: see the header of
  `Props/C18d.lean`) -/

/-- what `scheme://host/seg…?q#f` parses to under the configuration `cfg`; same body as `Proofs.Web.webResC`
    (`Proofs/WebParse.lean`), equal by `rfl` -/
def webResC (cfg : Cfg) (I : Idna) (s a : Bytes) (segs : List Bytes) (q f : Option Bytes) : Res :=
  match (parseHost cfg I (hostU s) a false).out with
  | .ok h => ⟨setF (setQ { { (parseHost cfg I (hostU s) a false).url with host := some h } with path := ⟨segs, false⟩ } q) f, .url⟩
  | _ => hostFail (parseHost cfg I (hostU s) a false)

/-- Half B for a configuration (a theorem for every configuration with `WebParseCfg`: `halfB_of_webCfg`) -/
def HalfB (cfg : Cfg) (I : Idna) : Prop :=
  ∀ (s dp a : Bytes), cfg.special? s = some dp → dp ≠ [] → hostText a = true →
  ∀ (segs : List Bytes) (q : Option (List (Bytes × Bytes))) (f : Option Bytes), WebText segs q f →
    parse cfg I (render (s ++ lit "://" ++ a) segs q f) = webResC cfg I s a segs (q.map qText) f

theorem halfB_of_webCfg (cfg : Cfg) (hW : Proofs.Web.WebParseCfg cfg) (I : Idna) : HalfB cfg I := by
  intro s dp a hsd hdp ha segs q f hw
  rw [Proofs.Web.parse_render_c cfg hW I s dp a hsd hdp ha segs q f hw]
  rfl

theorem halfB_default (I : Idna) : HalfB {} I := halfB_of_webCfg {} Proofs.Web.webCfg_default.toWebParseCfg I

/-! ### the host -/

/-- **step 1 of the pipeline on the host**: a url with scheme `s` and (parsed) host `h` gets the host `hc` — the text
    `decodeEncode hostSet h` is a host text (no delimiter of the host state) and the host parser of the configuration, hooks
    included, handed a record with this scheme and host, maps it to `hc` -/
def CanonHost (cfg : Cfg) (I : Idna) (s h hc : Bytes) : Prop :=
  hostText (decodeEncode hostSet h) = true ∧
  (parseHost cfg I (hostRec s (some h)) (decodeEncode hostSet h) false).out = .ok hc

/-! ### the closed form -/

/-- **C17c, the closed form of the canonical text** (value level).  A profile with repeated percent-decoding; parser
    options satisfying `HalfB`, `HooksOk`, `CfgWeb`; a web url whose host text parses to `h`, whose components spell the
    plain url (`psegs`, `pq`, `pf`); step 1 of the pipeline writes the host `hc ≠ ""`.  Then the canonical text is the
    plain url with host `hc`, the pairs sorted as the profile says, the fragment removed if the profile says so. -/
theorem C17c_canonical_text_spells (I : Idna) (p : Profile) (hp : p.repeatedPercentDecoding = true) (hk : HooksOk p.cfg)
    (hc : CfgWeb p.cfg) (hB : HalfB p.cfg I) (H : Heap) (s dp a h hc' : Bytes) (hsd : p.cfg.special? s = some dp) (hdp : dp ≠ [])
    (ha : hostText a = true) (segs psegs : List Bytes) (q pq : Option Pairs) (f pf : Option Bytes) (hw : WebText segs q f)
    (hsp : Spells psegs pq pf segs q f)
    (hout : (parseHost p.cfg I (hostU s) a false).out = .ok h) (hch : CanonHost p.cfg I s h hc') (hcne : hc' ≠ []) :
    canonText (canonParse I p H (render (s ++ lit "://" ++ a) segs q f)) =
      some (render (s ++ lit "://" ++ hc') psegs (pq.map (sortOf p)) (if p.removeFragment = true then none else pf)) := by
  simpa only [Proofs.Web.portText, List.append_nil, C17f.portKept, ite_self] using
    canonText_web I p hp hk hc H s dp a h hc' hsd hdp none segs psegs q pq f pf
      (by rw [Proofs.Web.portText, List.append_nil]; exact hB s dp a hsd hdp ha segs q f hw) hsp hout hch.1 hch.2 hcne

/-- … with the plain url obtained from the web text -/
theorem C17c_canonical_text (I : Idna) (p : Profile) (hp : p.repeatedPercentDecoding = true) (hk : HooksOk p.cfg)
    (hc : CfgWeb p.cfg) (hB : HalfB p.cfg I) (H : Heap) (s dp a h hc' : Bytes) (hsd : p.cfg.special? s = some dp) (hdp : dp ≠ [])
    (ha : hostText a = true) (segs : List Bytes) (q : Option Pairs) (f : Option Bytes) (hw : WebText segs q f)
    (hout : (parseHost p.cfg I (hostU s) a false).out = .ok h) (hch : CanonHost p.cfg I s h hc') (hcne : hc' ≠ []) :
    ∃ psegs pq pf, Spells psegs pq pf segs q f ∧
      canonText (canonParse I p H (render (s ++ lit "://" ++ a) segs q f)) =
        some (render (s ++ lit "://" ++ hc') psegs (pq.map (sortOf p)) (if p.removeFragment = true then none else pf)) := by
  obtain ⟨psegs, pq, pf, hsp⟩ := webText_spells hw
  exact ⟨psegs, pq, pf, hsp, C17c_canonical_text_spells I p hp hk hc hB H s dp a h hc' hsd hdp ha segs psegs q pq f pf hw hsp hout
    hch hcne⟩

/-- when the host parser rejects the host text there is no canonical text -/
theorem C17c_no_text (I : Idna) (p : Profile) (hB : HalfB p.cfg I) (H : Heap) (s dp a : Bytes) (hsd : p.cfg.special? s = some dp)
    (hdp : dp ≠ []) (ha : hostText a = true) (segs : List Bytes) (q : Option Pairs) (f : Option Bytes) (hw : WebText segs q f)
    (hno : ∀ h, (parseHost p.cfg I (hostU s) a false).out ≠ .ok h) :
    canonText (canonParse I p H (render (s ++ lit "://" ++ a) segs q f)) = none := by
  simpa only [Proofs.Web.portText, List.append_nil] using
    canonText_web_none I p H s a none segs q f
      (by rw [Proofs.Web.portText, List.append_nil]; exact hB s dp a hsd hdp ha segs q f hw) hno

/-- **the canonical text has no `%`-escape after the host** — in particular no escape of an unreserved character: path,
    query and fragment consist of unreserved characters and the delimiters `/ ? & = #` -/
theorem C17c_canonical_no_escape (I : Idna) (p : Profile) (hp : p.repeatedPercentDecoding = true) (hk : HooksOk p.cfg)
    (hc : CfgWeb p.cfg) (hB : HalfB p.cfg I) (H : Heap) (s dp a h hc' : Bytes) (hsd : p.cfg.special? s = some dp) (hdp : dp ≠ [])
    (ha : hostText a = true) (segs : List Bytes) (q : Option Pairs) (f : Option Bytes) (hw : WebText segs q f)
    (hout : (parseHost p.cfg I (hostU s) a false).out = .ok h) (hch : CanonHost p.cfg I s h hc') (hcne : hc' ≠ []) :
    ∃ tail, canonText (canonParse I p H (render (s ++ lit "://" ++ a) segs q f)) = some (s ++ lit "://" ++ hc' ++ tail) ∧
      (0x25 : UInt8) ∉ tail := by
  obtain ⟨psegs, pq, pf, hsp⟩ := webText_spells hw
  refine ⟨_, C17c_canonical_text_spells I p hp hk hc hB H s dp a h hc' hsd hdp ha segs psegs q pq f pf hw hsp hout hch hcne, ?_⟩
  apply plain_tail_no_pct psegs _ _ (pseg_of_segs hsp.hsegs)
  · intro l hl
    cases pq with
    | none => cases hl
    | some l0 =>
      simp only [Option.map_some, Option.some.injEq] at hl
      subst hl
      exact sortOf_plain p l0 (hsp.plainPairs l0 rfl)
  · intro x hx
    split at hx
    · cases hx
    · exact hsp.plainFrag x hx

/-! ### idempotence -/

/-- **host stability**: if the host text `a` parses (to `h`) then step 1 of the pipeline writes a host `hc` which is a
    host text, parses (to some `h'`), and which step 1 writes again for `h'`.
    (The simplest instance: `h' = hc = h` and `decodeEncode hostSet h = h` — `hostStableC_of_fix`.) -/
def HostStableC (cfg : Cfg) (I : Idna) (s a : Bytes) : Prop :=
  ∀ h, (parseHost cfg I (hostU s) a false).out = .ok h →
    ∃ hc, CanonHost cfg I s h hc ∧ hostText hc = true ∧
      ∃ h', (parseHost cfg I (hostU s) hc false).out = .ok h' ∧ CanonHost cfg I s h' hc

/-- **C17c.**  `(*profile).Parse` of a profile with repeated percent-decoding is idempotent on ordinary web urls: the
    canonical text `t` of a web url is its own canonical text (any two heaps).  Hypotheses on the parser options: `HooksOk`,
    `CfgWeb`, `HalfB`; on the input: the web grammar and host stability. -/
theorem C17c_web_idempotent (I : Idna) (p : Profile) (hp : p.repeatedPercentDecoding = true) (hk : HooksOk p.cfg)
    (hc : CfgWeb p.cfg) (hB : HalfB p.cfg I) (s dp a : Bytes) (hsd : p.cfg.special? s = some dp) (hdp : dp ≠ [])
    (ha : hostText a = true) (segs : List Bytes) (q : Option Pairs) (f : Option Bytes) (hw : WebText segs q f)
    (hst : HostStableC p.cfg I s a) (H H' : Heap) (t : Bytes)
    (ht : canonText (canonParse I p H (render (s ++ lit "://" ++ a) segs q f)) = some t) :
    canonText (canonParse I p H' t) = some t := by
  -- the instance without a port of `canonText_web_fixed`: the canonical text has no port either
  have e : (if p.removePort = true then none else C17f.portKept dp none) = none := by split <;> rfl
  refine canonText_web_fixed I p hp hk hc s dp a hsd hdp ha none ?_ segs q f hw (by rw [e]; exact hst) H H' t
    (by rw [Proofs.Web.portText, List.append_nil]; exact ht)
  intro po' hpo' a segs q f ha hw
  cases hpo'.elim id fun h => h.trans e
  rw [Proofs.Web.portText, List.append_nil]
  exact hB s dp a hsd hdp ha segs q f hw

/-- the simplest instance of host stability: the parsed host `h` is a host text, a fixed point of decode + re-encode and a
    fixed point of the host parser of the configuration (called with a fresh record, as the parser does, and with a record
    that has the host `h`, as the hostname setter of step 1 does) -/
def HostFix (cfg : Cfg) (I : Idna) (s h : Bytes) : Prop :=
  hostText h = true ∧ decodeEncode hostSet h = h ∧ (parseHost cfg I (hostU s) h false).out = .ok h ∧
  (parseHost cfg I (hostRec s (some h)) h false).out = .ok h

theorem hostStableC_of_fix (cfg : Cfg) (I : Idna) (s a : Bytes)
    (h : ∀ h, (parseHost cfg I (hostU s) a false).out = .ok h → HostFix cfg I s h) : HostStableC cfg I s a := by
  intro h0 hout
  obtain ⟨h1, h2, h3, h4⟩ := h h0 hout
  have hc : CanonHost cfg I s h0 h0 := ⟨by rw [h2]; exact h1, by rw [h2]; exact h4⟩
  exact ⟨h0, hc, h1, h0, h3, hc⟩

/-- the statement WITHOUT the data conditions `CfgWeb` on the parser options (neither proved nor refuted: `CfgWeb` is what
    the closed form needs — with an encode set that contains an unreserved character the canonical text contains escapes
    and is not the plain url; the conditions hold for `{}`, `gsbCfg`, `semanticCfg`) -/
def C17c_web_idempotent_Statement : Prop :=
  ∀ (I : Idna) (p : Profile), p.repeatedPercentDecoding = true → HooksOk p.cfg → HalfB p.cfg I →
  ∀ (s dp a : Bytes), p.cfg.special? s = some dp → dp ≠ [] → hostText a = true →
  ∀ (segs : List Bytes) (q : Option Pairs) (f : Option Bytes), WebText segs q f → HostStableC p.cfg I s a →
  ∀ (H H' : Heap) (t : Bytes), canonText (canonParse I p H (render (s ++ lit "://" ++ a) segs q f)) = some t →
    canonText (canonParse I p H' t) = some t

/-- what is proved of it: with the extra hypothesis `CfgWeb p.cfg` — the statement of `C17c_web_idempotent` -/
theorem C17c_web_idempotent_partial (I : Idna) (p : Profile) (hp : p.repeatedPercentDecoding = true) (hk : HooksOk p.cfg)
    (hc : CfgWeb p.cfg) (hB : HalfB p.cfg I) (s dp a : Bytes) (hsd : p.cfg.special? s = some dp) (hdp : dp ≠ [])
    (ha : hostText a = true) (segs : List Bytes) (q : Option Pairs) (f : Option Bytes) (hw : WebText segs q f)
    (hst : HostStableC p.cfg I s a) (H H' : Heap) (t : Bytes)
    (ht : canonText (canonParse I p H (render (s ++ lit "://" ++ a) segs q f)) = some t) :
    canonText (canonParse I p H' t) = some t :=
  C17c_web_idempotent I p hp hk hc hB s dp a hsd hdp ha segs q f hw hst H H' t ht

/-- **C17c with the simplest host hypothesis**: the parsed host is a host text and a fixed point of decode + re-encode
    and of the host parser (`HostFix`) -/
theorem C17c_web_idempotent_fix (I : Idna) (p : Profile) (hp : p.repeatedPercentDecoding = true) (hk : HooksOk p.cfg)
    (hc : CfgWeb p.cfg) (hB : HalfB p.cfg I) (s dp a : Bytes) (hsd : p.cfg.special? s = some dp) (hdp : dp ≠ [])
    (ha : hostText a = true) (segs : List Bytes) (q : Option Pairs) (f : Option Bytes) (hw : WebText segs q f)
    (hst : ∀ h, (parseHost p.cfg I (hostU s) a false).out = .ok h → HostFix p.cfg I s h) (H H' : Heap) (t : Bytes)
    (ht : canonText (canonParse I p H (render (s ++ lit "://" ++ a) segs q f)) = some t) :
    canonText (canonParse I p H' t) = some t :=
  C17c_web_idempotent I p hp hk hc hB s dp a hsd hdp ha segs q f hw (hostStableC_of_fix p.cfg I s a hst) H H' t ht

/-- **C17c for parser options whose hooks ignore the record** (no hooks; the hooks of the GoogleSafeBrowsing and Semantic
    profiles): the outcome of the host parser does not depend on the record (`parseHost_out_indep`), so the host hypothesis
    is about the host parser as a function of the text alone — every host `h` the host text may parse to is a host text,
    a fixed point of decode + re-encode and a fixed point of the host parser -/
theorem C17c_web_idempotent_ignore (I : Idna) (p : Profile) (hp : p.repeatedPercentDecoding = true) (hk : HooksIgnore p.cfg)
    (hc : CfgWeb p.cfg) (hB : HalfB p.cfg I) (s dp a : Bytes) (hsd : p.cfg.special? s = some dp) (hdp : dp ≠ [])
    (ha : hostText a = true) (segs : List Bytes) (q : Option Pairs) (f : Option Bytes) (hw : WebText segs q f)
    (hst : ∀ h, (parseHost p.cfg I {} a false).out = .ok h →
      hostText h = true ∧ decodeEncode hostSet h = h ∧ (parseHost p.cfg I {} h false).out = .ok h)
    (H H' : Heap) (t : Bytes)
    (ht : canonText (canonParse I p H (render (s ++ lit "://" ++ a) segs q f)) = some t) :
    canonText (canonParse I p H' t) = some t := by
  refine C17c_web_idempotent_fix I p hp (hooksOk_of_ignore hk) hc hB s dp a hsd hdp ha segs q f hw ?_ H H' t ht
  intro h hout
  rw [parseHost_out_indep p.cfg I hk (hostU s) {} a false] at hout
  obtain ⟨h1, h2, h3⟩ := hst h hout
  exact ⟨h1, h2, by rw [parseHost_out_indep p.cfg I hk (hostU s) {} h false]; exact h3,
    by rw [parseHost_out_indep p.cfg I hk (hostRec s (some h)) {} h false]; exact h3⟩

/-! ### default parser options: the host hypothesis discharged for the easy hosts -/

open WhatwgUrl.Proofs.RTcInv (AsciiDomain)

/-- the parsed host is bracketed (then it is the serialization of an IPv6 address: host provenance) or an L1-domain
    (`AsciiDomain`, decidable: pure ASCII, lower case, no forbidden domain code point, no `xn--` label, and — when it ends
    in a number — the serialization of an IPv4 address) -/
def EasyHost (h : Bytes) : Prop := h.head? ≠ some 0x5b → AsciiDomain h

instance (h : Bytes) : Decidable (EasyHost h) := by unfold EasyHost; infer_instance

private theorem wt_x : Spells [lit "x"] none none [lit "x"] none none :=
  spells_self (fun p hp => by
      simp only [List.mem_cons, List.not_mem_nil, or_false] at hp
      subst hp
      exact ⟨plain_lit _ (by decide), by decide, by decide⟩)
    (by simp) (fun l hl => by cases hl) (fun x hx => by cases hx)

/-- default parser options: the host of a parsed web url is a host text, a fixed point of decode + re-encode, and — when it
    is easy — a fixed point of the host parser -/
theorem hostFix_default (I : Idna) (hI : IdnaLaws I) (s a : Bytes)
    (ha : hostText a = true) (h : Bytes) (hout : (parseHost {} I (hostU s) a false).out = .ok h) (hE : EasyHost h) :
    HostFix {} I s h := by
  have hchars := C04c.parseHost_chars {} I (hostU s) a true rfl rfl rfl rfl hI.out_ascii h hout
  have hne := Proofs.HostWF.parseHost_ne {} I (hostU s) a false rfl rfl hI.nonempty
    (WhatwgUrl.Proofs.Spelling.hostText_spec ha).1 h hout
  have hstab : (parseHost {} I {} h false).out = .ok h := by
    by_cases hb : h.head? = some 0x5b
    · obtain ⟨addr, hA, he⟩ := WhatwgUrl.Proofs.RTcInv.parseHost_v6 I (hostU s) a false h hout hb
      rw [he]
      exact WhatwgUrl.Proofs.RoundTrip.parseHost_ipv6_fixed I addr hA false
    · exact WhatwgUrl.Proofs.RTcInv.parseHost_asciiDomain I (WhatwgUrl.Proofs.RTcInv.L1_of_laws I hI) h (hE hb)
  -- without hooks a successful outcome does not depend on the record handed to the host parser: `hostU s`, `hostRec s (some h)`
  exact ⟨hostText_of_chars hne hchars, dE_host_fix hchars, WhatwgUrl.Proofs.RoundTrip.parseHost_ok_indep I _ _ _ _ _ hstab,
    WhatwgUrl.Proofs.RoundTrip.parseHost_ok_indep I _ _ _ _ _ hstab⟩

/-- **C17c for the default parser options** (any combination of remove-port / remove-user-info / remove-fragment / query
    sorting / default scheme, with repeated percent-decoding): idempotent on every ordinary web url whose parsed host is
    easy — an IPv6 literal, an IPv4 address, a pure-ASCII domain without `xn--` label.  No other hypothesis than the oracle
    laws. -/
theorem C17c_web_idempotent_default (I : Idna) (hI : IdnaLaws I) (p : Profile) (hp : p.repeatedPercentDecoding = true)
    (hcfg : p.cfg = {}) (s dp a : Bytes) (hsd : Cfg.special? {} s = some dp) (hdp : dp ≠ [])
    (ha : hostText a = true) (segs : List Bytes) (q : Option Pairs) (f : Option Bytes) (hw : WebText segs q f)
    (hE : ∀ h, (parseHost {} I (hostU s) a false).out = .ok h → EasyHost h) (H H' : Heap) (t : Bytes)
    (ht : canonText (canonParse I p H (render (s ++ lit "://" ++ a) segs q f)) = some t) :
    canonText (canonParse I p H' t) = some t := by
  refine C17c_web_idempotent I p hp (by rw [hcfg]; exact hooksOk_none {} rfl rfl) (by rw [hcfg]; exact cfgWeb_default)
    (by rw [hcfg]; exact halfB_default I) s dp a (by rw [hcfg]; exact hsd) hdp ha segs q f hw ?_ H H' t ht
  rw [hcfg]
  exact hostStableC_of_fix {} I s a (fun h hout => hostFix_default I hI s a ha h hout (hE h hout))

/-- a decidable condition on the host TEXT of the input: an IPv6 literal (anything in brackets that the parser accepts), or
    a text without `%` whose ASCII lower-casing is an L1-domain — a letter-digit-hyphen domain in any letter case without
    `xn--` label, an IPv4 address in dotted-decimal form -/
def EasyText (a : Bytes) : Prop := a.head? = some 0x5b ∨ ((0x25 : UInt8) ∉ a ∧ AsciiDomain (asciiLower a))

instance (a : Bytes) : Decidable (EasyText a) := by unfold EasyText; infer_instance

/-- the parsed host of an easy host text is an easy host -/
theorem easyHost_of_text (I : Idna) (hI : IdnaLaws I) (u : Url) (a h : Bytes) (hne : a ≠ []) (hA : EasyText a)
    (hout : (parseHost {} I u a false).out = .ok h) : EasyHost h := by
  by_cases hb : a.head? = some 0x5b
  · intro hnb
    exact absurd ((WhatwgUrl.Proofs.RTcInv.parseHost_bracket_iff {} I u a false h rfl rfl rfl hout).mpr hb) hnb
  · rcases hA with hA | ⟨hp, hd⟩
    · exact absurd hA hb
    · have hL := WhatwgUrl.Proofs.RTcInv.L1_of_laws I hI
      have hpl : (0x25 : UInt8) ∉ asciiLower a := by
        intro hm
        have := (hd.1 _ hm).2
        rw [WhatwgUrl.Proofs.RTcInv.forbidden_pct.1] at this; cases this
      have hpa : WhatwgUrl.Proofs.Domain.PureAsciiNoAce a :=
        ⟨WhatwgUrl.Proofs.Domain.ascii_of_asciiLower (fun x hx => (hd.1 x hx).1), hd.2.2.1⟩
      have e := C09b.C09_case_independent_literal {} rfl rfl rfl I hL u a (asciiLower a) hp hpl
        (WhatwgUrl.Proofs.AsciiCase.asciiLower_idem a).symm hne hb hpa
      rw [e, WhatwgUrl.Proofs.RoundTrip.parseHost_ok_indep I u {} _ _ _
        (WhatwgUrl.Proofs.RTcInv.parseHost_asciiDomain I hL _ hd)] at hout
      cases hout
      exact fun _ => hd

/-- **C17c for the default parser options, the host condition on the input text**: no hypothesis left but the oracle laws,
    `p.cfg = {}` and the grammar of the input (`EasyText a` is decidable) -/
theorem C17c_web_idempotent_default_text (I : Idna) (hI : IdnaLaws I) (p : Profile) (hp : p.repeatedPercentDecoding = true)
    (hcfg : p.cfg = {}) (s dp a : Bytes) (hsd : Cfg.special? {} s = some dp) (hdp : dp ≠ [])
    (ha : hostText a = true) (hA : EasyText a) (segs : List Bytes) (q : Option Pairs) (f : Option Bytes) (hw : WebText segs q f)
    (H H' : Heap) (t : Bytes)
    (ht : canonText (canonParse I p H (render (s ++ lit "://" ++ a) segs q f)) = some t) :
    canonText (canonParse I p H' t) = some t :=
  C17c_web_idempotent_default I hI p hp hcfg s dp a hsd hdp ha segs q f hw
    (fun h hout => easyHost_of_text I hI _ a h (WhatwgUrl.Proofs.Spelling.hostText_spec ha).1 hA hout) H H' t ht

/-! ### the conditions on the parser options hold for the options of the two predefined profiles

  (so for `gsbProfile` / `semanticProfile` of `Impl/Profiles.lean` the theorems `C17c_canonical_text` and
  `C17c_web_idempotent` need `HalfB gsbCfg I` / `HalfB semanticCfg I` and the host hypotheses only) -/

theorem cfgWeb_gsb : CfgWeb gsbCfg where
  nofile := by decide
  pathSet := fun b h => (unres_sets b h).1
  querySet := fun b h => (unres_sets b h).2.2.2.1
  fragSet := fun b h => (unres_sets b h).2.2.2.2
  dec := decAscii_none _ rfl

theorem cfgWeb_semantic : CfgWeb semanticCfg where
  nofile := by decide
  pathSet := fun b h => (unres_sets b h).2.1
  querySet := fun b h => (unres_sets b h).2.2.2.1
  fragSet := fun b h => (unres_sets b h).2.2.2.2
  dec := by
    intro cm hcm x hx
    cases (Option.some.inj hcm : latin1 = cm)
    exact WhatwgUrl.Proofs.IPv4.utf8Char_bc x hx

theorem hooksIgnore_gsb : HooksIgnore gsbCfg := Proofs.Web.hooksIgnore_gsb

theorem hooksIgnore_semantic : HooksIgnore semanticCfg := Proofs.Web.hooksIgnore_semantic

theorem hooksOk_gsb : HooksOk gsbCfg := Proofs.Web.hooksOk_gsb

theorem hooksOk_semantic : HooksOk semanticCfg := Proofs.Web.hooksOk_semantic

/-- **the two predefined profiles**: idempotent on ordinary web urls as soon as Half B holds for their parser options
    (`halfB_of_webCfg` with `Web.webCfg_gsb` / `Web.webCfg_semantic`) and the host is stable under their host parser -/
theorem C17c_gsb_idempotent (I : Idna) (hB : HalfB gsbCfg I) (s dp a : Bytes) (hsd : gsbCfg.special? s = some dp) (hdp : dp ≠ [])
    (ha : hostText a = true) (segs : List Bytes) (q : Option Pairs) (f : Option Bytes) (hw : WebText segs q f)
    (hst : ∀ h, (parseHost gsbCfg I {} a false).out = .ok h →
      hostText h = true ∧ decodeEncode hostSet h = h ∧ (parseHost gsbCfg I {} h false).out = .ok h)
    (H H' : Heap) (t : Bytes)
    (ht : canonText (canonParse I gsbProfile H (render (s ++ lit "://" ++ a) segs q f)) = some t) :
    canonText (canonParse I gsbProfile H' t) = some t :=
  C17c_web_idempotent_ignore I gsbProfile rfl hooksIgnore_gsb cfgWeb_gsb hB s dp a hsd hdp ha segs q f hw hst H H' t ht

theorem C17c_semantic_idempotent (I : Idna) (hB : HalfB semanticCfg I) (s dp a : Bytes) (hsd : semanticCfg.special? s = some dp)
    (hdp : dp ≠ []) (ha : hostText a = true) (segs : List Bytes) (q : Option Pairs) (f : Option Bytes) (hw : WebText segs q f)
    (hst : ∀ h, (parseHost semanticCfg I {} a false).out = .ok h →
      hostText h = true ∧ decodeEncode hostSet h = h ∧ (parseHost semanticCfg I {} h false).out = .ok h)
    (H H' : Heap) (t : Bytes)
    (ht : canonText (canonParse I semanticProfile H (render (s ++ lit "://" ++ a) segs q f)) = some t) :
    canonText (canonParse I semanticProfile H' t) = some t :=
  C17c_web_idempotent_ignore I semanticProfile rfl hooksIgnore_semantic cfgWeb_semantic hB s dp a hsd hdp ha segs q f hw hst
    H H' t ht

/-- the host hypothesis of these two theorems for the host text `[::1]` -/
example : ∀ h, (parseHost gsbCfg I0 {} (lit "[::1]") false).out = .ok h →
    hostText h = true ∧ decodeEncode hostSet h = h ∧ (parseHost gsbCfg I0 {} h false).out = .ok h := by
  intro h hh
  have e : (parseHost gsbCfg I0 {} (lit "[::1]") false).out = .ok (lit "[::1]") := by decide +kernel
  rw [e] at hh
  cases hh
  exact ⟨by decide, dE_host_fix (by decide), e⟩

example : gsbProfile.repeatedPercentDecoding = true ∧ semanticProfile.repeatedPercentDecoding = true := ⟨rfl, rfl⟩

/-- the host hypothesis is satisfiable for these options too: the IPv6 literal `[::1]` (no oracle involved) -/
example : HostFix gsbCfg I0 (lit "http") (lit "[::1]") ∧ HostFix semanticCfg I0 (lit "http") (lit "[::1]") :=
  ⟨⟨by decide, dE_host_fix (by decide), by decide +kernel, by decide +kernel⟩,
   ⟨by decide, dE_host_fix (by decide), by decide +kernel, by decide +kernel⟩⟩

/-! ### non-vacuity -/

/-- a profile with repeated decoding, sorted query, no user info, no port, and a default scheme -/
def pS : Profile :=
  { repeatedPercentDecoding := true, sortQuery := .sortKeys, removeUserInfo := true, removePort := true, defaultScheme := lit "https" }

private def segsX : List Bytes := [lit "%7Efoo", lit "a"]
private def qX : Option Pairs := some [(lit "b", lit "%41"), (lit "a", lit "1")]
private def fX : Option Bytes := some (lit "y")
private def psegsX : List Bytes := [lit "~foo", lit "a"]
private def pqX : Option Pairs := some [(lit "b", lit "A"), (lit "a", lit "1")]

/-- the input `http://example.com/%7Efoo/a?b=%41&a=1#y` spells the plain url `…/~foo/a?b=A&a=1#y` -/
private theorem ex_spells : Spells psegsX pqX fX segsX qX fX := spells_tilde_foo

private theorem ex_render : render (lit "http" ++ lit "://" ++ lit "example.com") segsX qX fX =
    lit "http://example.com/%7Efoo/a?b=%41&a=1#y" := by decide

private theorem ex_domain : AsciiDomain (lit "example.com") := by unfold AsciiDomain; decide +kernel

example : pS.repeatedPercentDecoding = true ∧ pS.cfg = {} ∧ Cfg.special? {} (lit "http") = some (lit "80") ∧
    hostText (lit "example.com") = true ∧ EasyHost (lit "example.com") :=
  ⟨rfl, rfl, by decide, by decide, fun _ => ex_domain⟩

/-- scheme, default port and host text of the examples -/
private theorem ex_hyps : Cfg.special? {} (lit "http") = some (lit "80") ∧ lit "80" ≠ [] ∧ hostText (lit "example.com") = true := by
  decide

/-- the host `example.com` under any oracle that satisfies the laws -/
private theorem ex_host (I : Idna) (hI : IdnaLaws I) (u : Url) :
    (parseHost {} I u (lit "example.com") false).out = .ok (lit "example.com") :=
  WhatwgUrl.Proofs.RoundTrip.parseHost_ok_indep I _ _ _ _ _
    (WhatwgUrl.Proofs.RTcInv.parseHost_asciiDomain I (WhatwgUrl.Proofs.RTcInv.L1_of_laws I hI) (lit "example.com") ex_domain)

private theorem ex_easy (I : Idna) (hI : IdnaLaws I) (h : Bytes)
    (hout : (parseHost {} I (hostU (lit "http")) (lit "example.com") false).out = .ok h) : EasyHost h := by
  rw [ex_host I hI] at hout
  cases hout
  exact fun _ => ex_domain

private theorem ex_canonHost (I : Idna) (hI : IdnaLaws I) : CanonHost {} I (lit "http") (lit "example.com") (lit "example.com") := by
  have hfix : decodeEncode hostSet (lit "example.com") = lit "example.com" := dE_host_fix (by decide)
  exact ⟨by rw [hfix]; decide, by rw [hfix]; exact ex_host I hI _⟩

/-- **the idempotence theorem applied** to `http://example.com/%7Efoo/a?b=%41&a=1#y` under the sorting profile `pS`, any
    oracle satisfying the laws, any heaps -/
example (I : Idna) (hI : IdnaLaws I) (H H' : Heap) (t : Bytes)
    (ht : canonText (canonParse I pS H (lit "http://example.com/%7Efoo/a?b=%41&a=1#y")) = some t) :
    canonText (canonParse I pS H' t) = some t := by
  rw [← ex_render] at ht
  exact C17c_web_idempotent_default I hI pS rfl rfl (lit "http") (lit "80") (lit "example.com") ex_hyps.1 ex_hyps.2.1 ex_hyps.2.2
    segsX qX fX ex_spells.webText (ex_easy I hI) H H' t ht

/-- … through the version with the decidable condition on the host text; also for `Example.COM` -/
example : EasyText (lit "example.com") ∧ EasyText (lit "Example.COM") ∧ EasyText (lit "[0::1]") ∧ EasyText (lit "192.168.0.1") ∧
    ¬ EasyText (lit "xn--a") ∧ ¬ EasyText (lit "ex%41mple.com") := by
  decide +kernel
example (I : Idna) (hI : IdnaLaws I) (H H' : Heap) (t : Bytes)
    (ht : canonText (canonParse I pS H (lit "http://Example.COM/%7Efoo/a?b=%41&a=1#y")) = some t) :
    canonText (canonParse I pS H' t) = some t := by
  rw [show lit "http://Example.COM/%7Efoo/a?b=%41&a=1#y" =
    render (lit "http" ++ lit "://" ++ lit "Example.COM") segsX qX fX by decide] at ht
  exact C17c_web_idempotent_default_text I hI pS rfl rfl (lit "http") (lit "80") (lit "Example.COM") (by decide) (by decide)
    (by decide) (by unfold EasyText AsciiDomain; decide +kernel) segsX qX fX ex_spells.webText H H' t ht

/-- **the closed form applied**: the canonical text of that input (pairs sorted by name, escapes of unreserved characters
    gone) -/
private theorem ex_closed (I : Idna) (hI : IdnaLaws I) (H : Heap) :
    canonText (canonParse I pS H (lit "http://example.com/%7Efoo/a?b=%41&a=1#y")) =
      some (lit "http://example.com/~foo/a?a=1&b=A#y") := by
  rw [← ex_render]
  rw [C17c_canonical_text_spells I pS rfl (hooksOk_none {} rfl rfl) cfgWeb_default (halfB_default I) H (lit "http") (lit "80")
    (lit "example.com") (lit "example.com") (lit "example.com") ex_hyps.1 ex_hyps.2.1 ex_hyps.2.2 segsX psegsX qX pqX fX fX
    ex_spells.webText ex_spells (ex_host I hI _) (ex_canonHost I hI) (by decide)]
  decide
example (I : Idna) (hI : IdnaLaws I) (H : Heap) :
    canonText (canonParse I pS H (lit "http://example.com/%7Efoo/a?b=%41&a=1#y")) =
      some (lit "http://example.com/~foo/a?a=1&b=A#y") := ex_closed I hI H

/-- the corollary applied: nothing but unreserved characters and delimiters after the host -/
example (I : Idna) (hI : IdnaLaws I) (H : Heap) :
    ∃ tail, canonText (canonParse I pS H (lit "http://example.com/%7Efoo/a?b=%41&a=1#y")) =
      some (lit "http" ++ lit "://" ++ lit "example.com" ++ tail) ∧ (0x25 : UInt8) ∉ tail := by
  rw [← ex_render]
  exact C17c_canonical_no_escape I pS rfl (hooksOk_none {} rfl rfl) cfgWeb_default (halfB_default I) H (lit "http") (lit "80")
    (lit "example.com") (lit "example.com") (lit "example.com") ex_hyps.1 ex_hyps.2.1 ex_hyps.2.2 segsX qX fX
    ex_spells.webText (ex_host I hI _) (ex_canonHost I hI) (by decide)

/-- a host text that the host parser rejects: no canonical text (`C17c_no_text`) -/
example (H : Heap) : canonText (canonParse I0 pS H (render (lit "http" ++ lit "://" ++ lit "[::g]") segsX qX fX)) = none :=
  C17c_no_text I0 pS (halfB_default I0) H (lit "http") (lit "80") (lit "[::g]") (by decide) (by decide) (by decide) segsX qX fX
    ex_spells.webText (by
      intro h hh
      have e : (parseHost pS.cfg I0 (hostU (lit "http")) (lit "[::g]") false).out =
          .err ⟨.IPv6InvalidCodePoint, true⟩ := by decide +kernel
      rw [e] at hh; cases hh)

/-- … and it is a fixed point (the conclusion of the idempotence theorem, for the empty heap) -/
example (I : Idna) (hI : IdnaLaws I) :
    canonText (canonParse I pS {} (lit "http://example.com/~foo/a?a=1&b=A#y")) = some (lit "http://example.com/~foo/a?a=1&b=A#y") := by
  have h1 := ex_closed I hI {}
  rw [← ex_render] at h1
  exact C17c_web_idempotent_default I hI pS rfl rfl (lit "http") (lit "80") (lit "example.com") ex_hyps.1 ex_hyps.2.1 ex_hyps.2.2
    segsX qX fX ex_spells.webText (ex_easy I hI) {} {} _ h1

/-- the hypotheses of the general theorem `C17c_web_idempotent` hold together: default options, the oracle `I0`, the host
    `[0::1]` (which parses to `[::1]`) -/
example : HooksOk ({} : Cfg) ∧ CfgWeb {} ∧ HalfB {} I0 ∧ HostStableC {} I0 (lit "http") (lit "[0::1]") ∧
    (parseHost {} I0 (hostU (lit "http")) (lit "[0::1]") false).out = .ok (lit "[::1]") :=
  ⟨hooksOk_none {} rfl rfl, cfgWeb_default, halfB_default I0,
    hostStableC_of_fix {} I0 _ _ (fun h hout => hostFix_default I0 WhatwgUrl.Proofs.Sim.I0_laws (lit "http") (lit "[0::1]")
      (by decide) h hout
      (easyHost_of_text I0 WhatwgUrl.Proofs.Sim.I0_laws _ (lit "[0::1]") h (by decide) (by decide +kernel) hout)),
    by decide +kernel⟩

/-- cross-check by evaluation (kernel-checked, IPv6 host so that everything reduces): the closed form is what the model
    computes -/
example : canonText (canonParse I0 pS {} (lit "http://[::1]/%7Efoo/a?b=%41&a=1#y")) = some (lit "http://[::1]/~foo/a?a=1&b=A#y") := by
  eval_canon
example : canonText (canonParse I0 pS {} (lit "http://[::1]/~foo/a?a=1&b=A#y")) = some (lit "http://[::1]/~foo/a?a=1&b=A#y") := by
  eval_canon

/-- the grammar includes a present but empty query (`…/a?`): it is kept, and the text is a fixed point -/
example : WebText [lit "a"] (some []) none :=
  ⟨(fun x hx => by
      simp only [List.mem_cons, List.not_mem_nil, or_false] at hx
      subst hx
      exact ⟨lit "a", ⟨plain_lit _ (by decide), spelled_refl _⟩, by decide, by decide⟩),
    (by simp), (fun l hl nv hnv => by cases hl; cases hnv), (fun x hx => by cases hx)⟩
example : render (lit "http" ++ lit "://" ++ lit "[::1]") [lit "a"] (some []) none = lit "http://[::1]/a?" := by decide
example : canonText (canonParse I0 pS {} (lit "http://[::1]/a?")) = some (lit "http://[::1]/a?") := by
  eval_canon

/-! ### the limits: what forces the hypotheses -/

/-- **`HooksOk` cannot be dropped.**  A `preHost` hook that looks at the path (the hooks of the model are arbitrary functions
    of the record): the parser calls it while the path is still empty, the hostname setter of step 1 calls it with the
    path of the record.  `http://[::1]/%61` ↦ `http://[::1]/a` ↦ `http://[::2]/a`: not idempotent. -/
def cfgHook2 : Cfg := { preHost := some fun u h => if u.path.segs == [lit "a"] then lit "[::2]" else h }
def pHook : Profile := { cfg := cfgHook2, repeatedPercentDecoding := true }

theorem C17c_hooks_needed :
    canonText (canonParse I0 pHook {} (lit "http://[::1]/%61")) = some (lit "http://[::1]/a") ∧
    canonText (canonParse I0 pHook {} (lit "http://[::1]/a")) = some (lit "http://[::2]/a") := by
  constructor <;> eval_canon

/-- … while the other conditions on the options (`CfgWeb`) hold for it: the failure is due to the hook alone -/
example : CfgWeb cfgHook2 :=
  ⟨cfgWeb_default.nofile, cfgWeb_default.pathSet, cfgWeb_default.querySet, cfgWeb_default.fragSet, decAscii_none _ rfl⟩

open WhatwgUrl.Props.C03c (I1 I1_laws)

/-- the host parser under the oracle `I1` of `Props/C03c.lean` (it satisfies the four oracle laws and appends `a` to a text
    with an ACE label) -/
private theorem I1_step (u : Url) (x y : String) (hx : (x.toList.head? ≠ some '[') ∧ x.toList ≠ [] ∧ (∀ b ∈ lit x, b ≠ (0x25 : UInt8)))
    (e1 : utf8 x.toList = lit x)
    (hy : (WhatwgUrl.Proofs.Sim.domainAfter I1 {} (lit x)).out = .ok (lit y)) :
    (parseHost {} I1 u (lit x) false).out = .ok (lit y) := by
  apply WhatwgUrl.Proofs.RoundTrip.parseHost_ok_indep I1 u {}
  have e := (WhatwgUrl.Proofs.Sim.eval_domain I1 {} x.toList (lit x) hx.1 hx.2.1
    (by rw [e1]; exact WhatwgUrl.Proofs.Sim.pd_nopct _ hx.2.2)).1
  rw [e1] at e
  rw [e]
  exact hy

def pX : Profile := { repeatedPercentDecoding := true }

/-- the closed form under `I1` for a url `http://A/x` whose host text `A` parses to `B`, which parses to `C` -/
private theorem ex_I1 (A B C : String) (hA : hostText (lit A) = true) (hB : hostText (lit B) = true) (hB2 : C04c.hostCharsOk true (lit B) = true)
    (hC : lit C ≠ [])
    (h1 : ∀ u, (parseHost {} I1 u (lit A) false).out = .ok (lit B)) (h2 : ∀ u, (parseHost {} I1 u (lit B) false).out = .ok (lit C)) :
    canonText (canonParse I1 pX {} (render (lit "http" ++ lit "://" ++ lit A) [lit "x"] none none)) =
      some (render (lit "http" ++ lit "://" ++ lit C) [lit "x"] none none) := by
  have hfix : decodeEncode hostSet (lit B) = lit B := dE_host_fix hB2
  exact C17c_canonical_text_spells I1 pX rfl (hooksOk_none {} rfl rfl) cfgWeb_default (halfB_default I1) {} (lit "http") (lit "80")
    (lit A) (lit B) (lit C) (by decide) (by decide) hA [lit "x"] [lit "x"] none none none none wt_x.webText wt_x (h1 _)
    ⟨by rw [hfix]; exact hB, by rw [hfix]; exact h2 _⟩ hC

/-- **host stability cannot be dropped** (and does not follow from the oracle laws): under `I1` — which satisfies
    `IdnaLaws` — the profile with nothing but repeated decoding maps `http://xn--a/x` ↦ `http://xn--aaa/x` ↦
    `http://xn--aaaaa/x`.  (Two applications of the host parser per canonicalization: the parse and the hostname setter of
    step 1.)  A statement about the IDNA library (finding F6), for IDN / ACE hosts only. -/
theorem C17c_host_stability_needed : IdnaLaws I1 ∧
    canonText (canonParse I1 pX {} (lit "http://xn--a/x")) = some (lit "http://xn--aaa/x") ∧
    canonText (canonParse I1 pX {} (lit "http://xn--aaa/x")) = some (lit "http://xn--aaaaa/x") := by
  refine ⟨I1_laws, ?_, ?_⟩
  · have := ex_I1 "xn--a" "xn--aa" "xn--aaa" (by decide) (by decide) (by decide) (by decide)
      (fun u => I1_step u "xn--a" "xn--aa" (by decide) (by decide +kernel) (by decide +kernel))
      (fun u => I1_step u "xn--aa" "xn--aaa" (by decide) (by decide +kernel) (by decide +kernel))
    rw [show render (lit "http" ++ lit "://" ++ lit "xn--a") [lit "x"] none none = lit "http://xn--a/x" by decide,
      show render (lit "http" ++ lit "://" ++ lit "xn--aaa") [lit "x"] none none = lit "http://xn--aaa/x" by decide] at this
    exact this
  · have := ex_I1 "xn--aaa" "xn--aaaa" "xn--aaaaa" (by decide) (by decide) (by decide) (by decide)
      (fun u => I1_step u "xn--aaa" "xn--aaaa" (by decide) (by decide +kernel) (by decide +kernel))
      (fun u => I1_step u "xn--aaaa" "xn--aaaaa" (by decide) (by decide +kernel) (by decide +kernel))
    rw [show render (lit "http" ++ lit "://" ++ lit "xn--aaa") [lit "x"] none none = lit "http://xn--aaa/x" by decide,
      show render (lit "http" ++ lit "://" ++ lit "xn--aaaaa") [lit "x"] none none = lit "http://xn--aaaaa/x" by decide] at this
    exact this

/-! ### outside the grammar: what the restriction to unreserved characters is for

  (kernel-checked evaluations of the model; IPv6 hosts so that no oracle is involved) -/

/-- **an escaped `+` in a query name or value breaks idempotence** — for the default options and for BOTH predefined
    profiles: `%2B` is decoded to `+` and written back literally (`+` is not in the encode set of step 3 nor in the query set
    of the serializer), and `SearchParams.init` of the next run reads a literal `+` as a space:
    `?x=%2b` ↦ `?x=+` ↦ `?x=%20`.  (`+` is not an unreserved character: outside the grammar of the theorem.) -/
theorem C17c_escaped_plus_not_idempotent :
    (canonText (canonParse I0 pX {} (lit "http://[::1]/a?x=%2b")) = some (lit "http://[::1]/a?x=+") ∧
     canonText (canonParse I0 pX {} (lit "http://[::1]/a?x=+")) = some (lit "http://[::1]/a?x=%20")) ∧
    (canonText (canonParse I0 gsbProfile {} (lit "http://[::1]/a?x=%2b")) = some (lit "http://[::1]/a?x=+") ∧
     canonText (canonParse I0 gsbProfile {} (lit "http://[::1]/a?x=+")) = some (lit "http://[::1]/a?x=%20")) ∧
    (canonText (canonParse I0 semanticProfile {} (lit "http://[::1]/a?x=%2b")) = some (lit "http://[::1]/a?x=+") ∧
     canonText (canonParse I0 semanticProfile {} (lit "http://[::1]/a?x=+")) = some (lit "http://[::1]/a?x=%20")) := by
  refine ⟨⟨?_, ?_⟩, ⟨?_, ?_⟩, ⟨?_, ?_⟩⟩ <;> eval_canon

/-- **the Semantic profile (Latin-1 override) is not idempotent on non-ASCII escapes in the query**: `SearchParams.init`
    decodes `%E9` through the charmap to `é` (UTF-8 `C3 A9`), step 3 writes `%C3%A9`, and the next run decodes each of the two
    bytes through the charmap again: `?b=%e9` ↦ `?b=%C3%A9` ↦ `?b=%C3%83%C2%A9` ↦ …  (outside the grammar of the theorem; the
    condition `DecAscii` of `CfgWeb` is what keeps the charmap out of the way for ASCII) -/
theorem C17c_semantic_nonascii_not_idempotent :
    canonText (canonParse I0 semanticProfile {} (lit "http://[::1]/a?b=%e9")) = some (lit "http://[::1]/a?b=%C3%A9") ∧
    canonText (canonParse I0 semanticProfile {} (lit "http://[::1]/a?b=%C3%A9")) = some (lit "http://[::1]/a?b=%C3%83%C2%A9") := by
  constructor <;> eval_canon

/-- the two restrictions of the grammar do NOT matter for idempotence (on these inputs): a present but
    empty fragment is kept and the text is a fixed point; a nested-escaped dot-dot segment after an empty segment is resolved
    by the pathname setter of step 2, and the result is a fixed point -/
example : canonText (canonParse I0 pX {} (lit "http://[::1]/a#")) = some (lit "http://[::1]/a#") ∧
    canonText (canonParse I0 pX {} (lit "http://[::1]/a//%252e%252e/b")) = some (lit "http://[::1]/a/b") ∧
    canonText (canonParse I0 pX {} (lit "http://[::1]/a/b")) = some (lit "http://[::1]/a/b") ∧
    canonText (canonParse I0 gsbProfile {} (lit "http://[::1]/a//%252e%252e/b")) = some (lit "http://[::1]/b") ∧
    canonText (canonParse I0 gsbProfile {} (lit "http://[::1]/b")) = some (lit "http://[::1]/b") := by
  refine ⟨?_, ?_, ?_, ?_, ?_⟩ <;> eval_canon

end WhatwgUrl.Props.C17c

section AxiomCheck
open WhatwgUrl.Props.C17c
#print axioms halfB_default
#print axioms C17c_canonical_text_spells
#print axioms C17c_canonical_text
#print axioms C17c_canonical_no_escape
#print axioms C17c_no_text
#print axioms C17c_web_idempotent
#print axioms C17c_web_idempotent_fix
#print axioms hostFix_default
#print axioms C17c_web_idempotent_default
#print axioms C17c_web_idempotent_default_text
#print axioms cfgWeb_gsb
#print axioms cfgWeb_semantic
#print axioms hooksOk_gsb
#print axioms hooksOk_semantic
#print axioms C17c_web_idempotent_ignore
#print axioms C17c_gsb_idempotent
#print axioms C17c_semantic_idempotent
#print axioms C17c_hooks_needed
#print axioms C17c_host_stability_needed
#print axioms C17c_escaped_plus_not_idempotent
#print axioms C17c_semantic_nonascii_not_idempotent
end AxiomCheck
