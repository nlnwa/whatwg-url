import WhatwgUrl.Generated.Facts
/-
  C14t — the part of C14 that is stated over facts REGENERATED from the Go source on every run (T1); imported by no
  model-level module, so that a change of the source that breaks a theorem here breaks no other property's.
  "No package-level table is modified after initialisation": `C14_tables_readonly`, `C14_no_function_writes_globals`.
  "A URL value that is only read, also as the base of a resolution, can be shared": `C14_readonly_api`,
  `C14_mutators_scope`, `C14_base_untouched`, `C14_external_calls_read_only`. "No data races" and "every call returns
  what it returns when run alone" have no theorem beyond these (see the header of `Props/C14.lean`).
-/
namespace WhatwgUrl.Props.C14t

/-- no function outside `init` assigns a package-level variable or calls a mutating bitset method on one -/
theorem C14_tables_readonly : Generated.globalWritesUrl = [] ∧ Generated.globalWritesCanon = [] := by decide

/-- nothing the syntactic analysis cannot see: no unsafe, reflect, sync, goroutines or channels in the two packages -/
theorem C14_no_exotic_features : Generated.exoticFeatures = [] := by decide

/-! ### the typed mod/ref summary (regenerated: `harness/modref.go`, go/types; flow-insensitive, interprocedural)

Entry format: `(function, exported, writes, returns, aliases, external calls on shared objects)`; regions are `recv`,
`param<i>`, `global`. The theorems name EXPORTED functions only (renaming or moving an unexported helper, extracting code
into a helper or reordering declarations changes no statement below). -/

abbrev MR := String × Bool × List String × List String × List String × List (String × String)
def MR.name (e : MR) := e.1
def MR.api (e : MR) := e.2.1
def MR.writes (e : MR) := e.2.2.1
def MR.returns (e : MR) := e.2.2.2.1
def MR.aliases (e : MR) := e.2.2.2.2.1
def MR.extern (e : MR) := e.2.2.2.2.2

def allMR : List MR := Generated.modrefUrl ++ Generated.modrefCanon

/-- the documented mutators of the API and the only regions each may store to. `Iterate` writes the list back;
    `Url.SearchParams()` creates the list lazily (so a URL shared between goroutines must not be asked for its
    SearchParams concurrently, and `Clone` must not call it: F10); `SetSearchParams` assigns `u.searchParams` and calls
    `update()`, the list's `url` field is not written (see `Props/C12c.lean`): the regenerated entry has
    `writes = ["recv"]` and the `"param0"` of its line below is slack; `Canonicalize` rewrites its argument; `BasicParser`
    stores to its third parameter only (the url under construction: nil for a parse, the receiver for a setter) -/
def mutators : List (String × List String) := [
  ("Url.SetProtocol", ["recv"]), ("Url.SetUsername", ["recv"]), ("Url.SetPassword", ["recv"]), ("Url.SetHost", ["recv"]),
  ("Url.SetHostname", ["recv"]), ("Url.SetPort", ["recv"]), ("Url.SetPathname", ["recv"]), ("Url.SetSearch", ["recv"]),
  ("Url.SetHash", ["recv"]), ("Url.SetSearchParams", ["recv", "param0"]), ("Url.SearchParams", ["recv"]),
  ("SearchParams.Append", ["recv"]), ("SearchParams.Delete", ["recv"]), ("SearchParams.Set", ["recv"]),
  ("SearchParams.Sort", ["recv"]), ("SearchParams.SortAbsolute", ["recv"]), ("SearchParams.Iterate", ["recv"]),
  ("profile.Canonicalize", ["param0"]), ("parser.BasicParser", ["param2"])]

/-- in particular no getter, not `Href`/`String`, not `Clone`, not `Parse`/`ParseRef`/`(*Url).Parse` (the base!), no
    `PercentEncodeSet` operation, no profile's `Parse` stores to an object that existed before the call; option
    constructors only build closures -/
theorem C14_readonly_api : ∀ e ∈ allMR, e.api = true → (mutators.lookup e.name).isNone → e.writes = [] := by decide +kernel

/-- hence never to a base, never to package-level state -/
theorem C14_mutators_scope : ∀ e ∈ allMR, e.api = true → ∀ m ∈ mutators, m.1 = e.name → ∀ r ∈ e.writes, r ∈ m.2 := by decide +kernel

/-- exported or not. `init` builds the tables (through external calls or by assigning a derived table) and runs before
    any other code of the package can -/
theorem C14_no_function_writes_globals : ∀ e ∈ allMR, e.name ≠ "init" → "global" ∉ e.writes := by decide +kernel

/-- methods of types defined outside the two packages that only read their receiver -/
def externalReaders : List String := ["bitset.BitSet.Test", "bitset.BitSet.Clone", "charmap.Charmap.EncodeRune", "charmap.Charmap.DecodeByte",
  "charmap.Charmap.String", "idna.Profile.ToASCII"]

/-- `e.extern`: the external methods `e` calls on shared objects through any chain of helpers (the summary is
    interprocedural), each with the region of the object. The two exceptions: `init` fills the package tables,
    `SearchParams.QueryEscape` appends to the `strings.Builder` its caller passes in (`param1`) -/
theorem C14_external_calls_read_only : ∀ e ∈ allMR, (e.api = true ∨ e.name = "init") → ∀ x ∈ e.extern,
    x.1 ∈ externalReaders ∨ e.name = "init" ∨
    (e.name = "SearchParams.QueryEscape" ∧ x.2 = "param1" ∧ x.1 ∈ ["strings.Builder.WriteRune", "strings.Builder.WriteString"]) := by decide +kernel

/-- the base (`param1` of `BasicParser`) is never stored to, nothing reachable from it is stored into the result
    (`aliases`), and the result is a fresh object (`BasicParser`: fresh, or its third parameter) -/
theorem C14_base_untouched : ∀ e ∈ allMR,
    (e.name = "parser.BasicParser" → "param1" ∉ e.writes ∧ e.aliases = [] ∧ e.returns = ["fresh", "param2"]) ∧
    (e.name ∈ ["Url.Parse", "parser.Parse", "parser.ParseRef", "Parse", "ParseRef", "profile.Parse", "profile.ParseRef"] → e.writes = [] ∧ e.returns = ["fresh"]) := by
  decide +kernel

/-- the functions named above exist in the regenerated summary -/
theorem C14_summary_covers : ∀ n ∈ ["parser.BasicParser", "Url.Parse", "parser.Parse", "parser.ParseRef", "Parse", "ParseRef", "profile.Parse", "profile.ParseRef",
    "Url.Href", "Url.Clone", "Url.Hostname", "SearchParams.Get", "SearchParams.String", "PercentEncodeSet.Set", "profile.Canonicalize", "Url.SetHash"],
    n ∈ allMR.map MR.name := by decide +kernel

end WhatwgUrl.Props.C14t
