import WhatwgUrl.Impl.Api
/-
  C05 — setters implement the standard's API setter algorithms.
  The property itself is `C05_history_conforms` (`Props/C05b.lean`).  Here: what the wrappers around the parser re-entry do
  (guards, empty values, leading delimiters), as facts about `Impl` alone; nothing in this file mentions `Spec`.
  No theorem here: the empty search / hash value when the other component is null too (trailing spaces of an opaque path are
  stripped; against the standard: `Sim.setSearch_empty_sim` / `setHash_empty_sim`, `Proofs/SimSetters.lean`), and the search value
  `"?"` alone.
-/
namespace WhatwgUrl.Props.C05
open WhatwgUrl.Impl

/-- the guard "cannot have a username/password/port"; `rfl` on the definition of `Impl.cannotHaveUPP` -/
theorem C05_guard (u : Url) : cannotHaveUPP u = (u.host == none || u.host == some [] || u.scheme == lit "file") := rfl

theorem C05_guarded_setters_noop (cfg : Cfg) (I : Idna) (u : Url) (v : Bytes) (h : cannotHaveUPP u = true) :
    (setUsername cfg u v).url = u ∧ (setPassword cfg u v).url = u ∧ (setPort cfg I u v).url = u := by
  simp [setUsername, setPassword, setPort, h, keep]

theorem C05_opaque_guard (cfg : Cfg) (I : Idna) (u : Url) (v : Bytes) (h : u.path.opq = true) :
    (setHost cfg I u v).url = u ∧ (setHostname cfg I u v).url = u ∧ (setPathname cfg I u v).url = u := by
  simp [setHost, setHostname, setPathname, h, keep]

theorem C05_userinfo (cfg : Cfg) (u : Url) (v : Bytes) (h : cannotHaveUPP u = false) :
    (setUsername cfg u v).url = { u with username := percentEncodeString cfg userinfoSet v } ∧
    (setPassword cfg u v).url = { u with password := percentEncodeString cfg userinfoSet v } := by
  simp [setUsername, setPassword, h, keep]

theorem C05_empty_port (cfg : Cfg) (I : Idna) (u : Url) (h : cannotHaveUPP u = false) :
    (setPort cfg I u []).url = { u with port := none, decodedPort := 0 } := by
  simp [setPort, h, keep]

/-- only when the OTHER component is not null (see the header) -/
theorem C05_empty_search (cfg : Cfg) (I : Idna) (u : Url) (hf : u.fragment ≠ none) :
    (setSearchU cfg I u []).url = { u with query := none } := by
  unfold setSearchU
  cases h : u.fragment with
  | none => exact absurd h hf
  | some f => simp [keep]

theorem C05_empty_hash (cfg : Cfg) (I : Idna) (u : Url) (hq : u.query ≠ none) :
    (setHash cfg I u []).url = { u with fragment := none } := by
  unfold setHash
  cases h : u.query with
  | none => exact absurd h hq
  | some f => simp [keep]

/-- a single leading '?' of the value is dropped before the search setter re-enters the parser in the query state: this is
    the SECOND conjunct (value `?v` with `v` non-empty and not starting with `?`).  The first conjunct is an identity
    (`0x3f :: v` is `[0x3f]` when `v = []`) that holds of any function. -/
theorem C05_leading_delimiter (cfg : Cfg) (I : Idna) (u : Url) (v : Bytes) :
    setSearchU cfg I u (0x3f :: v) = (if v = [] then setSearchU cfg I u [0x3f] else setSearchU cfg I u (0x3f :: v)) ∧
    (v.head? ≠ some 0x3f → v ≠ [] → setSearchU cfg I u (0x3f :: v) = setSearchU cfg I u v) := by
  constructor
  · split <;> simp_all
  · intro h1 h2
    cases v with
    | nil => exact absurd rfl h2
    | cons x xs =>
      have hx : x ≠ 0x3f := by simpa using h1
      have hx' : ¬ (63 : UInt8) = x := fun h => hx h.symm
      simp [setSearchU, trimPrefix1, startsWith, List.isPrefixOf, hx']

end WhatwgUrl.Props.C05
