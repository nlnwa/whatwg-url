import WhatwgUrl.Generated.Facts
/-
  C02t — the part of C02 stated over `Generated.skeleton`, which is REGENERATED from the Go source on every run (T1): no
  back edge among the `state = StateY` assignments of `BasicParser`, and the cursor calls of each case.  Imported by nothing,
  so that a change of the source that breaks one of these does not take the model-level theorems down with it.
-/
namespace WhatwgUrl.Props.C02t
open WhatwgUrl

/-- a termination rank on the Go state names (`none` for an unknown name: a state that is not in this table breaks the
    theorem).  The numbers 21 … 5 follow the order in which the Go skeleton's states hand over to each other; states
    that never pass control to each other without consuming input may share a number.  It is a different table from
    `Proofs.Termination.rank` (values 0 … 17 on the model's states; e.g. `StatePort` 9 < `StateFileHost` 10 here,
    `fileHost` 5 < `port` 6 there).  Each of the two decreases strictly along the transitions that do not consume
    input, which is all either argument uses; no theorem relates the two tables. -/
def rankOf (s : String) : Option Nat :=
  match s with
  | "StateSchemeStart" => some 21 | "StateScheme" => some 20 | "StateNoScheme" => some 19
  | "StateSpecialRelativeOrAuthority" => some 18 | "StateSpecialAuthoritySlashes" => some 18 | "StatePathOrAuthority" => some 18
  | "StateRelative" => some 17 | "StateRelativeSlash" => some 16 | "StateFile" => some 15 | "StateFileSlash" => some 14
  | "StateSpecialAuthorityIgnoreSlashes" => some 13 | "StateAuthority" => some 12 | "StateHost" => some 11 | "StateHostname" => some 11
  | "StateFileHost" => some 10 | "StatePort" => some 9 | "StatePathStart" => some 8 | "StatePath" => some 7 | "StateOpaquePath" => some 7
  | "StateQuery" => some 6 | "StateFragment" => some 5
  | _ => none

def lowers (l t : String) : Bool :=
  match rankOf l, rankOf t with
  | some a, some b => decide (b < a)
  | _, _ => false

/-- a `fallthrough` is reported as `FALLTHROUGH:<label of the following clause>` (resolved before the cases are put
    into canonical order): the only one is Host → Hostname, two states of the same rank sharing one body -/
def fallsTo (t : String) : Option String :=
  match t with
  | "FALLTHROUGH:StateHostname" => some "StateHostname"
  | _ => none

def sameRank (l t : String) : Bool :=
  match rankOf l, rankOf t with
  | some a, some b => a == b
  | _, _ => false

/-- every `state = StateY` assignment inside `case StateX` of the Go `BasicParser` goes strictly down the rank (a
    `fallthrough` shares the next case's body): an added back edge breaks this theorem -/
theorem C02_skeleton_ranked : ∀ c ∈ Generated.skeleton, ∀ l ∈ c.1, ∀ t ∈ c.2.1,
    (∃ s, fallsTo t = some s ∧ sameRank l s = true) ∨ lowers l t = true := by decide

/-- all 21 states have a case; the cursor calls per case (cases in canonical order, calls inside helpers that receive the
    cursor included) are exactly these: a rewind added inside a consuming loop changes the list -/
theorem C02_skeleton_cursor_calls : Generated.skeleton.map (fun c => (c.1, c.2.2)) = [
    (["StateAuthority"], ["rewind"]), (["StateFile"], ["rewindLast", "rewindLast"]), (["StateFileHost"], ["rewindLast"]),
    (["StateFileSlash"], ["rewindLast"]), (["StateFragment"], []), (["StateHost"], []), (["StateHostname"], ["rewindLast", "rewindLast"]),
    (["StateNoScheme"], ["rewindLast", "rewindLast"]), (["StateOpaquePath"], []), (["StatePath"], []), (["StatePathOrAuthority"], ["rewindLast"]),
    (["StatePathStart"], ["rewindLast", "rewindLast"]), (["StatePort"], ["rewindLast"]), (["StateQuery"], []), (["StateRelative"], ["rewindLast"]),
    (["StateRelativeSlash"], ["rewindLast"]), (["StateScheme"], ["nextCodePoint", "reset"]), (["StateSchemeStart"], ["rewindLast"]),
    (["StateSpecialAuthorityIgnoreSlashes"], ["rewindLast"]), (["StateSpecialAuthoritySlashes"], ["nextCodePoint", "rewindLast"]),
    (["StateSpecialRelativeOrAuthority"], ["nextCodePoint", "rewindLast"])] := by decide

end WhatwgUrl.Props.C02t
