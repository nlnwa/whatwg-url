import WhatwgUrl.Proofs.Percent
/-
  C10 — percent-encode sets match the standard; encode/decode obey their laws.
  * The six named sets and the forbidden host / domain tables are the standard's (`C10_tables`, `C10_forbidden_tables`).
    This is said of the model's tables; they are compared with the code's for every code point by the `LHAS` correspondence
    lines and the regenerated `Generated/Facts.lean` (`C10t.C10_model_tables_are_generated`).
  * Deriving: `C10_derive_set`, `_clear`, `_setAll`, `_clearAll` give the membership of the derived set.  "Deriving never alters
    the set it was derived from": on the model a `PSet` is an immutable value, so `C10_derive_source_untouched` says little;
    the evidence about the Go code is `C14t.C14_readonly_api` (no `PercentEncodeSet` operation stores to an object that existed
    before the call).
  * The laws are stated of `Spec.utf8PercentEncode` / `Spec.percentDecode`, for an arbitrary set: shape of the output
    (`C10_encode_shape`, `C10_escape_shape`); nothing of the set is left and the encoder is idempotent under `EscStable` (`%` and
    the hex digits outside the set: the boundary of the law, not a defect, and true of the six named sets:
    `C10_named_sets_ok`); decoding inverts encoding with `%` in the set (`C10_decode_inverts`), and with `%` and the hex
    digits outside the set encoding does not change what decoding yields (`C10_decode_same`).
  * The Go codec is the standard's (default configuration): the encoder half is `C10_codec_conforms_encode`; the decoder half
    is `C09.C09_go_decoder` = `C11.C11_decode_conforms` (both are `Proofs.Percent.decodePercent_default`).  Go-level forms of the
    laws: `C10_go_decode_same` here, `C10_go_idempotent`, `C10_go_nothing_left`, `C10_go_output_valid` in `Props/C10b.lean`; the
    inversion law has none (it follows by rewriting with the two codec equations).
-/
namespace WhatwgUrl.Props.C10
open WhatwgUrl WhatwgUrl.Impl WhatwgUrl.Proofs.Percent

theorem C10_tables :
    (∀ c, c0Set.has c = Spec.c0ControlSet c) ∧
    (∀ c, fragmentSet.has c = Spec.fragmentSet c) ∧
    (∀ c, querySet.has c = Spec.querySet c) ∧
    (∀ c, specialQuerySet.has c = Spec.specialQuerySet c) ∧
    (∀ c, pathSet.has c = Spec.pathSet c) ∧
    (∀ c, userinfoSet.has c = Spec.userinfoSet c) :=
  sets_has

theorem C10_forbidden_tables :
    (∀ c, forbiddenHost c = Spec.forbiddenHostCp c) ∧ (∀ c, forbiddenDomain c = Spec.forbiddenDomainCp c) :=
  forbidden_has

/-! ### deriving a set (`Set(b)` / `Clear(b)`) -/

theorem C10_derive_set (p : PSet) (b c : Nat) : (p.set b).has c = (p.has c || c == b) := set_has p b c

/-- `b` stays a member when it is below `allBelow` or above 0x7E: membership there does not come from the bitset, so `Clear`
    cannot remove it -/
theorem C10_derive_clear (p : PSet) (b c : Nat) :
    (p.clear b).has c = (p.has c && (c != b || c < p.allBelow || c > 0x7E)) := by
  rw [clear_has]
  simp only [PSet.has]
  cases decide (c < p.allBelow) <;> cases decide (c > 0x7E) <;> cases p.bits.testBit c <;> cases (c != b) <;> rfl

theorem C10_derive_clear' (p : PSet) (b c : Nat) :
    (p.clear b).has c = (c < p.allBelow || c > 0x7E || (p.bits.testBit c && c != b)) := clear_has p b c

/-- says little (see the header): `PSet` values are immutable -/
theorem C10_derive_source_untouched (p : PSet) (b : Nat) :
    (p.set b).allBelow = p.allBelow ∧ (p.clear b).allBelow = p.allBelow := ⟨rfl, rfl⟩

theorem C10_derive_setAll (p : PSet) (cs : List Nat) (c : Nat) : (p.setAll cs).has c = (p.has c || cs.contains c) := by
  unfold PSet.setAll
  induction cs generalizing p with
  | nil => simp
  | cons b t ih =>
    rw [List.foldl_cons, ih, set_has, List.contains_cons, Bool.or_assoc]

theorem C10_derive_clearAll (p : PSet) (cs : List Nat) (c : Nat) :
    (p.clearAll cs).has c = (c < p.allBelow || c > 0x7E || (p.bits.testBit c && !cs.contains c)) := by
  unfold PSet.clearAll
  induction cs generalizing p with
  | nil => simp [PSet.has] <;> rfl
  | cons b t ih =>
    rw [List.foldl_cons, ih, clear_allBelow, clear_testBit, List.contains_cons, Bool.not_or, Bool.and_assoc]
    rfl

example : (pathSet.set 0x25).has 0x25 = true ∧ pathSet.has 0x25 = false := by decide
example : (pathSet.clear 0x3f).has 0x3f = false ∧ pathSet.has 0x3f = true := by decide
example : (pathSet.clear 0x1f).has 0x1f = true ∧ (pathSet.clear 0xe9).has 0xe9 = true := by decide

/-! ### shape of the encoder's output -/

/-- '%' and the 22 hex digit characters are not in the set (so escapes produced by the encoder are stable) -/
def EscStable (set : Nat → Bool) : Prop := set 0x25 = false ∧ ∀ c, isHexN c = true → set c = false
/-- no hex digit character is in the set -/
def HexFree (set : Nat → Bool) : Prop := ∀ c, isHexN c = true → set c = false

/-- a check over the 128 ASCII code points suffices for `HexFree` -/
theorem HexFree.of_fin (set : Nat → Bool) (h : ∀ i : Fin 128, isHexN i.val = true → set i.val = false) :
    HexFree set := fun c hc => h ⟨c, isHexN_lt hc⟩ hc

theorem EscStable.of_fin (set : Nat → Bool) (hp : set 0x25 = false)
    (h : ∀ i : Fin 128, isHexN i.val = true → set i.val = false) : EscStable set := ⟨hp, HexFree.of_fin set h⟩

/-- every code point of the set becomes the escapes of its UTF-8 bytes; every other code point (in particular `%`,
    i.e. existing escapes, when `%` is not in the set) is copied -/
theorem C10_encode_shape (set : Nat → Bool) (s : Str) :
    Spec.utf8PercentEncode set s =
      s.flatMap fun c => if set c.toNat then (utf8Char c).flatMap Spec.percentEncodeByte else [c] := by
  unfold Spec.utf8PercentEncode
  congr 1
  funext c
  unfold Spec.utf8PercentEncodeCp
  cases set c.toNat <;> rfl

/-- an escape is `%` and two upper-case hex digits -/
theorem C10_escape_shape (x : UInt8) :
    Spec.percentEncodeByte x = ['%', bc (hexUpper (x.toNat / 16)), bc (hexUpper (x.toNat % 16))] ∧
    isHexN (bc (hexUpper (x.toNat / 16))).toNat = true ∧ isHexN (bc (hexUpper (x.toNat % 16))).toNat = true ∧
    ¬ isLowerN (bc (hexUpper (x.toNat / 16))).toNat ∧ ¬ isLowerN (bc (hexUpper (x.toNat % 16))).toNat := by
  have hx := x.toNat_lt
  have a := hexDigit16 ⟨x.toNat / 16, by omega⟩
  have b := hexDigit16 ⟨x.toNat % 16, by omega⟩
  refine ⟨rfl, a.2.2.2.2, b.2.2.2.2, ?_, ?_⟩
  · simp [a.2.2.2.1]
  · simp [b.2.2.2.1]

example : Spec.utf8PercentEncode Spec.pathSet "a b%é?".toList = "a%20b%%C3%A9%3F".toList := by decide +kernel

/-! ### nothing of the set is left; idempotence -/

theorem C10_nothing_left (set : Nat → Bool) (h : EscStable set) (s : Str) :
    ∀ c ∈ Spec.utf8PercentEncode set s, set c.toNat = false := by
  intro c hc
  rw [C10_encode_shape, List.mem_flatMap] at hc
  obtain ⟨c0, _, hc⟩ := hc
  cases hs : set c0.toNat
  · simp only [hs, Bool.false_eq_true, ↓reduceIte, List.mem_singleton] at hc
    rw [hc]; exact hs
  · simp only [hs, ↓reduceIte, List.mem_flatMap] at hc
    obtain ⟨x, _, hx⟩ := hc
    obtain ⟨e, h1, h2, _⟩ := C10_escape_shape x
    rw [e] at hx
    simp only [List.mem_cons, List.not_mem_nil, or_false] at hx
    rcases hx with rfl | rfl | rfl
    · exact h.1
    · exact h.2 _ h1
    · exact h.2 _ h2

theorem C10_encode_fixed (set : Nat → Bool) (t : Str) (h : ∀ c ∈ t, set c.toNat = false) :
    Spec.utf8PercentEncode set t = t :=
  encode_fixed set t h

theorem C10_idempotent (set : Nat → Bool) (h : EscStable set) (s : Str) :
    Spec.utf8PercentEncode set (Spec.utf8PercentEncode set s) = Spec.utf8PercentEncode set s :=
  C10_encode_fixed set _ (C10_nothing_left set h s)

/-- when a hex digit is in the set, no encoder that produces `%XX` escapes can be idempotent: 'J' becomes `%4A`, whose '4' is
    then encoded again -/
example :
    let set : Nat → Bool := fun c => c == 0x4A || c == 0x34
    Spec.utf8PercentEncode set ['J'] = "%4A".toList ∧
    Spec.utf8PercentEncode set (Spec.utf8PercentEncode set ['J']) = "%%34A".toList ∧
    Spec.utf8PercentEncode set (Spec.utf8PercentEncode set ['J']) ≠ Spec.utf8PercentEncode set ['J'] := by
  decide +kernel

/-- same when `%` is in the set (e.g. the component set): existing escapes are escaped again -/
example : Spec.utf8PercentEncode Spec.componentSet (Spec.utf8PercentEncode Spec.componentSet ['%']) ≠
    Spec.utf8PercentEncode Spec.componentSet ['%'] := by decide +kernel

/-! ### decoding inverts / commutes with encoding (byte level) -/

/-- `HexFree` is not even needed for `C10_decode_inverts`: an encoded hex digit is an escape, and escapes decode -/
theorem C10_decode_inverts' (set : Nat → Bool) (hp : set 0x25 = true) (s : Str) :
    Spec.percentDecode (utf8 (Spec.utf8PercentEncode set s)) = utf8 s := by
  rw [utf8_encode]
  exact decode_inverts set hp s

section
set_option linter.unusedVariables false
/-- the hypothesis `hh` is not used: the proof is `C10_decode_inverts'` -/
theorem C10_decode_inverts (set : Nat → Bool) (hp : set 0x25 = true) (hh : HexFree set) (s : Str) :
    Spec.percentDecode (utf8 (Spec.utf8PercentEncode set s)) = utf8 s := C10_decode_inverts' set hp s
end

theorem C10_decode_same (set : Nat → Bool) (hp : set 0x25 = false) (hh : HexFree set) (s : Str) :
    Spec.percentDecode (utf8 (Spec.utf8PercentEncode set s)) = Spec.percentDecode (utf8 s) := by
  rw [utf8_encode]
  exact decode_same set hp hh s

/-- `HexFree` IS needed for `C10_decode_same`: with '4' in the set, the literal escape `%41` ("A") is torn apart:
    the encoder turns `%41` into `%%341`, which decodes to the three bytes `%41` instead of the byte 0x41.
    (`Spec.percentDecode` is compiled by well-founded recursion, so it is evaluated with `simp`, not `decide`.) -/
example :
    (fun c : Nat => c == 0x34) 0x25 = false ∧
    Spec.percentDecode (utf8 (Spec.utf8PercentEncode (fun c => c == 0x34) "%41".toList)) = lit "%41" ∧
    Spec.percentDecode (utf8 "%41".toList) = lit "A" := by
  refine ⟨by decide, ?_, ?_⟩
  · rw [show utf8 (Spec.utf8PercentEncode (fun c => c == 0x34) "%41".toList) = [0x25, 0x25, 0x33, 0x34, 0x31] by decide,
      show lit "%41" = [0x25, 0x34, 0x31] by decide]
    simp [Spec.percentDecode, isHexN, isDigitN, hexVal]
  · rw [show utf8 "%41".toList = [0x25, 0x34, 0x31] by decide, show lit "A" = [0x41] by decide]
    simp [Spec.percentDecode, isHexN, isDigitN, hexVal]

/-- the hypotheses of `C10_decode_inverts` for the standard's component set … -/
theorem componentSet_hexFree : Spec.componentSet 0x25 = true ∧ HexFree Spec.componentSet :=
  ⟨by decide, HexFree.of_fin _ (by decide)⟩
/-- … and for its urlencoded set (stated for its own sake; no theorem uses it) -/
theorem urlencodedSet_hexFree : Spec.urlencodedSet 0x25 = true ∧ HexFree Spec.urlencodedSet :=
  ⟨by decide, HexFree.of_fin _ (by decide)⟩

example (s : Str) : Spec.percentDecode (utf8 (Spec.utf8PercentEncode Spec.componentSet s)) = utf8 s :=
  C10_decode_inverts _ componentSet_hexFree.1 componentSet_hexFree.2 s
example : utf8 (Spec.utf8PercentEncode Spec.componentSet "a%4é %".toList) = lit "a%254%C3%A9%20%25" := by decide +kernel
example : Spec.percentDecode (lit "a%254%C3%A9%20%25") = utf8 "a%4é %".toList := by
  rw [show lit "a%254%C3%A9%20%25" =
      [0x61, 0x25, 0x32, 0x35, 0x34, 0x25, 0x43, 0x33, 0x25, 0x41, 0x39, 0x25, 0x32, 0x30, 0x25, 0x32, 0x35] by decide,
    show utf8 "a%4é %".toList = [0x61, 0x25, 0x34, 0xC3, 0xA9, 0x20, 0x25] by decide]
  simp [Spec.percentDecode, isHexN, isDigitN, hexVal]

/-! ### the Go codec is the standard's (default configuration): the encoder -/

theorem C10_codec_conforms_encode (tr : PSet) (s : Bytes) :
    percentEncodeString Cfg.default tr s = utf8 (Spec.utf8PercentEncode tr.has (goRunes s)) :=
  pesRunes_default tr (goRunes s)

theorem C10_named_sets_ok :
    EscStable fragmentSet.has ∧ EscStable querySet.has ∧ EscStable specialQuerySet.has ∧ EscStable pathSet.has ∧
    EscStable userinfoSet.has ∧ EscStable c0Set.has := by
  refine ⟨?_, ?_, ?_, ?_, ?_, ?_⟩ <;> exact EscStable.of_fin _ (by decide) (by decide)

example (s : Str) : Spec.utf8PercentEncode pathSet.has (Spec.utf8PercentEncode pathSet.has s) =
    Spec.utf8PercentEncode pathSet.has s := C10_idempotent _ C10_named_sets_ok.2.2.2.1 s
example (s : Str) : Spec.percentDecode (utf8 (Spec.utf8PercentEncode pathSet.has s)) = Spec.percentDecode (utf8 s) :=
  C10_decode_same _ C10_named_sets_ok.2.2.2.1.1 C10_named_sets_ok.2.2.2.1.2 s
example (s : Str) : ∀ c ∈ Spec.utf8PercentEncode pathSet.has s, pathSet.has c.toNat = false :=
  C10_nothing_left _ C10_named_sets_ok.2.2.2.1 s
example : ∀ c ∈ "a%41/b".toList, pathSet.has c.toNat = false := by decide

/-- the right-hand side decodes the input as Go re-encodes it rune by rune (`utf8 (goRunes s)`), not `s` itself -/
theorem C10_go_decode_same (tr : PSet) (h : EscStable tr.has) (s : Bytes) :
    decodePercent Cfg.default (percentEncodeString Cfg.default tr s) =
      decodePercent Cfg.default (utf8 (goRunes s)) := by
  rw [decodePercent_default, decodePercent_default, C10_codec_conforms_encode]
  exact C10_decode_same _ h.1 h.2 _

example (s : Bytes) : decodePercent Cfg.default (percentEncodeString Cfg.default userinfoSet s) =
    decodePercent Cfg.default (utf8 (goRunes s)) := C10_go_decode_same _ C10_named_sets_ok.2.2.2.2.1 s

/-! concrete evaluations (the input is UTF-8: `lit` is for ASCII literals only) -/
example : percentEncodeString {} pathSet (utf8 "a b%é?".toList) = lit "a%20b%%C3%A9%3F" := by decide +kernel
example : percentEncodeString Cfg.default userinfoSet (utf8 "u:p@/%41".toList) = lit "u%3Ap%40%2F%41" := by decide +kernel
example : decodePercent {} (lit "a%20b%%C3%A9%3F%4") = utf8 "a b%é?%4".toList := by
  rw [show lit "a%20b%%C3%A9%3F%4" =
      [0x61, 0x25, 0x32, 0x30, 0x62, 0x25, 0x25, 0x43, 0x33, 0x25, 0x41, 0x39, 0x25, 0x33, 0x46, 0x25, 0x34] by decide,
    show utf8 "a b%é?%4".toList = [0x61, 0x20, 0x62, 0x25, 0xC3, 0xA9, 0x3F, 0x25, 0x34] by decide]
  simp [decodePercent, isHexN, isDigitN, hexVal]
/-- an ill-formed byte (0xE9 alone) is read by Go as U+FFFD and encoded as such -/
example : percentEncodeString {} pathSet [0x61, 0xE9] = lit "a%EF%BF%BD" := by decide +kernel
/-- a `%` that does not start an escape is left alone in the default configuration -/
example : percentEncodeString {} pathSet (lit "%zz%4") = lit "%zz%4" := by decide +kernel

end WhatwgUrl.Props.C10
