import WhatwgUrl.Impl.Api
/-
  C04 — every reachable URL is a well-formed record with coherent getters.
  This file: the last sentence of the property, the getter composition, for EVERY record (on the model of the serializer
  and the getters, which the correspondence run compares with `Href` and the getters of the Go code field by field).  The
  structural invariants are in `Props/C04b.lean`, the character sets in `Props/C04c.lean`.  "Host equals Hostname plus optional
  ':port'" is stated with an escape disjunct only (`C04_host_composition`).
-/
namespace WhatwgUrl.Props.C04
open WhatwgUrl.Impl

/-- `//` + userinfo + `@` + Host when the host is non-null.  The local `username` / `password` (the `where` clause) are
    the field projections, written in getter form next to `hostG`; the proof of `C04_href_composition` unfolds them. -/
def authorityPart (u : Url) : Bytes :=
  match u.host with
  | none => []
  | some _ =>
    [0x2f, 0x2f] ++
    (if username u != [] || password u != [] then
       username u ++ (if password u != [] then 0x3a :: password u else []) ++ [0x40]
     else []) ++ hostG u
where
  username (u : Url) : Bytes := u.username
  password (u : Url) : Bytes := u.password

def dotGuard (u : Url) : Bytes :=
  if u.host == none && !u.path.opq && u.path.segs.length > 1 && u.path.segs.head? == some [] then [0x2f, 0x2e] else []

/-- `?` + query when the query is non-null (the getters cannot tell a null query from an empty one, `Href` can) -/
def queryPart (u : Url) : Bytes := match u.query with | some q => 0x3f :: q | none => []
def fragmentPart (u : Url) : Bytes := match u.fragment with | some f => 0x23 :: f | none => []

theorem C04_href_composition (u : Url) :
    href u false = protocol u ++ authorityPart u ++ dotGuard u ++ pathname u ++ queryPart u ++ fragmentPart u := by
  unfold href protocol authorityPart dotGuard pathname queryPart fragmentPart hostG authorityPart.username authorityPart.password
  cases u.host <;> cases u.port <;> simp [List.append_assoc] <;> rfl

theorem C04_search_vs_query (u : Url) :
    (search u ≠ [] → queryPart u = search u) ∧ (search u = [] → queryPart u = [] ∨ queryPart u = [0x3f]) := by
  unfold search queryPart
  cases h : u.query with
  | none => simp
  | some q => cases q <;> simp

theorem C04_hash_vs_fragment (u : Url) :
    (hashG u ≠ [] → fragmentPart u = hashG u) ∧ (hashG u = [] → fragmentPart u = [] ∨ fragmentPart u = [0x23]) := by
  unfold hashG fragmentPart
  cases h : u.fragment with
  | none => simp
  | some q => cases q <;> simp

/-- the escape disjunct: with `u.port = some []` the text `hostG` ends in a bare `:`.  `WFs` (`portOk`, `Proofs/WellFormed.lean`)
    excludes `port = some []` for reachable records, but no theorem combines the two. -/
theorem C04_host_composition (u : Url) :
    u.host ≠ none → hostG u = hostname u ++ (if portG u = [] then [] else 0x3a :: portG u) ∨ (u.port = some []) := by
  intro hh
  unfold hostG hostname portG
  cases h : u.host with
  | none => exact absurd h hh
  | some x =>
    cases hp : u.port with
    | none => simp
    | some p => cases p <;> simp

theorem C04_href_exclude_fragment (u : Url) : href u true ++ fragmentPart u = href u false := by
  unfold href fragmentPart
  cases u.fragment <;> simp [List.append_assoc]

example : href { scheme := lit "http", host := some (lit "h"), port := some (lit "8"), username := lit "u",
                 path := ⟨[lit "a"], false⟩, query := some [], fragment := some (lit "f") } false = lit "http://u@h:8/a?#f" := by decide

end WhatwgUrl.Props.C04
