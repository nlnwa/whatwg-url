import WhatwgUrl.Impl.Api
import WhatwgUrl.Generated.Facts
/-
  C06 — reference resolution laws.  This file: the first sentence of the property, the three ways to resolve a reference
  agree (on the model: `C06_entrypoints_agree`, `C06_empty_base`; on facts regenerated from the Go source (T1):
  `C06_entry_point_callees`), and what each state copies from the base, regenerated likewise (`C06_base_copies`).  The laws
  themselves: `Props/C06b.lean`, `C06c.lean`.
-/
namespace WhatwgUrl.Props.C06
open WhatwgUrl.Impl

/-- `Parser.ParseRef(base, ref)` with a non-empty base string is: parse the base with no base, fail if that fails,
    otherwise run `BasicParser(ref, base)` — i.e. exactly `(*Url).Parse(ref)` on the parsed base. -/
theorem C06_entrypoints_agree (cfg : Cfg) (I : Idna) (b r : Bytes) (hb : b ≠ []) :
    parseRef cfg I b r =
      match (parse cfg I b).ret with
      | .url => urlParse cfg I (parse cfg I b).url r
      | .err er _ => ⟨(parse cfg I b).url, .err er false⟩
      | other => ⟨(parse cfg I b).url, other⟩ := by
  unfold parseRef urlParse
  cases b with
  | nil => exact absurd rfl hb
  | cons x xs => simp; rfl

/-- the empty base string means "no base" -/
theorem C06_empty_base (cfg : Cfg) (I : Idna) (r : Bytes) : parseRef cfg I [] r = parse cfg I r := by
  simp [parseRef]

/-- what each state copies from the base, exactly as the standard prescribes (no-scheme with an opaque-path base: scheme, path,
    query; relative: scheme, then username, password, host, port, path, query; relative slash: username, password, host,
    port; file: host, path, query; file slash: host) — `decodedPort` is the Go-side cache that travels with the port.
    A forgotten or an extra copy in the Go source changes the regenerated list. -/
theorem C06_base_copies : Generated.baseCopies = [
    ("StateFile", ["url.host = base.host", "url.path = base.path", "url.query = base.query"]),
    ("StateFileSlash", ["url.host = base.host"]),
    ("StateNoScheme", ["url.path = base.path", "url.query = base.query", "url.scheme = base.scheme"]),
    ("StateRelative", ["url.decodedPort = base.decodedPort", "url.host = base.host", "url.password = base.password", "url.path = base.path",
                       "url.port = base.port", "url.query = base.query", "url.scheme = base.scheme", "url.username = base.username"]),
    ("StateRelativeSlash", ["url.decodedPort = base.decodedPort", "url.host = base.host", "url.password = base.password", "url.port = base.port",
                            "url.username = base.username"])] := by decide

/-- the three entry points funnel into one algorithm.  A conjunct whose key is missing from `Generated.callees` holds
    vacuously, and no theorem says that the five keys are there. -/
theorem C06_entry_point_callees : ∀ c ∈ Generated.callees,
    (c.1 = "parser.Parse" → c.2 = ["p.BasicParser"]) ∧ (c.1 = "parser.ParseRef" → c.2 = ["p.Parse", "p.BasicParser"]) ∧
    (c.1 = "Url.Parse" → c.2 = ["u.parser.BasicParser"]) ∧ (c.1 = "Parse" → c.2 = ["defaultParser.Parse"]) ∧
    (c.1 = "ParseRef" → c.2 = ["defaultParser.ParseRef"]) := by decide

end WhatwgUrl.Props.C06
