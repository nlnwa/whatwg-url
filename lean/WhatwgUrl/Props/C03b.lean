import WhatwgUrl.Proofs.RoundTripD
import WhatwgUrl.Proofs.RoundTripStable
import WhatwgUrl.Props.C04b
/-
  C03b — serialize-then-parse is the identity on url RECORDS that satisfy explicit, decidable side conditions:
  `C03_roundtrip_record` (by kind of record: `_opaque`, `_nohost`, `_authority`, `_file`).  `Same u' u` (`Proofs/HostSh.lean`,
  namespace `Proofs.HostWF`) says that scheme, username, password, host, port, decodedPort, path, query and fragment are
  equal (all fields but the diagnostic `verrs` / `qlog`).  For parse results and histories the conditions are
  discharged in `Props/C03c.lean`.

  The hypotheses:
  * `WFs {} u`, structural well-formedness (`Proofs/WellFormed.lean`; holds of every reachable record: `Props/C04b.lean`);
  * `RTc u` (`Proofs/RoundTrip.lean`): the port cache is in sync (`u.port = none → u.decodedPort = 0`); fragment, query (the
    special-query set when the scheme is special), user name and password contain no byte of their percent-encode sets; an
    opaque path consists of bytes 0x20 … 0x7e other than `?` `#`, does not start with `/`, and does not end in a space unless
    a query or a fragment follows; the segments of a list path consist of bytes outside the path set other than `/` (and `\`
    when the scheme is special), none is a dot segment (the model's own `isSingleDot` / `isDoubleDot`), the list is not empty
    when there is no host, and for `file` its first segment is not a non-normalised drive letter (`C|`); a host consists of
    bytes 0x21 … 0x7e other than `/ ? # @` (and `\` when special), has `:` only inside brackets that are closed at the end
    (`hostScan`), and for `file` is neither `localhost` nor a drive letter.  Every clause is needed: the last examples.
  * `HostStable I u` (`Proofs/RoundTripC2.lean`): the host text is a fixed point of the host parser.  It holds for every
    oracle when the host is a valid opaque host of a non-special url or the serialization of an IPv6 address
    (`C03_hostStable_opaque`, `_ipv6`); it is a real restriction otherwise.
-/
namespace WhatwgUrl.Props.C03b
open WhatwgUrl WhatwgUrl.Impl
open WhatwgUrl.Props.C04b (WFs)
open WhatwgUrl.Proofs.HostWF (Same IdnaNonEmpty)
open WhatwgUrl.Proofs.RoundTrip

theorem href_of_Same {u' u : Url} (h : Same u' u) (x : Bool) : href u' x = href u x := by
  obtain ⟨h1, h2, h3, h4, h5, h6, h7, h8, h9⟩ := h
  unfold href
  rw [h1, h2, h3, h4, h5, h7, h8, h9]

theorem ret_url_of_eq {r : Res} {u : Url} (h : r = ⟨u, .url⟩) : r.ret = .url ∧ r.url = u := by
  subst h; exact ⟨rfl, rfl⟩

/-- the oracle of the examples of this file: the identity, no error flag (NOT `Proofs.Sim.I0`, which `exC5` uses under
    its full name) -/
private def I0 : Idna := fun s => (s, false)

/-! ### stage A: opaque paths -/

theorem C03_roundtrip_opaque (I : Idna) (u : Url) (hwf : WFs {} u) (hc : RTc u) (ho : u.path.opq = true) :
    ∃ u', parse {} I (href u false) = ⟨u', .url⟩ ∧ Same u' u :=
  roundtrip_opaque I u hwf hc ho

private def exA : Url := { scheme := lit "mailto", path := ⟨[lit "a@b c%zz"], true⟩, query := some (lit "x=1&y"), fragment := some (lit "f") }
example : WFs {} exA ∧ RTc exA ∧ exA.path.opq = true := by decide +kernel
example : href exA false = lit "mailto:a@b c%zz?x=1&y#f" := by decide +kernel
example : parse {} I0 (href exA false) = ⟨exA, .url⟩ := by decide +kernel
/-- an opaque path that ends in a space round-trips only when a query or fragment follows -/
example : RTc { scheme := lit "sc", path := ⟨[lit "a "], true⟩, fragment := some [] } ∧
    ¬ RTc { scheme := lit "sc", path := ⟨[lit "a "], true⟩ } := by decide +kernel

/-! ### stage B: list paths without a host (`sc:/a/b?q#f`, and the `/.` guard `sc:/.//x`) -/

theorem C03_roundtrip_nohost (I : Idna) (u : Url) (hwf : WFs {} u) (hc : RTc u) (hh : u.host = none) (ho : u.path.opq = false) :
    ∃ u', parse {} I (href u false) = ⟨u', .url⟩ ∧ Same u' u :=
  roundtrip_nohost I u hwf hc hh ho

private def exB1 : Url := { scheme := lit "sc", path := ⟨[lit "a", lit "b%2F", []], false⟩, query := some (lit "q"), fragment := some (lit "f") }
private def exB2 : Url := { scheme := lit "sc", path := ⟨[[], lit "x"], false⟩ }
example : WFs {} exB1 ∧ RTc exB1 ∧ exB1.host = none ∧ exB1.path.opq = false := by decide +kernel
example : WFs {} exB2 ∧ RTc exB2 ∧ exB2.host = none ∧ exB2.path.opq = false := by decide +kernel
example : href exB1 false = lit "sc:/a/b%2F/?q#f" ∧ href exB2 false = lit "sc:/.//x" := by decide +kernel
example : parse {} I0 (href exB1 false) = ⟨exB1, .url⟩ ∧ parse {} I0 (href exB2 false) = ⟨exB2, .url⟩ := by decide +kernel

/-! ### stage C: authority (credentials, host, port), non-special and special non-file schemes -/

theorem C03_roundtrip_authority (I : Idna) (u : Url) (hwf : WFs {} u) (hc : RTc u) (hh : HostStable I u)
    (hhost : u.host ≠ none) (hnf : u.scheme ≠ lit "file") :
    ∃ u', parse {} I (href u false) = ⟨u', .url⟩ ∧ Same u' u := by
  cases hx : u.host with
  | none => exact absurd hx hhost
  | some h => exact roundtrip_authority I u hwf hc hh h hx hnf

private def exC1 : Url :=
  { scheme := lit "foo", username := lit "u", password := lit "p%40", host := some (lit "H%41"), port := some (lit "8"), decodedPort := 8,
    path := ⟨[lit "a", []], false⟩, query := some (lit "q"), fragment := some (lit "f") }
private def exC2 : Url :=
  { scheme := lit "http", username := lit "u", host := some (lit "[::1]"), port := some (lit "8080"), decodedPort := 8080,
    path := ⟨[lit "a", lit "b"], false⟩ }
private def exC3 : Url := { scheme := lit "foo", host := some [] }
private def exC4 : Url := { scheme := lit "foo", password := lit "p", host := some (lit "h"), query := some [] }
example : WFs {} exC1 ∧ RTc exC1 ∧ HostStable I0 exC1 ∧ exC1.host ≠ none ∧ exC1.scheme ≠ lit "file" := by decide +kernel
example : WFs {} exC2 ∧ RTc exC2 ∧ HostStable I0 exC2 ∧ exC2.host ≠ none ∧ exC2.scheme ≠ lit "file" := by decide +kernel
example : WFs {} exC3 ∧ RTc exC3 ∧ HostStable I0 exC3 ∧ exC3.host ≠ none ∧ exC3.scheme ≠ lit "file" := by decide +kernel
example : WFs {} exC4 ∧ RTc exC4 ∧ HostStable I0 exC4 ∧ exC4.host ≠ none ∧ exC4.scheme ≠ lit "file" := by decide +kernel
example : href exC1 false = lit "foo://u:p%40@H%41:8/a/?q#f" ∧ href exC2 false = lit "http://u@[::1]:8080/a/b" ∧
    href exC3 false = lit "foo://" ∧ href exC4 false = lit "foo://:p@h?" := by decide +kernel
example : parse {} I0 (href exC1 false) = ⟨exC1, .url⟩ ∧ parse {} I0 (href exC2 false) = ⟨exC2, .url⟩ ∧
    parse {} I0 (href exC3 false) = ⟨exC3, .url⟩ ∧ parse {} I0 (href exC4 false) = ⟨exC4, .url⟩ := by decide +kernel

/-- a domain host of a special scheme, with the toy oracle of `Proofs/SimHost.lean` (ASCII: lower-casing): `HostStable` holds
    for `example.com` (through `eval_domain` instead of `decide`: see the remark on `decodePercent` in `Props/C02.lean`) -/
private def exC5 : Url := { scheme := lit "https", host := some (lit "example.com"), path := ⟨[[]], false⟩ }
example : WFs {} exC5 ∧ RTc exC5 ∧ exC5.host ≠ none ∧ exC5.scheme ≠ lit "file" := by decide +kernel
example : HostStable Proofs.Sim.I0 exC5 := by
  intro h hh
  have hh' : h = lit "example.com" := by simpa [exC5] using hh.symm
  subst hh'
  have e := (Proofs.Sim.eval_domain Proofs.Sim.I0 {} "example.com".toList (lit "example.com") (by decide) (by decide)
    (by rw [show utf8 "example.com".toList = lit "example.com" by decide +kernel]; exact Proofs.Sim.pd_nopct _ (by decide))).1
  rw [show utf8 "example.com".toList = lit "example.com" by decide +kernel] at e
  rw [show (!Cfg.isSpecial {} exC5.scheme) = false by decide, e]
  decide +kernel

/-- an IPv6 literal that is not in its canonical form is not a fixed point, and the round trip changes the record -/
example : ¬ HostStable I0 { scheme := lit "http", host := some (lit "[0::1]") } := by decide +kernel
example : (parse {} I0 (lit "http://[0::1]/")).url.host = some (lit "[::1]") := by decide +kernel

/-! ### stage D: the file scheme -/

theorem C03_roundtrip_file (I : Idna) (u : Url) (hwf : WFs {} u) (hc : RTc u) (hh : HostStable I u) (hf : u.scheme = lit "file") :
    ∃ u', parse {} I (href u false) = ⟨u', .url⟩ ∧ Same u' u :=
  roundtrip_file I u hwf hc hh hf

private def exD1 : Url := { scheme := lit "file", host := some [], path := ⟨[lit "C:", lit "x"], false⟩, fragment := some (lit "f") }
private def exD2 : Url := { scheme := lit "file", host := some (lit "[::1]"), path := ⟨[[]], false⟩, query := some (lit "q") }
example : WFs {} exD1 ∧ RTc exD1 ∧ HostStable I0 exD1 ∧ exD1.scheme = lit "file" := by decide +kernel
example : WFs {} exD2 ∧ RTc exD2 ∧ HostStable I0 exD2 ∧ exD2.scheme = lit "file" := by decide +kernel
example : href exD1 false = lit "file:///C:/x#f" ∧ href exD2 false = lit "file://[::1]/?q" := by decide +kernel
example : parse {} I0 (href exD1 false) = ⟨exD1, .url⟩ ∧ parse {} I0 (href exD2 false) = ⟨exD2, .url⟩ := by decide +kernel

/-! ### the union -/

/-- the statement of `C03_roundtrip_record` as a `Prop` (true: `C03_roundtrip_record_holds`) -/
def C03_roundtrip_record_Statement : Prop :=
  ∀ (I : Idna) (u : Url), WFs {} u → RTc u → HostStable I u →
    ∃ u', parse {} I (href u false) = ⟨u', .url⟩ ∧ Same u' u

/-- **C03, record form.**  Every well-formed record whose components are in stored (encoded) form and whose host is a fixed
    point of the host parser is reproduced by parsing its serialization. -/
theorem C03_roundtrip_record (I : Idna) (u : Url) (hwf : WFs {} u) (hc : RTc u) (hh : HostStable I u) :
    ∃ u', parse {} I (href u false) = ⟨u', .url⟩ ∧ Same u' u :=
  roundtrip_record I u hwf hc hh

theorem C03_roundtrip_record_holds : C03_roundtrip_record_Statement := C03_roundtrip_record

/-- the conclusion in the form of `C03.C03_roundtrip_Statement` -/
theorem C03_roundtrip_href (I : Idna) (u : Url) (hwf : WFs {} u) (hc : RTc u) (hh : HostStable I u) :
    ∃ u', parse {} I (href u false) = ⟨u', .url⟩ ∧ href u' false = href u false := by
  obtain ⟨u', h1, h2⟩ := C03_roundtrip_record I u hwf hc hh
  exact ⟨u', h1, href_of_Same h2 false⟩

theorem C03_roundtrip_twice (I : Idna) (u : Url) (hwf : WFs {} u) (hc : RTc u) (hh : HostStable I u) :
    ∃ u', parse {} I (href u false) = ⟨u', .url⟩ ∧ parse {} I (href u' false) = ⟨u', .url⟩ := by
  obtain ⟨u', h1, h2⟩ := C03_roundtrip_record I u hwf hc hh
  exact ⟨u', h1, by rw [href_of_Same h2 false]; exact h1⟩

theorem C03_roundtrip_parsed (I : Idna) (hI : IdnaNonEmpty I) (input : Bytes) (u : Url) (hp : parse {} I input = ⟨u, .url⟩)
    (hc : RTc u) (hh : HostStable I u) :
    ∃ u', parse {} I (href u false) = ⟨u', .url⟩ ∧ Same u' u := by
  obtain ⟨hr, rfl⟩ := ret_url_of_eq hp
  exact C03_roundtrip_record I _ (C04b.C04_parse_WFs_default I hI input none (by intro b h; cases h) hr) hc hh

theorem C03_roundtrip_reachable (I : Idna) (hI : IdnaNonEmpty I) (u : Url) (hr : C04b.Reach {} I u) (hc : RTc u) (hh : HostStable I u) :
    ∃ u', parse {} I (href u false) = ⟨u', .url⟩ ∧ Same u' u :=
  C03_roundtrip_record I u (C04b.C04_reachable_WFs_default I hI u hr) hc hh

example : IdnaNonEmpty I0 := by intro s _ h; cases h
example : parse {} I0 (lit "  HTTP://u@[0::1]:081/a/../b c?q#f ") =
    ⟨{ scheme := lit "http", username := lit "u", host := some (lit "[::1]"), port := some (lit "81"), decodedPort := 81,
       path := ⟨[lit "b%20c"], false⟩, query := some (lit "q"), fragment := some (lit "f") }, .url⟩ := by decide +kernel

/-! ### `HostStable` without assumptions on the oracle: opaque hosts and IPv6 literals -/

/-- a non-special url whose (opaque) host is printable ASCII without forbidden host code points -/
theorem C03_hostStable_opaque (I : Idna) (u : Url) (hns : Cfg.isSpecial {} u.scheme = false)
    (hok : ∀ h ∈ u.host, ∀ b ∈ h, opaqueHostB b = true) : HostStable I u :=
  HostStable_opaque I u hns hok

theorem C03_hostStable_ipv6 (I : Idna) (u : Url) (a : List Nat) (ha : C08.Addr a)
    (hh : u.host = some ([0x5b] ++ ipv6String a ++ [0x5d])) : HostStable I u :=
  HostStable_ipv6 I u a ha hh

example : Cfg.isSpecial {} exC1.scheme = false ∧ ∀ h ∈ exC1.host, ∀ b ∈ h, opaqueHostB b = true := by decide +kernel
example : C08.Addr [0, 0, 0, 0, 0, 0, 0, 1] ∧ exC2.host = some ([0x5b] ++ ipv6String [0, 0, 0, 0, 0, 0, 0, 1] ++ [0x5d]) := by
  unfold C08.Addr; decide +kernel

theorem C03_roundtrip_opaque_host (I : Idna) (u : Url) (hwf : WFs {} u) (hc : RTc u) (hns : Cfg.isSpecial {} u.scheme = false)
    (hok : ∀ h ∈ u.host, ∀ b ∈ h, opaqueHostB b = true) :
    ∃ u', parse {} I (href u false) = ⟨u', .url⟩ ∧ Same u' u :=
  roundtrip_record I u hwf hc (HostStable_opaque I u hns hok)

theorem C03_roundtrip_ipv6_host (I : Idna) (u : Url) (hwf : WFs {} u) (hc : RTc u) (a : List Nat) (ha : C08.Addr a)
    (hh : u.host = some ([0x5b] ++ ipv6String a ++ [0x5d])) :
    ∃ u', parse {} I (href u false) = ⟨u', .url⟩ ∧ Same u' u :=
  roundtrip_record I u hwf hc (HostStable_ipv6 I u a ha hh)

/-! ### every clause of `RTc` is needed: records (all `WFs`) that violate exactly one clause and do NOT round-trip -/

/-- opaque path ending in a space, nothing after it: the prologue trims the space (the standard's own exception) -/
example : WFs {} { scheme := lit "sc", path := ⟨[lit "a "], true⟩ } ∧
    (parse {} I0 (href { scheme := lit "sc", path := ⟨[lit "a "], true⟩ } false)).url.path = ⟨[lit "a"], true⟩ := by decide +kernel
/-- opaque path starting with `/`: re-parsed as a list path -/
example : WFs {} { scheme := lit "sc", path := ⟨[lit "/a"], true⟩ } ∧
    (parse {} I0 (href { scheme := lit "sc", path := ⟨[lit "/a"], true⟩ } false)).url.path = ⟨[lit "a"], false⟩ := by decide +kernel
/-- an empty list path without a host: re-parsed as an (empty) opaque path -/
example : WFs {} { scheme := lit "sc", path := ⟨[], false⟩ } ∧
    (parse {} I0 (href { scheme := lit "sc", path := ⟨[], false⟩ } false)).url.path = ⟨[[]], true⟩ := by decide +kernel
/-- a dot segment in any spelling is dropped -/
example : WFs {} { scheme := lit "sc", path := ⟨[lit "%2E", lit "x"], false⟩ } ∧
    (parse {} I0 (href { scheme := lit "sc", path := ⟨[lit "%2E", lit "x"], false⟩ } false)).url.path = ⟨[lit "x"], false⟩ := by decide +kernel
/-- `\` in a segment of a special url is a separator -/
example : WFs {} { scheme := lit "http", host := some (lit "[::1]"), path := ⟨[lit "a\\b"], false⟩ } ∧
    (parse {} I0 (href { scheme := lit "http", host := some (lit "[::1]"), path := ⟨[lit "a\\b"], false⟩ } false)).url.path =
      ⟨[lit "a", lit "b"], false⟩ := by decide +kernel
/-- `file`: a non-normalised drive letter in front is normalised (the standard's own exception) -/
example : WFs {} { scheme := lit "file", host := some [], path := ⟨[lit "C|"], false⟩ } ∧
    (parse {} I0 (href { scheme := lit "file", host := some [], path := ⟨[lit "C|"], false⟩ } false)).url.path = ⟨[lit "C:"], false⟩ := by
  decide +kernel
/-- a byte of the component's encode set is escaped on the way back in (here: a space in the query) -/
example : WFs {} { scheme := lit "sc", path := ⟨[lit "p"], true⟩, query := some (lit "a b") } ∧
    (parse {} I0 (href { scheme := lit "sc", path := ⟨[lit "p"], true⟩, query := some (lit "a b") } false)).url.query = some (lit "a%20b") := by
  decide +kernel
/-- `:` in a user name moves the rest into the password -/
example : WFs {} { scheme := lit "sc", username := lit "a:b", host := some (lit "h") } ∧
    (parse {} I0 (href { scheme := lit "sc", username := lit "a:b", host := some (lit "h") } false)).url.password = lit "b" := by
  decide +kernel
/-- the port cache: `Same` compares `decodedPort`, the serialization does not see it -/
example : WFs {} { scheme := lit "sc", host := some (lit "h"), decodedPort := 5 } ∧
    (parse {} I0 (href { scheme := lit "sc", host := some (lit "h"), decodedPort := 5 } false)).url.decodedPort = 0 := by decide +kernel

end WhatwgUrl.Props.C03b

#print axioms WhatwgUrl.Props.C03b.C03_roundtrip_opaque
#print axioms WhatwgUrl.Props.C03b.C03_roundtrip_nohost
#print axioms WhatwgUrl.Props.C03b.C03_roundtrip_authority
#print axioms WhatwgUrl.Props.C03b.C03_roundtrip_file
#print axioms WhatwgUrl.Props.C03b.C03_roundtrip_record
#print axioms WhatwgUrl.Props.C03b.C03_roundtrip_href
#print axioms WhatwgUrl.Props.C03b.C03_roundtrip_parsed
#print axioms WhatwgUrl.Props.C03b.C03_roundtrip_reachable
#print axioms WhatwgUrl.Props.C03b.C03_hostStable_opaque
#print axioms WhatwgUrl.Props.C03b.C03_hostStable_ipv6
