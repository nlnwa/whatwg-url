import WhatwgUrl.Proofs.Termination
/-
  C02 — `BasicParser` terminates (`C02_fuel_suffices`: for every configuration, oracle, input, base, url and state
  override), with an explicit bound.

  The fuelled `loop` of the model never returns `.outOfFuel` when started with `fuelFor rs = 24·(|rs|+2)`:
  the measure `mu N ps = rank ps.state · (N+2) + (N − max ps.pointer (−1))` (`Proofs/Termination.lean`; `rank` takes the
  values 0 … 17 on the 21 states) strictly decreases with every continuing iteration and is at most `18·(N+2) − 1` initially.
  The factor 24 is a constant of the model (`Impl/Parser.lean`, `fuelFor`), not a number in the Go code: the Go loop has no
  bound, and any factor ≥ 18 serves (`C02_loop_terminates_18`).  More fuel does not change the result
  (`C02_loop_fuel_monotone`).

  The other fuelled loops of the model return silently at fuel 0, so that their fuel suffices is proved where they are
  characterised: the IPv6 loops (`hexLoop6`, `digitLoop6`, `v4Loop6`, `loop6`, `swap6`) in `Proofs.IPv6.parseIPv6_closed`
  (`Proofs/IPv6Parse.lean`; C08), `repeatedDecodeAux` in `C17_repeatedDecode_fix` (`Props/C17.lean`; `Canon.repeatedDecode_fix`).

  Not stated in `C02*.lean`: that a parse returns `.url` or `.err`.  `Ret` has a fifth outcome `.nilNil` (Go's `return nil, nil`),
  returned by the file host state under a state override only (`Impl/Parser.lean`, `stFileHost`).
-/
namespace WhatwgUrl.Props.C02
open WhatwgUrl WhatwgUrl.Impl WhatwgUrl.Proofs.Termination

theorem C02_loop_terminates (e : Env) (s : State) (u : Url) :
    (loop e (fuelFor e.runes)
      { state := s, pointer := -1, eof := false, buffer := [], atFlag := false, bracketFlag := false,
        pwSeen := false, url := u }).ret ≠ .outOfFuel :=
  loop_terminates e s u

theorem C02_fuel_suffices (cfg : Cfg) (I : Idna) (input : Bytes) (base url : Option Url) (ov : Option State) :
    (basicParser cfg I input base url ov).ret ≠ .outOfFuel :=
  basicParser_fuel cfg I input base url ov

theorem C02_loop_fuel_monotone (e : Env) (ps0 : PS) (hp : ps0.pointer = -1) (hE : ps0.eof = false) (f : Nat)
    (hf : fuelFor e.runes ≤ f) : loop e f ps0 = loop e (fuelFor e.runes) ps0 :=
  loop_fuel_monotone e ps0 hp hE f hf

theorem C02_loop_terminates_18 (e : Env) (ps0 : PS) (hp : ps0.pointer = -1) (hE : ps0.eof = false) (f : Nat)
    (hf : 18 * (e.runes.length + 2) ≤ f + 1) : (loop e f ps0).ret ≠ .outOfFuel := by
  have h18 := mu_init18 e.runes.length ps0 hp
  exact loop_ok e f ps0 (mu_init e.runes.length ps0 hp hE).1 (by omega)

/-- environment and initial state as `basicParser` builds them (default configuration, identity IDNA oracle) -/
private def exEnv (s : String) : Env :=
  { cfg := {}, I := fun s => (s, false), src := lit s, runes := goRunes (lit s), base := none, ov := none }
private def exPs0 : PS :=
  { state := .schemeStart, pointer := -1, eof := false, buffer := [], atFlag := false, bracketFlag := false,
    pwSeen := false, url := {} }

/-- REMARK ON `decodePercent` (referred to from C03b, C03c, C04b, C06b): the examples of these files use an IPv6 or
    opaque host because `decodePercent`, reached for domains of special schemes, is compiled by well-founded recursion
    and does not reduce under `decide` (with or without `+kernel`); a parse of e.g. `http://h.com/a` does not evaluate. -/
example : (basicParser {} (fun s => (s, false)) (lit "http://u@[::1]:8/a/../b?q#f") none none none).ret = .url := by
  decide +kernel
example : (basicParser {} (fun s => (s, false)) (lit "foo://u@h:8/a/../b?q#f") none none none).ret = .url := by
  decide +kernel

example : (basicParser {} (fun s => (s, false)) (lit "x/y") (some { scheme := lit "http", host := some (lit "h") }) none none).ret
    = .url := by decide +kernel
example : (basicParser {} (fun s => (s, false)) (lit "8080") none (some { scheme := lit "http", host := some (lit "h") })
    (some .port)).ret = .url := by decide +kernel

/-- `.outOfFuel` is a real outcome of `loop`: "foo://h/" needs exactly 11 iterations -/
example : (loop (exEnv "foo://h/") 10 exPs0).ret = .outOfFuel := by decide +kernel
example : (loop (exEnv "foo://h/") 11 exPs0).ret = .url := by decide +kernel
example : (loop (exEnv "foo://h/") (fuelFor (exEnv "foo://h/").runes) exPs0).ret = .url := by decide +kernel
example : fuelFor (exEnv "foo://h/").runes = 240 := by decide +kernel

example : exPs0.pointer = -1 ∧ exPs0.eof = false ∧ fuelFor (exEnv "foo://h/").runes ≤ 1000 := by decide +kernel
example : loop (exEnv "foo://h/") 1000 exPs0 = loop (exEnv "foo://h/") (fuelFor (exEnv "foo://h/").runes) exPs0 :=
  C02_loop_fuel_monotone _ _ rfl rfl _ (by decide +kernel)

/-- a continuing step from the initial state lowers the measure (17·10+9 = 179 → 16·10+8 = 168) -/
example : Inv (exEnv "foo://h/").runes.length exPs0 := ⟨by decide +kernel, rfl⟩
example : 18 * ((exEnv "foo://h/").runes.length + 2) ≤ 179 + 1 := by decide +kernel
example : mu 8 exPs0 = 179 := by decide +kernel
example : (match step (exEnv "foo://h/") exPs0 with | .cont ps' => mu 8 ps' | .done _ => 0) = 168 := by decide +kernel

end WhatwgUrl.Props.C02

#print axioms WhatwgUrl.Props.C02.C02_fuel_suffices
#print axioms WhatwgUrl.Props.C02.C02_loop_terminates
#print axioms WhatwgUrl.Props.C02.C02_loop_fuel_monotone
#print axioms WhatwgUrl.Props.C02.C02_loop_terminates_18
