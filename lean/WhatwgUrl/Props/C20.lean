import WhatwgUrl.Impl.Parser
import WhatwgUrl.Props.C02
import WhatwgUrl.Generated.Facts
/-
  C20 — cost grows at most linearly.  Two facts about the regenerated table of loop-carried concatenations / re-conversions
  in the Go source (`C20_sites_classified`: every site is in one of two hand-written lists;
  `C20_no_accumulating_concatenation`: the only accumulating `+=` is the 8-piece IPv6 serializer — credentials, opaque host
  and path serializer write into a builder) and one theorem about the model: the number of iterations of the PARSER's main
  loop is linear (`C20_steps_linear`).  That a listed site is in fact constant or paid for by the input is the comment
  next to it, not a theorem; for the canonicalizer's loops (the rounds of `repeatedDecode`) there is the table only, and
  that site is quadratic in the worst case (F26, see `amortisedSites`).  No theorem bounds the work of one iteration (F27:
  under a special-scheme table of more than eight entries the special-scheme test, run for every code point, hashes the
  whole scheme).  What the model cannot exhibit: allocator behaviour, GC, constant factors.
-/
namespace WhatwgUrl.Props.C20
open WhatwgUrl WhatwgUrl.Impl

/-! The regenerated inventory (`costSitesTyped` in harness/facts.go, on go/types): inside a loop body — or, up to four calls
down, at the top level of a function of the package that is called from inside that loop — every string built by `+=`,
every conversion that copies its operand, every call of a function whose cost is linear in an operand. Numeric `+=` is
not a site, nor is a conversion whose operand is a fixed-size array or a local buffer of constant size. A site that appears
on regeneration must be put into one of the two lists, or `C20_sites_classified` fails. -/

/-- sites whose cost per execution is not constant. For all but one the comment next to the entry says why the total is
    linear: the execution is paid for by the input consumed since the site last ran (the buffer is reset afterwards), or
    the site runs a bounded number of times per parse. The exception, whatever the name of the list says, is the copying
    conversion of `repeatedDecode`: it runs once per decoding round over the whole text, and the number of rounds is bounded
    only by the length of the text (each round but the last shortens it, `C17_decode_shortens`), so the total is quadratic
    in the worst case (`http://h/%` + `25`ⁿ + `41` under GoogleSafeBrowsing: finding F26 of known_findings.json). A site
    reached through calls from inside a loop is attributed to the function whose loop it is. -/
def amortisedSites : List (String × String) := [
  ("parser.BasicParser", "call newInputString"),                         -- credentials: once per '@', over the buffer collected since the last '@'; host: once per host
  ("parser.BasicParser", "copying conversion []rune(buffer.String())"),  -- authority -> host: once, over the buffer
  ("parser.BasicParser", "copying conversion []rune(s)"),                -- the operand of newInputString / of the encoder called on a buffer
  ("parser.BasicParser", "call strings.Split"),                          -- IPv4 / ends-in-a-number: once per host, over the host
  ("parser.BasicParser", "call strings.ToLower"),                        -- dot-segment tests: once per path segment, over that segment
  ("parser.BasicParser", "copying conversion []byte(s)"),                -- percent-decoding a host: once per host
  ("parser.BasicParser", "copying conversion string(bb)"),               -- encoding override of a buffer: once per component
  ("parser.BasicParser", "copying conversion string(i.runes)"),       -- remainingStartsWith/FromPointer: states visited a bounded number of times per parse; IPv6 "::" test: at most 8 pieces
  ("parser.parseHost", "copying conversion []rune(s)"),                  -- once per host
  ("SearchParams.init", "call strings.ReplaceAll"),                      -- once per parameter, over that parameter
  ("SearchParams.init", "call strings.SplitN"),                          -- once per parameter, over that parameter
  ("SearchParams.init", "copying conversion []byte(s)"),                 -- decoding: once per name / value
  ("repeatedDecode", "copying conversion []byte(s)"),                    -- canonicalizer: once per decoding round over the whole text, at most length/2 + 1 rounds (F26)
  ("parser.parseOpaqueHost", "copying conversion []rune(input)")]     -- bounded slice: at most 3 bytes after a '%'

/-- sites that copy a piece of bounded size (at most 3 code points / 12 bytes / 39 characters) -/
def constantSites : List (String × String) := [
  ("IPv6Addr.String", "string += output"),                                        -- 8 pieces
  ("parser.BasicParser", "copying conversion string(?)"),                         -- one byte
  ("parser.BasicParser", "copying conversion string(percentEncoded[:])"),         -- the escape of one code point
  ("parser.BasicParser", "copying conversion string(runes)"),                  -- at most three code points
  ("parser.DecodePercentEncoded", "copying conversion string(bytes)"),         -- three bytes
  ("parser.PercentEncodeString", "copying conversion string(percentEncoded[:])"), -- the escape of one code point
  ("SearchParams.QueryEscape", "copying conversion string(percentEncoded[:])"),   -- the escape of one code point
  ("parser.parseOpaqueHost", "copying conversion string(percentEncoded[:])"),     -- the escape of one code point
  ("parser.parseOpaqueHost", "copying conversion string(runes)"),              -- at most three code points
  ("percentEncodeString", "copying conversion string(percentEncoded)"),           -- three bytes
  ("percentEncode", "copying conversion string(percentEncoded)")]                 -- three bytes

theorem C20_sites_classified : ∀ s ∈ Generated.costSitesUrl ++ Generated.costSitesCanon, s ∈ amortisedSites ∨ s ∈ constantSites := by decide +kernel

theorem C20_no_accumulating_concatenation : ∀ s ∈ Generated.costSitesUrl ++ Generated.costSitesCanon,
    s.2.toList.take 9 = "string +=".toList → s = ("IPv6Addr.String", "string += output") := by decide +kernel

/-- in terms of steps: at most 18·(n+2) − 1 continuing steps of the main loop on n code points. The 18 is C02's measure
    (`C02_loop_terminates_18`): `rank·(n+2) + (n − pointer)`, with the 21 states ranked 0 … 17 (`Proofs/Termination.lean`),
    decreases at every continuing step and starts below 18·(n+2). -/
theorem C20_steps_linear (e : Env) (ps0 : PS) (hp : ps0.pointer = -1) (hE : ps0.eof = false) (f : Nat)
    (hf : 18 * (e.runes.length + 2) ≤ f + 1) : (loop e f ps0).ret ≠ .outOfFuel :=
  C02.C02_loop_terminates_18 e ps0 hp hE f hf

end WhatwgUrl.Props.C20
