import WhatwgUrl.Props.C03c
import WhatwgUrl.Props.C16
import WhatwgUrl.Proofs.RTcInvProfile
import WhatwgUrl.Proofs.CanonText
/-
  C17b — the clause of C17 about the WhatWg profile and the profiles composed of the canonicalizer's options: the canonical
  output is a fixed point of the profile.

  The WhatWg profile is the profile without options (`C16_profiles`: `("WhatWg", [])`): `Parse` is parse with the default
  parser options, `canonicalize I {} H i = (H, .url)` by reduction, and the canonical text is `String()` = `Href(false)` of
  the returned object.  So its idempotence is that of `href ∘ parse`: the round trip of parse results
  (`C03_roundtrip_parse`) with `href_of_Same`.

  Covered: the WhatWg profile at value level (`C17_whatwg_idempotent`) and at heap level (`_heap`), and likewise every
  profile composed of remove-port, remove-user-info, remove-fragment and a default scheme (`Plain`:
  `C17_profile_idempotent`, `_heap`), of which WhatWg is the instance without options.  `ParseRef`: the value-level
  statement only (`C17_whatwg_ref_idempotent`, about `parseRef {}`); no theorem is about `canonParseRef`.
  No theorem: WhatWgSortQuery (`sortQuery = .sortKeys`, no repeated decoding) and every other sorting profile without
  repeated decoding (`Plain.hsq`; idempotence is false for them in general, finding F8: `?a=%26b`).  Profiles with repeated
  decoding (`Plain.hrpd`) have theorems in C17c–C17f only, each of which asks for `repeatedPercentDecoding = true`.
  Assumed: the oracle laws `IdnaLaws I`, and `HostStable I u` (the host text is a fixed point of the host parser), which is
  needed for IDN / ACE domains only (finding F6; witness at the end of the file).  The corollaries discharge it for the
  other host kinds; `C17_whatwg_idempotent_noIDN` is the one to use (`_nonspecial` is its first case; `_easy` and `_ipv6`
  cover part of the same ground with a hypothesis that is decidable on the record, resp. names the address).

  `canonText` (namespace `Props.C17b`) and `C18d.canonOut` are declared in Proofs/CanonText.lean.
-/
namespace WhatwgUrl.Props.C17b
open WhatwgUrl WhatwgUrl.Impl
open WhatwgUrl.Proofs.HostWF (Same)
open WhatwgUrl.Proofs.RoundTrip (HostStable)
open WhatwgUrl.Proofs.Sim (IdnaLaws)
open WhatwgUrl.Props.C03b (href_of_Same)
open WhatwgUrl.Props.C03c
open WhatwgUrl.Props.C18d (canonOut canonText_canonParse)

/-- the WhatWg profile: `canonicalizer.New()` without options -/
def whatWg : Profile := {}

def whatwgOut (I : Idna) (raw : Bytes) : Option Bytes :=
  if (parse {} I raw).ret = .url then some (href (parse {} I raw).url false) else none

theorem canonParseBase_whatWg (I : Idna) (raw : Bytes) : canonParseBase I whatWg raw = parse {} I raw :=
  Proofs.Pipeline.canonParseBase_eq_parse I whatWg raw (Or.inr (Or.inl rfl))

theorem canonText_whatWg (I : Idna) (H : Heap) (raw : Bytes) : canonText (canonParse I whatWg H raw) = whatwgOut I raw := by
  rw [canonText_canonParse, canonParseBase_whatWg]
  unfold canonOut whatwgOut
  by_cases hr : (parse {} I raw).ret = .url
  · rw [if_pos hr, if_pos hr, WhatwgUrl.Proofs.RTcInv.canonV_plain I whatWg rfl rfl ⟨_, none⟩ rfl]
    rfl
  · rw [if_neg hr, if_neg hr]

open WhatwgUrl.Proofs.RTcInv (postU Inv3)

structure Plain (p : Profile) : Prop where
  hcfg : p.cfg = {}
  hrpd : p.repeatedPercentDecoding = false
  hsq : p.sortQuery = .noSort

def profileOut (I : Idna) (p : Profile) (raw : Bytes) : Option Bytes :=
  if (canonParseBase I p raw).ret = .url then some (href (postU I p (canonParseBase I p raw).url) false) else none

theorem canonParseBase_parse (I : Idna) (p : Profile) (hcfg : p.cfg = {}) (raw : Bytes) :
    ∃ x, canonParseBase I p raw = parse {} I x := by
  unfold canonParseBase
  rw [hcfg]
  dsimp only
  split
  · split
    · exact ⟨_, rfl⟩
    · exact ⟨_, rfl⟩
  · exact ⟨_, rfl⟩

theorem canonParseBase_inv (I : Idna) (hI : IdnaLaws I) (p : Profile) (hcfg : p.cfg = {}) (raw : Bytes)
    (hr : (canonParseBase I p raw).ret = .url) : Inv3 (canonParseBase I p raw).url := by
  obtain ⟨x, hx⟩ := canonParseBase_parse I p hcfg raw
  rw [hx] at hr ⊢
  have := C03_parse_invariants I hI x none BaseOk_none hr
  exact ⟨this.1, this.2.1, WhatwgUrl.Proofs.RTcInv.RTx_of_RTc _ this.2.2⟩

/-- `postU` is the `SetPort("")`, `SetUsername("")`, `SetPassword("")`, `SetHash("")` that `canonicalize` applies to the
    parse result.  These setters do not call the parser and keep `WFs`, `WFc`, `RTx`, so the post-processed record
    round-trips (`C03_roundtrip_record`), and on the re-parsed record nothing is left to remove (`postU_fix`). -/
theorem C17_profile_idempotent (I : Idna) (hI : IdnaLaws I) (p : Profile) (hp : Plain p) (raw s : Bytes)
    (h : profileOut I p raw = some s) (hh : HostStable I (canonParseBase I p raw).url) : profileOut I p s = some s := by
  unfold profileOut at h
  split at h
  · rename_i hr
    simp only [Option.some.injEq] at h
    have hi0 := canonParseBase_inv I hI p hp.hcfg raw hr
    generalize (canonParseBase I p raw).url = u0 at h hh hi0
    have hi1 := (WhatwgUrl.Proofs.RTcInv.Inv3_post I hI.out_ascii hI.nonempty p hp.hcfg u0 hi0).2.2
    have hd1 := WhatwgUrl.Proofs.RTcInv.postU_done I hI.out_ascii hI.nonempty p hp.hcfg u0 hi0
    have hh1 : HostStable I (postU I p u0) := by
      unfold HostStable at hh ⊢
      rw [(WhatwgUrl.Proofs.RTcInv.postU_scheme_host I p u0).1, (WhatwgUrl.Proofs.RTcInv.postU_scheme_host I p u0).2]
      exact hh
    generalize postU I p u0 = u1 at h hi1 hd1 hh1
    subst h
    obtain ⟨u', h1, h2⟩ := C03b.C03_roundtrip_record I u1 hi1.1 (RTc_of_WFc u1 hi1.1 hi1.2.1 hi1.2.2) hh1
    have hb : canonParseBase I p (href u1 false) = parse {} I (href u1 false) := by
      have := Proofs.Pipeline.canonParseBase_eq_parse I p (href u1 false) (Or.inl (by rw [hp.hcfg, h1]))
      rw [this, hp.hcfg]
    have hs' : Same u1 u' := by
      obtain ⟨a1, a2, a3, a4, a5, a6, a7, a8, a9⟩ := h2
      exact ⟨a1.symm, a2.symm, a3.symm, a4.symm, a5.symm, a6.symm, a7.symm, a8.symm, a9.symm⟩
    have hfix : postU I p u' = u' := by
      apply WhatwgUrl.Proofs.RTcInv.postU_fix I p u' (WhatwgUrl.Proofs.RTcInv.Done_same hs' hd1)
      · intro ho
        exact (((C04b.WFs_same hs').mpr hi1.1).2.2.1 ho).2
      · exact ((WhatwgUrl.Proofs.RTcInv.RTx_same hs').mpr hi1.2.2).2.2.1
    unfold profileOut
    rw [hb, h1]
    simp only [if_true]
    rw [hfix, href_of_Same h2 false]
  · cases h

theorem C17_profile_idempotent_domain (I : Idna) (hI : IdnaLaws I) (p : Profile) (hp : Plain p) (raw s : Bytes)
    (h : profileOut I p raw = some s) (hd : DomainStable I (canonParseBase I p raw).url) : profileOut I p s = some s := by
  obtain ⟨x, hx⟩ := canonParseBase_parse I p hp.hcfg raw
  have hc : C04c.WFc (canonParseBase I p raw).url := by
    rw [hx]; exact C04c.C04_parse_WFc_nobase I hI.out_ascii hI.nonempty x
  have hv : HostAll V6h (canonParseBase I p raw).url := by
    rw [hx]; exact C03_parse_V6 I x none (by intro b h; cases h)
  exact C17_profile_idempotent I hI p hp raw s h (hostStable_of_domainStable I _ hc hv hd)

theorem canonText_plain (I : Idna) (hI : IdnaLaws I) (p : Profile) (hp : Plain p) (H : Heap) (raw : Bytes) :
    canonText (canonParse I p H raw) = profileOut I p raw := by
  rw [canonText_canonParse]
  unfold canonOut profileOut
  by_cases hr : (canonParseBase I p raw).ret = .url
  · rw [if_pos hr, if_pos hr, WhatwgUrl.Proofs.RTcInv.canonV_plain I p hp.hrpd hp.hsq ⟨_, none⟩
      (WhatwgUrl.Proofs.RTcInv.postRet_url I hI.out_ascii hI.nonempty p hp.hcfg _ (canonParseBase_inv I hI p hp.hcfg raw hr))]
    rfl
  · rw [if_neg hr, if_neg hr]

theorem C17_profile_idempotent_heap (I : Idna) (hI : IdnaLaws I) (p : Profile) (hp : Plain p) (H H' : Heap) (raw s : Bytes)
    (h : canonText (canonParse I p H raw) = some s) (hh : HostStable I (canonParseBase I p raw).url) :
    canonText (canonParse I p H' s) = some s := by
  rw [canonText_plain I hI p hp] at h ⊢
  exact C17_profile_idempotent I hI p hp raw s h hh

theorem plain_whatWg : Plain whatWg := ⟨rfl, rfl, rfl⟩
example : Plain whatWg := plain_whatWg
theorem profileOut_whatWg (I : Idna) (raw : Bytes) : profileOut I whatWg raw = whatwgOut I raw := by
  unfold profileOut whatwgOut
  rw [canonParseBase_whatWg]
  rfl

theorem C17_parse_href_same (I : Idna) (hI : IdnaLaws I) (raw : Bytes) (hr : (parse {} I raw).ret = .url)
    (hh : HostStable I (parse {} I raw).url) :
    (parse {} I (href (parse {} I raw).url false)).ret = .url ∧
    Same (parse {} I (href (parse {} I raw).url false)).url (parse {} I raw).url := by
  obtain ⟨u', h1, h2⟩ := C03_roundtrip_parse I hI raw (parse {} I raw).url (by rw [← hr]) hh
  rw [h1]
  exact ⟨rfl, h2⟩

theorem C17_href_parse_idempotent (I : Idna) (hI : IdnaLaws I) (raw : Bytes) (hr : (parse {} I raw).ret = .url)
    (hh : HostStable I (parse {} I raw).url) :
    (parse {} I (href (parse {} I raw).url false)).ret = .url ∧
    href (parse {} I (href (parse {} I raw).url false)).url false = href (parse {} I raw).url false :=
  ⟨(C17_parse_href_same I hI raw hr hh).1, href_of_Same (C17_parse_href_same I hI raw hr hh).2 false⟩

theorem C17_whatwg_idempotent (I : Idna) (hI : IdnaLaws I) (raw s : Bytes) (h : whatwgOut I raw = some s)
    (hh : HostStable I (parse {} I raw).url) : whatwgOut I s = some s := by
  rw [← profileOut_whatWg] at h ⊢
  exact C17_profile_idempotent I hI whatWg plain_whatWg raw s h (by rwa [canonParseBase_whatWg])

theorem C17_whatwg_idempotent_heap (I : Idna) (hI : IdnaLaws I) (H H' : Heap) (raw s : Bytes)
    (h : canonText (canonParse I whatWg H raw) = some s) (hh : HostStable I (parse {} I raw).url) :
    canonText (canonParse I whatWg H' s) = some s :=
  C17_profile_idempotent_heap I hI whatWg plain_whatWg H H' raw s h (by rwa [canonParseBase_whatWg])

theorem C17_whatwg_ref_idempotent (I : Idna) (hI : IdnaLaws I) (raw ref : Bytes) (u : Url)
    (hp : parseRef {} I raw ref = ⟨u, .url⟩) (hh : HostStable I u) : whatwgOut I (href u false) = some (href u false) := by
  obtain ⟨u', h1, h2⟩ := C03_roundtrip_parseRef I hI raw ref u hp hh
  unfold whatwgOut
  rw [h1]
  simp only [if_true]
  rw [href_of_Same h2 false]

/-- `AsciiDomain` (pure ASCII, lower case, no `xn--` label) includes every serialized IPv4 address -/
def HostEasy (u : Url) : Prop :=
  ∀ h ∈ u.host, h = [] ∨ (Cfg.isSpecial {} u.scheme = false ∧ h.head? ≠ some 0x5b) ∨
    (Cfg.isSpecial {} u.scheme = true ∧ AsciiDomain h)

instance (u : Url) : Decidable (HostEasy u) := by unfold HostEasy; infer_instance

theorem hostStable_of_easy (I : Idna) (hI : IdnaLaws I) (u : Url) (hc : C04c.WFc u) (he : HostEasy u) : HostStable I u := by
  intro h hh
  rcases he h hh with rfl | ⟨hns, hb⟩ | ⟨hsp, hd⟩
  · rfl
  · rw [hns]
    exact WhatwgUrl.Proofs.RoundTrip.parseHost_opaque_fixed I h (opaqueHost_of_WFc u hc hns h hh hb)
  · rw [hsp]
    exact WhatwgUrl.Proofs.RTcInv.parseHost_asciiDomain I (WhatwgUrl.Proofs.RTcInv.L1_of_laws I hI) h hd

theorem C17_whatwg_idempotent_easy (I : Idna) (hI : IdnaLaws I) (raw s : Bytes) (h : whatwgOut I raw = some s)
    (he : HostEasy (parse {} I raw).url) : whatwgOut I s = some s :=
  C17_whatwg_idempotent I hI raw s h
    (hostStable_of_easy I hI _ (C04c.C04_parse_WFc_nobase I hI.out_ascii hI.nonempty raw) he)

theorem C17_whatwg_idempotent_ipv6 (I : Idna) (hI : IdnaLaws I) (raw s : Bytes) (h : whatwgOut I raw = some s)
    (a : List Nat) (ha : C08.Addr a) (hh : (parse {} I raw).url.host = some ([0x5b] ++ ipv6String a ++ [0x5d])) :
    whatwgOut I s = some s :=
  C17_whatwg_idempotent I hI raw s h (C03b.C03_hostStable_ipv6 I _ a ha hh)

theorem C17_whatwg_idempotent_domain (I : Idna) (hI : IdnaLaws I) (raw s : Bytes) (h : whatwgOut I raw = some s)
    (hd : DomainStable I (parse {} I raw).url) : whatwgOut I s = some s := by
  rw [← profileOut_whatWg] at h ⊢
  exact C17_profile_idempotent_domain I hI whatWg plain_whatWg raw s h (by rwa [canonParseBase_whatWg])

theorem C17_whatwg_idempotent_noIDN (I : Idna) (hI : IdnaLaws I) (raw s : Bytes) (h : whatwgOut I raw = some s)
    (hd : Cfg.isSpecial {} (parse {} I raw).url.scheme = true → ∀ h ∈ (parse {} I raw).url.host, h.head? ≠ some 0x5b → AsciiDomain h) :
    whatwgOut I s = some s :=
  C17_whatwg_idempotent_domain I hI raw s h (domainStable_of_ascii I hI _ hd)

theorem C17_whatwg_idempotent_nonspecial (I : Idna) (hI : IdnaLaws I) (raw s : Bytes) (h : whatwgOut I raw = some s)
    (hns : Cfg.isSpecial {} (parse {} I raw).url.scheme = false) : whatwgOut I s = some s :=
  C17_whatwg_idempotent_domain I hI raw s h (fun hsp => by rw [hns] at hsp; cases hsp)

private abbrev I0 := WhatwgUrl.Proofs.Sim.I0
private theorem hI0 : IdnaLaws I0 := WhatwgUrl.Proofs.Sim.I0_laws

private def raw1 : Bytes := lit "  HTTP://u@[0::1]:80/a/../b c?q'#f` "
private def raw2 : Bytes := lit "sc://H%41!/a\\b/%2e/x"
private def raw3 : Bytes := lit "mailto:a b  \t#"
private theorem out_raw1 : whatwgOut I0 raw1 = some (lit "http://u@[::1]/b%20c?q%27#f%60") := by decide +kernel
example : whatwgOut I0 raw1 = some (lit "http://u@[::1]/b%20c?q%27#f%60") := out_raw1
private theorem out_raw2 : whatwgOut I0 raw2 = some (lit "sc://H%41!/a\\b/x") := by decide +kernel
example : whatwgOut I0 raw2 = some (lit "sc://H%41!/a\\b/x") := out_raw2
private theorem out_raw3 : whatwgOut I0 raw3 = some (lit "mailto:a b  #") := by decide +kernel
example : whatwgOut I0 raw3 = some (lit "mailto:a b  #") := out_raw3
example : HostEasy (parse {} I0 raw2).url ∧ HostEasy (parse {} I0 raw3).url := by decide +kernel
example : whatwgOut I0 (lit "sc://H%41!/a\\b/x") = some (lit "sc://H%41!/a\\b/x") :=
  C17_whatwg_idempotent_easy I0 hI0 raw2 _ out_raw2 (by decide +kernel)
example : whatwgOut I0 (lit "http://u@[::1]/b%20c?q%27#f%60") = some (lit "http://u@[::1]/b%20c?q%27#f%60") :=
  C17_whatwg_idempotent_ipv6 I0 hI0 raw1 _ out_raw1 [0, 0, 0, 0, 0, 0, 0, 1] (by unfold C08.Addr; decide +kernel)
    (by decide +kernel)
example : whatwgOut I0 (lit "http://u@[::1]/b%20c?q%27#f%60") = some (lit "http://u@[::1]/b%20c?q%27#f%60") :=
  C17_whatwg_idempotent_noIDN I0 hI0 raw1 _ out_raw1 (by decide +kernel)
example : whatwgOut I0 (lit "mailto:a b  #") = some (lit "mailto:a b  #") :=
  C17_whatwg_idempotent_nonspecial I0 hI0 raw3 _ out_raw3 (by decide +kernel)
example : whatwgOut I0 (lit "mailto:a b  #") = some (lit "mailto:a b  #") := by decide +kernel
example : (canonParse I0 whatWg {} raw3).2.1 = some 0 ∧ (canonParse I0 whatWg {} raw3).2.2 = .url ∧
    canonText (canonParse I0 whatWg {} raw3) = some (lit "mailto:a b  #") := by decide +kernel
example : whatwgOut I0 (lit "//x") = none ∧ canonText (canonParse I0 whatWg {} (lit "//x")) = none := by decide +kernel

/-- the hypothesis `HostStable` cannot be dropped: the oracle `C03c.I1` satisfies the four laws, and under it the host
    `xn--a` re-parses to `xn--aa`, so `http://xn--a` + `/` (the canonical output of `http://xn--` + `/` under that oracle) is
    not a fixed point (finding F6; a statement about the IDNA library) -/
example : IdnaLaws C03c.I1 ∧ (parseHost {} C03c.I1 {} (lit "xn--a") false).out = .ok (lit "xn--aa") :=
  ⟨C03c.I1_laws, C03c.I1_not_fixed⟩

private def pRm : Profile := { removeUserInfo := true, removePort := true, removeFragment := true, defaultScheme := lit "sc" }
example : Plain pRm := ⟨rfl, rfl, rfl⟩
private def raw4 : Bytes := lit "wss://u:p@[0::1]:81/a?q#f"
private def raw5 : Bytes := lit "mailto:a b  #f"
private def raw6 : Bytes := lit "u@h:8/x#f"
private theorem out_raw4 : profileOut I0 pRm raw4 = some (lit "wss://[::1]/a?q") := by decide +kernel
example : profileOut I0 pRm raw4 = some (lit "wss://[::1]/a?q") := out_raw4
/-- `SetHash("")` strips the trailing spaces of the opaque path (so that the part `Xt` of `RTx` survives: an opaque path
    without query and fragment does not end in a space); without that the output would not be a fixed point -/
example : profileOut I0 pRm raw5 = some (lit "mailto:a b") := by decide +kernel
example : (parse {} I0 raw6).ret ≠ .url ∧ profileOut I0 pRm raw6 = some (lit "sc://h/x") := by decide +kernel
example : profileOut I0 pRm (lit "wss://[::1]/a?q") = some (lit "wss://[::1]/a?q") :=
  C17_profile_idempotent I0 hI0 pRm ⟨rfl, rfl, rfl⟩ raw4 _ out_raw4
    (C03b.C03_hostStable_ipv6 I0 _ [0, 0, 0, 0, 0, 0, 0, 1] (by unfold C08.Addr; decide +kernel) (by decide +kernel))
example : profileOut I0 pRm (lit "mailto:a b") = some (lit "mailto:a b") ∧ profileOut I0 pRm (lit "sc://h/x") = some (lit "sc://h/x") := by
  decide +kernel
example : canonText (canonParse I0 pRm {} raw4) = some (lit "wss://[::1]/a?q") := by decide +kernel

end WhatwgUrl.Props.C17b

section AxiomCheck
open WhatwgUrl.Props.C17b
#print axioms canonText_whatWg
#print axioms C17_href_parse_idempotent
#print axioms C17_parse_href_same
#print axioms C17_whatwg_idempotent
#print axioms C17_whatwg_idempotent_heap
#print axioms C17_whatwg_ref_idempotent
#print axioms C17_whatwg_idempotent_easy
#print axioms C17_whatwg_idempotent_ipv6
#print axioms C17_whatwg_idempotent_domain
#print axioms C17_whatwg_idempotent_noIDN
#print axioms C17_whatwg_idempotent_nonspecial
#print axioms C17_profile_idempotent
#print axioms C17_profile_idempotent_domain
#print axioms canonText_plain
#print axioms C17_profile_idempotent_heap
end AxiomCheck
