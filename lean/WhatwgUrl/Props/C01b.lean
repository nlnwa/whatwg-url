import WhatwgUrl.Props.C01
import WhatwgUrl.Proofs.SimFinal
/-
  C01 — the whole-machine theorem.  `C01_parse_conforms` is `C01.C01_parse_conforms_Statement` restricted by exactly three
  hypotheses; `_valid` and `_ascii` are its instances without the third, `C01_basicParser_conforms` the record-level form.

  1. The oracle laws `IdnaLaws I` (`Proofs/SimDefs.lean`) on the IDNA library `I : Bytes → Bytes × Bool` (output, error flag),
     "taken as given" on both sides (`C01.specIdna I` is the standard's domain-to-ASCII derived from `I`): L1 a pure ASCII
     input in which no label starts with the ACE prefix is answered with `asciiLower` of it; L2 every output is ASCII; L3 an
     input containing U+FFFD is an error; L4 a non-empty input answered with an error to which the ASCII-or-misc fallback
     applies has a non-empty output.  They are never proved: the correspondence checks L1–L4 on every answer of
     x/net/idna during every run.  They are satisfiable: `I0_laws` (`Proofs/SimHost.lean`), used in the examples below.
  2. The base string, when given, is not empty: `parseRef {} I [] r` MEANS "no base" in the Go API, while the standard's
     API parse of an empty base string fails (`C01_empty_base`; the hypothesis is needed: `C01_empty_base_needed`).
  3. The boundary of finding F3, `TabNlOk` (`Proofs/SimPrologue.lean`):
       `TabNlOk b  :=  goRunes (removeTabNl b).1 = (goRunes b).filter (fun c => !Spec.isTabOrNewline c)`
     removing tab / newline at byte level (Go) agrees with removing them at code point level (the standard).  It fails only
     when a tab or newline sits INSIDE an ill-formed UTF-8 sequence (needed: `C01_tabNl_needed`).  The theorems state it of
     the trimmed text, `TabNlOk (trim c0OrSpaceSet b).1`, which is equivalent to `TabNlOk b` (`TabNlOk_trim`).
  The condition on the parsed base that the simulation needs (a special scheme excludes an opaque path) is not a hypothesis:
  `Sim.parse_baseOk` discharges it from the well-formedness of parse results (`C04b.parse_WFs`, `Proofs/WellFormed2.lean`).

  `Spec.basicParse` runs the standard's machine with the fuel of `Impl.fuelFor` and reports failure at fuel 0, which the
  standard does not have; the simulation (`Sim.loop_sim_gen`) steps both machines together and the Go run does not run out
  of that fuel (C02), so that branch is taken on neither side.
  `C01.obsImpl` maps a panic, out-of-fuel and `.nilNil` to `none` like an error, so the observable form alone does not
  exclude them where the standard fails; the record-level `Sim.api_conforms` (`Proofs/SimFinal.lean`) does: its relation
  `RApi` is `False` on these outcomes.
-/
namespace WhatwgUrl.Props.C01b
open WhatwgUrl WhatwgUrl.Impl WhatwgUrl.Proofs.Sim

/-- **C01.** For every input and optional (non-empty) base string, the default Go parser and the standard's API parser
    both fail, or both succeed with the same serialization and the same nine getters. -/
theorem C01_parse_conforms (I : Idna) (hI : IdnaLaws I) (input : Bytes) (base : Option Bytes) (hne : base ≠ some [])
    (ht : TabNlOk (trim c0OrSpaceSet input).1) (htb : ∀ b, base = some b → TabNlOk (trim c0OrSpaceSet b).1) :
    C01.obsImpl (match (generalizing := false) base with | none => parse {} I input | some b => parseRef {} I b input) =
    C01.obsSpec (Spec.apiParse (C01.specIdna I) (goRunes input) (base.map goRunes)) :=
  C01_parse_conforms_obs I hI input base hne ht htb

/-- a check of the shape only: the conclusion of `C01_parse_conforms` is literally the body of
    `C01.C01_parse_conforms_Statement`.  As a theorem it is vacuous: `H` fails at `base := some []` and at every oracle that
    violates the laws, so this is `False → Statement`. -/
theorem C01_conclusion_is_statement
    (H : ∀ (I : Idna) (input : Bytes) (base : Option Bytes), IdnaLaws I ∧ base ≠ some [] ∧
      TabNlOk (trim c0OrSpaceSet input).1 ∧ ∀ b, base = some b → TabNlOk (trim c0OrSpaceSet b).1) :
    C01.C01_parse_conforms_Statement :=
  fun I input base =>
    C01_parse_conforms I (H I input base).1 input base (H I input base).2.1 (H I input base).2.2.1 (H I input base).2.2.2

theorem C01_parse_conforms_valid (I : Idna) (hI : IdnaLaws I) (input : Bytes) (base : Option Bytes) (hne : base ≠ some [])
    (hv : validUtf8 input = true) (hvb : ∀ b, base = some b → validUtf8 b = true) :
    C01.obsImpl (match (generalizing := false) base with | none => parse {} I input | some b => parseRef {} I b input) =
    C01.obsSpec (Spec.apiParse (C01.specIdna I) (goRunes input) (base.map goRunes)) :=
  C01_parse_conforms I hI input base hne (TabNlOk_trim_of_valid input hv) (fun b hb => TabNlOk_trim_of_valid b (hvb b hb))

theorem C01_parse_conforms_ascii (I : Idna) (hI : IdnaLaws I) (input : Bytes) (base : Option Bytes) (hne : base ≠ some [])
    (ha : ∀ x ∈ input, x.toNat < 0x80) (hab : ∀ b, base = some b → ∀ x ∈ b, x.toNat < 0x80) :
    C01.obsImpl (match (generalizing := false) base with | none => parse {} I input | some b => parseRef {} I b input) =
    C01.obsSpec (Spec.apiParse (C01.specIdna I) (goRunes input) (base.map goRunes)) :=
  C01_parse_conforms_valid I hI input base hne (Proofs.Domain.validUtf8_ascii input ha)
    (fun b hb => Proofs.Domain.validUtf8_ascii b (hab b hb))

/-- both runs fail or both succeed, and the url records correspond field by field in either case (`RRes'`:
    `Proofs/SimDefs2.lean`, `RUrl`: `Proofs/SimDefs.lean`).  `hbok` is an extra hypothesis on the base RECORD; it holds of every
    parse result (`Sim.parse_baseOk`).  `specIdna I` here is `Sim.specIdna I`, the same function as `C01.specIdna I`
    (`Sim.C01_specIdna`, by `rfl`). -/
theorem C01_basicParser_conforms (I : Idna) (hI : IdnaLaws I) (input : Bytes) (base : Option Url) (sbase : Option Spec.SUrl)
    (hb : match base, sbase with | none, none => True | some bi, some bs => RUrl bi bs | _, _ => False)
    (hbok : ∀ b, base = some b → Cfg.isSpecial {} b.scheme = true → b.path.opq = false)
    (ht : TabNlOk (trim c0OrSpaceSet input).1) :
    RRes' true (basicParser {} I input base none none) (Spec.basicParse (specIdna I) (goRunes input) sbase none none) :=
  parse_conforms I hI input base sbase hb hbok ht

theorem C01_empty_base (I : Idna) (r : Bytes) :
    parseRef {} I [] r = parse {} I r ∧
    Spec.apiParse (C01.specIdna I) (goRunes r) (some (goRunes [])) = none :=
  ⟨rfl, rfl⟩

theorem C01_empty_base_needed :
    IdnaLaws I0 ∧ TabNlOk (trim c0OrSpaceSet (lit "foo:x")).1 ∧ TabNlOk (trim c0OrSpaceSet ([] : Bytes)).1 ∧
    C01.obsImpl (parseRef {} I0 [] (lit "foo:x")) ≠
      C01.obsSpec (Spec.apiParse (C01.specIdna I0) (goRunes (lit "foo:x")) ((some ([] : Bytes)).map goRunes)) :=
  ⟨I0_laws, by decide +kernel, by decide +kernel, by decide +kernel⟩

/-- the witness of `C01.C01_parse_conforms_counterexample` under an oracle that satisfies the laws -/
theorem C01_tabNl_needed :
    IdnaLaws I0 ∧ ¬ TabNlOk (trim c0OrSpaceSet [0x78, 0x3a, 0xc3, 0x0a, 0xa9]).1 ∧
    C01.obsImpl (parse {} I0 [0x78, 0x3a, 0xc3, 0x0a, 0xa9]) ≠
      C01.obsSpec (Spec.apiParse (C01.specIdna I0) (goRunes [0x78, 0x3a, 0xc3, 0x0a, 0xa9]) none) :=
  ⟨I0_laws, by decide +kernel, by decide +kernel⟩

example : C01.obsImpl (parse {} I0 (lit "http://EXAMPLE.com/a/../b?q#f")) =
    C01.obsSpec (Spec.apiParse (C01.specIdna I0) (goRunes (lit "http://EXAMPLE.com/a/../b?q#f")) none) :=
  C01_parse_conforms I0 I0_laws (lit "http://EXAMPLE.com/a/../b?q#f") none (by decide) (by decide +kernel)
    (by intro b h; cases h)

example : C01.obsImpl (parseRef {} I0 (lit "http://EXAMPLE.com/a/b") (lit "//Other.org:80/\tx")) =
    C01.obsSpec (Spec.apiParse (C01.specIdna I0) (goRunes (lit "//Other.org:80/\tx")) (some (goRunes (lit "http://EXAMPLE.com/a/b")))) :=
  C01_parse_conforms I0 I0_laws (lit "//Other.org:80/\tx") (some (lit "http://EXAMPLE.com/a/b")) (by decide)
    (by decide +kernel) (by intro b h; cases h; decide +kernel)

example : C01.obsImpl (parse {} I0 (lit "http://exa mple.com/")) =
    C01.obsSpec (Spec.apiParse (C01.specIdna I0) (goRunes (lit "http://exa mple.com/")) none) :=
  C01_parse_conforms_ascii I0 I0_laws (lit "http://exa mple.com/") none (by decide) (by decide +kernel)
    (by intro b h; cases h)

/-- a non-ASCII, ill-formed input within the boundary (a lone continuation byte, no tab/newline inside it) -/
example : TabNlOk (trim c0OrSpaceSet [0x78, 0x3a, 0x2f, 0x09, 0xa9, 0xc3, 0xa9]).1 := by decide +kernel

set_option maxRecDepth 100000 in
example :
    C01.obsImpl (parse {} I0 (lit "  HTTP://u:p@[0:0::1]:81/a/../b c?q r#f g\t")) =
      some [lit "http://u:p@[::1]:81/b%20c?q%20r#f%20g", lit "http:", lit "u", lit "p", lit "[::1]:81", lit "[::1]", lit "81",
            lit "/b%20c", lit "?q%20r", lit "#f%20g"] ∧
    C01.obsSpec (Spec.apiParse (C01.specIdna I0) (goRunes (lit "  HTTP://u:p@[0:0::1]:81/a/../b c?q r#f g\t")) none) =
      some [lit "http://u:p@[::1]:81/b%20c?q%20r#f%20g", lit "http:", lit "u", lit "p", lit "[::1]:81", lit "[::1]", lit "81",
            lit "/b%20c", lit "?q%20r", lit "#f%20g"] := by
  decide +kernel

set_option maxRecDepth 100000 in
example :
    C01.obsImpl (parseRef {} I0 (lit "foo://[::1]/a/b?y") (lit "../c d?x#z")) =
      some [lit "foo://[::1]/c%20d?x#z", lit "foo:", [], [], lit "[::1]", lit "[::1]", [], lit "/c%20d", lit "?x", lit "#z"] ∧
    C01.obsSpec (Spec.apiParse (C01.specIdna I0) (goRunes (lit "../c d?x#z")) (some (goRunes (lit "foo://[::1]/a/b?y")))) =
      some [lit "foo://[::1]/c%20d?x#z", lit "foo:", [], [], lit "[::1]", lit "[::1]", [], lit "/c%20d", lit "?x", lit "#z"] := by
  decide +kernel

example : C01.obsImpl (parse {} I0 (lit "http://[::1")) = none ∧
    C01.obsSpec (Spec.apiParse (C01.specIdna I0) (goRunes (lit "http://[::1")) none) = none := by decide +kernel

end WhatwgUrl.Props.C01b

open WhatwgUrl.Props.C01b in
#print axioms C01_parse_conforms
open WhatwgUrl.Props.C01b in
#print axioms C01_parse_conforms_valid
open WhatwgUrl.Props.C01b in
#print axioms C01_parse_conforms_ascii
open WhatwgUrl.Props.C01b in
#print axioms C01_basicParser_conforms
open WhatwgUrl.Props.C01b in
#print axioms C01_empty_base
open WhatwgUrl.Props.C01b in
#print axioms C01_empty_base_needed
open WhatwgUrl.Props.C01b in
#print axioms C01_tabNl_needed
