import WhatwgUrl.Impl.Api
import WhatwgUrl.Spec.Url
import WhatwgUrl.Proofs.SimObs
/-
  C01 — parsing conforms to the WHATWG basic URL parser.  The unrestricted statement below is false (finding F3); the
  theorem, under three hypotheses, is `C01b.C01_parse_conforms`.

  `obsImpl`, `obsSpec`, `specIdna` are declared in namespace `Props.C01` but in the file `Proofs/SimObs.lean`.  `obsImpl` maps a
  result with `ret = .url` to `some` of the serialization and the nine getters of its record, and every other outcome
  (`.err`, `.nilNil`, a panic, out of fuel) to `none`; `obsSpec` maps a failure of the standard's parser to `none`.
-/
namespace WhatwgUrl.Props.C01
open WhatwgUrl WhatwgUrl.Impl

def C01_parse_conforms_Statement : Prop :=
  ∀ (I : Idna) (input : Bytes) (base : Option Bytes),
    obsImpl (match base with | none => parse {} I input | some b => parseRef {} I b input) =
    obsSpec (Spec.apiParse (specIdna I) (goRunes input) (base.map goRunes))

/-- finding F3: tab/newline removal at byte level splices an ill-formed sequence -/
theorem C01_parse_conforms_counterexample : ¬ C01_parse_conforms_Statement := by
  intro h
  -- "x:\xC3\n\xA9": Go gives the opaque path %C3%A9, the scalar-value reading gives %EF%BF%BD%EF%BF%BD
  have := h (fun s => (s, false)) [0x78, 0x3a, 0xc3, 0x0a, 0xa9] none
  revert this
  decide +kernel

end WhatwgUrl.Props.C01
