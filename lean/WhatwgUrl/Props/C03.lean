import WhatwgUrl.Impl.Api
import WhatwgUrl.Spec.Url
import WhatwgUrl.Props.C10
/-
  C03 — serialize-then-parse is the identity on every reachable URL.
  The unrestricted statement `C03_roundtrip_Statement` has no theorem, neither proof nor refutation (the round-trip search
  on the Go code tests it on every run, after every step of every history).  The theorems are in `Props/C03b.lean` (records
  under explicit side conditions) and `Props/C03c.lean` (parse results and histories; what they cover and leave out is said
  there: the hypothesis `HostStable` for IDN domains, finding F6, and the protocol switch to `file`).  Here: three component facts.
-/
namespace WhatwgUrl.Props.C03
open WhatwgUrl WhatwgUrl.Impl

def C03_roundtrip_Statement : Prop :=
  ∀ (I : Idna) (input : Bytes) (base : Option Bytes) (u : Url),
    (match base with | none => parse {} I input | some b => parseRef {} I b input) = ⟨u, .url⟩ →
    ∃ u', parse {} I (href u false) = ⟨u', .url⟩ ∧ href u' false = href u false

/-- every stored component is a fixed point of its own encoder (path / query / fragment / userinfo / opaque host all use
    `EscStable` sets) -/
theorem C03_component_fixed (set : Nat → Bool) (h : C10.EscStable set) (s : Str) :
    Spec.utf8PercentEncode set (Spec.utf8PercentEncode set s) = Spec.utf8PercentEncode set s :=
  C10.C10_idempotent set h s

/-- the delimiter that ends a component's state is in the component's encode set, so it cannot occur in stored text:
    `?` and `#` end the path, `#` ends the query, `@` `:` `/` `?` `#` end or split the userinfo.  (No conjunct is about
    `/` inside a path segment.) -/
theorem C03_delimiters_encoded :
    pathSet.has 0x3f = true ∧ pathSet.has 0x23 = true ∧ querySet.has 0x23 = true ∧ specialQuerySet.has 0x23 = true ∧
    userinfoSet.has 0x40 = true ∧ userinfoSet.has 0x3a = true ∧ userinfoSet.has 0x2f = true ∧ userinfoSet.has 0x3f = true ∧ userinfoSet.has 0x23 = true := by
  decide

/-- the '/.' guard: the serializer emits it when a host-less list path starts with an empty segment and has more (this
    direction only: nothing is stated about the other paths) -/
theorem C03_dot_guard (u : Url) (hh : u.host = none) (ho : u.path.opq = false) (x : Bytes) (rest : List Bytes)
    (hs : u.path.segs = [] :: x :: rest) :
    ∃ tail, href u false = u.scheme ++ [0x3a] ++ [0x2f, 0x2e] ++ [0x2f] ++ [0x2f] ++ x ++ tail := by
  refine ⟨(rest.flatMap fun s => 0x2f :: s) ++ (match u.query with | some q => 0x3f :: q | none => []) ++ (match u.fragment with | some f => 0x23 :: f | none => []), ?_⟩
  simp [href, hh, ho, hs, Path.str, Path.str?, List.append_assoc]
  rfl

example : (parse {} (fun s => (s, false)) (lit "sc://h/a b")).ret = .url := by decide +kernel

end WhatwgUrl.Props.C03
