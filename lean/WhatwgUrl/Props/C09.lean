import WhatwgUrl.Impl.Host
import WhatwgUrl.Props.C10
import WhatwgUrl.Proofs.AsciiCase
/-
  C09 — domain hosts are normalised consistently (ASCII, case, escapes).
  Proved here: the spelling-independence of the percent-decoding step and the idempotence of ASCII lower-casing; the host
  parser around the IDNA oracle: `Props/C09b.lean`, `C09c.lean`, `C09d.lean`.
-/
namespace WhatwgUrl.Props.C09
open WhatwgUrl WhatwgUrl.Impl

/-- a host whose code points are ALL written as the %XX escapes of their UTF-8 bytes decodes to the same bytes as the
    literal spelling -/
theorem C09_fully_escaped_spelling (s : Str) :
    Spec.percentDecode (utf8 (Spec.utf8PercentEncode (fun _ => true) s)) = utf8 s :=
  C10.C10_decode_inverts' (fun _ => true) rfl s

/-- the Go decoder is the standard's (default configuration), so the same holds for the code's `DecodePercentEncoded`
    (the same statement as `C11.C11_decode_conforms`; it is the decoder half of `C10.C10_codec_conforms_encode`) -/
theorem C09_go_decoder (s : Bytes) : decodePercent Cfg.default s = Spec.percentDecode s :=
  Proofs.Percent.decodePercent_default s

theorem C09_lower_idempotent (s : Bytes) : asciiLower (asciiLower s) = asciiLower s :=
  Proofs.AsciiCase.asciiLower_idem s

/-- the ASCII-only fallback test of `ToASCII` on two strings: a pure ASCII string without an `xn--` label start passes, one
    with such a label start (in either case) does not -/
example : asciiOrMiscNoPuny "Example.COM".toList 0 = true ∧ asciiOrMiscNoPuny "a.XN--b".toList 0 = false := by decide

end WhatwgUrl.Props.C09
