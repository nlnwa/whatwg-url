import WhatwgUrl.Proofs.SimFinal
/-
  C05 — the whole-machine theorem: `C05_history_conforms` (start from a parse, with or without a base string: the Go parse
  succeeds exactly when the standard's does, and after ANY history of setter calls the two records correspond); its step
  is `C05_setter_conforms`; in terms of serialization and getters: `C05_history_href`, `C05_history_obs`, `C05_getters`.

  Assumed, as for C01 (`Props/C01b.lean`): the oracle laws `IdnaLaws I` (`specIdna I` is the standard's domain-to-ASCII derived
  from the same library answers); a base string, when given, is not empty; the boundary of finding F3, `TabNlOk`, of the
  input, the base and every setter value (`HistOk`).  Valid UTF-8 is within the boundary (`C05_setter_conforms_valid`,
  `HistOk_of_valid`).
  `RUrl ui us` (`Proofs/SimDefs.lean`): the Go url record and the standard's correspond field by field (byte strings are the
  UTF-8 of the code point strings; the Go port is the decimal text of the standard's number; the paths are both opaque or
  both lists).  `mapSetter` (`Proofs/SimSetters.lean`): the Go setter ↦ the standard's setter of the same name.
  The theorems compare the RECORDS the calls leave, not the error values the Go setters return: `(setU {} I s u v).url` is the
  record "as modified so far" (the Go setters modify in place and may return an error after a partial modification; the
  standard's setters do the same and ignore the failure).  Under a state override the Go port state reports `PortMissing`
  where the standard silently returns, and the Go file host state returns `nil, nil`; in both cases the records correspond
  (`Proofs/SimDefs2.lean`).
-/
namespace WhatwgUrl.Props.C05b
open WhatwgUrl.Impl WhatwgUrl.Proofs.Sim

/-- **C05, one call.** -/
theorem C05_setter_conforms (I : Idna) (hI : IdnaLaws I) (s : Setter) (ui : Url) (us : Spec.SUrl) (hu : RUrl ui us)
    (v : Bytes) (ht : TabNlOk v) :
    RUrl (setU {} I s ui v).url (Spec.set (specIdna I) (mapSetter s) us (goRunes v)) :=
  set_conforms I hI s ui us hu v ht

theorem C05_setter_obs (I : Idna) (hI : IdnaLaws I) (s : Setter) (ui : Url) (us : Spec.SUrl) (hu : RUrl ui us)
    (v : Bytes) (ht : TabNlOk v) :
    C01.obsImpl ⟨(setU {} I s ui v).url, .url⟩ = C01.obsSpec (some (Spec.set (specIdna I) (mapSetter s) us (goRunes v))) :=
  obs_of_RApi (r := ⟨_, .url⟩) (o := some _) (C05_setter_conforms I hI s ui us hu v ht)

theorem C05_setter_conforms_valid (I : Idna) (hI : IdnaLaws I) (s : Setter) (ui : Url) (us : Spec.SUrl) (hu : RUrl ui us)
    (v : Bytes) (hv : validUtf8 v = true) :
    RUrl (setU {} I s ui v).url (Spec.set (specIdna I) (mapSetter s) us (goRunes v)) :=
  C05_setter_conforms I hI s ui us hu v (TabNlOk_of_valid v hv)

/-! ### histories -/

abbrev Hist := List (Setter × Bytes)

/-- every call continues with the record as the previous call left it, whatever it returned -/
def runImpl (I : Idna) (u : Url) (h : Hist) : Url := h.foldl (fun u c => (setU {} I c.1 u c.2).url) u

def runSpec (I : Idna) (u : Spec.SUrl) (h : Hist) : Spec.SUrl :=
  h.foldl (fun u c => Spec.set (specIdna I) (mapSetter c.1) u (goRunes c.2)) u

/-- every value of the history is within the boundary of finding F3 -/
def HistOk (h : Hist) : Prop := ∀ c ∈ h, TabNlOk c.2

instance (h : Hist) : Decidable (HistOk h) := by unfold HistOk; infer_instance

theorem HistOk_of_valid (h : Hist) (hv : ∀ c ∈ h, validUtf8 c.2 = true) : HistOk h :=
  fun c hc => TabNlOk_of_valid c.2 (hv c hc)

/-- the parse the history starts from: `parse`, or `parseRef` with a base string -/
def parseApi (I : Idna) (input : Bytes) (base : Option Bytes) : Res :=
  match base with
  | none => parse {} I input
  | some b => parseRef {} I b input

theorem C05_history_conforms_from (I : Idna) (hI : IdnaLaws I) (h : Hist) (hh : HistOk h) :
    ∀ (ui : Url) (us : Spec.SUrl), RUrl ui us → RUrl (runImpl I ui h) (runSpec I us h) := by
  induction h with
  | nil => intro ui us hu; exact hu
  | cons c h ih =>
    intro ui us hu
    exact ih (fun c' hc' => hh c' (List.mem_cons_of_mem _ hc')) _ _
      (C05_setter_conforms I hI c.1 ui us hu c.2 (hh c List.mem_cons_self))

/-- C01 at record level -/
theorem C05_parse_conforms (I : Idna) (hI : IdnaLaws I) (input : Bytes) (base : Option Bytes) (hne : base ≠ some [])
    (ht : TabNlOk (trim c0OrSpaceSet input).1) (htb : ∀ b, base = some b → TabNlOk (trim c0OrSpaceSet b).1) :
    ((parseApi I input base).ret = .url ↔ (Spec.apiParse (specIdna I) (goRunes input) (base.map goRunes)).isSome = true) ∧
    ∀ us, Spec.apiParse (specIdna I) (goRunes input) (base.map goRunes) = some us → RUrl (parseApi I input base).url us := by
  have hR : RApi (parseApi I input base) (Spec.apiParse (specIdna I) (goRunes input) (base.map goRunes)) := by
    cases base <;> exact api_conforms I hI input _ hne ht htb
  revert hR
  generalize parseApi I input base = r
  generalize Spec.apiParse (specIdna I) (goRunes input) (base.map goRunes) = o
  intro hR
  unfold RApi at hR
  cases hr : r.ret <;> cases o <;> rw [hr] at hR <;> simp_all

/-- **C05.** -/
theorem C05_history_conforms (I : Idna) (hI : IdnaLaws I) (input : Bytes) (base : Option Bytes) (hne : base ≠ some [])
    (ht : TabNlOk (trim c0OrSpaceSet input).1) (htb : ∀ b, base = some b → TabNlOk (trim c0OrSpaceSet b).1)
    (h : Hist) (hh : HistOk h) :
    ((parseApi I input base).ret = .url ↔ (Spec.apiParse (specIdna I) (goRunes input) (base.map goRunes)).isSome = true) ∧
    ∀ us, Spec.apiParse (specIdna I) (goRunes input) (base.map goRunes) = some us →
      RUrl (runImpl I (parseApi I input base).url h) (runSpec I us h) := by
  have hp := C05_parse_conforms I hI input base hne ht htb
  exact ⟨hp.1, fun us hs => C05_history_conforms_from I hI h hh _ _ (hp.2 us hs)⟩

/-- `ex`: exclude the fragment -/
theorem C05_history_href (I : Idna) (hI : IdnaLaws I) (input : Bytes) (base : Option Bytes) (hne : base ≠ some [])
    (ht : TabNlOk (trim c0OrSpaceSet input).1) (htb : ∀ b, base = some b → TabNlOk (trim c0OrSpaceSet b).1)
    (h : Hist) (hh : HistOk h) (us : Spec.SUrl)
    (hs : Spec.apiParse (specIdna I) (goRunes input) (base.map goRunes) = some us) (ex : Bool) :
    href (runImpl I (parseApi I input base).url h) ex = utf8 (Spec.serialize (runSpec I us h) ex) :=
  ((C05_history_conforms I hI input base hne ht htb h hh).2 us hs).obs_href ex

theorem C05_history_obs (I : Idna) (hI : IdnaLaws I) (input : Bytes) (base : Option Bytes) (hne : base ≠ some [])
    (ht : TabNlOk (trim c0OrSpaceSet input).1) (htb : ∀ b, base = some b → TabNlOk (trim c0OrSpaceSet b).1)
    (h : Hist) (hh : HistOk h) (us : Spec.SUrl)
    (hs : Spec.apiParse (specIdna I) (goRunes input) (base.map goRunes) = some us) :
    C01.obsImpl ⟨runImpl I (parseApi I input base).url h, .url⟩ = C01.obsSpec (some (runSpec I us h)) :=
  obs_of_RApi (r := ⟨_, .url⟩) (o := some _) ((C05_history_conforms I hI input base hne ht htb h hh).2 us hs)

theorem C05_getters {ui : Url} {us : Spec.SUrl} (h : RUrl ui us) :
    protocol ui = utf8 (Spec.getProtocol us) ∧ ui.username = utf8 us.username ∧ ui.password = utf8 us.password ∧
    hostG ui = utf8 (Spec.getHost us) ∧ hostname ui = utf8 (Spec.getHostname us) ∧ portG ui = utf8 (Spec.getPort us) ∧
    pathname ui = utf8 (Spec.pathSerialize us) ∧ search ui = utf8 (Spec.getSearch us) ∧ hashG ui = utf8 (Spec.getHash us) :=
  ⟨h.obs_protocol, h.obs_username, h.obs_password, h.obs_host, h.obs_hostname, h.obs_port, h.obs_pathname, h.obs_search,
    h.obs_hash⟩

/-! ### examples (the oracle `I0` is `Proofs.Sim.I0`: ASCII lower-casing, `I0_laws`) -/

private def uHttp : Url := { scheme := lit "http", host := some (lit "h"), path := ⟨[[]], false⟩ }
private def sHttp : Spec.SUrl := { scheme := "http".toList, host := some "h".toList, path := .list [[]] }
private theorem rHttp : RUrl uHttp sHttp := ⟨by decide, rfl, rfl, by decide, rfl, ⟨rfl, rfl⟩, rfl, rfl⟩

example : RUrl (setU {} I0 .host uHttp (lit "EXAMPLE.org:8080")).url
    (Spec.set (specIdna I0) .host sHttp (goRunes (lit "EXAMPLE.org:8080"))) :=
  C05_setter_conforms I0 I0_laws .host uHttp sHttp rHttp (lit "EXAMPLE.org:8080") (by decide +kernel)

set_option maxRecDepth 100000 in
/-- both sides evaluated for one call (IPv6 host so that it reduces) -/
example :
    (setU {} I0 .host uHttp (lit "[0::2]:81")).url =
      { uHttp with host := some (lit "[::2]"), port := some (lit "81"), decodedPort := 81 } ∧
    Spec.set (specIdna I0) .host sHttp (goRunes (lit "[0::2]:81")) = { sHttp with host := some "[::2]".toList, port := some 81 } := by
  decide +kernel

set_option maxRecDepth 100000 in
/-- a failing call: the Go setter returns an error, the standard's ignores the failure, the records are unchanged -/
example :
    (setU {} I0 .hostname uHttp (lit "[::g]")).ret = .err ⟨.IPv6InvalidCodePoint, true⟩ true ∧
    (setU {} I0 .hostname uHttp (lit "[::g]")).url = uHttp ∧
    Spec.set (specIdna I0) .hostname sHttp (goRunes (lit "[::g]")) = sHttp := by
  decide +kernel

/-- a history over all kinds of setters, including two failing calls (port "x", hostname "[::g]") -/
private def h1 : Hist :=
  [(.pathname, lit "/x y/../z"), (.search, lit "?k=v w"), (.hash, lit "fr ag"), (.port, lit "81"), (.host, lit "[0::2]:82"),
   (.username, lit "me@"), (.protocol, lit "bar"), (.port, lit "x"), (.hostname, lit "[::g]")]

set_option maxRecDepth 100000 in
example : ∃ us, Spec.apiParse (specIdna I0) (goRunes (lit "foo://[::1]/a")) none = some us ∧
    href (runImpl I0 (parseApi I0 (lit "foo://[::1]/a") none).url h1) false = utf8 (Spec.serialize (runSpec I0 us h1) false) := by
  have hp := (C05_history_conforms I0 I0_laws (lit "foo://[::1]/a") none (by decide) (by decide +kernel)
    (by intro b h; cases h) h1 (by decide +kernel)).1
  have hok : (parseApi I0 (lit "foo://[::1]/a") none).ret = .url := by decide +kernel
  obtain ⟨us, hus⟩ := Option.isSome_iff_exists.mp (hp.mp hok)
  exact ⟨us, hus, C05_history_href I0 I0_laws (lit "foo://[::1]/a") none (by decide) (by decide +kernel)
    (by intro b h; cases h) h1 (by decide +kernel) us hus false⟩

set_option maxRecDepth 100000 in
example :
    href (runImpl I0 (parseApi I0 (lit "foo://[::1]/a") none).url h1) false = lit "bar://me%40@[::2]:82/z?k=v%20w#fr%20ag" ∧
    (Spec.apiParse (specIdna I0) (goRunes (lit "foo://[::1]/a")) none).map (fun us => Spec.serialize (runSpec I0 us h1) false) =
      some "bar://me%40@[::2]:82/z?k=v%20w#fr%20ag".toList := by
  decide +kernel

/-- a special scheme and a domain host: here evaluation does not get through (remark on `decodePercent`, `Props/C02.lean`) -/
example : ∀ us, Spec.apiParse (specIdna I0) (goRunes (lit "http://h/")) none = some us →
    href (runImpl I0 (parseApi I0 (lit "http://h/") none).url
      [(.host, lit "EXAMPLE.org:8080"), (.pathname, lit "a\\b"), (.protocol, lit "https:"), (.port, lit "443")]) false =
    utf8 (Spec.serialize (runSpec I0 us
      [(.host, lit "EXAMPLE.org:8080"), (.pathname, lit "a\\b"), (.protocol, lit "https:"), (.port, lit "443")]) false) :=
  fun us hus => C05_history_href I0 I0_laws (lit "http://h/") none (by decide) (by decide +kernel) (by intro b h; cases h)
    _ (by decide +kernel) us hus false

end WhatwgUrl.Props.C05b

open WhatwgUrl.Props.C05b in
#print axioms C05_setter_conforms
open WhatwgUrl.Props.C05b in
#print axioms C05_setter_obs
open WhatwgUrl.Props.C05b in
#print axioms C05_history_conforms_from
open WhatwgUrl.Props.C05b in
#print axioms C05_parse_conforms
open WhatwgUrl.Props.C05b in
#print axioms C05_history_conforms
open WhatwgUrl.Props.C05b in
#print axioms C05_history_href
open WhatwgUrl.Props.C05b in
#print axioms C05_history_obs
