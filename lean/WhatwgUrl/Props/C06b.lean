import WhatwgUrl.Proofs.Resolve
import WhatwgUrl.Proofs.ResolveInv
import WhatwgUrl.Proofs.SelfResolve
import WhatwgUrl.Proofs.WellFormed
import WhatwgUrl.Props.C18
/-
  C06b — laws of reference resolution, proved on the model for the default configuration by symbolic execution of the
  `BasicParser` machine (helpers: Proofs/Resolve.lean, Proofs/SelfResolve.lean, Proofs/ResolveInv.lean).

  `urlParse {} I b ref` resolves the reference `ref` against the base url value `b`.
  `pro ref` is the text the machine sees (trimmed, tab / newline removed); `goRunes (pro ref)` its code points.

  The empty-reference theorems (`C06_empty_ref_exact`, `C06_empty_ref`, `C06_empty_ref_wfs`) are about bases with a LIST
  path (`b.path.opq = false`).  Against an opaque-path base the empty reference fails (`C06_empty_ref_opaque`), as does
  every scheme-less reference that does not start with `#` (`C06_opaque_base_only_fragment`).
-/
namespace WhatwgUrl.Props.C06b
open WhatwgUrl.Impl WhatwgUrl.Proofs.Resolve
open WhatwgUrl.Props.C04b (WFs)

/-! ### vocabulary -/

/-- identity IDNA oracle for the examples -/
def I0 : Idna := fun s => (s, false)

/-- what resolution of a scheme-less reference takes from the base before it looks at the reference: the no-scheme state with an
    opaque-path base copies scheme, path, query; the file state (file base) host, path, query; the relative state everything
    but the fragment (Go's `decodedPort` cache travels with the port) -/
def copied (b : Url) : Url :=
  if b.path.opq = true then { scheme := b.scheme, path := b.path, query := b.query }
  else if b.scheme = lit "file" then fileCopy b {}
  else relCopy b {}

/-- the base as a fresh parse result would hold it: no fragment, empty diagnostic fields; the port cache is `0` where the
    machine does not copy it (and where a well-formed url has no port anyway) -/
def inherit (b : Url) : Url :=
  { b with fragment := none, verrs := [], qlog := [],
           decodedPort := if b.path.opq = true ∨ b.scheme = lit "file" then 0 else b.decodedPort }

/-- for a structurally well-formed base the two agree -/
theorem copied_eq_inherit (b : Url) (hw : WFs {} b) : copied b = inherit b := by
  obtain ⟨_, _, h3, h4, _, _⟩ := hw
  unfold copied inherit
  by_cases ho : b.path.opq = true
  · have hh := (h3 ho).1
    have hc : ¬ (b.username ≠ [] ∨ b.password ≠ [] ∨ b.port ≠ none) := fun hc => (h4 hc).1 hh
    simp only [not_or, ne_eq, Classical.not_not] at hc
    obtain ⟨hu, hp, hpt⟩ := hc
    cases b
    simp_all
  · by_cases hf : b.scheme = lit "file"
    · have hc : ¬ (b.username ≠ [] ∨ b.password ≠ [] ∨ b.port ≠ none) := fun hc => (h4 hc).2.2 hf
      simp only [not_or, ne_eq, Classical.not_not] at hc
      obtain ⟨hu, hp, hpt⟩ := hc
      cases b
      simp_all [fileCopy]
    · cases b
      simp_all [relCopy]

/-- for a base with a list path and a scheme other than `file` no hypothesis is needed: everything but the fragment is copied -/
theorem copied_nonfile (b : Url) (ho : b.path.opq = false) (hf : b.scheme ≠ lit "file") :
    copied b = { b with fragment := none, verrs := [], qlog := [] } := by
  unfold copied
  rw [if_neg (by simp [ho] : ¬ b.path.opq = true), if_neg hf]
  rfl

/-- `Href(true)` does not see the difference between the base and what is inherited from it -/
theorem href_inherit (b : Url) (fr : Option Bytes) : href { inherit b with fragment := fr } true = href b true := rfl

/-- fragment-percent-encoding of a code point string (special or not: the two fragment sets are the same by default) -/
def encF (fr : Str) : Bytes := fr.flatMap (percentEncodeRune {} fragmentSet)

/-- query-percent-encoding; the set depends on whether the scheme is special -/
def encQ (scheme : Bytes) (q : Str) : Bytes := q.flatMap (percentEncodeRune {} (qSet scheme))

/-- the reference has a scheme: after the prologue it starts with an ASCII alpha followed by alnum / `+` / `-` / `.` and then `:` -/
def HasScheme (ref : Bytes) : Prop := hasSchemeR (goRunes (pro ref)) = true
instance (ref : Bytes) : Decidable (HasScheme ref) := by unfold HasScheme; infer_instance

/-- the first code point the machine sees -/
def firstAfterPrologue (ref : Bytes) : Option Char := (goRunes (pro ref)).head?

/-! ### the empty reference -/

/-- exact form, no hypothesis on the base beyond the list path -/
theorem C06_empty_ref_exact (I : Idna) (b : Url) (h : b.path.opq = false) :
    urlParse {} I b [] = ⟨copied b, .url⟩ := by
  apply urlParse_of_runs
  unfold envOf
  rw [pro_nil]
  have hg : goRunes [] = [] := rfl
  rw [hg]
  refine Runs.cont (step_schemeStart_na I [] [] b {} (by intro c rest h; cases h)) ?_
  refine Runs.cont (step_noScheme_rel I [] [] b [] {} h) ?_
  have hno : ¬ b.path.opq = true := by simp [h]
  unfold copied
  rw [if_neg hno]
  exact Runs.done (step_list_nil I [] b [] {})

/-- **Empty reference**: the result is the base without its fragment. For a file base the machine does not copy credentials
    and port (a structurally well-formed file url has none: see `C06_empty_ref_wfs`). -/
theorem C06_empty_ref (I : Idna) (b : Url) (h : b.path.opq = false)
    (hf : b.scheme = lit "file" → b.username = [] ∧ b.password = [] ∧ b.port = none ∧ b.decodedPort = 0) :
    (urlParse {} I b []).ret = .url ∧
    { (urlParse {} I b []).url with verrs := [], qlog := [] } = { b with fragment := none, verrs := [], qlog := [] } := by
  rw [C06_empty_ref_exact I b h]
  refine ⟨rfl, ?_⟩
  have hno : ¬ b.path.opq = true := by simp [h]
  unfold copied
  rw [if_neg hno]
  by_cases hs : b.scheme = lit "file"
  · obtain ⟨h1, h2, h3, h4⟩ := hf hs
    rw [if_pos hs]
    cases b
    simp_all [fileCopy]
  · rw [if_neg hs]
    cases b
    simp_all [relCopy]

/-- for a structurally well-formed base (every parsed url is: C04b) -/
theorem C06_empty_ref_wfs (I : Idna) (b : Url) (hw : WFs {} b) (h : b.path.opq = false) :
    urlParse {} I b [] = ⟨inherit b, .url⟩ ∧ href (urlParse {} I b []).url true = href b true := by
  rw [C06_empty_ref_exact I b h, copied_eq_inherit b hw]
  exact ⟨rfl, rfl⟩

/-- a reference of bytes ≤ 0x20 only behaves like the empty one -/
theorem C06_whitespace_ref (I : Idna) (b : Url) (ref : Bytes) (hws : ∀ x ∈ ref, x.toNat ≤ 0x20) :
    urlParse {} I b ref = urlParse {} I b [] := by
  have := WhatwgUrl.Props.C18.C18_whitespace {} I [] ref [] (some b) none rfl rfl hws (by intro x hx; cases hx)
  simpa [urlParse] using this

/-! ### fragment-only references -/

/-- exact form on the code points, any base -/
theorem C06_fragment_only_exact (I : Idna) (b : Url) (ref : Bytes) (fr : Str) (hrs : goRunes (pro ref) = '#' :: fr) :
    urlParse {} I b ref = ⟨{ copied b with fragment := some (encF fr) }, .url⟩ := by
  apply urlParse_of_runs
  unfold envOf
  rw [hrs]
  refine Runs.cont (step_schemeStart_na I _ _ b {} (by intro c rest h; cases h; decide)) ?_
  unfold copied encF
  by_cases ho : b.path.opq = true
  · rw [if_pos ho]
    refine Runs.cont (step_noScheme_opq_hash I _ fr b [] {} ho) ?_
    exact runs_fragment I _ _ b ['#'] fr 0 [] _ ⟨rfl, rfl, rfl⟩
  · rw [if_neg ho]
    refine Runs.cont (step_noScheme_rel I _ _ b [] {} (by simpa using ho)) ?_
    refine Runs.cont (step_list_hash I _ fr b [] {}) ?_
    exact runs_fragment I _ _ b ['#'] fr 0 [] _ ⟨rfl, rfl, rfl⟩

/-- **Fragment-only reference**, observable form, for ANY base (opaque path or not): the serialization without fragment is
    that of the base, and the fragment is the encoded reference -/
theorem C06_fragment_only (I : Idna) (b : Url) (hw : WFs {} b) (ref : Bytes) (fr : Str) (hrs : goRunes (pro ref) = '#' :: fr) :
    (urlParse {} I b ref).ret = .url ∧
    (urlParse {} I b ref).url = { inherit b with fragment := some (encF fr) } ∧
    href (urlParse {} I b ref).url true = href b true ∧
    (urlParse {} I b ref).url.fragment = some (encF fr) := by
  rw [C06_fragment_only_exact I b ref fr hrs, copied_eq_inherit b hw]
  exact ⟨rfl, rfl, rfl, rfl⟩

/-- the same on bytes: the reference `'#' :: f` -/
theorem C06_fragment_only_bytes (I : Idna) (b : Url) (hw : WFs {} b) (f : Bytes) :
    ∃ f', urlParse {} I b (0x23 :: f) = ⟨{ inherit b with fragment := some f' }, .url⟩ ∧
      f' = encF (goRunes (proTail f)) ∧ href (urlParse {} I b (0x23 :: f)).url true = href b true := by
  rw [C06_fragment_only_exact I b _ _ (runes_hash f), copied_eq_inherit b hw]
  exact ⟨_, rfl, rfl, rfl⟩

/-! ### query-only references -/

/-- exact form on the code points, list-path base, no `#` in the reference -/
theorem C06_query_only_exact (I : Idna) (b : Url) (ho : b.path.opq = false) (ref : Bytes) (q : Str)
    (hrs : goRunes (pro ref) = '?' :: q) (hq : '#' ∉ q) :
    urlParse {} I b ref = ⟨{ copied b with query := some (encQ b.scheme q) }, .url⟩ := by
  apply urlParse_of_runs
  unfold envOf
  rw [hrs]
  refine Runs.cont (step_schemeStart_na I _ _ b {} (by intro c rest h; cases h; decide)) ?_
  refine Runs.cont (step_noScheme_rel I _ _ b [] {} ho) ?_
  have hno : ¬ b.path.opq = true := by simp [ho]
  unfold copied encQ
  rw [if_neg hno]
  refine Runs.cont (step_list_qm I _ q b [] {}) ?_
  have := runs_query I (pro ref) ('?' :: q) b ['?'] q 0 [] { listCopy b {} with query := some [] } ⟨rfl, rfl, rfl⟩ hq
  rwa [show qSet ({ listCopy b {} with query := some [] } : Url).scheme = qSet b.scheme from
    congrArg qSet (listCopy_scheme b {})] at this

/-- **Query-only reference** (list-path base): scheme, credentials, host, port, path are those of the base, the query is the
    encoded reference, there is no fragment -/
theorem C06_query_only (I : Idna) (b : Url) (hw : WFs {} b) (ho : b.path.opq = false) (ref : Bytes) (q : Str)
    (hrs : goRunes (pro ref) = '?' :: q) (hq : '#' ∉ q) :
    (urlParse {} I b ref).ret = .url ∧
    (urlParse {} I b ref).url = { inherit b with query := some (encQ b.scheme q) } ∧
    ((urlParse {} I b ref).url.scheme = b.scheme ∧ (urlParse {} I b ref).url.username = b.username ∧
     (urlParse {} I b ref).url.password = b.password ∧ (urlParse {} I b ref).url.host = b.host ∧
     (urlParse {} I b ref).url.port = b.port ∧ (urlParse {} I b ref).url.path = b.path ∧
     (urlParse {} I b ref).url.query = some (encQ b.scheme q) ∧ (urlParse {} I b ref).url.fragment = none) := by
  rw [C06_query_only_exact I b ho ref q hrs hq, copied_eq_inherit b hw]
  exact ⟨rfl, rfl, rfl, rfl, rfl, rfl, rfl, rfl, rfl, rfl⟩

/-- the same on bytes: the reference `'?' :: q` where `q` contains no `#` byte -/
theorem C06_query_only_bytes (I : Idna) (b : Url) (hw : WFs {} b) (ho : b.path.opq = false) (q : Bytes)
    (hq : (0x23 : UInt8) ∉ q) :
    urlParse {} I b (0x3f :: q) = ⟨{ inherit b with query := some (encQ b.scheme (goRunes (proTail q))) }, .url⟩ := by
  rw [C06_query_only_exact I b ho _ _ (runes_qm q) (no_hash_runes q hq), copied_eq_inherit b hw]

/-! ### an opaque-path base accepts only `#` references -/

/-- **Opaque-path base**: a scheme-less reference that does not start with `#` fails -/
theorem C06_opaque_base_only_fragment (I : Idna) (b : Url) (ref : Bytes) (ho : b.path.opq = true) (hs : ¬ HasScheme ref)
    (hf : firstAfterPrologue ref ≠ some '#') : ∃ e w, (urlParse {} I b ref).ret = .err e w := by
  refine ⟨⟨.MissingSchemeNonRelativeURL, true⟩, false, ?_⟩
  have : urlParse {} I b ref = ⟨{}, .err ⟨.MissingSchemeNonRelativeURL, true⟩ false⟩ := by
    apply urlParse_of_runs
    unfold envOf
    apply runs_no_scheme I _ _ b {} _ (by simpa [HasScheme] using hs)
    exact Runs.done (step_noScheme_opq_fail I _ _ b [] {} ho hf)
  rw [this]

/-- against an opaque-path base the empty reference fails -/
theorem C06_empty_ref_opaque (I : Idna) (b : Url) (h : b.path.opq = true) :
    ∃ e w, (urlParse {} I b []).ret = .err e w :=
  C06_opaque_base_only_fragment I b [] h (by decide) (by decide)

/-! ### a reference without a scheme never changes the scheme -/

/-- **Scheme inheritance**: a reference without a scheme, if it resolves, resolves to a url with the scheme of the base -/
theorem C06_no_scheme_inherits (I : Idna) (b : Url) (ref : Bytes) (h : ¬ HasScheme ref) :
    (urlParse {} I b ref).ret = .url → (urlParse {} I b ref).url.scheme = b.scheme := by
  -- a scheme-less reference is resolved from the no-scheme state with the cursor back at the start and a blank url
  obtain ⟨r, hr, _⟩ := Runs.exists (envOf I b ref) (P .noScheme (-1) [] {}) (WhatwgUrl.Proofs.Run.Cur.start rfl rfl).inv
  rw [← urlParse_of_runs (runs_no_scheme I _ _ b {} _ (by simpa [HasScheme] using h) hr)] at hr
  exact runs_si b rfl rfl hr (by simp [SInv, P])

/-! ### absolute references ignore the base -/

/-- the scheme of the reference (lower-cased) and the code points after its `:` -/
def schemeAndRest (ref : Bytes) : Option (Bytes × Str) := splitScheme (goRunes (pro ref))

/-- `schemeAndRest` is defined exactly on the references that have a scheme -/
theorem schemeAndRest_isSome (ref : Bytes) : (schemeAndRest ref).isSome = true ↔ HasScheme ref := by
  unfold schemeAndRest HasScheme
  rw [splitScheme_isSome]

/-- the script of the two base-independence theorems (`C06_absolute_ignores_base` below, `C06c_absolute_ignores_base` in
    `Props/C06c.lean`): the bases are optional and `file` is allowed -/
theorem absolute_ignores_base (I : Idna) (o₁ o₂ : Option Url) (ref : Bytes) (sch : Bytes) (after : Str)
    (hs : schemeAndRest ref = some (sch, after))
    (hc : ({} : Cfg).isSpecial sch = false ∨ ['/', '/'].isPrefixOf after = true) :
    basicParser {} I ref o₁ none none = basicParser {} I ref o₂ none none :=
  basicParser_self_indep I ref (selfIndep_of_split hs hc) o₁ o₂

set_option linter.unusedVariables false in
/-- **Absolute references ignore the base**: a reference with a scheme other than `file` that is not special, or is followed
    by `//`, resolves to the same result against any two bases. (A special scheme not followed by `//` is resolved
    relative to a base with the same scheme. `hnf` is not needed, see `C06c_absolute_ignores_base`; only `file:` NOT
    followed by `//` reads the base.) -/
theorem C06_absolute_ignores_base (I : Idna) (b₁ b₂ : Url) (ref : Bytes) (sch : Bytes) (after : Str)
    (hs : schemeAndRest ref = some (sch, after)) (hnf : sch ≠ lit "file")
    (hc : ({} : Cfg).isSpecial sch = false ∨ ['/', '/'].isPrefixOf after = true) :
    urlParse {} I b₁ ref = urlParse {} I b₂ ref :=
  absolute_ignores_base I (some b₁) (some b₂) ref sch after hs hc

/-! ### non-vacuity: concrete bases and references (identity IDNA oracle) -/

/-- non-special scheme, list path -/
def bSc : Url := (parse {} I0 (lit "sc://u:pw@h:8/p/r?q#f")).url
/-- special scheme (IPv6 host: see the remark on `decodePercent` in `Props/C02.lean`) -/
def bHttp : Url := (parse {} I0 (lit "http://[::1]:8/a/b?q#f")).url
/-- file base -/
def bFile : Url := (parse {} I0 (lit "file:///d/e?q#f")).url
/-- opaque-path base -/
def bOpq : Url := (parse {} I0 (lit "sc:opaque?q#f")).url

-- the bases are what they are meant to be, and satisfy the hypotheses used above
example : href bSc false = lit "sc://u:pw@h:8/p/r?q#f" ∧ bSc.path.opq = false ∧ WFs {} bSc ∧ bSc.scheme ≠ lit "file" := by decide +kernel
example : href bHttp false = lit "http://[::1]:8/a/b?q#f" ∧ bHttp.path.opq = false ∧ WFs {} bHttp := by decide +kernel
example : href bFile false = lit "file:///d/e?q#f" ∧ bFile.path.opq = false ∧ WFs {} bFile ∧
    (bFile.scheme = lit "file" → bFile.username = [] ∧ bFile.password = [] ∧ bFile.port = none ∧ bFile.decodedPort = 0) := by
  decide +kernel
example : href bOpq false = lit "sc:opaque?q#f" ∧ bOpq.path.opq = true ∧ WFs {} bOpq := by decide +kernel

-- empty reference
example : href (urlParse {} I0 bSc []).url false = lit "sc://u:pw@h:8/p/r?q" := by decide +kernel
example : href (urlParse {} I0 bFile []).url false = lit "file:///d/e?q" := by decide +kernel
example : ∀ x ∈ lit " \t\n ", x.toNat ≤ 0x20 := by decide
example : (urlParse {} I0 bOpq []).ret = .err ⟨.MissingSchemeNonRelativeURL, true⟩ false := by decide +kernel
/-- the hypothesis on file bases in `C06_empty_ref` is needed: a (not well-formed) file url value with a username -/
example : (urlParse {} I0 { bFile with username := lit "u" } []).url.username = [] := by decide +kernel

/-- the law without the side condition on file bases … -/
def C06_empty_ref_Statement : Prop :=
  ∀ (I : Idna) (b : Url), b.path.opq = false →
    (urlParse {} I b []).ret = .url ∧
    { (urlParse {} I b []).url with verrs := [], qlog := [] } = { b with fragment := none, verrs := [], qlog := [] }

/-- … is false on url VALUES that no parse produces (a file url with a username: the file state does not copy credentials);
    it holds for every structurally well-formed base up to the port cache (`C06_empty_ref_wfs`) -/
theorem C06_empty_ref_Statement_false : ¬ C06_empty_ref_Statement := by
  intro h
  have := (h I0 { bFile with username := lit "u" } (by decide +kernel)).2
  have := congrArg Url.username this
  revert this
  decide +kernel

-- fragment-only reference (leading / trailing space and an embedded tab are invisible, the inner space is encoded)
example : goRunes (pro (lit " #x\t y<  ")) = '#' :: ['x', ' ', 'y', '<'] := by decide +kernel
example : encF ['x', ' ', 'y', '<'] = lit "x%20y%3C" := by decide +kernel
example : href (urlParse {} I0 bSc (lit " #x\t y<  ")).url false = lit "sc://u:pw@h:8/p/r?q#x%20y%3C" := by decide +kernel
example : href (urlParse {} I0 bOpq (lit "#x")).url false = lit "sc:opaque?q#x" := by decide +kernel
example : href (urlParse {} I0 bFile (lit "#x")).url false = lit "file:///d/e?q#x" := by decide +kernel
example : proTail (lit "x\t y<  ") = lit "x y<" := by decide +kernel
example : (0x23 : UInt8) ∉ lit "a'b c" := by decide

-- query-only reference (the special-query set encodes `'`, the plain one does not)
example : goRunes (pro (lit "?a'b c")) = '?' :: ['a', '\'', 'b', ' ', 'c'] ∧ '#' ∉ ['a', '\'', 'b', ' ', 'c'] := by decide +kernel
example : href (urlParse {} I0 bSc (lit "?a'b c")).url false = lit "sc://u:pw@h:8/p/r?a'b%20c" := by decide +kernel
example : href (urlParse {} I0 bHttp (lit "?a'b c")).url false = lit "http://[::1]:8/a/b?a%27b%20c" := by decide +kernel
example : href (urlParse {} I0 bFile (lit "?a'b c")).url false = lit "file:///d/e?a%27b%20c" := by decide +kernel

-- opaque-path base
example : ¬ HasScheme (lit "x/y") ∧ firstAfterPrologue (lit "x/y") ≠ some '#' := by decide +kernel
-- two different references: the first conjunct is hypothesis `hs` of `C06_opaque_base_only_fragment` on a reference whose
-- `:` comes after a `/`; the second is its hypothesis `hf` at the empty reference, as `C06_empty_ref_opaque` uses it
example : ¬ HasScheme (lit "a+b/c:d") ∧ firstAfterPrologue (lit "") ≠ some '#' := by decide +kernel
example : (urlParse {} I0 bOpq (lit "x/y")).ret = .err ⟨.MissingSchemeNonRelativeURL, true⟩ false := by decide +kernel

-- scheme inheritance: the hypothesis and the premise of the conclusion are satisfiable
example : ¬ HasScheme (lit "../x:y?z") ∧ (urlParse {} I0 bSc (lit "../x:y?z")).ret = .url ∧
    href (urlParse {} I0 bSc (lit "../x:y?z")).url false = lit "sc://u:pw@h:8/x:y?z" := by decide +kernel
example : ¬ HasScheme (lit "//[::2]/x") ∧ (urlParse {} I0 bHttp (lit "//[::2]/x")).ret = .url ∧
    href (urlParse {} I0 bHttp (lit "//[::2]/x")).url false = lit "http://[::2]/x" := by decide +kernel
example : ¬ HasScheme (lit "g") ∧ href (urlParse {} I0 bFile (lit "g")).url false = lit "file:///d/g" := by decide +kernel
/-- with a scheme the conclusion fails, so the hypothesis is needed -/
example : HasScheme (lit "x:y") ∧ (urlParse {} I0 bSc (lit "x:y")).url.scheme ≠ bSc.scheme := by decide +kernel

-- absolute references
example : schemeAndRest (lit "HTTP://[::3]/p") = some (lit "http", ['/', '/', '[', ':', ':', '3', ']', '/', 'p']) := by decide +kernel
example : schemeAndRest (lit "x:y/z") = some (lit "x", ['y', '/', 'z']) ∧ ({} : Cfg).isSpecial (lit "x") = false := by decide +kernel
example : href (urlParse {} I0 bHttp (lit "HTTP://[::3]/p")).url false = lit "http://[::3]/p" ∧
    urlParse {} I0 bHttp (lit "HTTP://[::3]/p") = urlParse {} I0 bSc (lit "HTTP://[::3]/p") := by decide +kernel
/-- the `//` is needed for special schemes: `http:x` is relative to an http base … -/
example : schemeAndRest (lit "http:x") = some (lit "http", ['x']) ∧
    href (urlParse {} I0 bHttp (lit "http:x")).url false = lit "http://[::1]:8/a/x" := by decide +kernel
/-- … and `file:x` (no `//`) reads the base -/
example : href (urlParse {} I0 bFile (lit "file:x")).url false = lit "file:///d/x" ∧
    href (urlParse {} I0 bSc (lit "file:x")).url false = lit "file:///x" := by decide +kernel

end WhatwgUrl.Props.C06b

#print axioms WhatwgUrl.Props.C06b.C06_empty_ref
#print axioms WhatwgUrl.Props.C06b.C06_empty_ref_Statement_false
#print axioms WhatwgUrl.Props.C06b.C06_empty_ref_exact
#print axioms WhatwgUrl.Props.C06b.C06_empty_ref_wfs
#print axioms WhatwgUrl.Props.C06b.C06_whitespace_ref
#print axioms WhatwgUrl.Props.C06b.C06_empty_ref_opaque
#print axioms WhatwgUrl.Props.C06b.C06_fragment_only_exact
#print axioms WhatwgUrl.Props.C06b.C06_fragment_only
#print axioms WhatwgUrl.Props.C06b.C06_fragment_only_bytes
#print axioms WhatwgUrl.Props.C06b.C06_query_only_exact
#print axioms WhatwgUrl.Props.C06b.C06_query_only
#print axioms WhatwgUrl.Props.C06b.C06_query_only_bytes
#print axioms WhatwgUrl.Props.C06b.C06_opaque_base_only_fragment
#print axioms WhatwgUrl.Props.C06b.C06_no_scheme_inherits
#print axioms WhatwgUrl.Props.C06b.C06_absolute_ignores_base
