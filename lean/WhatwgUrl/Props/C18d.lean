import WhatwgUrl.Proofs.PipelineFrag
import WhatwgUrl.Proofs.PipelineWeb
import WhatwgUrl.Proofs.IdemMachine
import WhatwgUrl.Proofs.SpEval
import WhatwgUrl.Props.C17b
/-
  C18d — the repeated-decoding pipeline maps equivalent spellings to the same string.

  HALF A (`C18d_canonicalize_congr`): for a profile with repeated percent-decoding (any parser options for which
  `HostOk p.cfg I` holds, see below; any other profile options), `canonicalize` is a congruence for "same record up to
  the spelling of path, query and fragment":
  two records that agree on scheme, user name, password, host, port and decoded port (`Agree`), whose list paths have the
  same canonical text (`PathEq`), whose queries parse to lists with pairwise the same canonical names and values
  (`QueryEq`) and whose fragments have the same canonical text (`FragEq`) end — as freshly allocated heap objects, the way
  `(*profile).Parse` creates them — with the SAME canonical text.  Ingredients: the setters depend on the record only
  through the fields they do not overwrite (`C18d_setHostname_congr`, `C18d_setPathname_congr`, `C18d_setHash_congr`:
  lock-step runs of the state machine, `Proofs/PipelineRel*.lean`); `canonicalize` on a heap object is a value-level
  pipeline on (record, own list) (`Proofs/PipelineHeap.lean`).
  The only hypothesis about the parser options is `HostOk p.cfg I`: whether the host parser succeeds, and with which
  host, does not depend on the record it is handed.  It HOLDS for every configuration whose `preHost` / `postHost` hooks
  read the record only through the fields the two records share (`HooksOk`, `C18d_hostOk_of_hooks`; in particular for
  every configuration without hooks and for hooks that ignore the record, as those of the GoogleSafeBrowsing and
  Semantic profiles do) and every oracle; it FAILS for a hook that looks at the path (`cfgHook` below: the hooks of
  the model are arbitrary functions of the record).
  For a profile that also removes fragments the two fragments may be arbitrary (`C18d_canonicalize_congr_rf`).

  HALF B (`C18d_parse_render`, `C18d_parse_related`): default parser options — the instances at `{}` of the theorems for a
  variable configuration in `Proofs/PipelineWeb.lean`.  Declared under the namespace `Props.C18d` in `Proofs` modules:
  `render`, `WebText`, `SameWeb`, `OptRel` in `Proofs/PipelineWeb.lean`; `canonOut`, `canonText_canonAfter`,
  `canonText_canonParse` in `Proofs/CanonText.lean` (with `Props.C17b.canonText`); `canonAfter` in `Proofs/HeapInv.lean`.
  An ordinary web url
  `scheme://host/seg/…/seg?n=v&…#frag` (special scheme other than `file`, a host text, at least one segment; every
  segment / name / value / fragment a `Spelled` form of a non-empty text over the unreserved characters, segments not
  `.` / `..`) parses — unless the host parser rejects the host text — to the record with exactly these segments, this
  query and this fragment; two spellings of the same plain url give records related as Half A requires.
  `SameWeb` relates two fragments only if both are absent or both spell the same NON-EMPTY text: `…/a#` against `…/a` is
  outside the text-level theorems (for a profile that removes fragments the record-level `C18d_canonicalize_congr_rf` covers it).

  CAPSTONE (`C18d_spellings_same_canonical`): `(*profile).Parse` of two such spellings returns the same canonical text
  (or fails for both: only when the host parser rejects the host text — then both fail identically, and the retry with
  the default scheme is not triggered because the host parser never reports the missing-scheme error,
  `Pipeline.parseHost_et`, `Proofs/HostWF.lean`), for every profile with repeated decoding and default parser options — any
  combination of remove-port / remove-user-info / remove-fragment / query sorting / default scheme.
  Helper files: `Proofs/Pipeline{Rel,RelStates,Heap,Congr,Frag,Host,Parse,Spelled,Web}.lean`, `Proofs/CanonText.lean`.  Of
  `PipelineParse` only the definitions `hostU`, `webRes` are used: Half B goes through `Web.parse_render_c`
  (`Proofs/PipelineWeb.lean`), which rests on `Web.parse_web_c` (`Proofs/WebParse.lean`); no theorem here calls `parse_web`.
-/
namespace WhatwgUrl.Props.C18d
open WhatwgUrl WhatwgUrl.Impl WhatwgUrl.Proofs.Pipeline
open WhatwgUrl.Props.C17b (canonText)
open WhatwgUrl.Props.C18 (Spelled nest esc1)
open WhatwgUrl.Proofs.RoundTrip (pathText qTail fTail)
open WhatwgUrl.Proofs.Spelling (hostText)
open WhatwgUrl.Proofs.Sim (I0)
open WhatwgUrl.Proofs.Idem (spelled_refl)
open WhatwgUrl.Proofs.Web (webCfg_default parse_render_c parse_related_hosts same_canonical_of_out queryEq_of_pairs_c)

/-! ### Half A: the setters -/

/-- agreement on the fields that are not spelled: scheme, user name, password, host, port, decoded port -/
abbrev Agree (u₁ u₂ : Url) : Prop := Ag false false false u₁ u₂

/-- **the pathname setter** on two records with list paths that agree outside path / query / fragment: the results agree in
    addition on the path; the return values are equal or both errors -/
theorem C18d_setPathname_congr (cfg : Cfg) (I : Idna) (u₁ u₂ : Url) (v : Bytes) (hu : Agree u₁ u₂)
    (h₁ : u₁.path.opq = false) (h₂ : u₂.path.opq = false) :
    Ag true false false (setU cfg I .pathname u₁ v).url (setU cfg I .pathname u₂ v).url ∧
    RetAg (setU cfg I .pathname u₁ v).ret (setU cfg I .pathname u₂ v).ret ∧
    (setU cfg I .pathname u₁ v).url.query = u₁.query ∧ (setU cfg I .pathname u₁ v).url.fragment = u₁.fragment :=
  have h := setPathname_congr cfg I false false false u₁ u₂ v hu h₁ h₂
  ⟨h.1, h.2, Proofs.Frame.setU_query _ _ _ _ _ (by decide), Proofs.Frame.setU_fragment _ _ _ _ _ (by decide)⟩

/-- **the hash setter** on two records that agree outside the fragment: the results agree everywhere -/
theorem C18d_setHash_congr (cfg : Cfg) (I : Idna) (u₁ u₂ : Url) (v : Bytes) (hu : Ag true true false u₁ u₂) :
    Ag true true true (setU cfg I .hash u₁ v).url (setU cfg I .hash u₂ v).url ∧
    RetAg (setU cfg I .hash u₁ v).ret (setU cfg I .hash u₂ v).ret :=
  setHash_congr cfg I false u₁ u₂ v hu

/-- **the hostname setter**: given that the outcome of the host parser does not depend on the record -/
theorem C18d_setHostname_congr (cfg : Cfg) (I : Idna) (hH : HostOk cfg I) (u₁ u₂ : Url) (v : Bytes) (hu : Agree u₁ u₂)
    (ho : u₁.path.opq = u₂.path.opq) :
    Agree (setU cfg I .hostname u₁ v).url (setU cfg I .hostname u₂ v).url ∧
    RetAg (setU cfg I .hostname u₁ v).ret (setU cfg I .hostname u₂ v).ret ∧
    (setU cfg I .hostname u₁ v).url.path = u₁.path ∧ (setU cfg I .hostname u₁ v).url.query = u₁.query ∧
    (setU cfg I .hostname u₁ v).url.fragment = u₁.fragment :=
  have h := setHostname_congr cfg I hH false false false u₁ u₂ v hu ho
  ⟨h.1, h.2, Proofs.Frame.setU_path _ _ _ _ _ (by decide), Proofs.Frame.setU_query _ _ _ _ _ (by decide),
    Proofs.Frame.setU_fragment _ _ _ _ _ (by decide)⟩

/-- the hypothesis about the host parser holds for the default parser options, whatever the oracle -/
theorem C18d_hostOk_default (I : Idna) : HostOk {} I := hostOk_of_hooks {} I (hooksOk_none {} rfl rfl)

/-- … and for EVERY configuration whose host hooks read the record only through scheme, user name, password, host, port and
    decoded port (`Proofs/PipelineHost.lean`: the host parser commutes with overwriting path / query / fragment and
    with prepending to the diagnostic lists) -/
theorem C18d_hostOk_of_hooks (cfg : Cfg) (I : Idna) (h : HooksOk cfg) : HostOk cfg I := hostOk_of_hooks cfg I h

/-- in particular without hooks: any combination of the other parser options -/
theorem C18d_hostOk_no_hooks (cfg : Cfg) (I : Idna) (h1 : cfg.preHost = none) (h2 : cfg.postHost = none) : HostOk cfg I :=
  hostOk_of_hooks cfg I (hooksOk_none cfg h1 h2)

/-- a configuration in the style of the GoogleSafeBrowsing profile: lax host parsing, collapsing, accept invalid code
    points, `%` → `%25`, skip `=`, the lax query set, and a `preHost` hook that ignores the record -/
def cfgGsbLike : Cfg :=
  { laxHost := true, collapse := true, acceptInvalid := true, pctSingle := true, skipEquals := true,
    querySet := laxQuerySet, preHost := some (fun _ h => trimLeftByte 0x2e h) }
example : HooksOk cfgGsbLike :=
  ⟨fun f hf a b h _ => (by cases hf; rfl), fun f hf => (by cases hf)⟩

example : Agree { scheme := lit "http", host := some (lit "h"), path := ⟨[lit "%41"], false⟩, query := some (lit "x") }
    { scheme := lit "http", host := some (lit "h"), path := ⟨[lit "A"], false⟩, fragment := some (lit "y") } :=
  ⟨rfl, rfl, rfl, rfl, rfl, rfl, Bool.noConfusion, Bool.noConfusion, Bool.noConfusion⟩

/-! ### Half A: from the heap to values -/

/-- **Half A.**  `canonicalize` is a congruence for the spelling of path, query and fragment: the objects `(*profile).Parse`
    creates from two parse results that returned the records `u₁`, `u₂` (any two heaps) end with the same canonical text. -/
theorem C18d_canonicalize_congr (I : Idna) (p : Profile) (hp : p.repeatedPercentDecoding = true) (hH : HostOk p.cfg I)
    (H₁ H₂ : Heap) (u₁ u₂ : Url)
    (hA : Agree u₁ u₂) (hP : PathEq u₁.path u₂.path) (hQ : QueryEq p.cfg u₁.query u₂.query)
    (hF : FragEq u₁.fragment u₂.fragment) :
    canonText (canonAfter I p H₁ ⟨u₁, .url⟩) = canonText (canonAfter I p H₂ ⟨u₂, .url⟩) := by
  rw [canonText_canonAfter, canonText_canonAfter]
  exact canonOut_congr I p hp hH u₁ u₂ hA hP hQ hF

/-- **Half A for a profile that removes fragments**: no hypothesis on the two fragments (the hash setter of step 4 changes
    nothing but the fragment and never panics, `Proofs/PipelineFrag.lean`; step 7 then drops the fragment) -/
theorem C18d_canonicalize_congr_rf (I : Idna) (p : Profile) (hp : p.repeatedPercentDecoding = true)
    (hrf : p.removeFragment = true) (hH : HostOk p.cfg I) (H₁ H₂ : Heap) (u₁ u₂ : Url)
    (hA : Agree u₁ u₂) (hP : PathEq u₁.path u₂.path) (hQ : QueryEq p.cfg u₁.query u₂.query) :
    canonText (canonAfter I p H₁ ⟨u₁, .url⟩) = canonText (canonAfter I p H₂ ⟨u₂, .url⟩) := by
  rw [canonText_canonAfter, canonText_canonAfter]
  exact canonOut_of_rel I p u₁ u₂ (canonV_congr_rf I p hp hrf hH ⟨u₁, none⟩ ⟨u₂, none⟩ ⟨hA, hP, hQ, trivial, rfl, rfl⟩)

/-- … in terms of `canonicalize` itself, on the freshly allocated objects -/
theorem C18d_canonicalize_congr' (I : Idna) (p : Profile) (hp : p.repeatedPercentDecoding = true) (hH : HostOk p.cfg I)
    (H₁ H₂ : Heap) (u₁ u₂ : Url)
    (hA : Agree u₁ u₂) (hP : PathEq u₁.path u₂.path) (hQ : QueryEq p.cfg u₁.query u₂.query)
    (hF : FragEq u₁.fragment u₂.fragment) :
    let A₁ := H₁.allocUrl ⟨u₁, none, p.cfg⟩
    let A₂ := H₂.allocUrl ⟨u₂, none, p.cfg⟩
    canonText ((canonicalize I p A₁.1 A₁.2).1, some A₁.2, (canonicalize I p A₁.1 A₁.2).2) =
      canonText ((canonicalize I p A₂.1 A₂.2).1, some A₂.2, (canonicalize I p A₂.1 A₂.2).2) :=
  C18d_canonicalize_congr I p hp hH H₁ H₂ u₁ u₂ hA hP hQ hF

/-- Half A for every parser configuration whose hooks do not read the spelled fields (any other options) -/
theorem C18d_canonicalize_congr_hooks (I : Idna) (p : Profile) (hp : p.repeatedPercentDecoding = true) (hk : HooksOk p.cfg)
    (H₁ H₂ : Heap) (u₁ u₂ : Url)
    (hA : Agree u₁ u₂) (hP : PathEq u₁.path u₂.path) (hQ : QueryEq p.cfg u₁.query u₂.query)
    (hF : FragEq u₁.fragment u₂.fragment) :
    canonText (canonAfter I p H₁ ⟨u₁, .url⟩) = canonText (canonAfter I p H₂ ⟨u₂, .url⟩) :=
  C18d_canonicalize_congr I p hp (hostOk_of_hooks p.cfg I hk) H₁ H₂ u₁ u₂ hA hP hQ hF

/-- the path alone: same query, same fragment -/
theorem C18d_canonicalize_congr_path (I : Idna) (p : Profile) (hp : p.repeatedPercentDecoding = true) (hH : HostOk p.cfg I)
    (H₁ H₂ : Heap) (u₁ u₂ : Url) (hA : Agree u₁ u₂) (hP : PathEq u₁.path u₂.path) (hq : u₁.query = u₂.query)
    (hf : u₁.fragment = u₂.fragment) :
    canonText (canonAfter I p H₁ ⟨u₁, .url⟩) = canonText (canonAfter I p H₂ ⟨u₂, .url⟩) :=
  C18d_canonicalize_congr I p hp hH H₁ H₂ u₁ u₂ hA hP (Or.inl hq) (Or.inl hf)

/-! ### Half A in terms of `Spelled` -/

/-- a pair of the parsed query lists: name and value are spellings of the same plain texts -/
def PairSpelled (x y : Bytes × Bytes) : Prop :=
  (∃ pl, Spelled pl x.1 ∧ Spelled pl y.1 ∧ canonDecode pl = pl) ∧ (∃ pl, Spelled pl x.2 ∧ Spelled pl y.2 ∧ canonDecode pl = pl)

/-- `QueryEq` from the two parsed lists: they have equal length and pairwise the same canonical names and values -/
theorem queryEq_of_all2 (cfg : Cfg) (a b : Bytes) (ha : a ≠ []) (hb : b ≠ [])
    (h : All2 (fun x y => decodeEncode repeatedQuerySet x.1 = decodeEncode repeatedQuerySet y.1 ∧
      decodeEncode repeatedQuerySet x.2 = decodeEncode repeatedQuerySet y.2) (spInit cfg a) (spInit cfg b)) :
    QueryEq cfg (some a) (some b) := by
  refine Or.inr ⟨a, b, rfl, rfl, ha, hb, ?_⟩
  generalize spInit cfg a = l₁ at h
  generalize spInit cfg b = l₂ at h
  induction h with
  | nil => rfl
  | cons hxy _ ih =>
    rw [List.map_cons, List.map_cons, ih]
    congr 1
    simp only [dq]
    rw [hxy.1, hxy.2]

/-- **Half A with `Spelled`** (corollary): the two path texts, the two fragments and — pair by pair — the names and values of
    the two parsed query lists are spellings of the same texts (texts without decodable escape) -/
theorem C18d_canonicalize_congr_spelled (I : Idna) (p : Profile) (hp : p.repeatedPercentDecoding = true) (hH : HostOk p.cfg I)
    (H₁ H₂ : Heap) (u₁ u₂ : Url) (hA : Agree u₁ u₂)
    (ho₁ : u₁.path.opq = false) (ho₂ : u₂.path.opq = false)
    (pp : Bytes) (hp₁ : Spelled pp (pathname u₁)) (hp₂ : Spelled pp (pathname u₂)) (hpf : canonDecode pp = pp)
    (q₁ q₂ : Bytes) (hq₁ : u₁.query = some q₁) (hq₂ : u₂.query = some q₂) (hqn₁ : q₁ ≠ []) (hqn₂ : q₂ ≠ [])
    (hq : All2 PairSpelled (spInit p.cfg q₁) (spInit p.cfg q₂))
    (fp f₁ f₂ : Bytes) (hf₁ : u₁.fragment = some f₁) (hf₂ : u₂.fragment = some f₂) (hfn : fp ≠ [])
    (hs₁ : Spelled fp f₁) (hs₂ : Spelled fp f₂) (hff : canonDecode fp = fp) :
    canonText (canonAfter I p H₁ ⟨u₁, .url⟩) = canonText (canonAfter I p H₂ ⟨u₂, .url⟩) := by
  apply C18d_canonicalize_congr I p hp hH H₁ H₂ u₁ u₂ hA ⟨ho₁, ho₂, C18.C18_spellings_agree laxPathSet pp _ _ hp₁ hp₂ hpf⟩
  · rw [hq₁, hq₂]
    exact queryEq_of_all2 p.cfg q₁ q₂ hqn₁ hqn₂ (hq.imp fun ⟨⟨p1, a1, b1, c1⟩, ⟨p2, a2, b2, c2⟩⟩ =>
      ⟨C18.C18_spellings_agree _ p1 _ _ a1 b1 c1, C18.C18_spellings_agree _ p2 _ _ a2 b2 c2⟩)
  · rw [hf₁, hf₂]
    exact Or.inr ⟨f₁, f₂, rfl, rfl, spelled_ne_nil hs₁ hfn, spelled_ne_nil hs₂ hfn, C18.C18_spellings_agree hostSet fp _ _ hs₁ hs₂ hff⟩

/-! ### Half B: the parser on an ordinary web url (default parser options) -/

/-- **Half B, one input**: the parse result is the host parser's failure, or the record with exactly these segments, this
    query text and this fragment (`webRes`, `Proofs/PipelineParse.lean`) -/
theorem C18d_parse_render (I : Idna) (s dp a : Bytes) (hsd : Cfg.special? {} s = some dp) (hdp : dp ≠ []) (ha : hostText a = true)
    (segs : List Bytes) (q : Option (List (Bytes × Bytes))) (f : Option Bytes) (hw : WebText segs q f) :
    parse {} I (render (s ++ lit "://" ++ a) segs q f) = webRes I s a segs (q.map qText) f :=
  parse_render_c {} webCfg_default.toWebParseCfg I s dp a hsd hdp ha segs q f hw

/-- **Half B, two inputs**: when the host text is a valid host, both parses succeed and the two records are related as Half A
    requires: they agree outside path / query / fragment, and `PathEq`, `QueryEq`, `FragEq` hold -/
theorem C18d_parse_related (I : Idna) (s dp a h : Bytes) (hsd : Cfg.special? {} s = some dp) (hdp : dp ≠ []) (ha : hostText a = true)
    (hout : (parseHost {} I (hostU s) a false).out = .ok h)
    (segs₁ segs₂ : List Bytes) (q₁ q₂ : Option (List (Bytes × Bytes))) (f₁ f₂ : Option Bytes)
    (hw : SameWeb segs₁ segs₂ q₁ q₂ f₁ f₂) :
    ∃ u₁ u₂, parse {} I (render (s ++ lit "://" ++ a) segs₁ q₁ f₁) = ⟨u₁, .url⟩ ∧
      parse {} I (render (s ++ lit "://" ++ a) segs₂ q₂ f₂) = ⟨u₂, .url⟩ ∧
      Agree u₁ u₂ ∧ PathEq u₁.path u₂.path ∧ QueryEq {} u₁.query u₂.query ∧ FragEq u₁.fragment u₂.fragment ∧
      u₁.path = ⟨segs₁, false⟩ ∧ u₂.path = ⟨segs₂, false⟩ ∧ u₁.query = q₁.map qText ∧ u₂.query = q₂.map qText ∧
      u₁.fragment = f₁ ∧ u₂.fragment = f₂ :=
  parse_related_hosts {} webCfg_default I s dp a a h hsd hdp ha ha hout hout segs₁ segs₂ q₁ q₂ f₁ f₂ hw

/-! ### the capstone -/

/-- **C18d.**  For every profile with repeated percent-decoding and default parser options (any combination of remove-port,
    remove-user-info, remove-fragment, query sorting, default scheme), `(*profile).Parse` of two spellings of the same
    ordinary web url — on any two heaps — returns the same canonical text.  (If the host parser rejects the host text, both
    calls fail in the same way and there is no text for either; the retry with the default scheme is not triggered,
    `parseHost_et`.) -/
theorem C18d_spellings_same_canonical (I : Idna) (p : Profile) (hp : p.repeatedPercentDecoding = true) (hcfg : p.cfg = {})
    (H₁ H₂ : Heap) (s dp a : Bytes) (hsd : Cfg.special? {} s = some dp) (hdp : dp ≠ []) (ha : hostText a = true)
    (segs₁ segs₂ : List Bytes) (q₁ q₂ : Option (List (Bytes × Bytes))) (f₁ f₂ : Option Bytes)
    (hw : SameWeb segs₁ segs₂ q₁ q₂ f₁ f₂) :
    canonText (canonParse I p H₁ (render (s ++ lit "://" ++ a) segs₁ q₁ f₁)) =
      canonText (canonParse I p H₂ (render (s ++ lit "://" ++ a) segs₂ q₂ f₂)) :=
  same_canonical_of_out I p hp (hcfg ▸ webCfg_default) (hooksOk_none p.cfg (hcfg ▸ rfl) (hcfg ▸ rfl)) H₁ H₂ s dp a a
    (hcfg ▸ hsd) hdp ha ha rfl segs₁ segs₂ q₁ q₂ f₁ f₂ hw

/-- … and when the host text is a valid host, both parses succeed (that `canonicalize` then does not panic:
    `Props/C02c.lean`) -/
theorem C18d_both_parse (I : Idna) (s dp a h : Bytes) (hsd : Cfg.special? {} s = some dp) (hdp : dp ≠ []) (ha : hostText a = true)
    (hout : (parseHost {} I (hostU s) a false).out = .ok h)
    (segs₁ segs₂ : List Bytes) (q₁ q₂ : Option (List (Bytes × Bytes))) (f₁ f₂ : Option Bytes)
    (hw : SameWeb segs₁ segs₂ q₁ q₂ f₁ f₂) :
    (parse {} I (render (s ++ lit "://" ++ a) segs₁ q₁ f₁)).ret = .url ∧
    (parse {} I (render (s ++ lit "://" ++ a) segs₂ q₂ f₂)).ret = .url := by
  obtain ⟨u₁, u₂, r1, r2, _⟩ := C18d_parse_related I s dp a h hsd hdp ha hout segs₁ segs₂ q₁ q₂ f₁ f₂ hw
  rw [r1, r2]; exact ⟨rfl, rfl⟩

/-- the capstone for path-only urls -/
theorem C18d_spellings_same_canonical_path (I : Idna) (p : Profile) (hp : p.repeatedPercentDecoding = true) (hcfg : p.cfg = {})
    (H₁ H₂ : Heap) (s dp a : Bytes) (hsd : Cfg.special? {} s = some dp) (hdp : dp ≠ []) (ha : hostText a = true)
    (segs₁ segs₂ : List Bytes) (hs : All2 SegSame segs₁ segs₂) (hne : segs₁ ≠ []) :
    canonText (canonParse I p H₁ (s ++ lit "://" ++ a ++ pathText segs₁)) =
      canonText (canonParse I p H₂ (s ++ lit "://" ++ a ++ pathText segs₂)) := by
  have := C18d_spellings_same_canonical I p hp hcfg H₁ H₂ s dp a hsd hdp ha segs₁ segs₂ none none none none
    ⟨hs, hne, trivial, trivial⟩
  simpa [render, qTail, fTail] using this

/-- the capstone with the prefix as one text: `pre` is `scheme://host` with a special scheme other than `file` and a host
    text -/
def WebPrefix (pre : Bytes) : Prop :=
  ∃ s dp a, pre = s ++ lit "://" ++ a ∧ Cfg.special? {} s = some dp ∧ dp ≠ [] ∧ hostText a = true

theorem C18d_spellings_same_canonical_pre (I : Idna) (p : Profile) (hp : p.repeatedPercentDecoding = true) (hcfg : p.cfg = {})
    (H₁ H₂ : Heap) (pre : Bytes) (hpre : WebPrefix pre)
    (segs₁ segs₂ : List Bytes) (q₁ q₂ : Option (List (Bytes × Bytes))) (f₁ f₂ : Option Bytes)
    (hw : SameWeb segs₁ segs₂ q₁ q₂ f₁ f₂) :
    canonText (canonParse I p H₁ (render pre segs₁ q₁ f₁)) = canonText (canonParse I p H₂ (render pre segs₂ q₂ f₂)) := by
  obtain ⟨s, dp, a, rfl, hsd, hdp, ha⟩ := hpre
  exact C18d_spellings_same_canonical I p hp hcfg H₁ H₂ s dp a hsd hdp ha segs₁ segs₂ q₁ q₂ f₁ f₂ hw

/-! ### non-vacuity -/

/-- a profile with repeated decoding, sorted query, no user info, no port, and a default scheme -/
private def pR : Profile :=
  { repeatedPercentDecoding := true, sortQuery := .sortKeys, removeUserInfo := true, removePort := true, defaultScheme := lit "https" }

/-- `%2561` (a doubly escaped `a`), `x%2Ey`, `%31`, `%7a`, `%7E`, `%61` as spellings -/
private theorem sp1 : Spelled (lit "a") (lit "%2561") := by
  rw [show lit "%2561" = nest 1 (esc1 true 0x61) ++ [] by decide, show lit "a" = [0x61] by decide]
  exact .esc true 1 0x61 .nil
private theorem sp2 : Spelled (lit "x.y") (lit "x%2Ey") := by
  rw [show lit "x%2Ey" = 0x78 :: (nest 0 (esc1 true 0x2e) ++ [0x79]) by decide, show lit "x.y" = [0x78, 0x2e, 0x79] by decide]
  exact .lit _ (.esc true 0 0x2e (.lit _ .nil))
private theorem sp3 : Spelled (lit "1") (lit "%31") := by
  rw [show lit "%31" = nest 0 (esc1 true 0x31) ++ [] by decide, show lit "1" = [0x31] by decide]
  exact .esc true 0 0x31 .nil
private theorem sp4 : Spelled (lit "z") (lit "%7a") := by
  rw [show lit "%7a" = nest 0 (esc1 false 0x7a) ++ [] by decide, show lit "z" = [0x7a] by decide]
  exact .esc false 0 0x7a .nil
private theorem sp5 : Spelled (lit "~") (lit "%7E") := by
  rw [show lit "%7E" = nest 0 (esc1 true 0x7e) ++ [] by decide, show lit "~" = [0x7e] by decide]
  exact .esc true 0 0x7e .nil
private theorem sp6 : Spelled (lit "a") (lit "%61") := by
  rw [show lit "%61" = nest 0 (esc1 true 0x61) ++ [] by decide, show lit "a" = [0x61] by decide]
  exact .esc true 0 0x61 .nil

private def segsA : List Bytes := [lit "%2561", lit "x.y"]
private def segsB : List Bytes := [lit "a", lit "x%2Ey"]
private def qA : Option (List (Bytes × Bytes)) := some [(lit "z", lit "%31"), (lit "%61", lit "2")]
private def qB : Option (List (Bytes × Bytes)) := some [(lit "%7a", lit "1"), (lit "a", lit "2")]
private def fA : Option Bytes := some (lit "%7E")
private def fB : Option Bytes := some (lit "~")

/-- the hypotheses of the capstone hold for these two spellings of `…/a/x.y?z=1&a=2#~` -/
private theorem ex_same : SameWeb segsA segsB qA qB fA fB where
  hsegs := .cons ⟨lit "a", ⟨⟨plain_lit _ (by decide), sp1⟩, by decide, by decide⟩, ⟨⟨plain_lit _ (by decide), spelled_refl _⟩, by decide, by decide⟩⟩
    (.cons ⟨lit "x.y", ⟨⟨plain_lit _ (by decide), spelled_refl _⟩, by decide, by decide⟩, ⟨⟨plain_lit _ (by decide), sp2⟩, by decide, by decide⟩⟩ .nil)
  hne := by decide
  hquery := .cons ⟨⟨lit "z", ⟨plain_lit _ (by decide), spelled_refl _⟩, ⟨plain_lit _ (by decide), sp4⟩⟩,
      ⟨lit "1", ⟨plain_lit _ (by decide), sp3⟩, ⟨plain_lit _ (by decide), spelled_refl _⟩⟩⟩
    (.cons ⟨⟨lit "a", ⟨plain_lit _ (by decide), sp6⟩, ⟨plain_lit _ (by decide), spelled_refl _⟩⟩,
      ⟨lit "2", ⟨plain_lit _ (by decide), spelled_refl _⟩, ⟨plain_lit _ (by decide), spelled_refl _⟩⟩⟩ .nil)
  hfrag := ⟨lit "~", ⟨plain_lit _ (by decide), sp5⟩, ⟨plain_lit _ (by decide), spelled_refl _⟩⟩

private theorem ex_hyps : Cfg.special? {} (lit "http") = some (lit "80") ∧ lit "80" ≠ [] ∧ hostText (lit "[::1]") = true := by
  decide
example : Cfg.special? {} (lit "http") = some (lit "80") ∧ lit "80" ≠ [] ∧ hostText (lit "[::1]") = true := ex_hyps
private theorem ex_host : (parseHost {} I0 (hostU (lit "http")) (lit "[::1]") false).out = .ok (lit "[::1]") := by decide +kernel
example : WebPrefix (lit "http://[::1]") :=
  ⟨lit "http", lit "80", lit "[::1]", by decide, by decide, by decide, by decide⟩
example : pR.repeatedPercentDecoding = true ∧ pR.cfg = {} := ⟨rfl, rfl⟩
/-- how the two inputs read -/
example : render (lit "http" ++ lit "://" ++ lit "[::1]") segsA qA fA = lit "http://[::1]/%2561/x.y?z=%31&%61=2#%7E" ∧
    render (lit "http" ++ lit "://" ++ lit "[::1]") segsB qB fB = lit "http://[::1]/a/x%2Ey?%7a=1&a=2#~" := by decide

/-- the capstone applied -/
example : canonText (canonParse I0 pR {} (lit "http://[::1]/%2561/x.y?z=%31&%61=2#%7E")) =
    canonText (canonParse I0 pR {} (lit "http://[::1]/a/x%2Ey?%7a=1&a=2#~")) :=
  C18d_spellings_same_canonical I0 pR rfl rfl {} {} (lit "http") (lit "80") (lit "[::1]") ex_hyps.1 ex_hyps.2.1 ex_hyps.2.2
    segsA segsB qA qB fA fB ex_same

/-- for evaluation: the fuelled twins of the two decoders -/
theorem decodeEncode_fun : decodeEncode = fun tr s => canonEncode tr (WhatwgUrl.Proofs.Canon.repeatedDecodeE s) := by
  funext tr s; exact WhatwgUrl.Proofs.Canon.decodeEncode_eq_E tr s

/-- the canonical text of a literal input by evaluation: the closed form of the pipeline, the fuelled twins of the
    decoders, the kernel -/
macro "eval_canon" : tactic => `(tactic|
  (rw [canonText_canonParse]
   unfold canonOut canonV step1 step2 step3 step4 step5 step6 step7 step8 vMut vList WhatwgUrl.Proofs.IndepHist.initP
   rw [decodeEncode_fun]
   simp only [WhatwgUrl.Proofs.Idem.spInit_funC]
   decide +kernel))

/-- both sides of the capstone example by evaluation (kernel-checked): the common canonical text is a real one -/
example : canonText (canonParse I0 pR {} (lit "http://[::1]/%2561/x.y?z=%31&%61=2#%7E")) = some (lit "http://[::1]/a/x.y?a=2&z=1#~") := by
  eval_canon
example : canonText (canonParse I0 pR {} (lit "http://[::1]/a/x%2Ey?%7a=1&a=2#~")) = some (lit "http://[::1]/a/x.y?a=2&z=1#~") := by
  eval_canon

/-- Half B on one of them: the record the parser returns -/
example : ∃ u, parse {} I0 (lit "http://[::1]/%2561/x.y?z=%31&%61=2#%7E") = ⟨u, .url⟩ ∧
    u.path = ⟨[lit "%2561", lit "x.y"], false⟩ ∧ u.query = some (lit "z=%31&%61=2") ∧ u.fragment = some (lit "%7E") := by
  obtain ⟨u₁, u₂, r1, _, _, _, _, _, h1, _, h2, _, h3, _⟩ :=
    C18d_parse_related I0 (lit "http") (lit "80") (lit "[::1]") _ ex_hyps.1 ex_hyps.2.1 ex_hyps.2.2 ex_host segsA segsB qA qB fA fB ex_same
  exact ⟨u₁, r1, h1, h2, h3⟩

/-- Half A on two hand-made records (non-special scheme, no host): path, query and fragment spelled differently -/
example : canonText (canonAfter I0 pR {} ⟨{ scheme := lit "sc", path := ⟨[lit "%2561"], false⟩, query := some (lit "z=%31"), fragment := some (lit "%7E") }, .url⟩) =
    canonText (canonAfter I0 pR {} ⟨{ scheme := lit "sc", path := ⟨[lit "a"], false⟩, query := some (lit "%7a=1"), fragment := some (lit "~") }, .url⟩) := by
  apply C18d_canonicalize_congr I0 pR rfl (C18d_hostOk_default I0)
  · exact ⟨rfl, rfl, rfl, rfl, rfl, rfl, Bool.noConfusion, Bool.noConfusion, Bool.noConfusion⟩
  · exact pathEq_of_segs (ps := [lit "a"]) (.cons ⟨⟨plain_lit _ (by decide), sp1⟩, by decide, by decide⟩ .nil)
      (.cons ⟨⟨plain_lit _ (by decide), spelled_refl _⟩, by decide, by decide⟩ .nil)
  · exact queryEq_of_pairs_c {} webCfg_default (l₁ := [(lit "z", lit "%31")]) (l₂ := [(lit "%7a", lit "1")])
      (.cons ⟨⟨lit "z", ⟨plain_lit _ (by decide), spelled_refl _⟩, ⟨plain_lit _ (by decide), sp4⟩⟩,
        ⟨lit "1", ⟨plain_lit _ (by decide), sp3⟩, ⟨plain_lit _ (by decide), spelled_refl _⟩⟩⟩ .nil)
  · exact fragEq_of_tok ⟨lit "~", ⟨plain_lit _ (by decide), sp5⟩, ⟨plain_lit _ (by decide), spelled_refl _⟩⟩

/-- `SearchParams.init` of the default configuration with the fuelled decoder `canonDecodeE`, for `decide +kernel`: the
    instance at `{}` of `Proofs.Idem.spInitC` / `spInit_funC` (`Proofs/SpEval.lean`), used by the next example -/
def spInitE (query : Bytes) : Pairs :=
  (splitOn 0x26 query).filterMap fun q =>
    if q.isEmpty then none
    else
      some (WhatwgUrl.Proofs.Canon.canonDecodeE (replaceByte 0x2b 0x20 (splitFirst 0x3d q).1),
            match (splitFirst 0x3d q).2 with
            | some v => WhatwgUrl.Proofs.Canon.canonDecodeE (replaceByte 0x2b 0x20 v)
            | none => [])

theorem spInit_fun : spInit {} = spInitE := by
  funext q
  unfold spInit spInitE
  simp only [fun s => decodePercent_eq {} s nofun, WhatwgUrl.Proofs.Canon.canonDecode_eq_E]
  rfl

/-- the `Spelled` corollary of Half A on the same two records: the path texts `/%2561` and `/a` spell `/a`; both queries parse
    to the list `[(z, 1)]`; the fragments spell `~` -/
example : canonText (canonAfter I0 pR {} ⟨{ scheme := lit "sc", path := ⟨[lit "%2561"], false⟩, query := some (lit "z=%31"), fragment := some (lit "%7E") }, .url⟩) =
    canonText (canonAfter I0 pR {} ⟨{ scheme := lit "sc", path := ⟨[lit "a"], false⟩, query := some (lit "%7a=1"), fragment := some (lit "~") }, .url⟩) := by
  have e1 : spInit pR.cfg (lit "z=%31") = [(lit "z", lit "1")] := by
    rw [show pR.cfg = ({} : Cfg) from rfl, spInit_fun]; decide +kernel
  have e2 : spInit pR.cfg (lit "%7a=1") = [(lit "z", lit "1")] := by
    rw [show pR.cfg = ({} : Cfg) from rfl, spInit_fun]; decide +kernel
  refine C18d_canonicalize_congr_spelled I0 pR rfl (C18d_hostOk_default I0) {} {} _ _
    ⟨rfl, rfl, rfl, rfl, rfl, rfl, Bool.noConfusion, Bool.noConfusion, Bool.noConfusion⟩ rfl rfl
    (lit "/a") (Spelled.lit 0x2f sp1) (spelled_refl _) (Proofs.Canon.canonDecode_of_no_pct _ (by decide))
    (lit "z=%31") (lit "%7a=1") rfl rfl (by decide) (by decide) ?_
    (lit "~") (lit "%7E") (lit "~") rfl rfl (by decide) sp5 (spelled_refl _) (Proofs.Canon.canonDecode_of_no_pct _ (by decide))
  rw [e1, e2]
  exact .cons ⟨⟨lit "z", spelled_refl _, spelled_refl _, Proofs.Canon.canonDecode_of_no_pct _ (by decide)⟩,
    ⟨lit "1", spelled_refl _, spelled_refl _, Proofs.Canon.canonDecode_of_no_pct _ (by decide)⟩⟩ .nil

/-- a profile that removes fragments: completely different fragments, same text (theorem and evaluation) -/
private def pRF : Profile := { repeatedPercentDecoding := true, removeFragment := true }
example : canonText (canonAfter I0 pRF {} ⟨{ scheme := lit "sc", path := ⟨[lit "%2561"], false⟩, fragment := some (lit "x y") }, .url⟩) =
    canonText (canonAfter I0 pRF {} ⟨{ scheme := lit "sc", path := ⟨[lit "a"], false⟩, fragment := none }, .url⟩) := by
  apply C18d_canonicalize_congr_rf I0 pRF rfl rfl (C18d_hostOk_default I0)
  · exact ⟨rfl, rfl, rfl, rfl, rfl, rfl, Bool.noConfusion, Bool.noConfusion, Bool.noConfusion⟩
  · exact pathEq_of_segs (ps := [lit "a"]) (.cons ⟨⟨plain_lit _ (by decide), sp1⟩, by decide, by decide⟩ .nil)
      (.cons ⟨⟨plain_lit _ (by decide), spelled_refl _⟩, by decide, by decide⟩ .nil)
  · exact Or.inl rfl
example : canonText (canonAfter I0 pRF {} ⟨{ scheme := lit "sc", path := ⟨[lit "%2561"], false⟩, fragment := some (lit "x y") }, .url⟩) =
    some (lit "sc:/a") := by
  rw [canonText_canonAfter]
  unfold canonOut canonV step1 step2 step3 step4 step5 step6 step7 step8 vMut vList WhatwgUrl.Proofs.IndepHist.initP
  rw [decodeEncode_fun]
  decide +kernel

/-! ### the limits -/

/-- **the hypothesis on the host parser cannot be dropped for arbitrary parser options**: the `preHost` hook of the model is
    an arbitrary function of the record; a hook that looks at the path makes the outcome of the host parser — and with it
    the host the pipeline's first step writes — depend on the spelling of the path -/
def cfgHook : Cfg := { preHost := some fun u h => if u.path.segs == [lit "a"] then lit "x" else h }

example : ¬ HostOk cfgHook I0 := by
  intro h
  have := h { scheme := lit "sc", path := ⟨[lit "a"], false⟩ } { scheme := lit "sc", path := ⟨[lit "%61"], false⟩ } (lit "h") true (lit "x")
    ⟨rfl, rfl, rfl, rfl, rfl, rfl, Bool.noConfusion, Bool.noConfusion, Bool.noConfusion⟩ (by decide +kernel)
  revert this
  decide +kernel

/-- the parser takes `%2e` for a dot segment: the exclusion of the plain texts `.` and `..` is needed for Half B
    (the record does not have the segment) -/
example : (parse {} I0 (lit "http://[::1]/a/%2e/b")).url.path.segs = [lit "a", lit "b"] := by decide +kernel

end WhatwgUrl.Props.C18d

section AxiomCheck
open WhatwgUrl.Props.C18d
#print axioms C18d_setPathname_congr
#print axioms C18d_setHash_congr
#print axioms C18d_setHostname_congr
#print axioms C18d_hostOk_default
#print axioms C18d_hostOk_of_hooks
#print axioms C18d_hostOk_no_hooks
#print axioms C18d_canonicalize_congr_hooks
#print axioms C18d_spellings_same_canonical_pre
#print axioms canonText_canonParse
#print axioms C18d_canonicalize_congr
#print axioms C18d_canonicalize_congr'
#print axioms C18d_canonicalize_congr_rf
#print axioms C18d_canonicalize_congr_path
#print axioms C18d_canonicalize_congr_spelled
#print axioms queryEq_of_all2
#print axioms C18d_parse_render
#print axioms C18d_parse_related
#print axioms C18d_spellings_same_canonical
#print axioms C18d_both_parse
#print axioms C18d_spellings_same_canonical_path
end AxiomCheck
