import WhatwgUrl.Impl.Api
/-
  C19 — derived accessors agree with the primary components.  This file: what holds of EVERY record, by unfolding the model
  of the accessors (the correspondence run compares each of them with the Go accessor after every step of every history).
  What needs a parsed host or a reachable record, and the clauses that have no theorem: `Props/C19b.lean`.
  The model's `isIPv4` / `isIPv6` (`Impl/Api.lean`) mirror `(*Url).IsIPv4` / `(*Url).IsIPv6` (url/url.go:301-320), which COMPUTE
  their answer from the host text at every call (split at `.` and test the four parts; `strings.HasPrefix(host, "[")`).
  There is no stored flag in the record: under a model with flags cached by the host parser `C19_ipv6` and
  `C19_ipv4_shape` would be statements about the setters keeping the flags in step, not unfoldings.
-/
namespace WhatwgUrl.Props.C19
open WhatwgUrl WhatwgUrl.Impl

theorem C19_protocol (u : Url) : protocol u = u.scheme ++ [0x3a] := rfl

theorem C19_search (u : Url) : search u = if queryG u = [] then [] else 0x3f :: queryG u := by
  unfold search queryG
  cases u.query with
  | none => simp
  | some q => cases q <;> simp

theorem C19_hash (u : Url) : hashG u = if fragmentG u = [] then [] else 0x23 :: fragmentG u := by
  unfold hashG fragmentG
  cases u.fragment with
  | none => simp
  | some q => cases q <;> simp

theorem C19_ipv6 (u : Url) : isIPv6 u = ((hostname u).head? == some 0x5b) := by
  unfold isIPv6 hostname
  cases u.host <;> simp

/-- the cached field, whatever it holds; that it is the number written in `Port()`: `C19b.C19_decoded_port_sync` -/
theorem C19_decoded_port (cfg : Cfg) (u : Url) :
    decodedPortG cfg u = match u.port with | some _ => u.decodedPort | none => defaultPort cfg u := by
  unfold decodedPortG
  cases u.port <;> simp

theorem C19_ipv4_shape (cfg : Cfg) (u : Url) (h : isIPv4 cfg u = true) :
    cfg.isSpecial u.scheme = true ∧ ∃ host, u.host = some host ∧ (splitOn 0x2e host).length = 4 ∧ (splitOn 0x2e host).all isCanonicalOctet = true := by
  unfold isIPv4 at h
  cases hh : u.host with
  | none => simp [hh] at h
  | some host =>
    simp [hh] at h
    exact ⟨h.1.1, host, rfl, h.1.2, by simpa using h.2⟩

example : isIPv4 {} { scheme := lit "http", host := some (lit "1.2.3.4") } = true := by decide
example : isIPv4 {} { scheme := lit "http", host := some (lit "1.2.3.04") } = false := by decide

end WhatwgUrl.Props.C19
