import WhatwgUrl.Proofs.HeapInv
import WhatwgUrl.Proofs.HeapInvSane
import WhatwgUrl.Proofs.HeapInvLive
/-
  C02c — no Go run-time panic at the heap level (`Impl/Heap.lean`: url objects, their lazily created SearchParams objects,
  back pointers) and in the canonicalizer (`Impl/Canon.lean`), for EVERY configuration, profile, handle and argument:
  `C02_heap_no_panic`, on the heaps `HReach` that the API builds from the empty heap.

  Panic sites of this level: 30 (`s.url.parser` on a nil back pointer) and 31 (`*u.query` on nil) in `Heap.setSearch`, and
  the sites 20/21 (`p.p[0]` on an opaque path without element) and 11–15 of the value level, which `Heap.set`,
  `Heap.urlParse`, `canonicalize`, `canonParse`, `canonParseRef` propagate (`searchParams`, `spMutate`, `setSearchParams`,
  `clone` have no panicking outcome in the model).  Not here: that the fuel of the canonicalizer's loop `repeatedDecodeAux`
  (silent at fuel 0) suffices; that is `C17_repeatedDecode_fix` (`Props/C17.lean`).

  The invariant `HInv H` (decidable): every url object's record is `PathOk` (an opaque path has its element), every list's
  back pointer designates an existing url object.  Every heap transformer preserves it (`C02_*_inv`), for valid AND invalid
  handles and for every outcome of the inner parser calls (Go mutates in place): an operation on an invalid url handle (or
  `spMutate` on an invalid list handle) returns the heap unchanged; `SetSearchParams` stores an invalid list handle as it
  is, and with an invalid url handle still runs `update()` on the list (`*_invalid`).  On a heap satisfying `HInv` no
  transformer panics (`C02_*_no_panic`); each clause is needed (`bad30`, `bad30'`: site 30; `bad20`: sites 20, 21).  Site 31
  is dead code on every heap (`C02_site31_dead_heap`).
  OUTSIDE THE MODEL'S API: the model has no operation that creates a list with a nil back pointer; a Go client has
  (`new(url.SearchParams)`: the type is exported), and `u.SetSearchParams(sp); u.SetSearch("x")` then reaches site 30 (`exZ`).

  Two stronger invariants stand beside it; panic freedom needs neither.
    * `HInvC` (records `SaneC`) is inductive only when the objects that are allocated are parsed with configurations in which
      "file" is special (`HReachF`; otherwise `exN`, the finding of `Props/C02b.lean`).  `PathOk`, the second half of `SaneC`, is
      inductive for every configuration (`Proofs/HeapInvPath.lean`) and is all that the sites 20/21 need
      (`Proofs/HeapInvNP.lean`: panic freedom under the loop invariant `NoPanic.Safe`).
    * `HInvL` (every stored list handle `o.sp` is live) is NOT preserved by `SetSearchParams` with an arbitrary handle
      (`ex_dangling`: `setSearch` on a dangling handle takes the no-list branch); it holds on the histories in which
      `SetSearchParams` is only given existing lists (`HReachL`).
-/
namespace WhatwgUrl.Props.C02c
open WhatwgUrl WhatwgUrl.Impl WhatwgUrl.Impl.Heap WhatwgUrl.Proofs.HeapInv
open WhatwgUrl.Proofs.HeapInvNP (PathOk parse_np)
open WhatwgUrl.Proofs.SaneInv (SaneC)

/-! ### the invariant -/

def BackOk (n : Nat) (so : SpObj) : Prop :=
  match so.url with
  | some j => j < n
  | none => False

instance (n : Nat) (so : SpObj) : Decidable (BackOk n so) := by unfold BackOk; split <;> infer_instance

def HInv (H : Heap) : Prop := (∀ o ∈ H.urls, PathOk o.u) ∧ (∀ so ∈ H.sps, BackOk H.urls.length so)

instance (H : Heap) : Decidable (HInv H) := by unfold HInv; infer_instance

theorem BackOk_iff (n : Nat) (so : SpObj) : BackOk n so ↔ ∃ j, so.url = some j ∧ j < n := by
  unfold BackOk
  cases so.url with
  | none => simp
  | some j => simp

theorem forall_mem_iff_idx {α : Type} {l : List α} {P : α → Prop} :
    (∀ a ∈ l, P a) ↔ ∀ (i : Nat) (a : α), l[i]? = some a → P a :=
  ⟨fun h _ a hi => h a (List.mem_of_getElem? hi), fun h a ha => (List.mem_iff_getElem?.1 ha).elim fun i hi => h i a hi⟩

/-- the index form, in which `Proofs/HeapInv.lean` states its lemmas -/
theorem HInvR_iff (R : Cfg → Url → Prop) (H : Heap) :
    ((∀ o ∈ H.urls, R o.cfg o.u) ∧ ∀ so ∈ H.sps, BackOk H.urls.length so) ↔ HInvR R H := by
  unfold HInvR
  simp only [forall_mem_iff_idx, BackOk_iff]

theorem HInv_iff (H : Heap) : HInv H ↔ HInvR (fun _ u => PathOk u) H := HInvR_iff (fun _ u => PathOk u) H

theorem HInv_url {H : Heap} (h : HInv H) {i : Nat} {o : UrlObj} (ho : H.urls[i]? = some o) : PathOk o.u :=
  ((HInv_iff H).1 h).1 i o ho

theorem HInv_sp {H : Heap} (h : HInv H) {s : Nat} {so : SpObj} (hso : H.sps[s]? = some so) :
    ∃ j uo, so.url = some j ∧ H.urls[j]? = some uo := by
  obtain ⟨j, hj, hlt⟩ := ((HInv_iff H).1 h).2 s so hso
  exact ⟨j, H.urls[j], hj, List.getElem?_eq_getElem hlt⟩

theorem stable_HInv {V : Heap → Nat → Nat → Prop} : Stable (fun _ => True) V HInv := (stable_inv recInv_pathOk).of_iff HInv_iff

private theorem sHInv : Stable (fun _ => True) (fun _ _ _ => True) HInv := stable_HInv

/-! ### every heap transformer preserves it (any handle, any argument, any outcome) -/

theorem C02_empty_inv : HInv {} := by decide

theorem C02_set_inv (I : Idna) (H : Heap) (i : Nat) (st : Setter) (v : Bytes) (h : HInv H) : HInv (H.set I i st v).1 :=
  sHInv.set I i st v h

theorem C02_searchParams_inv (H : Heap) (i : Nat) (h : HInv H) : HInv (H.searchParams i).1 :=
  sHInv.searchParams i h

theorem C02_spMutate_inv (H : Heap) (s : Nat) (m : SpMut) (h : HInv H) : HInv (H.spMutate s m) :=
  sHInv.spMutate s m h

theorem C02_setSearchParams_inv (H : Heap) (i s : Nat) (h : HInv H) : HInv (H.setSearchParams i s) :=
  sHInv.setSearchParams i s trivial h

theorem C02_clone_inv (H : Heap) (i : Nat) (h : HInv H) : HInv (H.clone i).1 :=
  sHInv.clone i h

theorem C02_urlParse_inv (I : Idna) (H : Heap) (i : Nat) (ref : Bytes) (h : HInv H) : HInv (H.urlParse I i ref).1 :=
  sHInv.urlParse I i ref h

theorem C02_allocRes_inv (H : Heap) (cfg : Cfg) (r : Res) (h : HInv H) (hr : r.ret = .url → PathOk r.url) :
    HInv (H.allocRes cfg r).1 :=
  (HInv_iff _).2 (allocRes_inv cfg r ((HInv_iff _).1 h) hr)

theorem C02_parse_inv (cfg : Cfg) (I : Idna) (H : Heap) (raw : Bytes) (h : HInv H) :
    HInv (H.allocRes cfg (Impl.parse cfg I raw)).1 :=
  sHInv.alloc h (.parse I raw trivial)

theorem C02_parseRef_inv (cfg : Cfg) (I : Idna) (H : Heap) (raw ref : Bytes) (h : HInv H) :
    HInv (H.allocRes cfg (Impl.parseRef cfg I raw ref)).1 :=
  sHInv.alloc h (parseRef_fresh H cfg I raw ref trivial)

theorem C02_canonicalize_inv (I : Idna) (p : Profile) (H : Heap) (i : Nat) (h : HInv H) : HInv (canonicalize I p H i).1 :=
  sHInv.canonicalize I p i h

theorem C02_canonParse_inv (I : Idna) (p : Profile) (H : Heap) (raw : Bytes) (h : HInv H) : HInv (canonParse I p H raw).1 :=
  sHInv.canonParse I p raw trivial h

theorem C02_canonParseRef_inv (I : Idna) (p : Profile) (H : Heap) (raw ref : Bytes) (h : HInv H) :
    HInv (canonParseRef I p H raw ref).1 :=
  sHInv.canonParseRef I p raw ref trivial h

/-! #### invalid handles -/

theorem clone_invalid (H : Heap) (i : Nat) (hi : H.urls[i]? = none) : H.clone i = (H, none) :=
  Heap.clone_invalid H i hi

theorem urlParse_invalid (I : Idna) (H : Heap) (i : Nat) (ref : Bytes) (hi : H.urls[i]? = none) :
    H.urlParse I i ref = (H, none, .url) :=
  Heap.urlParse_invalid I H i ref hi

theorem spMutate_invalid (H : Heap) (s : Nat) (m : SpMut) (hs : H.sps[s]? = none) : H.spMutate s m = H :=
  Heap.spMutate_invalid H s m hs

theorem setSearchParams_invalid_sp (H : Heap) (i s : Nat) (hs : H.sps[s]? = none) :
    H.setSearchParams i s = H.setUrl i fun o => { o with sp := some s } := by
  unfold Heap.setSearchParams Heap.spUpdate
  simp [hs]

theorem setSearchParams_invalid_url (H : Heap) (i s : Nat) (hi : H.urls[i]? = none) :
    H.setSearchParams i s = H.spUpdate s := by
  unfold Heap.setSearchParams Heap.setUrl
  simp [hi]

theorem canonicalize_invalid (I : Idna) (p : Profile) (H : Heap) (i : Nat) (hi : H.urls[i]? = none) :
    canonicalize I p H i = (H, .url) := by
  have hs : ∀ st v, H.set I i st v = (H, .url) := fun st v => Heap.set_invalid I H i st v hi
  have hp : H.searchParams i = (H, none) := Heap.searchParams_invalid H i hi
  unfold canonicalize
  simp only [hs, hp, thenH, ite_self]
  cases p.sortQuery <;> rfl

/-! ### no transformer panics on a heap satisfying the invariant -/

theorem C02_set_no_panic (I : Idna) (H : Heap) (i : Nat) (st : Setter) (v : Bytes) (h : HInv H) :
    ∀ n, (H.set I i st v).2 ≠ .panic n :=
  set_np recInv_pathOk I i st v ((HInv_iff _).1 h)

theorem C02_setSearch_no_panic (I : Idna) (H : Heap) (i : Nat) (v : Bytes) (h : HInv H) :
    ∀ n, (H.setSearch I i v).2 ≠ .panic n :=
  setSearch_np recInv_pathOk I i v ((HInv_iff _).1 h)

theorem C02_urlParse_no_panic (I : Idna) (H : Heap) (i : Nat) (ref : Bytes) : ∀ n, (H.urlParse I i ref).2.2 ≠ .panic n :=
  urlParse_np I i ref

theorem C02_parse_no_panic' (cfg : Cfg) (I : Idna) (raw : Bytes) : ∀ n, (Impl.parse cfg I raw).ret ≠ .panic n :=
  parse_np cfg I raw none

theorem C02_parseRef_no_panic (cfg : Cfg) (I : Idna) (raw ref : Bytes) : ∀ n, (Impl.parseRef cfg I raw ref).ret ≠ .panic n :=
  parseRef_np cfg I raw ref

theorem C02_canonicalize_no_panic (I : Idna) (p : Profile) (H : Heap) (i : Nat) (h : HInv H) :
    ∀ n, (canonicalize I p H i).2 ≠ .panic n :=
  canonicalize_np recInv_pathOk I p i ((HInv_iff _).1 h)

theorem C02_canonParse_no_panic (I : Idna) (p : Profile) (H : Heap) (raw : Bytes) (h : HInv H) :
    ∀ n, (canonParse I p H raw).2.2 ≠ .panic n :=
  canonParse_np recInv_pathOk I p raw trivial ((HInv_iff _).1 h)

theorem C02_canonParseRef_no_panic (I : Idna) (p : Profile) (H : Heap) (raw ref : Bytes) (h : HInv H) :
    ∀ n, (canonParseRef I p H raw ref).2.2 ≠ .panic n :=
  canonParseRef_np recInv_pathOk I p raw ref trivial ((HInv_iff _).1 h)

/-- the inner parser call of `SetSearch` on a non-empty value leaves a non-nil query, on every url and for every outcome
    (under the `query` override the query state is never left) -/
theorem C02_site31_dead (cfg : Cfg) (I : Idna) (u : Url) (v : Bytes) (hv : v.isEmpty = false) :
    (setSearchU cfg I u v).url.query ≠ none := by
  have := WhatwgUrl.Proofs.HeapInvQuery.setSearchU_query_isSome cfg I u v hv
  intro h; rw [h] at this; cases this

/-- The inner call `setSearchU` can itself return only panic 20 (a literal, on the empty value) or what the
    override run returns, which is no panic at all (`hnp`, through `HeapInvNP.ov_np`); site 31 is raised by
    `Heap.setSearch` AFTER the inner call, and only if the query of the result is nil, which `C02_site31_dead` excludes.
    The anonymous-constructor term at the end follows the cases of `Heap.setSearch_cases` in their order. -/
theorem C02_site31_dead_heap (I : Idna) (H : Heap) (i : Nat) (v : Bytes) : (H.setSearch I i v).2 ≠ .panic 31 := by
  refine Heap.setSearch_cases (P := fun x => x.2 ≠ .panic 31) I H i v (fun _ hn => nomatch hn) (fun uo _ => ?_)
  have hnp : (setSearchU uo.cfg I uo.u v).ret ≠ .panic 31 := by
    unfold setSearchU keep
    dsimp only
    split
    · split
      · split
        · intro h; cases h
        · intro h; cases h
      · intro h; cases h
    · apply WhatwgUrl.Proofs.HeapInvNP.ov_np _ _ _ _ _ rfl
      intro _
      split
      · rfl
      · rename_i h; cases hq : uo.u.query <;> simp_all
  refine ⟨fun _ => ⟨fun _ => hnp, fun _ _ => hnp⟩, fun hv => ⟨fun _ => hnp, fun _ _ _ => hnp,
    fun _ _ _ _ _ hn => (nomatch hn), fun _ _ _ _ _ _ => ⟨fun hq => ?_, fun _ _ => hnp⟩⟩⟩
  exact absurd hq (C02_site31_dead uo.cfg I uo.u v hv)

/-! ### histories -/

/-- the heaps reachable from the empty heap by the API, with arbitrary arguments, handles, configurations and profiles -/
abbrev HReach : Heap → Prop := HReachC (fun _ => True) (fun _ _ _ => True)

theorem C02_heap_reachable_inv {H : Heap} (h : HReach H) : HInv H :=
  stable_HInv.reach h

/-- **C02** at the heap level. -/
theorem C02_heap_no_panic {H : Heap} (h : HReach H) :
    (∀ I i st v n, (H.set I i st v).2 ≠ .panic n) ∧
    (∀ I i ref n, (H.urlParse I i ref).2.2 ≠ .panic n) ∧
    (∀ cfg I raw n, (Impl.parse cfg I raw).ret ≠ .panic n) ∧
    (∀ cfg I raw ref n, (Impl.parseRef cfg I raw ref).ret ≠ .panic n) ∧
    (∀ I p i n, (canonicalize I p H i).2 ≠ .panic n) ∧
    (∀ I p raw n, (canonParse I p H raw).2.2 ≠ .panic n) ∧
    (∀ I p raw ref n, (canonParseRef I p H raw ref).2.2 ≠ .panic n) := by
  have hi := C02_heap_reachable_inv h
  exact ⟨fun I i st v => C02_set_no_panic I H i st v hi, fun I i ref => C02_urlParse_no_panic I H i ref,
    fun cfg I raw => C02_parse_no_panic' cfg I raw, fun cfg I raw ref => C02_parseRef_no_panic cfg I raw ref,
    fun I p i => C02_canonicalize_no_panic I p H i hi, fun I p raw => C02_canonParse_no_panic I p H raw hi,
    fun I p raw ref => C02_canonParseRef_no_panic I p H raw ref hi⟩

/-! ### the `SaneC` version of the invariant -/

/-- `RC cfg u` (`Proofs/HeapInvSane.lean`) is `FileSpecial cfg ∧ SaneC cfg u`, and the second clause of `SaneC cfg u` is
    `PathOk u`: on a proof of `RC`, `.2` is the `SaneC` part and `.2.2` the `PathOk` part. -/
def HInvC (H : Heap) : Prop := (∀ o ∈ H.urls, RC o.cfg o.u) ∧ (∀ so ∈ H.sps, BackOk H.urls.length so)

instance (H : Heap) : Decidable (HInvC H) := by unfold HInvC; infer_instance

theorem HInvC_iff (H : Heap) : HInvC H ↔ HInvR RC H := HInvR_iff RC H

theorem stable_HInvC {V : Heap → Nat → Nat → Prop} : Stable FileSpecial V HInvC := (stable_inv recInv_saneC).of_iff HInvC_iff

theorem HInvC_HInv {H : Heap} (h : HInvC H) : HInv H := ⟨fun o ho => (h.1 o ho).2.2, h.2⟩

/-- histories in which new objects are parsed with configurations having "file" special -/
abbrev HReachF : Heap → Prop := HReachC FileSpecial (fun _ _ _ => True)

theorem C02_heap_reachable_saneC {H : Heap} (h : HReachF H) : HInvC H :=
  stable_HInvC.reach h

/-- `SaneC` implies `Sane`, the hypothesis of `C02b.C02_setter_no_panic` -/
theorem C02_heap_reachable_saneC_obj {H : Heap} (h : HReachF H) {i : Nat} {o : UrlObj} (ho : H.urls[i]? = some o) :
    SaneC o.cfg o.u :=
  (((HInvC_iff H).1 (C02_heap_reachable_saneC h)).1 i o ho).2

theorem C02_heap_saneC_steps (H : Heap) (h : HInvC H) :
    (∀ I i st v, HInvC (H.set I i st v).1) ∧ (∀ i, HInvC (H.searchParams i).1) ∧ (∀ s m, HInvC (H.spMutate s m)) ∧
    (∀ i s, HInvC (H.setSearchParams i s)) ∧ (∀ i, HInvC (H.clone i).1) ∧ (∀ I i ref, HInvC (H.urlParse I i ref).1) ∧
    (∀ cfg I raw, FileSpecial cfg → HInvC (H.allocRes cfg (Impl.parse cfg I raw)).1) ∧
    (∀ cfg I raw ref, FileSpecial cfg → HInvC (H.allocRes cfg (Impl.parseRef cfg I raw ref)).1) ∧
    (∀ I p i, HInvC (canonicalize I p H i).1) ∧
    (∀ I p raw, FileSpecial p.cfg → HInvC (canonParse I p H raw).1) ∧
    (∀ I p raw ref, FileSpecial p.cfg → HInvC (canonParseRef I p H raw ref).1) := by
  obtain ⟨h1, h2, h3, h4, h5⟩ := (stable_HInvC (V := fun _ _ _ => True)).steps h
  exact ⟨h1, h2, h3, fun i s => h4 i s trivial, h5⟩

/-! ### liveness of the stored list handles -/

def SpOk (n : Nat) (o : UrlObj) : Prop :=
  match o.sp with
  | some s => s < n
  | none => True

instance (n : Nat) (o : UrlObj) : Decidable (SpOk n o) := by unfold SpOk; split <;> infer_instance

def HInvL (H : Heap) : Prop := HInv H ∧ ∀ o ∈ H.urls, SpOk H.sps.length o

instance (H : Heap) : Decidable (HInvL H) := by unfold HInvL; infer_instance

theorem SpOk_iff (n : Nat) (o : UrlObj) : SpOk n o ↔ ∀ s, o.sp = some s → s < n := by
  unfold SpOk
  cases o.sp with
  | none => simp
  | some j => simp

theorem HInvL_iff (H : Heap) : HInvL H ↔ HInv H ∧ LiveR H := by
  unfold HInvL LiveR
  simp only [forall_mem_iff_idx, SpOk_iff]

theorem HInvL_sp {H : Heap} (h : HInvL H) {i : Nat} {o : UrlObj} (ho : H.urls[i]? = some o) {s : Nat} (hs : o.sp = some s) :
    ∃ so j uo, H.sps[s]? = some so ∧ so.url = some j ∧ H.urls[j]? = some uo := by
  have hl := ((HInvL_iff H).1 h).2 i o ho s hs
  obtain ⟨j, uo, hj, huo⟩ := HInv_sp h.1 (List.getElem?_eq_getElem hl)
  exact ⟨H.sps[s], j, uo, List.getElem?_eq_getElem hl, hj, huo⟩

/-- histories in which `SetSearchParams` is given existing lists -/
abbrev HReachL : Heap → Prop := HReachC (fun _ => True) ValidSp

theorem stable_HInvL : Stable (fun _ => True) (fun H i s => s < H.sps.length ∨ H.urls[i]? = none) HInvL :=
  (stable_HInv.and stable_live).of_iff HInvL_iff

theorem C02_heap_reachable_live {H : Heap} (h : HReachL H) : HInvL H :=
  (stable_HInvL.mono (fun _ _ _ hv => Or.inl hv)).reach h

theorem C02_heap_live_steps (H : Heap) (h : HInvL H) :
    (∀ I i st v, HInvL (H.set I i st v).1) ∧ (∀ i, HInvL (H.searchParams i).1) ∧ (∀ s m, HInvL (H.spMutate s m)) ∧
    (∀ i s, s < H.sps.length ∨ H.urls[i]? = none → HInvL (H.setSearchParams i s)) ∧ (∀ i, HInvL (H.clone i).1) ∧
    (∀ I i ref, HInvL (H.urlParse I i ref).1) ∧
    (∀ cfg I raw, HInvL (H.allocRes cfg (Impl.parse cfg I raw)).1) ∧
    (∀ cfg I raw ref, HInvL (H.allocRes cfg (Impl.parseRef cfg I raw ref)).1) ∧
    (∀ I p i, HInvL (canonicalize I p H i).1) ∧ (∀ I p raw, HInvL (canonParse I p H raw).1) ∧
    (∀ I p raw ref, HInvL (canonParseRef I p H raw ref).1) := by
  obtain ⟨h1, h2, h3, h4, h5, h6, h7, h8, h9, h10, h11⟩ := stable_HInvL.steps h
  exact ⟨h1, h2, h3, h4, h5, h6, fun cfg I raw => h7 cfg I raw trivial, fun cfg I raw ref => h8 cfg I raw ref trivial, h9,
    fun I p raw => h10 I p raw trivial, fun I p raw ref => h11 I p raw ref trivial⟩

/-! ### examples -/

/-- the identity oracle, no error flag (the examples use IPv6 hosts, so it is not consulted) -/
def idI : Idna := fun s => (s, false)

/-- `Parse("http://[::1]:8/a?q=1#f")` -/
def exA : Heap := (({} : Heap).allocRes {} (Impl.parse {} idI (lit "http://[::1]:8/a?q=1#f"))).1
/-- then `SearchParams()` on it and `Clone()`: two url objects, two lists -/
def exB : Heap := ((exA.searchParams 0).1.clone 0).1
/-- two objects without query, each with its own (empty) list -/
def exC : Heap := (((({} : Heap).allocRes {} (Impl.parse {} idI (lit "ws://[::1]/a"))).1.searchParams 0).1.clone 0).1

example : exA.urls.length = 1 ∧ exB.urls.length = 2 ∧ exB.sps.length = 2 := by decide +kernel
example : HInv exA ∧ HInv exB ∧ HInv exC := by decide +kernel
example : HInvC exB ∧ HInvL exB := by decide +kernel
theorem exB_reach : HReachL exB := .clone 0 (.searchParams 0 (.parse {} idI _ trivial .empty))
example : HReach exB := exB_reach.mono (fun _ _ _ _ => trivial)
example : HReachF exB := .clone 0 (.searchParams 0 (.parse {} idI _ (by decide) .empty))
example : HReachL (exB.setSearchParams 1 0) := .setSearchParams 1 0 (by show 0 < exB.sps.length; decide +kernel) exB_reach
/-- the operations return `.url` there: `SetSearch` through the branch with the sites 30/31 (object 1 has list 1), the
    empty value (site 20), the canonicalizer -/
example : (exB.set idI 1 .search (lit "x=2")).2 = .url ∧ (exB.set idI 0 .search []).2 = .url ∧ (exB.set idI 0 .hash []).2 = .url := by
  decide +kernel
example : (canonicalize idI { removeFragment := true, removePort := true, removeUserInfo := true, sortQuery := .sortKeys } exB 1).2 = .url := by
  decide +kernel
/-- a profile with a default scheme: `Parse` retries, canonicalizes the new object; `ParseRef` on a non-empty heap -/
def exP : Profile :=
  { removeUserInfo := true, removePort := true, removeFragment := true, sortQuery := .sortKeys, defaultScheme := lit "http" }
example : (canonParse idI exP {} (lit "//u:p@[::1]:81/a?b=1&a=2#f")).2 = (some 0, .url) := by decide +kernel
example : (canonParseRef idI exP exB (lit "//u:p@[::1]:81/a?b=1&a=2#f") (lit "../c?z#g")).2 = (some 2, .url) := by decide +kernel
example : (((canonParse idI { exP with sortQuery := .noSort } {} (lit "//u:p@[::1]:81/a?b=1&a=2#f")).1.urls[0]?).map
    fun o => href o.u false) = some (lit "http://[::1]/a?b=1&a=2") := by decide +kernel
example : exB.urls[2]? = none ∧ exB.sps[2]? = none := by decide +kernel

/-- back pointer nil / out of range: site 30; opaque path without element: sites 20, 21 (also through the canonicalizer) -/
def exU : Url := { scheme := lit "http", host := some (lit "h"), path := ⟨[[]], false⟩, query := some (lit "a=1") }
def bad30 : Heap := { urls := [{ u := exU, sp := some 0, cfg := {} }], sps := [{ url := none, params := [] }] }
def bad30' : Heap := { urls := [{ u := exU, sp := some 0, cfg := {} }], sps := [{ url := some 5, params := [] }] }
def bad20 : Heap := { urls := [{ u := { scheme := lit "a", path := ⟨[], true⟩ }, sp := none, cfg := {} }], sps := [] }
example : ¬ HInv bad30 ∧ (bad30.set idI 0 .search (lit "x")).2 = .panic 30 := by decide +kernel
example : ¬ HInv bad30' ∧ (bad30'.set idI 0 .search (lit "x")).2 = .panic 30 := by decide +kernel
example : ¬ HInv bad20 ∧ (bad20.set idI 0 .search []).2 = .panic 20 ∧ (bad20.set idI 0 .hash []).2 = .panic 21 ∧
    (canonicalize idI { removeFragment := true } bad20 0).2 = .panic 21 := by decide +kernel

/-- a list with a nil back pointer added by hand to a reachable heap (outside the model's API: see the header) -/
def exZ : Heap := (exA.allocSp { url := none, params := [] }).1
example : ((exZ.setSearchParams 0 0).set idI 0 .search (lit "x")).2 = .panic 30 := by decide +kernel

theorem ex_dangling : ((exA.setSearchParams 0 7).urls[0]?).map (·.sp) = some (some 7) ∧ (exA.setSearchParams 0 7).sps.length = 0 ∧
    HReach (exA.setSearchParams 0 7) ∧ ¬ HInvL (exA.setSearchParams 0 7) ∧ HInv (exA.setSearchParams 0 7) ∧
    ((exA.setSearchParams 0 7).set idI 0 .search (lit "x")).2 = .url := by
  refine ⟨by decide +kernel, by decide +kernel, .setSearchParams 0 7 trivial (.parse {} idI _ trivial .empty), by decide +kernel,
    by decide +kernel, by decide +kernel⟩

/-- a shared list: object 1 is given object 0's list (whose back pointer keeps designating object 0, so `OwnSp` fails for
    object 1); `SetSearch` on object 1 then re-initialises list 0 with object 0's parser — no panic -/
example : HInvL (exC.setSearchParams 1 0) ∧ ((exC.setSearchParams 1 0).set idI 1 .search (lit "x")).2 = .url ∧
    (((exC.setSearchParams 1 0).urls[1]?).map (·.sp)) = some (some 0) ∧
    (((exC.setSearchParams 1 0).sps[0]?).map (·.url)) = some (some 0) := by decide +kernel

/-- a configuration without "file" among its special schemes: parse "foo:/x", set the protocol to "file".  The record is
    not `SaneC` any more, `HInv` holds, nothing panics. -/
def cfgNoFile : Cfg := { specialSchemes := [(lit "http", lit "80")] }
def exN : Heap :=
  ((({} : Heap).allocRes cfgNoFile (Impl.parse cfgNoFile idI (lit "foo:/x"))).1.set idI 0 .protocol (lit "file")).1
example : HInv exN ∧ ¬ HInvC exN := by decide +kernel
example : (exN.set idI 0 .protocol (lit "foo")).2 = .url ∧ (exN.set idI 0 .search []).2 = .url ∧
    (exN.urlParse idI 0 (lit "..")).2.2 = .url := by decide +kernel
example : ¬ FileSpecial cfgNoFile ∧ FileSpecial {} := by decide +kernel

end WhatwgUrl.Props.C02c

#print axioms WhatwgUrl.Props.C02c.C02_set_inv
#print axioms WhatwgUrl.Props.C02c.C02_searchParams_inv
#print axioms WhatwgUrl.Props.C02c.C02_spMutate_inv
#print axioms WhatwgUrl.Props.C02c.C02_setSearchParams_inv
#print axioms WhatwgUrl.Props.C02c.C02_clone_inv
#print axioms WhatwgUrl.Props.C02c.C02_urlParse_inv
#print axioms WhatwgUrl.Props.C02c.C02_allocRes_inv
#print axioms WhatwgUrl.Props.C02c.C02_parse_inv
#print axioms WhatwgUrl.Props.C02c.C02_parseRef_inv
#print axioms WhatwgUrl.Props.C02c.C02_canonicalize_inv
#print axioms WhatwgUrl.Props.C02c.C02_canonParse_inv
#print axioms WhatwgUrl.Props.C02c.C02_canonParseRef_inv
#print axioms WhatwgUrl.Props.C02c.C02_set_no_panic
#print axioms WhatwgUrl.Props.C02c.C02_setSearch_no_panic
#print axioms WhatwgUrl.Props.C02c.C02_urlParse_no_panic
#print axioms WhatwgUrl.Props.C02c.C02_parse_no_panic'
#print axioms WhatwgUrl.Props.C02c.C02_parseRef_no_panic
#print axioms WhatwgUrl.Props.C02c.C02_canonicalize_no_panic
#print axioms WhatwgUrl.Props.C02c.C02_canonParse_no_panic
#print axioms WhatwgUrl.Props.C02c.C02_canonParseRef_no_panic
#print axioms WhatwgUrl.Props.C02c.C02_site31_dead
#print axioms WhatwgUrl.Props.C02c.C02_site31_dead_heap
#print axioms WhatwgUrl.Props.C02c.C02_heap_reachable_inv
#print axioms WhatwgUrl.Props.C02c.C02_heap_no_panic
#print axioms WhatwgUrl.Props.C02c.C02_heap_reachable_saneC
#print axioms WhatwgUrl.Props.C02c.C02_heap_saneC_steps
#print axioms WhatwgUrl.Props.C02c.C02_heap_reachable_live
#print axioms WhatwgUrl.Props.C02c.C02_heap_live_steps
#print axioms WhatwgUrl.Props.C02c.canonicalize_invalid
#print axioms WhatwgUrl.Props.C02c.ex_dangling
