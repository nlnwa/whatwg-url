import WhatwgUrl.Proofs.StableSort
import WhatwgUrl.Proofs.SpExactB
import WhatwgUrl.Proofs.SpEval
import WhatwgUrl.Proofs.Domain
import WhatwgUrl.Generated.Facts
/-
  C11 — `SearchParams` is an ordered list of pairs with the standard's urlencoded codec.
  * The list operations are the standard's (`C11_delete`, `_get`, `_getAll`, `_has`, `_set`), also under any sequence of
    mutations (`C11_ops_refine`).
  * `Sort` / `SortAbsolute` are the stable sort by name / by name ++ value: `C11_sort_perm`, `_sorted`, `_stable`, which
    determine the result (`_unique`, `_spec`); that the Go source calls a stable sort is `C11_sort_uses_stable`.
  * Parsing is the standard's urlencoded parser (`C11_parse_conforms`; its percent-decoder: `C11_decode_conforms`), on
    BYTES: the clause "bytes that are not valid UTF-8 count as U+FFFD" has no theorem (`Spec.urlencodedParse` leaves the
    lossy UTF-8 decoding to its consumer; the substitution shows on the serializer side only, in the `[0xff]` example and
    `SpExact.san` of Proofs/SpExact.lean).
  * Serialize-then-parse is NOT the identity (`C11_roundtrip_false`, known finding F8). It is proved for ASCII text free
    of `& = + %` (`C11_roundtrip_ascii_partial`); the exact class is the subject of Props/C11b.lean.
-/
namespace WhatwgUrl.Props.C11
open WhatwgUrl WhatwgUrl.Impl

theorem C11_delete (l : Pairs) (n : Bytes) : spDelete l n = Spec.spDelete l n := rfl

/-- Go returns `""` for a missing name -/
theorem C11_get (l : Pairs) (n : Bytes) : spGet l n = (Spec.spGet l n).getD [] := rfl

theorem C11_getAll (l : Pairs) (n : Bytes) : spGetAll l n = Spec.spGetAll l n := rfl

theorem C11_has (l : Pairs) (n : Bytes) : spHas l n = Spec.spHas l n := rfl

theorem C11_set (l : Pairs) (n v : Bytes) : spSet l n v = Spec.spSet l n v :=
  Proofs.SearchParams.spSet_eq l n v

example : spSet [(lit "a", lit "1"), (lit "b", lit "2"), (lit "a", lit "3"), (lit "c", lit "4"), (lit "a", lit "5")]
    (lit "a") (lit "x") = [(lit "a", lit "x"), (lit "b", lit "2"), (lit "c", lit "4")] := by decide
example : spSet [(lit "b", lit "2")] (lit "a") (lit "x") = [(lit "b", lit "2"), (lit "a", lit "x")] := by decide
example : spGet [(lit "b", lit "2")] (lit "a") = [] := by decide

/-- `a ≤ b` in Go's string order (= `Proofs.SearchParams.keyLe` by `rfl`, which the `sortStable_*` lemmas are stated with) -/
def keyLe (a b : Bytes) : Prop := bytesLt b a = false

theorem C11_bytesLt_order :
    (∀ a, bytesLt a a = false) ∧
    (∀ a b c, bytesLt a b = true → bytesLt b c = true → bytesLt a c = true) ∧
    (∀ a b, bytesLt a b = false → bytesLt b a = false → a = b) :=
  ⟨Proofs.SearchParams.bytesLt_irrefl, Proofs.SearchParams.bytesLt_trans, Proofs.SearchParams.bytesLt_total⟩

theorem C11_sort_perm (key : Bytes × Bytes → Bytes) (l : Pairs) : (sortStable key l).Perm l :=
  Proofs.SearchParams.sortStable_perm key l

theorem C11_sort_sorted (key : Bytes × Bytes → Bytes) (l : Pairs) :
    (sortStable key l).Pairwise (fun a b => keyLe (key a) (key b)) :=
  Proofs.SearchParams.sortStable_sorted key l

theorem C11_sort_stable (key : Bytes × Bytes → Bytes) (l : Pairs) (k : Bytes) :
    (sortStable key l).filter (fun p => key p == k) = l.filter (fun p => key p == k) :=
  Proofs.SearchParams.sortStable_filter key l k

/-- order and stability (`hf` implies that `r` is a permutation of `l`) determine the result, so modelling Go's
    `sort.SliceStable` by an insertion sort loses nothing -/
theorem C11_sort_unique (key : Bytes × Bytes → Bytes) (l r : Pairs)
    (hs : r.Pairwise (fun a b => keyLe (key a) (key b)))
    (hf : ∀ k, r.filter (fun p => key p == k) = l.filter (fun p => key p == k)) :
    r = sortStable key l :=
  Proofs.SearchParams.stable_sort_unique key r (sortStable key l) hs (C11_sort_sorted key l)
    (fun k => by rw [hf k, C11_sort_stable])

/-- the stable sort by key as a function: core's merge sort (= `l.mergeSort (Proofs.SearchParams.leKey key)` by `rfl`,
    the form `sortStable_eq_mergeSort` is stated with) -/
def specSort (key : Bytes × Bytes → Bytes) (l : Pairs) : Pairs :=
  l.mergeSort (fun a b => !bytesLt (key b) (key a))

theorem C11_sort_spec (key : Bytes × Bytes → Bytes) (l : Pairs) : sortStable key l = specSort key l :=
  Proofs.SearchParams.sortStable_eq_mergeSort key l

example : spSort [(lit "b", lit "1"), (lit "a", lit "2"), (lit "b", lit "0"), (lit "a", lit "1")] =
    [(lit "a", lit "2"), (lit "a", lit "1"), (lit "b", lit "1"), (lit "b", lit "0")] := by decide
example : spSortAbs [(lit "b", lit "1"), (lit "a", lit "2"), (lit "b", lit "0"), (lit "a", lit "1")] =
    [(lit "a", lit "1"), (lit "a", lit "2"), (lit "b", lit "0"), (lit "b", lit "1")] := by decide
-- bytes ≥ 0x80 compare unsigned
example : spSort [([0xff], []), (lit "ab", []), (lit "a", []), ([], [])] =
    [([], []), (lit "a", []), (lit "ab", []), ([0xff], [])] := by decide
-- the hypotheses of `C11_sort_unique` hold of a list that is not given as `sortStable …`
example : ([(lit "a", lit "2"), (lit "b", lit "1")] : Pairs).Pairwise (fun a b => keyLe a.1 b.1) := by
  simp [keyLe]; decide
example : ∀ k, ([(lit "a", lit "2"), (lit "b", lit "1")] : Pairs).filter (fun p => p.1 == k) =
    ([(lit "b", lit "1"), (lit "a", lit "2")] : Pairs).filter (fun p => p.1 == k) := by
  intro k
  have hne : lit "a" ≠ lit "b" := by decide
  by_cases h1 : lit "a" = k
  · subst h1; simp [hne.symm]
  · by_cases h2 : lit "b" = k
    · subst h2; simp [hne]
    · simp [h1, h2]

/-- one mutation according to the standard (`iterate` is not a method of the standard: the map itself) -/
def specStep (l : Pairs) (m : Heap.SpMut) : Pairs :=
  match m with
  | .append n v => Spec.spAppend l n v
  | .delete n => Spec.spDelete l n
  | .set n v => Spec.spSet l n v
  | .sort => specSort (·.1) l
  | .sortAbs => specSort (fun nv => nv.1 ++ nv.2) l
  | .iterate f => l.map f

theorem C11_step_refine (m : Heap.SpMut) (l : Pairs) : Heap.applyMut m l = specStep l m := by
  cases m with
  | append n v => rfl
  | delete n => rfl
  | set n v => exact C11_set l n v
  | sort => exact C11_sort_spec _ l
  | sortAbs => exact C11_sort_spec _ l
  | iterate f => rfl

theorem C11_ops_refine (ops : List Heap.SpMut) (l : Pairs) :
    ops.foldl (fun l m => Heap.applyMut m l) l = ops.foldl specStep l := by
  induction ops generalizing l with
  | nil => rfl
  | cons m ms ih => simp only [List.foldl_cons, C11_step_refine]

example : [Heap.SpMut.append (lit "b") (lit "1"), .append (lit "a") (lit "2"), .append (lit "b") (lit "3"),
      .set (lit "b") (lit "x"), .sort, .delete (lit "c")].foldl (fun l m => Heap.applyMut m l) [(lit "c", [])] =
    [(lit "a", lit "2"), (lit "b", lit "x")] := by decide

theorem C11_decode_conforms (s : Bytes) : decodePercent Cfg.default s = Spec.percentDecode s :=
  Proofs.Percent.decodePercent_default s

theorem C11_parse_conforms (q : Bytes) : spInit Cfg.default q = Spec.urlencodedParse q :=
  Proofs.SearchParams.spInit_default q

-- Evaluating `spInit`: `decodePercent` is compiled by well-founded recursion, which `decide` cannot unfold, so `spInit` is
-- first rewritten into its structurally recursive twin `Idem.spInitC` (`Proofs.Idem.spInit_funC`, in Proofs/SpEval.lean).
-- The idiom `rw [Proofs.Idem.spInit_funC]; decide` here and in C11b, C12, C12c is always this.
example : spInit Cfg.default (lit "a=1&&b=%41+%zz=&=c&d") =
    [(lit "a", lit "1"), (lit "b", lit "A %zz="), ([], lit "c"), (lit "d", [])] := by
  rw [Proofs.Idem.spInit_funC]; decide

/-- FALSE (`C11_roundtrip_false`): the serializer escapes with the *query* percent-encode set only, so `& = + %` inside
    names and values are written verbatim (and ill-formed UTF-8 becomes U+FFFD) -/
def C11_roundtrip_Statement : Prop := ∀ l : Pairs, spInit Cfg.default (spString Cfg.default l) = l

theorem C11_roundtrip_counterexample :
    spInit Cfg.default (spString Cfg.default [(lit "a&b", lit "c=d")]) ≠ [(lit "a&b", lit "c=d")] := by
  rw [Proofs.Idem.spInit_funC]; decide

theorem C11_roundtrip_false : ¬ C11_roundtrip_Statement :=
  fun h => C11_roundtrip_counterexample (h _)

example : spString Cfg.default [(lit "a&b", lit "c=d")] = lit "a&b=c=d" := by decide
example : spInit Cfg.default (lit "a&b=c=d") = [(lit "a", []), (lit "b", lit "c=d")] := by
  rw [Proofs.Idem.spInit_funC]; decide
example : spInit Cfg.default (spString Cfg.default [(lit "a+b", [])]) = [(lit "a b", [])] := by
  rw [Proofs.Idem.spInit_funC]; decide
example : spInit Cfg.default (spString Cfg.default [(lit "%41", [])]) = [(lit "A", [])] := by
  rw [Proofs.Idem.spInit_funC]; decide
example : spInit Cfg.default (spString Cfg.default [(lit "a", lit "=")]) = [(lit "a", lit "=")] := by
  rw [Proofs.Idem.spInit_funC]; decide
example : spInit Cfg.default (spString Cfg.default [(lit "a=", lit "b")]) = [(lit "a", lit "=b")] := by
  rw [Proofs.Idem.spInit_funC]; decide
example : spInit Cfg.default (spString Cfg.default [([0xff], [])]) = [([0xef, 0xbf, 0xbd], [])] := by
  rw [Proofs.Idem.spInit_funC]; decide

/-- 0x21–0x7E other than `& = + % # " < >`: the bytes that the serializer writes verbatim and that are no urlencoded
    delimiter -/
def plainByte (x : UInt8) : Bool :=
  x.toNat ≥ 0x21 && x.toNat ≤ 0x7E && x != 0x26 && x != 0x3d && x != 0x2b && x != 0x25 && x != 0x23 && x != 0x22 &&
    x != 0x3c && x != 0x3e

def PlainPairs (l : Pairs) : Prop := ∀ p ∈ l, p.1 ≠ [] ∧ p.1.all plainByte = true ∧ p.2.all plainByte = true

/-- every ASCII byte except the four that the serializer should escape and does not, `& = + %` (space is written as
    `+`, the query set's members as `%XX`, the others verbatim) -/
def rtByte (x : UInt8) : Bool := x.toNat < 0x80 && x != 0x26 && x != 0x3d && x != 0x2b && x != 0x25

def RtPairs (l : Pairs) : Prop := ∀ p ∈ l, p.1.all rtByte = true ∧ p.2.all rtByte = true

instance (l : Pairs) : Decidable (PlainPairs l) := by unfold PlainPairs; infer_instance
instance (l : Pairs) : Decidable (RtPairs l) := by unfold RtPairs; infer_instance

/-- `rtByte` text lies in the exact class of C11b -/
private theorem good_of_rt (s : Bytes) (h : s.all rtByte = true) :
    Proofs.SpExact.goodName s = true ∧ Proofs.SpExact.goodValue s = true := by
  have hb : ∀ x ∈ s, x.toNat < 0x80 ∧ x ≠ 0x26 ∧ x ≠ 0x3d ∧ x ≠ 0x2b ∧ x ≠ 0x25 := by
    intro x hx
    have := List.all_eq_true.mp h x hx
    simpa [rtByte, and_assoc] using this
  have hv := Proofs.Domain.validUtf8_ascii s (fun x hx => (hb x hx).1)
  have hp := Proofs.SpExact.noPct_of_no_pct s (fun x hx => (hb x hx).2.2.2.2)
  exact ⟨Proofs.SpExact.goodName_iff.2 ⟨hv, hp, fun x hx => ⟨(hb x hx).2.1, (hb x hx).2.2.1, (hb x hx).2.2.2.1⟩⟩,
    Proofs.SpExact.goodValue_iff.2 ⟨hv, hp, fun x hx => ⟨(hb x hx).2.1, (hb x hx).2.2.2.1⟩⟩⟩

theorem C11_roundtrip_ascii_partial (l : Pairs) (h : RtPairs l) :
    spInit Cfg.default (spString Cfg.default l) = l :=
  Proofs.SpExact.rt_of_exact l (fun p hp => ⟨(good_of_rt p.1 (h p hp).1).1, (good_of_rt p.2 (h p hp).2).2⟩)

private theorem plain_rt : ∀ x : UInt8, plainByte x = true → rtByte x = true := by
  apply Proofs.forall_uint8
  decide +kernel

theorem PlainPairs.rt {l : Pairs} (h : PlainPairs l) : RtPairs l := by
  intro p hp
  obtain ⟨_, h1, h2⟩ := h p hp
  rw [List.all_eq_true] at h1 h2 ⊢
  exact ⟨fun x hx => plain_rt x (h1 x hx), by rw [List.all_eq_true]; exact fun x hx => plain_rt x (h2 x hx)⟩

/-- a proper instance of `C11_roundtrip_ascii_partial` (the proof uses none of the additional restrictions of
    `PlainPairs`), which is itself an instance of `C11b.C11b_roundtrip_utf8_partial` -/
theorem C11_roundtrip_partial (l : Pairs) (h : PlainPairs l) :
    spInit Cfg.default (spString Cfg.default l) = l :=
  C11_roundtrip_ascii_partial l h.rt

example : PlainPairs [(lit "name", lit "value"), (lit "a/b?c", lit "~!$'()*,;:@[]"), (lit "k", [])] := by decide
example : RtPairs [(lit "a b", lit "c d#\"<>~"), ([], []), ([0x00, 0x7f], lit " ")] := by decide
example : spString Cfg.default [(lit "a b", lit "c d#\"<>~"), ([], []), ([0x00, 0x7f], lit " ")] =
    lit "a+b=c+d%23%22%3C%3E~&=&%00%7F=+" := by decide

/-- Go's stable sort functions (the model's `sortStable` stands for any of them) -/
def stableSorts : List String := ["sort.SliceStable", "sort.Stable", "slices.SortStableFunc"]
def unstableSorts : List String := ["sort.Slice", "sort.Sort", "sort.Strings", "slices.Sort", "slices.SortFunc"]

/-- over the callee lists regenerated from the Go source (T1) -/
theorem C11_sort_uses_stable : ∀ c ∈ Generated.callees, (c.1 = "SearchParams.Sort" ∨ c.1 = "SearchParams.SortAbsolute") →
    (∃ f ∈ c.2, f ∈ stableSorts) ∧ (∀ f ∈ c.2, f ∉ unstableSorts) ∧ "s.update" ∈ c.2 := by decide

end WhatwgUrl.Props.C11
