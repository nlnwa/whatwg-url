import WhatwgUrl.Proofs.Effect
/-
  Helper lemmas for C02 (termination of the `BasicParser` loop with an explicit bound).

  Measure.  With `N = e.runes.length`,
      `mu N ps = rank ps.state * (N + 2) + (N - max ps.pointer (-1))`      (an `Int`)
  where `rank` orders the states so that every state CHANGE of the machine goes to a strictly lower rank.

  The pointer is clamped from below (`max pointer (-1)`), and the loop invariant only says `pointer < N ∧ eof = false`, so
  a rewind of any length (the authority state rewinds by the length of the buffer) is paid for by the rank:
    * a state change drops the rank by ≥ 1, which pays for ANY pointer position `< N` (the second summand is in `[1, N+1]`);
    * a self-loop never rewinds; it continues only if `eof` is still `false` after `next`, and `next` leaves `eof = false`
      only when `0 ≤ pointer + 1 < N` — so in a continuing self-loop the un-clamped pointer is ≥ -1 and advances by one.
-/
namespace WhatwgUrl.Proofs.Termination
set_option linter.unusedSimpArgs false
open WhatwgUrl WhatwgUrl.Impl
open WhatwgUrl.Proofs.Machine

/-- a topological order of the table `Machine.succ`: a state's successors are the state itself or of lower rank
    (`rank_succ`) -/
def rank : State → Nat
  | .fragment => 0
  | .query => 1
  | .path => 2
  | .opaquePath => 3
  | .pathStart => 4
  | .fileHost => 5
  | .port => 6
  | .host => 7
  | .hostname => 7
  | .authority => 8
  | .specialAuthorityIgnoreSlashes => 9
  | .fileSlash => 10
  | .file => 11
  | .relativeSlash => 12
  | .relative => 13
  | .specialRelativeOrAuthority => 14
  | .specialAuthoritySlashes => 14
  | .pathOrAuthority => 14
  | .noScheme => 15
  | .scheme => 16
  | .schemeStart => 17

theorem rank_le (s : State) : rank s ≤ 17 := by cases s <;> decide

def mu (N : Nat) (ps : PS) : Int := ((rank ps.state * (N + 2) : Nat) : Int) + ((N : Int) - max ps.pointer (-1))

export WhatwgUrl.Proofs.Machine (next_pointer next_state)

theorem bottom_cont (r : StepR) (ps' : PS) : bottom r = .cont ps' ↔ r = .cont ps' ∧ ps'.eof = false := by
  cases r <;> grind [bottom]

theorem herr_true (e : Env) (ps : PS) (t : ErrT) (k : PS → StepR) :
    herr e ps t true k = .done ⟨record e.cfg ps.url t true, .err ⟨t, true⟩ false⟩ := by
  simp [herr, stops_true]

/-- what `body_good` proves about a continuing body: the pointer stays below `N`, and either the rank dropped or
    it is a self-loop that did not rewind (and `eof` was still false after `next`) -/
def Good (N : Nat) (q ps' : PS) : Prop :=
  ps'.pointer < N ∧ (rank ps'.state < rank q.state ∨ (rank ps'.state = rank q.state ∧ ps'.pointer = q.pointer ∧ q.eof = false))

theorem rank_succ (ov : Bool) (s s' : State) (h : s' ∈ succ ov s) : s' = s ∨ rank s' < rank s := by
  have : (succ ov s).all (fun s' => decide (s' = s ∨ rank s' < rank s)) = true := by cases ov <;> cases s <;> decide
  simpa using List.all_eq_true.mp this s' h

theorem body_good (e : Env) (q : PS) (r : Char)
    (hq1 : q.pointer ≤ e.runes.length) (hq : q.eof = false → q.pointer < e.runes.length) (hrepl : q.eof = true → r = repl) :
    Sh (fun ps' => ps'.eof = false → Good e.runes.length q ps') (fun x => x.ret ≠ .outOfFuel) (body e q r) := by
  refine (body_eff e q r fun _ => hrepl).mono (fun ps' ⟨hs, hself, hm, _⟩ he => ?_) (fun _ h => h.1)
  have hn := next_eof_iff e.runes q
  rcases rank_succ _ _ _ hs with heq | hlt
  · -- a self-loop leaves the cursor where it is
    obtain ⟨hp, hE⟩ := hself heq
    rw [he] at hE
    exact ⟨by rw [hp]; exact hq hE.symm, Or.inr ⟨by rw [heq], hp, hE.symm⟩⟩
  · -- a change of state may rewind, or advance to a code point that is there
    refine ⟨?_, Or.inl hlt⟩
    rcases hm with ⟨hp, hE⟩ | ⟨_, hp | hp⟩ | ⟨hp, hE⟩
    · rw [hp]; exact hq (by rw [← hE, he])
    · omega
    · omega
    · rw [he] at hE; have := hn.mp hE.symm; omega

def Inv (N : Nat) (ps : PS) : Prop := ps.pointer < N ∧ ps.eof = false

theorem mu_pos (N : Nat) (ps : PS) (h : Inv N ps) : 1 ≤ mu N ps := by
  unfold mu; have := h.1; omega

theorem step_good (e : Env) (ps : PS) (hI : Inv e.runes.length ps) :
    Sh (fun ps' => Inv e.runes.length ps' ∧ mu e.runes.length ps' < mu e.runes.length ps)
      (fun x => x.ret ≠ .outOfFuel) (step e ps) := by
  obtain ⟨hp, hE⟩ := hI
  have hq1 : (next e.runes ps).1.pointer ≤ e.runes.length := by rw [next_pointer]; omega
  have hq : (next e.runes ps).1.eof = false → (next e.runes ps).1.pointer < e.runes.length := by
    intro h; have := (next_eof_iff _ _).mp h; rw [next_pointer]; omega
  rw [Sh_step]
  refine (body_good e _ (next e.runes ps).2 hq1 hq (next_repl _ _ hE)).mono (fun ps' hg => ?_) (fun _ h => h)
  refine (Owes_iff _).2 ⟨fun _ => nofun, fun he => ?_⟩
  obtain ⟨hlt, hor⟩ := hg he
  refine ⟨⟨hlt, he⟩, ?_⟩
  rw [next_state, next_pointer] at hor
  unfold mu
  rcases hor with hr | ⟨hr, hpp, hqe⟩
  · -- the rank dropped: that pays for any pointer below `N`
    have hm : (rank ps'.state + 1) * (e.runes.length + 2) ≤ rank ps.state * (e.runes.length + 2) :=
      Nat.mul_le_mul_right _ hr
    rw [Nat.add_mul] at hm
    generalize rank ps'.state * (e.runes.length + 2) = A at hm ⊢
    generalize rank ps.state * (e.runes.length + 2) = B at hm ⊢
    omega
  · have := (next_eof_iff _ _).mp hqe
    rw [hr, hpp]
    omega

theorem step_cont (e : Env) (ps ps' : PS) (hI : Inv e.runes.length ps) (h : step e ps = .cont ps') :
    Inv e.runes.length ps' ∧ mu e.runes.length ps' < mu e.runes.length ps := by
  have := step_good e ps hI
  rwa [h] at this

theorem loop_ok (e : Env) : ∀ (fuel : Nat) (ps : PS), Inv e.runes.length ps → mu e.runes.length ps ≤ fuel →
    (loop e fuel ps).ret ≠ .outOfFuel := by
  intro fuel
  induction fuel with
  | zero => intro ps hI hm; have := mu_pos _ _ hI; omega
  | succ n ih =>
    intro ps hI hm
    unfold loop
    split
    · rename_i ps' hs
      obtain ⟨hI', hlt⟩ := step_cont e ps ps' hI hs
      exact ih ps' hI' (by omega)
    · rename_i r hs
      have := step_good e ps hI
      rwa [hs] at this

theorem loop_fuel_irrel (e : Env) : ∀ (f f' : Nat) (ps : PS), Inv e.runes.length ps →
    mu e.runes.length ps ≤ f → mu e.runes.length ps ≤ f' → loop e f ps = loop e f' ps := by
  intro f
  induction f with
  | zero => intro f' ps hI hm; have := mu_pos _ _ hI; omega
  | succ n ih =>
    intro f' ps hI hm hm'
    cases f' with
    | zero => have := mu_pos _ _ hI; omega
    | succ n' =>
      unfold loop
      split
      · rename_i ps' hs
        obtain ⟨hI', hlt⟩ := step_cont e ps ps' hI hs
        exact ih n' ps' hI' (by omega) (by omega)
      · rfl

/-- the sharper bound that the rank assignment actually gives: `18·(N+2) − 1` -/
theorem mu_init18 (N : Nat) (ps : PS) (hp : ps.pointer = -1) : mu N ps + 1 ≤ (18 * (N + 2) : Nat) := by
  unfold mu
  have hm : rank ps.state * (N + 2) ≤ 17 * (N + 2) := Nat.mul_le_mul_right _ (rank_le _)
  generalize rank ps.state * (N + 2) = A at hm ⊢
  omega

/-- 24 is the constant of `Impl.fuelFor`; the ranks give 18 = 17 + 1 (`mu_init18`) -/
theorem mu_init (N : Nat) (ps : PS) (hp : ps.pointer = -1) (hE : ps.eof = false) :
    Inv N ps ∧ mu N ps ≤ (24 * (N + 2) : Nat) := by
  have := mu_init18 N ps hp
  exact ⟨⟨by omega, hE⟩, by omega⟩

theorem loop_terminates (e : Env) (s : State) (u : Url) : (loop e (fuelFor e.runes) (start s u)).ret ≠ .outOfFuel := by
  obtain ⟨hI, hm⟩ := mu_init e.runes.length (start s u) rfl rfl
  exact loop_ok e _ _ hI (by unfold fuelFor; exact hm)

theorem basicParser_fuel (cfg : Cfg) (I : Idna) (input : Bytes) (base url : Option Url) (ov : Option State) :
    (basicParser cfg I input base url ov).ret ≠ .outOfFuel := by
  rw [Machine.basicParser_eq]
  rcases Machine.prologue_cases cfg input url ov with ⟨_, u, _, h⟩ | ⟨u, _, h⟩ <;> rw [h]
  · nofun
  · exact loop_terminates _ _ _

theorem loop_fuel_monotone (e : Env) (ps0 : PS) (hp : ps0.pointer = -1) (hE : ps0.eof = false) (f : Nat)
    (hf : fuelFor e.runes ≤ f) : loop e f ps0 = loop e (fuelFor e.runes) ps0 := by
  obtain ⟨hI, hm⟩ := mu_init e.runes.length ps0 hp hE
  have hm' : mu e.runes.length ps0 ≤ (fuelFor e.runes : Nat) := by unfold fuelFor; exact hm
  exact loop_fuel_irrel e _ _ ps0 hI (by omega) hm'

/-! ## statements kept for their own sake

  Nothing in the development calls what follows. `rank_*`: the value of `rank` at each state. `Sh P`: a shape predicate for
  the outcomes of a step whose returning outcomes are "not out of fuel"; it is `Machine.Sh P (· ≠ .outOfFuel)` (`Sh_iff`),
  and `Sh_retUrl`, `Sh_herr_true`, `Sh_herr` are its rules for `retUrl` and `herr`. `leaf`: a tactic for one outcome of a
  state function. -/

theorem rank_fragment : rank .fragment = 0 := rfl
theorem rank_query : rank .query = 1 := rfl
theorem rank_path : rank .path = 2 := rfl
theorem rank_opaquePath : rank .opaquePath = 3 := rfl
theorem rank_pathStart : rank .pathStart = 4 := rfl
theorem rank_fileHost : rank .fileHost = 5 := rfl
theorem rank_port : rank .port = 6 := rfl
theorem rank_host : rank .host = 7 := rfl
theorem rank_hostname : rank .hostname = 7 := rfl
theorem rank_authority : rank .authority = 8 := rfl
theorem rank_sAIS : rank .specialAuthorityIgnoreSlashes = 9 := rfl
theorem rank_fileSlash : rank .fileSlash = 10 := rfl
theorem rank_file : rank .file = 11 := rfl
theorem rank_relativeSlash : rank .relativeSlash = 12 := rfl
theorem rank_relative : rank .relative = 13 := rfl
theorem rank_sROA : rank .specialRelativeOrAuthority = 14 := rfl
theorem rank_sAS : rank .specialAuthoritySlashes = 14 := rfl
theorem rank_pOA : rank .pathOrAuthority = 14 := rfl
theorem rank_noScheme : rank .noScheme = 15 := rfl
theorem rank_scheme : rank .scheme = 16 := rfl
theorem rank_schemeStart : rank .schemeStart = 17 := rfl

/-- every continuing outcome satisfies `P`, and every returning outcome is not `.outOfFuel` -/
def Sh (P : PS → Prop) (r : StepR) : Prop :=
  (∀ ps', r = .cont ps' → P ps') ∧ (∀ x, r = .done x → x.ret ≠ .outOfFuel)

/-- `Sh P` is the shared shape predicate with "not out of fuel" for the returning outcomes -/
theorem Sh_iff (P : PS → Prop) (r : StepR) : Sh P r ↔ Machine.Sh P (fun x => x.ret ≠ .outOfFuel) r := by
  cases r <;> simp [Sh, Machine.Sh]

theorem Sh_retUrl (P : PS → Prop) (ps : PS) : Sh P (retUrl ps) := (Sh_iff _ _).2 nofun
theorem Sh_herr_true (P : PS → Prop) (e : Env) (ps : PS) (t : ErrT) (k : PS → StepR) : Sh P (herr e ps t true k) := by
  rw [herr_true]; exact (Sh_iff _ _).2 nofun
theorem Sh_herr (P : PS → Prop) (e : Env) (ps : PS) (t : ErrT) (f : Bool) (k : PS → StepR)
    (h : ∀ u, Sh P (k { ps with url := u })) : Sh P (herr e ps t f k) :=
  (Sh_iff _ _).2 ((Machine.Sh_herr e ps t f k).2 ⟨fun _ => nofun, fun _ => (Sh_iff _ _).1 (h _)⟩)

/-- close one outcome of a state function: the value of `rank` at the states, then arithmetic -/
macro "leaf" hst:ident : tactic => `(tactic|
  (intro he
   simp only [Good, rewindLast, resetInput, rewind, writeRune, next_pointer, next_state,
     rank_fragment, rank_query, rank_path, rank_opaquePath, rank_pathStart, rank_fileHost, rank_port, rank_host,
     rank_hostname, rank_authority, rank_sAIS, rank_fileSlash, rank_file, rank_relativeSlash, rank_relative,
     rank_sROA, rank_sAS, rank_pOA, rank_noScheme, rank_scheme, rank_schemeStart, $hst:ident] at he ⊢
   try have h2 := next_eof _ _ he
   simp_all <;> omega))

end WhatwgUrl.Proofs.Termination
