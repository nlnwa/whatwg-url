import WhatwgUrl.Impl.Parser
import WhatwgUrl.Proofs.HostTr
import WhatwgUrl.Proofs.IPv4
import WhatwgUrl.Proofs.AsciiCase
import WhatwgUrl.Proofs.Percent
/-
  Domain hosts (C09b): the ASCII pipeline of `parseHost` around the IDNA oracle — the `xn--` automaton of
  `containsOnlyASCIIOrMiscAndNoPunycode` against `splitOn`/`isPrefixOf`, ToASCII on pure ASCII, the tail after ToASCII, and
  the spellings (`%XX`) that `decodePercent` undoes.  Declared elsewhere under this namespace: `finishDomain` (HostWF.lean, where
  `domainHost` is written with it; `HostCase.toAsciiOut` stands there too) and `hex2` (Percent.lean).
-/
namespace WhatwgUrl.Proofs.Domain
open WhatwgUrl WhatwgUrl.Impl WhatwgUrl.Proofs.IPv4

/-- `lit "xn--"` byte by byte, the form in which `autB_of_noAce` matches it -/
def ace : Bytes := [0x78, 0x6e, 0x2d, 0x2d]

/-- a pure-ASCII string without an ACE (`xn--`) label start -/
def PureAsciiNoAce (s : Bytes) : Prop :=
  (∀ x ∈ s, x.toNat < 0x80) ∧ ∀ l ∈ splitOn 0x2e (asciiLower s), ¬ (lit "xn--").isPrefixOf l = true

instance (s : Bytes) : Decidable (PureAsciiNoAce s) := by unfold PureAsciiNoAce; infer_instance

/-- L1: on a pure-ASCII input without ACE label the library returns the ASCII-lower-cased input (possibly together
    with an error flag, e.g. for STD3-disallowed characters) -/
def L1 (I : Idna) : Prop := ∀ s, PureAsciiNoAce s → (I s).1 = asciiLower s

/-- replace the ghost field `qlog` -/
def withQ (q : List Bytes) (u : Url) : Url := { u with qlog := q }

theorem asciiLower_ascii {s : Bytes} (h : Ascii s) : Ascii (asciiLower s) := by
  intro y hy
  obtain ⟨x, hx, rfl⟩ := AsciiCase.mem_asciiLower.mp hy
  exact (AsciiCase.lowerB_lt_iff x).mpr (h x hx)

theorem ascii_of_asciiLower {s : Bytes} (h : Ascii (asciiLower s)) : Ascii s :=
  fun x hx => (AsciiCase.lowerB_lt_iff x).mp (h (lowerB x) (AsciiCase.mem_asciiLower.mpr ⟨x, hx, rfl⟩))

/-- `PureAsciiNoAce` only looks at the lower-cased string -/
theorem pureAsciiNoAce_congr {a b : Bytes} (h : asciiLower a = asciiLower b) (ha : PureAsciiNoAce a) :
    PureAsciiNoAce b :=
  ⟨ascii_of_asciiLower (h ▸ asciiLower_ascii ha.1), h ▸ ha.2⟩

theorem validUtf8_ascii (s : Bytes) (h : Ascii s) : validUtf8 s = true := by
  rw [← utf8_asStr s h]; exact Utf8.validUtf8_utf8 _

/-! ### the `xn--` automaton -/

/-- the automaton of `asciiOrMiscNoPuny` on lower-cased ASCII bytes -/
def autB : Bytes → Int → Bool
  | [], _ => true
  | y :: rest, p =>
    if y == 0x2e then autB rest 0
    else if p == 0 && y == 0x78 then autB rest 1
    else if p == 1 && y == 0x6e then autB rest 2
    else if p == 2 && y == 0x2d then autB rest 3
    else if p == 3 && y == 0x2d then false
    else autB rest (-1)

theorem lowerForCheck_bc : ∀ x : UInt8, x.toNat < 0x80 →
    ((lowerForCheck (bc x)).toNat ≥ 0x80 && (lowerForCheck (bc x)).toNat != 0x2260 &&
        (lowerForCheck (bc x)).toNat != 0x226e && (lowerForCheck (bc x)).toNat != 0x226f) = false ∧
    (lowerForCheck (bc x) == '.') = (lowerB x == 0x2e) ∧
    (lowerForCheck (bc x) == 'x') = (lowerB x == 0x78) ∧
    (lowerForCheck (bc x) == 'n') = (lowerB x == 0x6e) ∧
    (lowerForCheck (bc x) == '-') = (lowerB x == 0x2d) :=
  forall_uint8 (by decide +kernel)

theorem asciiOrMisc_eq_autB (s : Bytes) (h : Ascii s) :
    ∀ p, asciiOrMiscNoPuny (asStr s) p = autB (asciiLower s) p := by
  induction s with
  | nil => intro p; rfl
  | cons x xs ih =>
    intro p
    have hx : x.toNat < 0x80 := h x (by simp)
    have hxs : Ascii xs := fun y hy => h y (List.mem_cons_of_mem _ hy)
    obtain ⟨h0, h1, h2, h3, h4⟩ := lowerForCheck_bc x hx
    simp only [asStr_cons, asciiOrMiscNoPuny, h0, h1, h2, h3, h4, asciiLower, List.map_cons, autB,
      Bool.false_eq_true, if_false]
    simp only [← asciiLower.eq_1, ← ih hxs]

/-- the automaton accepts when no label starts with `xn--`; the state `p` says how much of `xn--` the current label
    has matched so far (`-1`: the current label is not a prefix of `xn--`) -/
theorem autB_of_noAce (t : Bytes) : ∀ (hd : Bytes) (tl : List Bytes), splitOn 0x2e t = hd :: tl →
    (∀ l ∈ tl, ace.isPrefixOf l = false) →
    (ace.isPrefixOf hd = false → autB t 0 = true) ∧
    (([0x6e, 0x2d, 0x2d] : Bytes).isPrefixOf hd = false → autB t 1 = true) ∧
    (([0x2d, 0x2d] : Bytes).isPrefixOf hd = false → autB t 2 = true) ∧
    (([0x2d] : Bytes).isPrefixOf hd = false → autB t 3 = true) ∧
    autB t (-1) = true := by
  induction t with
  | nil => intro hd tl _ _; simp [autB]
  | cons y ys ih =>
    intro hd tl hsplit htl
    by_cases hy : (y == 0x2e) = true
    · have hy' : y = 0x2e := by simpa using hy
      subst hy'
      rw [Utf8.splitOn_cons_sep] at hsplit
      obtain ⟨rfl, rfl⟩ := List.cons.inj hsplit
      cases hs : splitOn 0x2e ys with
      | nil => exact absurd hs (Utf8.splitOn_ne_nil _ _)
      | cons hd' tl' =>
        rw [hs] at htl
        have key : autB ys 0 = true :=
          (ih hd' tl' hs (fun l hl => htl l (List.mem_cons_of_mem _ hl))).1 (htl hd' List.mem_cons_self)
        simp [autB, key]
    · have hy' : y ≠ 0x2e := by simpa using hy
      cases hs : splitOn 0x2e ys with
      | nil => exact absurd hs (Utf8.splitOn_ne_nil _ _)
      | cons hd' tl' =>
        rw [splitOn_cons_ne _ _ _ _ _ hy' hs] at hsplit
        obtain ⟨rfl, rfl⟩ := List.cons.inj hsplit
        obtain ⟨i0, i1, i2, i3, i4⟩ := ih hd' tl' hs htl
        simp only [ace, List.isPrefixOf_cons_cons, List.isPrefixOf_nil_left, Bool.and_true]
        refine ⟨?_, ?_, ?_, ?_, by simp [autB, hy', i4]⟩ <;> intro hp <;> simp [autB, hy'] at hp ⊢ <;> grind

theorem asciiOrMisc_pure (s : Bytes) (h : PureAsciiNoAce s) : asciiOrMiscNoPuny (goRunes s) 0 = true := by
  obtain ⟨ha, hl⟩ := h
  rw [goRunes_ascii s ha, asciiOrMisc_eq_autB s ha]
  rw [show lit "xn--" = ace by decide] at hl
  cases hs : splitOn 0x2e (asciiLower s) with
  | nil => exact absurd hs (Utf8.splitOn_ne_nil _ _)
  | cons hd tl =>
    rw [hs] at hl
    exact (autB_of_noAce _ hd tl hs (fun l hl' => Bool.eq_false_iff.mpr (hl l (List.mem_cons_of_mem _ hl')))).1
      (Bool.eq_false_iff.mpr (hl hd List.mem_cons_self))

export Percent (decodePercent_nil decodePercent_cons_of_not decodePercent_cons_ne decodePercent_ne_nil decodePercent_no_pct)

/-- `Percent.decodePercent_esc` without an encoding override: the escape is one byte -/
theorem decodePercent_esc_byte (cfg : Cfg) (henc : cfg.encOverride = none) (h1 h2 : UInt8) (rest : Bytes)
    (hh1 : isHexN h1.toNat = true) (hh2 : isHexN h2.toNat = true) :
    decodePercent cfg (0x25 :: h1 :: h2 :: rest) =
      (hexVal h1.toNat * 16 + hexVal h2.toNat).toUInt8 :: decodePercent cfg rest := by
  rw [Percent.decodePercent_esc cfg h1 h2 rest hh1 hh2, Percent.escBytes_none henc]; rfl

theorem decodePercent_head (cfg : Cfg) (x : UInt8) (rest : Bytes) (h : x ≠ 0x25) :
    (decodePercent cfg (x :: rest)).head? = some x := by
  rw [decodePercent_cons_ne cfg x rest h]; rfl

/-! ### ToASCII on pure ASCII -/

theorem toASCII_pure (cfg : Cfg) (henc : cfg.encOverride = none) (I : Idna) (hI : L1 I) (u : Url) (d : Bytes)
    (hd : PureAsciiNoAce d) (hne : d ≠ []) :
    toASCII cfg I u d = (.ok (asciiLower d), { u with qlog := u.qlog ++ [d] }) := by
  rw [HostWF.toASCII_eq cfg henc I u d hne]
  unfold HostCase.toAsciiOut
  simp only [hI d hd, asciiOrMisc_pure d hd, Bool.and_true]
  cases (I d).2 <;> simp [AsciiCase.asciiLower_eq_nil, hne]

theorem parseHost_domain_eq (cfg : Cfg) (hpre : cfg.preHost = none) (I : Idna) (u : Url) (s : Bytes) (hne : s ≠ [])
    (hb : s.head? ≠ some 0x5b) : parseHost cfg I u s false = HostWF.domainHost cfg I u s := by
  rw [HostWF.parseHost_eq, Web.preIn_none hpre]
  match s, hne, hb with
  | b0 :: tl, _, hb => exact HostWF.hostOf_domain cfg I u b0 tl (by simpa using hb)

/-- an accepted host whose input starts with `[` is the bracketed serialization of the address the standard's IPv6
    parser finds -/
theorem parseHost_bracket (cfg : Cfg) (I : Idna) (u0 : Url) (s : Bytes) (ns : Bool) (h : Bytes)
    (hpre : cfg.preHost = none) (hp : (parseHost cfg I u0 s ns).out = .ok h) (hb : s.head? = some 0x5b) :
    ∃ a, Spec.parseIPv6 (goRunes (trimSuffix1 (trimPrefix1 s [0x5b]) [0x5d])) = some a ∧ h = [0x5b] ++ ipv6String a ++ [0x5d] := by
  match s, hb with
  | b0 :: tl, hb =>
    obtain rfl : b0 = 0x5b := by simpa using hb
    rw [HostWF.parseHost_eq, Web.preIn_none hpre, HostWF.hostOf_bracket] at hp
    unfold HostWF.bracketHost at hp
    split at hp
    · cases hp
    · have hcl := IPv6.parseIPv6_closed cfg u0 (trimSuffix1 (trimPrefix1 (0x5b :: tl) [0x5b]) [0x5d])
      cases hs : Spec.parseIPv6 (goRunes (trimSuffix1 (trimPrefix1 (0x5b :: tl) [0x5b]) [0x5d])) with
      | none => rw [hs] at hcl; obtain ⟨t, -, e⟩ := hcl; rw [e] at hp; cases hp
      | some a =>
        rw [hs] at hcl
        rw [show parseIPv6 cfg u0 _ = _ from hcl] at hp
        cases hp
        exact ⟨a, rfl, rfl⟩

theorem digit_or_dot_facts : ∀ x : UInt8, (isDigitN x.toNat = true ∨ x = 0x2e) →
    x.toNat < 0x80 ∧ lowerB x = x ∧ forbiddenDomain x.toNat = false ∧ x ≠ 0x78 :=
  forall_uint8 (by decide +kernel)

theorem ipv4String_bytes (n : Nat) : ∀ x ∈ ipv4String n, isDigitN x.toNat = true ∨ x = 0x2e := by
  intro x hx
  unfold ipv4String at hx
  simp only [List.mem_append, List.mem_singleton] at hx
  rcases hx with ((((((hx | hx) | hx) | hx) | hx) | hx) | hx) <;>
    first | exact Or.inr hx | exact Or.inl (IPv6.itoa_digits _ x hx)

theorem ipv4String_host (n : Nat) :
    Ascii (ipv4String n) ∧ asciiLower (ipv4String n) = ipv4String n ∧ ∀ x ∈ ipv4String n, forbiddenDomain x.toNat = false := by
  have hall := fun x hx => digit_or_dot_facts x (ipv4String_bytes n x hx)
  refine ⟨fun x hx => (hall x hx).1, ?_, fun x hx => (hall x hx).2.2.1⟩
  exact AsciiCase.asciiLower_of_no_upper (fun x hx hu =>
    AsciiCase.lowerB_not_upper x (by rw [(hall x hx).2.1]; exact hu))

theorem bytes_not_forbidden {a : Bytes} (hA : Ascii a) (h : ∀ c ∈ goRunes a, forbiddenDomain c.toNat = false) :
    ∀ x ∈ a, forbiddenDomain x.toNat = false := by
  intro x hx
  rw [goRunes_ascii _ hA] at h
  have := h (bc x) (by simp only [asStr, List.mem_map]; exact ⟨x, hx, rfl⟩)
  rwa [Utf8.bc_toNat] at this

export HostWF (forbiddenLoop_none_iff)

theorem forbiddenLoop_none_url (cfg : Cfg) (a : Bytes) (rs : Str) (u : Url)
    (h : ∀ c ∈ rs, forbiddenDomain c.toNat = false) : forbiddenLoop cfg a rs u = (u, none) := by
  induction rs with
  | nil => rfl
  | cons c rest ih =>
    unfold forbiddenLoop
    rw [h c List.mem_cons_self]
    simp only [Bool.false_eq_true, if_false]
    exact ih (fun c' hc' => h c' (List.mem_cons_of_mem _ hc'))

theorem forbiddenLoop_fst_of_none (cfg : Cfg) (a : Bytes) (rs : Str) (u : Url)
    (h : (forbiddenLoop cfg a rs u).2 = none) : (forbiddenLoop cfg a rs u).1 = u := by
  rw [forbiddenLoop_none_url cfg a rs u ((forbiddenLoop_none_iff cfg a rs u).mp h)]

/-- on an ASCII text without forbidden domain code point the scan passes: the text goes to the IPv4 parser or stays as it is -/
theorem finishDomain_ascii (cfg : Cfg) (hpost : cfg.postHost = none) (u : Url) (d : Bytes) (hasc : Ascii d)
    (hnf : ∀ b ∈ d, forbiddenDomain b.toNat = false) :
    finishDomain cfg u d = if endsInANumber cfg u d then parseIPv4 cfg u d else ⟨u, .ok d⟩ := by
  have hfl : forbiddenLoop cfg d (goRunes d) u = (u, none) := by
    apply forbiddenLoop_none_url
    rw [goRunes_ascii d hasc]
    intro c hc
    obtain ⟨b, hb, rfl⟩ := List.mem_map.mp hc
    rw [Utf8.bc_toNat]; exact hnf b hb
  unfold finishDomain
  rw [hfl]
  simp only [hpost]

/-! ### the ghost field `qlog` does not influence anything (the hooks `preHost`/`postHost` aside) -/

/-- transport of a host result along a change of `qlog` -/
def HR.withQ (q : List Bytes) (r : HR) : HR := ⟨Domain.withQ q r.url, r.out⟩

/-- replacing `qlog` commutes with recording; so it commutes with the routines below ToASCII (`HostTr`) -/
theorem tr_withQ (cfg : Cfg) (q : List Bytes) : HostTr.TrS cfg cfg (withQ q) where
  rcd u t f := by unfold record; split <;> rfl
  stops _ := rfl

theorem endsInANumber_url (cfg : Cfg) (u u' : Url) (d : Bytes) : endsInANumber cfg u d = endsInANumber cfg u' d := by
  unfold endsInANumber parseIPv4Number
  simp only [apply_ite NumR.err]

theorem forbiddenLoop_withQ (cfg : Cfg) (q : List Bytes) (a : Bytes) (rs : Str) (u : Url) :
    forbiddenLoop cfg a rs (withQ q u) = (withQ q (forbiddenLoop cfg a rs u).1, (forbiddenLoop cfg a rs u).2) :=
  (HostTr.forbiddenLoop_tr (tr_withQ cfg q).toTrR rfl (fun _ => rfl) a rs u).symm

theorem finishDomain_withQ (cfg : Cfg) (hpost : cfg.postHost = none) (q : List Bytes) (u : Url) (d : Bytes) :
    finishDomain cfg (withQ q u) d = HR.withQ q (finishDomain cfg u d) := by
  unfold finishDomain
  simp only [forbiddenLoop_withQ, hpost]
  cases (forbiddenLoop cfg d (goRunes d) u).2 with
  | some o => rfl
  | none =>
    simp only []
    rw [endsInANumber_url cfg (withQ q (forbiddenLoop cfg d (goRunes d) u).1) (forbiddenLoop cfg d (goRunes d) u).1]
    split
    · exact (HostTr.parseIPv4_tr (tr_withQ cfg q) _ d).symm
    · rfl

theorem finishDomain_out_withQ (cfg : Cfg) (hpost : cfg.postHost = none) (q : List Bytes) (u : Url) (d : Bytes) :
    (finishDomain cfg (withQ q u) d).out = (finishDomain cfg u d).out := by
  rw [finishDomain_withQ cfg hpost]; rfl

/-- the host parser on a pure-ASCII host without ACE label, in closed form: the whole result (url and outcome); the only
    trace of the oracle is the ghost field `qlog` -/
theorem parseHost_ascii (cfg : Cfg) (hpre : cfg.preHost = none) (henc : cfg.encOverride = none)
    (I : Idna) (hI : L1 I) (u : Url) (s : Bytes) (hne : s ≠ []) (hb : s.head? ≠ some 0x5b)
    (hd : PureAsciiNoAce (decodePercent cfg s)) :
    parseHost cfg I u s false =
      finishDomain cfg (withQ (u.qlog ++ [decodePercent cfg s]) u) (asciiLower (decodePercent cfg s)) := by
  rw [parseHost_domain_eq cfg hpre I u s hne hb, WhatwgUrl.Proofs.HostWF.domainHost,
    toASCII_pure cfg henc I hI u _ hd (decodePercent_ne_nil cfg s hne)]
  simp only [validUtf8_ascii _ hd.1, Bool.not_true, Bool.false_and, Bool.false_eq_true, if_false]
  rfl

/-- … its outcome (`cfg.postHost = none`: the hook is handed the url with its `qlog`) -/
theorem parseHost_ascii_out (cfg : Cfg) (hpre : cfg.preHost = none) (hpost : cfg.postHost = none)
    (henc : cfg.encOverride = none) (I : Idna) (hI : L1 I) (u : Url) (s : Bytes) (hne : s ≠ [])
    (hb : s.head? ≠ some 0x5b) (hd : PureAsciiNoAce (decodePercent cfg s)) :
    (parseHost cfg I u s false).out = (finishDomain cfg u (asciiLower (decodePercent cfg s))).out := by
  rw [parseHost_ascii cfg hpre henc I hI u s hne hb hd, finishDomain_out_withQ cfg hpost]

/-! ### spellings -/

/-- `Spelling d s`: the byte string `s` spells `d` with every byte written either literally or as `%XX` with hex digits
    in either case -/
inductive Spelling : Bytes → Bytes → Prop
  | nil : Spelling [] []
  | lit {d s : Bytes} (x : UInt8) (h : Spelling d s) : Spelling (x :: d) (x :: s)
  | esc {d s : Bytes} (h1 h2 : UInt8) (hh1 : isHexN h1.toNat = true) (hh2 : isHexN h2.toNat = true)
      (h : Spelling d s) : Spelling ((hexVal h1.toNat * 16 + hexVal h2.toNat).toUInt8 :: d) (0x25 :: h1 :: h2 :: s)

/-- `d` contains a `%` followed by two hex digits -/
def hasEscape : Bytes → Bool
  | [] => false
  | x :: rest => (x == 0x25 && hex2 rest) || hasEscape rest

theorem hex2_cons_pct (x : UInt8) (w : Bytes) : hex2 (x :: 0x25 :: w) = false := by
  simp [hex2, show isHexN 37 = false by decide]

theorem hex2_pct_cons (w : Bytes) : hex2 (0x25 :: w) = false := by
  match w with
  | [] => rfl
  | a :: w' => simp [hex2, show isHexN 37 = false by decide]

/-- a spelling starts with two (literal) hex digits only if the spelled text does: an escape starts with `%`, never
    with a hex digit -/
theorem spelling_hex2 {d s : Bytes} (h : Spelling d s) (hs : hex2 s = true) : hex2 d = true := by
  cases h with
  | nil => simp [hex2] at hs
  | lit y h' =>
    cases h' with
    | nil => simp [hex2] at hs
    | lit z h'' => simpa [hex2] using hs
    | esc a b ha hb h'' => rw [hex2_cons_pct] at hs; cases hs
  | esc a b ha hb h' => rw [hex2_pct_cons] at hs; cases hs

theorem hasEscape_of_no_pct (d : Bytes) (h : (0x25 : UInt8) ∉ d) : hasEscape d = false := by
  induction d with
  | nil => rfl
  | cons x xs ih =>
    have hx : (x == 0x25) = false := by
      simp only [beq_eq_false_iff_ne, ne_eq]; intro e; exact h (by simp [e])
    simp [hasEscape, hx, ih (fun hm => h (List.mem_cons_of_mem _ hm))]

theorem decodePercent_spelling (cfg : Cfg) (henc : cfg.encOverride = none) {d s : Bytes} (h : Spelling d s) :
    hasEscape d = false → decodePercent cfg s = d := by
  induction h with
  | nil => intro _; simp
  | @lit d s x h ih =>
    intro hfix
    simp only [hasEscape, Bool.or_eq_false_iff] at hfix
    have hx : ¬ (x = 0x25 ∧ hex2 s = true) := by
      intro ⟨e, hs⟩
      have := spelling_hex2 h hs
      simp [e, this] at hfix
    rw [decodePercent_cons_of_not cfg x s hx, ih hfix.2]
  | @esc d s a b ha hb h ih =>
    intro hfix
    simp only [hasEscape, Bool.or_eq_false_iff] at hfix
    rw [decodePercent_esc_byte cfg henc a b s ha hb, ih hfix.2]

/-- an executable check for `Spelling` (sound; used for closed examples) -/
def spells : Bytes → Bytes → Bool
  | [], [] => true
  | x :: d, y :: s =>
    (x == y && spells d s) ||
      (match s with
       | h1 :: h2 :: s' =>
         y == 0x25 && isHexN h1.toNat && isHexN h2.toNat && (hexVal h1.toNat * 16 + hexVal h2.toNat).toUInt8 == x &&
           spells d s'
       | _ => false)
  | _, _ => false

theorem spells_sound : ∀ (d s : Bytes), spells d s = true → Spelling d s := by
  intro d
  induction d with
  | nil =>
    intro s h
    cases s with
    | nil => exact .nil
    | cons y s => simp [spells] at h
  | cons x d ih =>
    intro s h
    cases s with
    | nil => simp [spells] at h
    | cons y s =>
      unfold spells at h
      rw [Bool.or_eq_true] at h
      rcases h with h | h
      · simp only [Bool.and_eq_true, beq_iff_eq] at h
        obtain ⟨rfl, h⟩ := h
        exact .lit x (ih s h)
      · cases s with
        | nil => simp at h
        | cons h1 s1 =>
          cases s1 with
          | nil => simp at h
          | cons h2 s' =>
            simp only [Bool.and_eq_true, beq_iff_eq] at h
            obtain ⟨⟨⟨⟨rfl, hh1⟩, hh2⟩, rfl⟩, h⟩ := h
            exact .esc h1 h2 hh1 hh2 (ih s' h)

/-- a spelling of a non-empty text that does not start with `[` is non-empty and does not start with `[` -/
theorem spelling_head {d s : Bytes} (h : Spelling d s) (hne : d ≠ []) (hb : d.head? ≠ some 0x5b) :
    s ≠ [] ∧ s.head? ≠ some 0x5b := by
  cases h with
  | nil => exact absurd rfl hne
  | lit x h' => exact ⟨by simp, by simpa using hb⟩
  | esc a b ha hb' h' => exact ⟨by simp, by simp⟩

/-- the special-scheme branch of the host parser as a function of the decoded domain (and, in the lax branch for
    ill-formed UTF-8 only, of the raw input) -/
theorem parseHost_via_decoded (cfg : Cfg) (hpre : cfg.preHost = none) (I : Idna) (u : Url) (s t : Bytes)
    (hs : s ≠ []) (hsb : s.head? ≠ some 0x5b) (ht : t ≠ []) (htb : t.head? ≠ some 0x5b)
    (hd : decodePercent cfg s = decodePercent cfg t)
    (hv : validUtf8 (decodePercent cfg s) = true ∨ cfg.laxHost = false) :
    parseHost cfg I u s false = parseHost cfg I u t false := by
  rw [parseHost_domain_eq cfg hpre I u s hs hsb, parseHost_domain_eq cfg hpre I u t ht htb]
  exact WhatwgUrl.Proofs.HostWF.domainHost_of_decoded cfg I u _ _ hd hv

end WhatwgUrl.Proofs.Domain
