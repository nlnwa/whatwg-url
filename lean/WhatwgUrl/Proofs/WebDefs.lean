import WhatwgUrl.Proofs.PipelineSpelled
import WhatwgUrl.Impl.Profiles
import WhatwgUrl.Proofs.SpellingScheme
/-
  C18e: the parser configurations under which an ordinary web url `scheme://host/seg/…/seg?n=v&…#frag` (spellings of plain
  texts, `Proofs/PipelineSpelled.lean`) is read like under the default configuration (`WebParseCfg`, `WebCfg`), and the
  byte-level facts about such texts.
-/
namespace WhatwgUrl.Proofs.Web
open WhatwgUrl WhatwgUrl.Impl WhatwgUrl.Proofs.IPv4 WhatwgUrl.Proofs.Canon WhatwgUrl.Proofs.RoundTrip WhatwgUrl.Proofs.Spelling
open WhatwgUrl.Proofs.Pipeline
open WhatwgUrl.Props.C18 (Spelled nest esc1 escPct escPct_cons nest_succ')

/-- the bytes of a spelling of an unreserved text: the unreserved characters and `%` -/
def spBytes : Bytes := lit "ABCDEFGHIJKLMNOPQRSTUVWXYZabcdefghijklmnopqrstuvwxyz0123456789-._~%"

/-- the bytes of a query text `n=v&…`: in addition `&` and `=` -/
def qBytes : Bytes := 0x26 :: 0x3d :: spBytes

/-- the test for a byte of a query text (`qB_mem`: a byte that passes it is in `qBytes`) -/
def qB (b : UInt8) : Bool := spB b || b == 0x26 || b == 0x3d

/-- `spBytes` by ranges.  The kernel is slow on a string literal (it decodes the UTF-8 of a byte array), much slower than on
    anything that is then done with the 67 bytes: the literal is evaluated once, here, and the tests of a configuration
    below run over the ranges. -/
theorem spBytes_eq : spBytes =
    (List.range' 0x41 26 ++ List.range' 0x61 26 ++ List.range' 0x30 10 ++ [0x2d, 0x2e, 0x5f, 0x7e, 0x25]).map Nat.toUInt8 := by
  decide +kernel

theorem spB_mem (b : UInt8) (h : spB b = true) : b ∈ spBytes := by
  rw [spBytes_eq]
  refine List.mem_map.mpr ⟨b.toNat, ?_, by simp⟩
  simp only [spB, unres, isAlnumN, isAlphaN, isUpperN, isLowerN, isDigitN, Bool.or_eq_true, Bool.and_eq_true,
    decide_eq_true_eq, beq_iff_eq, ← UInt8.toNat_inj, UInt8.reduceToNat] at h
  simp only [List.mem_append, List.mem_range'_1, List.mem_cons, List.not_mem_nil]
  omega

theorem qB_mem (b : UInt8) (h : qB b = true) : b ∈ qBytes := by
  simp only [qB, Bool.or_eq_true, beq_iff_eq] at h
  rcases h with (h | rfl) | rfl
  · exact .tail _ (.tail _ (spB_mem b h))
  · exact .head _
  · exact .tail _ (.head _)

theorem all_spBytes {p : UInt8 → Bool} (h : spBytes.all p = true) {b : UInt8} (hb : spB b = true) : p b = true :=
  List.all_eq_true.mp h b (spB_mem b hb)

/-- what the path / query / fragment states need to know about a byte they copy -/
theorem qB_char : ∀ b : UInt8, qB b = true →
    bc b ≠ '/' ∧ bc b ≠ '?' ∧ bc b ≠ '#' ∧ bc b ≠ '\\' ∧ (isUrlCp (bc b).toNat = true ∨ bc b = '%') ∧
    utf8Char (bc b) = [b] ∧ (bc b).toNat = b.toNat ∧ 0x21 ≤ b.toNat ∧ b.toNat < 0x7f :=
  forall_uint8 (by decide +kernel)

theorem spB_qB (b : UInt8) (h : spB b = true) : qB b = true := by simp [qB, h]

/-- every `%` is followed by two hex digits -/
def pctOk : Bytes → Bool
  | [] => true
  | b :: rest => (b != 0x25 || hex2 rest) && pctOk rest

theorem pctOk_append : ∀ (a b : Bytes), pctOk a = true → pctOk b = true → pctOk (a ++ b) = true
  | [], b, _, hb => hb
  | x :: a, b, ha, hb => by
    simp only [pctOk, Bool.and_eq_true, Bool.or_eq_true] at ha
    simp only [List.cons_append, pctOk, Bool.and_eq_true, Bool.or_eq_true]
    refine ⟨?_, pctOk_append a b ha.2 hb⟩
    rcases ha.1 with h | h
    · exact Or.inl h
    · exact Or.inr (by match a, h with | _ :: _ :: _, h => simpa [hex2] using h)

theorem pctOk_of_append : ∀ (w t : Bytes), pctOk (w ++ t) = true → pctOk t = true
  | [], _, h => h
  | _ :: w, t, h => by
    simp only [List.cons_append, pctOk, Bool.and_eq_true] at h
    exact pctOk_of_append w t h.2

theorem pctOk_cons_ne (x : UInt8) (a : Bytes) (hx : x ≠ 0x25) (ha : pctOk a = true) : pctOk (x :: a) = true := by
  simp [pctOk, hx, ha]

theorem pctOk_escPct : ∀ w : Bytes, pctOk (escPct w) = true
  | [] => rfl
  | x :: w => by
    have ih := pctOk_escPct w
    rw [escPct_cons]
    by_cases hx : x = 0x25
    · subst hx
      exact pctOk_append _ _ (by decide) ih
    · have hx' : (x == 0x25) = false := by simpa using hx
      rw [hx']
      exact pctOk_append _ _ (by simp [pctOk, hx]) ih

theorem pctOk_esc1 (up : Bool) (x : UInt8) : pctOk (esc1 up x) = true := by
  obtain ⟨h1, h2, _⟩ := WhatwgUrl.Proofs.Percent.hex_roundtrip x
  obtain ⟨h3, h4, _⟩ := hexLower_roundtrip x
  obtain ⟨u1, u2, u3, u4⟩ := hex_unres x
  have n1 := unres_ne_pct _ u1
  have n2 := unres_ne_pct _ u2
  have n3 := unres_ne_pct _ u3
  have n4 := unres_ne_pct _ u4
  cases up <;> simp [esc1, pctOk, hex2, h1, h2, h3, h4, n1, n2, n3, n4]

theorem pctOk_nest (n : Nat) (w : Bytes) (h : pctOk w = true) : pctOk (nest n w) = true := by
  cases n with
  | zero => exact h
  | succ n => rw [nest_succ']; exact pctOk_escPct _

theorem spelled_pctOk {p s : Bytes} (h : Spelled p s) (hp : ∀ b ∈ p, unres b = true) : pctOk s = true := by
  induction h with
  | nil => rfl
  | @lit p s x h ih =>
    exact pctOk_cons_ne x s (unres_ne_pct x (hp x (by simp))) (ih (fun c hc => hp c (by simp [hc])))
  | @esc p s up n x h ih =>
    exact pctOk_append _ _ (pctOk_nest n _ (pctOk_esc1 up x)) (ih (fun c hc => hp c (by simp [hc])))

theorem tok_pctOk {p s : Bytes} (h : Tok p s) : pctOk s = true := spelled_pctOk h.2 h.1.2

theorem invalidPct_head (b : UInt8) (w : Bytes) (tl : Str) (h : (b != 0x25 || hex2 w) = true) :
    invalidPct (bc b :: (asStr w ++ tl)) = false := by
  simp only [Bool.or_eq_true, bne_iff_ne, ne_eq] at h
  simp only [invalidPct]
  by_cases hx : b = 0x25
  · subst hx
    rcases h with h1 | h1
    · exact absurd rfl h1
    · match w, h1 with
      | h1 :: h2 :: r, hh =>
        simp only [hex2, Bool.and_eq_true] at hh
        simp [Utf8.bc_toNat, hh.1, hh.2]
  · have : (bc b == '%') = false := by
      cases hc : bc b == '%'
      · rfl
      · exact absurd (bc_inj (x := b) (y := 0x25) (by rw [eq_of_beq hc]; rfl)) hx
    simp [this]

/-- the test of the parser on the text from any position on -/
theorem invalidPct_pctOk : ∀ (w : Bytes) (j : Nat), pctOk w = true → invalidPct ((asStr w).drop j) = false
  | [], j, _ => by simp [invalidPct]
  | x :: w, j + 1, h => by
    simp only [pctOk, Bool.and_eq_true] at h
    simpa using invalidPct_pctOk w j h.2
  | x :: w, 0, h => by
    simp only [pctOk, Bool.and_eq_true] at h
    simpa using invalidPct_head x w [] h.1

/-- **The parser configurations under which an ordinary web url is PARSED as under the default configuration** (the parse closed
    form, `parse_web_c`).
    Every clause is a Boolean test on the fields.  Not constrained at all: report / fail on validation errors (a web text
    raises none outside the host parser), lax host parsing, the host hooks, percent-encode-single-percent (outside the host
    parser: no lone `%`), collapse consecutive slashes (no empty non-final segment), accept invalid code points (ASCII),
    the encoding override (no byte is escaped), allow non-base path, skip drive letter / trailing slash / equals, the
    query and fragment sets of non-special schemes. -/
structure WebParseCfg (cfg : Cfg) : Prop where
  pathSet : spBytes.all (fun b => !cfg.pathSet.has b.toNat) = true
  spQuerySet : qBytes.all (fun b => !cfg.spQuerySet.has b.toNat) = true
  spFragSet : spBytes.all (fun b => !cfg.spFragSet.has b.toNat) = true
  /-- an (unshadowed) entry of the special-scheme table with a default port has a lower-case scheme text other than
      `file` as its key (the scheme state lower-cases what it reads, and goes to the file state for `file` whatever the
      table says) -/
  schemes : cfg.specialSchemes.all (fun e => e.2.isEmpty || cfg.special? e.1 != some e.2 ||
      (schemeText e.1 && asciiLower e.1 == e.1 && e.1 != lit "file")) = true

/-- **… and CANONICALIZED alike**: in addition an encoding override decodes the bytes `A-Z a-z 0-9 - . _ ~ %` to themselves
    (needed only for the query list of the canonicalizer, `spInit`, which decodes `%XX` through the charmap; the parser
    itself never consults the charmap on a web text) -/
structure WebCfg (cfg : Cfg) : Prop extends WebParseCfg cfg where
  charmap : cfg.encOverride.all (fun cm => spBytes.all (fun b => utf8Char (cm.dec b) == [b])) = true

theorem WebParseCfg.path_has {cfg : Cfg} (h : WebParseCfg cfg) (b : UInt8) (hb : spB b = true) : cfg.pathSet.has b.toNat = false := by
  simpa using all_spBytes h.pathSet hb

theorem WebParseCfg.query_has {cfg : Cfg} (h : WebParseCfg cfg) (b : UInt8) (hb : qB b = true) : cfg.spQuerySet.has b.toNat = false := by
  simpa using List.all_eq_true.mp h.spQuerySet b (qB_mem b hb)

theorem WebParseCfg.frag_has {cfg : Cfg} (h : WebParseCfg cfg) (b : UInt8) (hb : spB b = true) : cfg.spFragSet.has b.toNat = false := by
  simpa using all_spBytes h.spFragSet hb

theorem WebCfg.dec {cfg : Cfg} (h : WebCfg cfg) (cm : Charmap) (hcm : cfg.encOverride = some cm) (b : UInt8) (hb : spB b = true) :
    utf8Char (cm.dec b) = [b] := by
  have := h.charmap
  rw [hcm, Option.all_some] at this
  exact eq_of_beq (all_spBytes this hb)

/-- a test on the unshadowed entries with a default port holds of the entry that `special?` finds -/
theorem special_all {cfg : Cfg} {t : Bytes × Bytes → Bool}
    (h : cfg.specialSchemes.all (fun e => e.2.isEmpty || cfg.special? e.1 != some e.2 || t e) = true)
    {s dp : Bytes} (hsd : cfg.special? s = some dp) (hdp : dp ≠ []) : t (s, dp) = true := by
  have hsd0 := hsd
  unfold Cfg.special? at hsd
  cases hf : cfg.specialSchemes.find? (·.1 == s) with
  | none => rw [hf] at hsd; cases hsd
  | some e =>
    rw [hf] at hsd
    simp only [Option.map_some, Option.some.injEq] at hsd
    have hk : e.1 = s := by simpa using List.find?_some hf
    have hc := List.all_eq_true.mp h e (List.mem_of_find?_eq_some hf)
    have h1 : e.2.isEmpty = false := by
      rw [hsd]; cases dp with
      | nil => exact absurd rfl hdp
      | cons _ _ => rfl
    have h2 : (cfg.special? e.1 != some e.2) = false := by rw [hk, hsd0, hsd]; simp
    obtain ⟨e1, e2⟩ := e
    simp only at hk hsd
    subst hk hsd
    simpa [h1, h2] using hc

/-- what the run up to the authority asks of the scheme: the scheme state stores it as written (lower case), the
    configuration takes it for special, and it does not send the machine to the file state -/
structure SpecialSchemeC (cfg : Cfg) (s : Bytes) : Prop where
  text : schemeText s = true
  lower : asciiLower s = s
  special : cfg.isSpecial s = true
  notFile : (s == lit "file") = false

theorem WebParseCfg.scheme {cfg : Cfg} (h : WebParseCfg cfg) (s dp : Bytes) (hsd : cfg.special? s = some dp) (hdp : dp ≠ []) :
    schemeText s = true ∧ asciiLower s = s ∧ cfg.isSpecial s = true ∧ (s == lit "file") = false := by
  have hc := special_all h.schemes hsd hdp
  simp only [Bool.and_eq_true, beq_iff_eq, bne_iff_ne, ne_eq] at hc
  refine ⟨hc.1.1, hc.1.2, by simp [Cfg.isSpecial, hsd], ?_⟩
  cases hb : s == lit "file"
  · rfl
  · exact absurd (eq_of_beq hb) hc.2

theorem WebParseCfg.specialSchemeC {cfg : Cfg} (h : WebParseCfg cfg) (s dp : Bytes) (hsd : cfg.special? s = some dp)
    (hdp : dp ≠ []) : SpecialSchemeC cfg s :=
  have ⟨h1, h2, h3, h4⟩ := h.scheme s dp hsd hdp
  ⟨h1, h2, h3, h4⟩

/-- the four tests with the alphabet as a variable (`spBytes_eq`: evaluated over the ranges) -/
theorem webParseCfg_iff {cfg : Cfg} {l : Bytes} (hl : spBytes = l) : WebParseCfg cfg ↔
    (l.all (fun b => !cfg.pathSet.has b.toNat) && (0x26 :: 0x3d :: l).all (fun b => !cfg.spQuerySet.has b.toNat) &&
      l.all (fun b => !cfg.spFragSet.has b.toNat) &&
      cfg.specialSchemes.all (fun e => e.2.isEmpty || cfg.special? e.1 != some e.2 ||
        (schemeText e.1 && asciiLower e.1 == e.1 && e.1 != lit "file"))) = true := by
  subst hl
  simp only [Bool.and_eq_true]
  exact ⟨fun h => ⟨⟨⟨h.1, h.2⟩, h.3⟩, h.4⟩, fun h => ⟨h.1.1.1, h.1.1.2, h.1.2, h.2⟩⟩

instance (cfg : Cfg) : Decidable (WebParseCfg cfg) := decidable_of_iff _ (webParseCfg_iff spBytes_eq).symm

theorem webCfg_iff {cfg : Cfg} {l : Bytes} (hl : spBytes = l) : WebCfg cfg ↔
    WebParseCfg cfg ∧ cfg.encOverride.all (fun cm => l.all (fun b => utf8Char (cm.dec b) == [b])) = true := by
  subst hl
  exact ⟨fun h => ⟨h.1, h.2⟩, fun h => ⟨h.1, h.2⟩⟩

instance (cfg : Cfg) : Decidable (WebCfg cfg) := decidable_of_iff _ (webCfg_iff spBytes_eq).symm

theorem webCfg_default : WebCfg {} := by decide +kernel

theorem webCfg_gsb : WebCfg gsbCfg := by decide +kernel

theorem webCfg_semantic : WebCfg semanticCfg := by decide +kernel

/-- the condition on the sets is not vacuous: a path set with `~` in it is excluded -/
example : ¬ WebCfg { pathSet := pathSet.set 0x7e } := fun h => absurd h.pathSet (by rw [spBytes_eq]; decide +kernel)
/-- … so is a table that gives `file` a default port, or has an upper-case key with a port -/
example : ¬ WebCfg { specialSchemes := [(lit "file", lit "1")] } := fun h => absurd h.schemes (by decide +kernel)
example : ¬ WebCfg { specialSchemes := [(lit "HTTP", lit "80")] } := fun h => absurd h.schemes (by decide +kernel)
/-- … but a shadowed entry is harmless -/
example : WebCfg { specialSchemes := [(lit "file", []), (lit "file", lit "1"), (lit "http", lit "80")] } := by decide +kernel
/-- the charmap clause is not vacuous either: a charmap that decodes `A` to `B` is excluded (only from `WebCfg`) -/
def badMap : Charmap := { enc := latin1.enc, dec := fun x => if x == 0x41 then 'B' else latin1.dec x }
example : WebParseCfg { encOverride := some badMap } ∧ ¬ WebCfg { encOverride := some badMap } :=
  ⟨by decide +kernel, fun h => absurd h.charmap (by rw [spBytes_eq]; decide +kernel)⟩

end WhatwgUrl.Proofs.Web
