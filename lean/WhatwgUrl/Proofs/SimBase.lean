import WhatwgUrl.Proofs.SimObs
import WhatwgUrl.Proofs.SimDefs2
import WhatwgUrl.Proofs.AsciiCase
import WhatwgUrl.Proofs.Percent
/-
  Rewriting lemmas shared by the per-state simulation lemmas (`SimA2.lean`, `SimB2Core.lean` and the files built on them):
  how the Go tests on bytes read on the standard's code points.
-/
namespace WhatwgUrl.Proofs.Sim
open WhatwgUrl WhatwgUrl.Impl
open WhatwgUrl.Proofs.Utf8 WhatwgUrl.Proofs.Percent

theorem herr_nonfatal (e : Env) (hc : e.cfg = {}) (ps : PS) (t : ErrT) (k : PS → StepR) :
    herr e ps t false k = k ps := by
  unfold herr; rw [hc]; rfl

theorem herr_fatal (e : Env) (hc : e.cfg = {}) (ps : PS) (t : ErrT) (k : PS → StepR) :
    herr e ps t true k = .done ⟨ps.url, .err ⟨t, true⟩ false⟩ := by
  unfold herr; rw [hc]; rfl

theorem cAt_some_bounds {input : Str} {p : Int} {c : Char} (h : Spec.cAt input p = some c) :
    0 ≤ p ∧ p < input.length := by
  unfold Spec.cAt at h
  split at h
  · have := (List.getElem?_eq_some_iff.mp h).1
    omega
  · cases h

theorem cAt_eq_getElem? {input : Str} {p : Int} (h0 : 0 ≤ p) : Spec.cAt input p = input[p.toNat]? := by
  unfold Spec.cAt; rw [if_pos h0]

theorem isPrefixOf_singleton (x : Char) (l : Str) : [x].isPrefixOf l = (l.head? == some x) := by
  cases l with
  | nil => rfl
  | cons a t =>
    simp only [List.isPrefixOf, List.head?_cons, Bool.and_true]
    by_cases h : x = a
    · subst h; simp
    · have h' : ¬ a = x := fun e => h e.symm
      simp [beq_eq_false_iff_ne.mpr h, beq_eq_false_iff_ne.mpr h']

/-- `remainingStartsWith` for one character against the standard's "remaining starts with" -/
theorem remainingStartsWith_singleton (rs : Str) (ps : PS) (x : Char) :
    remainingStartsWith rs ps [x] = (!ps.eof && (Spec.remaining rs ps.pointer).head? == some x) := by
  unfold remainingStartsWith runesFrom Spec.remaining
  rw [isPrefixOf_singleton]

theorem isC_and_not_isNone (c : Option Char) (x : Char) (b : Bool) :
    (Spec.isC c x && (!c.isNone && b)) = (Spec.isC c x && b) := by
  cases c with
  | none => rfl
  | some ch => simp only [Option.isNone_some, Bool.not_false, Bool.true_and]

theorem next_of_remaining (rs : Str) (ps : PS) (x : Char) (h0 : -1 ≤ ps.pointer)
    (h : ((Spec.remaining rs ps.pointer).head? == some x) = true) :
    next rs ps = ({ ps with pointer := ps.pointer + 1 }, x) ∧ ps.pointer + 1 < rs.length := by
  have h1 : Spec.cAt rs (ps.pointer + 1) = some x := by
    unfold Spec.remaining at h
    rw [cAt_eq_getElem? (by omega)]
    rw [List.head?_drop] at h
    simpa using h
  refine ⟨?_, (cAt_some_bounds h1).2⟩
  unfold next; rw [show cur rs (ps.pointer + 1) = Spec.cAt rs (ps.pointer + 1) from rfl, h1]

theorem remainingFromPointer_noeof (rs : Str) (ps : PS) (he : ps.eof = false) :
    remainingFromPointer rs ps = utf8 (rs.drop ps.pointer.toNat) := by
  unfold remainingFromPointer runesFrom; rw [he]; rfl

@[simp] theorem isC_some (c x : Char) : Spec.isC (some c) x = (c == x) := by
  unfold Spec.isC
  by_cases h : c = x
  · subst h; simp
  · simp
@[simp] theorem isC_none (x : Char) : Spec.isC none x = false := rfl

theorem utf8_eq_iffB (a b : Str) : utf8 a = utf8 b ↔ a = b :=
  ⟨fun h => by have := congrArg goRunes h; rwa [goRunes_utf8, goRunes_utf8] at this, congrArg utf8⟩

theorem utf8_beqB (a b : Str) : (utf8 a == utf8 b) = (a == b) := by
  rw [Bool.eq_iff_iff]; simp only [beq_iff_eq]; exact utf8_eq_iffB a b

theorem utf8_bne (a b : Str) : (utf8 a != utf8 b) = (a != b) := by simp only [bne, utf8_beqB]

theorem utf8_singleton (c : Char) : utf8 [c] = utf8Char c := by simp [utf8]

theorem optmap_utf8_beq (a b : Option Str) : (a.map utf8 == b.map utf8) = (a == b) := by
  cases a <;> cases b <;> simp [utf8_beqB]

theorem optmap_utf8_beq_some_nil (a : Option Str) : (a.map utf8 == some []) = (a == some []) := by
  have := optmap_utf8_beq a (some [])
  simpa using this

theorem lit_fileB : lit "file" = utf8 "file".toList := by decide
theorem lit_localhost : lit "localhost" = utf8 "localhost".toList := by decide

theorem utf8_beq_lit_file (s : Str) : (utf8 s == lit "file") = (s == "file".toList) := by rw [lit_fileB, utf8_beqB]
theorem utf8_bne_lit_file (s : Str) : (utf8 s != lit "file") = (s != "file".toList) := by rw [lit_fileB, utf8_bne]

/-- the first bytes of an encoding: an ASCII code point is its own byte; otherwise at least two bytes, all ≥ 0x80 -/
theorem utf8_cons_cases (c : Char) (s : Str) :
    (c.toNat < 0x80 ∧ utf8 (c :: s) = c.toNat.toUInt8 :: utf8 s) ∨
    (0x80 ≤ c.toNat ∧ ∃ x y t, utf8 (c :: s) = x :: y :: t ∧ 0x80 ≤ x.toNat ∧ 0x80 ≤ y.toNat) := by
  by_cases h : c.toNat < 0x80
  · left; exact ⟨h, by rw [Utf8.utf8_cons, Utf8.utf8Char_ascii c h]; rfl⟩
  · right
    refine ⟨by omega, ?_⟩
    have hl := utf8Char_length c
    have hh := Utf8.utf8Char_high c (by omega)
    rw [Utf8.utf8_cons]
    match e : utf8Char c with
    | [] => rw [e] at hl; simp at hl; repeat' split at hl
            all_goals omega
    | [x] => rw [e] at hl; simp at hl; repeat' split at hl
             all_goals omega
    | x :: y :: t =>
      rw [e] at hh
      exact ⟨x, y, t ++ utf8 s, rfl, hh x (by simp), hh y (by simp)⟩

theorem toUInt8_toNat_ascii (c : Char) (h : c.toNat < 0x80) : (c.toNat.toUInt8).toNat = c.toNat := by
  simp; omega

theorem ascii_byte_beq (c x : Char) (h : c.toNat < 0x80) (hx : x.toNat < 0x80) :
    (c.toNat.toUInt8 == x.toNat.toUInt8) = (c == x) := by
  by_cases e : c = x
  · subst e; simp
  · have : c.toNat ≠ x.toNat := fun h' => e (Char.toNat_inj.mp h')
    have h2 : c.toNat.toUInt8 ≠ x.toNat.toUInt8 := by
      intro h'
      have := congrArg UInt8.toNat h'
      rw [toUInt8_toNat_ascii c h, toUInt8_toNat_ascii x hx] at this
      exact absurd this ‹_›
    rw [beq_eq_false_iff_ne.mpr e, beq_eq_false_iff_ne.mpr h2]

/-- the default port as the Go table stores it: decimal text, `""` for none -/
def dpText : Option Nat → Bytes
  | none => []
  | some n => itoa n

/-- the Go map of special schemes is the standard's table, entry by entry -/
theorem default_specialSchemes : ({} : Cfg).specialSchemes =
    Spec.specialSchemes.map fun p => (utf8 p.1, dpText p.2) := by
  decide

theorem find?_utf8 (t : List (Str × Option Nat)) (s : Str) :
    (t.map fun p => (utf8 p.1, dpText p.2)).find? (·.1 == utf8 s)
      = (t.find? (·.1 == s)).map fun p => (utf8 p.1, dpText p.2) := by
  induction t with
  | nil => rfl
  | cons p t ih => simp only [List.map_cons, List.find?_cons, utf8_beqB, ih]; cases p.1 == s <;> rfl

theorem special?_utf8 (s : Str) :
    Cfg.special? {} (utf8 s) = if Spec.isSpecialScheme s then some (dpText (Spec.defaultPort s)) else none := by
  unfold Cfg.special? Spec.isSpecialScheme Spec.defaultPort
  rw [default_specialSchemes, find?_utf8]
  cases Spec.specialSchemes.find? (·.1 == s) <;> rfl

theorem isSpecial_utf8 (s : Str) : Cfg.isSpecial {} (utf8 s) = Spec.isSpecialScheme s := by
  unfold Cfg.isSpecial
  rw [special?_utf8]
  split <;> simp_all

theorem isSpecialScheme_file : Spec.isSpecialScheme "file".toList = true := by decide

theorem defaultPort_of_not_special (s : Str) (h : Spec.isSpecialScheme s = false) : Spec.defaultPort s = none := by
  unfold Spec.isSpecialScheme at h
  unfold Spec.defaultPort
  cases hf : Spec.specialSchemes.find? (·.1 == s) with
  | none => rfl
  | some x => rw [hf] at h; cases h

theorem itoa_inj {a b : Nat} : itoa a = itoa b ↔ a = b :=
  ⟨fun h => by have := congrArg (digitsVal 10) h; rwa [IPv6.digitsVal_itoa, IPv6.digitsVal_itoa] at this, fun h => h ▸ rfl⟩

theorem itoa_beq (a b : Nat) : (itoa a == itoa b) = (a == b) := by
  by_cases h : a = b
  · subst h; simp
  · have : itoa a ≠ itoa b := fun e => h (itoa_inj.mp e)
    rw [beq_eq_false_iff_ne.mpr h, beq_eq_false_iff_ne.mpr this]

theorem byte_beq_of_high (x k : UInt8) (hx : 0x80 ≤ x.toNat) (hk : k.toNat < 0x80) : (x == k) = false := by
  apply beq_eq_false_iff_ne.mpr
  intro h; subst h; omega

theorem char_beq_of_high (c k : Char) (hc : 0x80 ≤ c.toNat) (hk : k.toNat < 0x80) : (c == k) = false := by
  apply beq_eq_false_iff_ne.mpr
  intro h; subst h; omega

theorem isAlphaN_high (n : Nat) (h : 0x80 ≤ n) : isAlphaN n = false := by
  simp [isAlphaN, isUpperN, isLowerN]; omega

/-- a test on exactly two units that fails as soon as one of them is ≥ 0x80 sees on the bytes of `utf8 s` what it sees on
    `s`: an ASCII code point is its own byte, any other gives at least two bytes ≥ 0x80 (`utf8_cons_cases`) -/
theorem pair_test_utf8 (f : UInt8 → UInt8 → Bool) (g : Char → Char → Bool)
    (hfg : ∀ a b : Char, a.toNat < 0x80 → b.toNat < 0x80 → f a.toNat.toUInt8 b.toNat.toUInt8 = g a b)
    (hf : ∀ x y, 0x80 ≤ x.toNat → f x y = false) (hg : ∀ a b : Char, 0x80 ≤ a.toNat ∨ 0x80 ≤ b.toNat → g a b = false)
    (s : Str) :
    (match utf8 s with | [x, y] => f x y | _ => false) = (match s with | [a, b] => g a b | _ => false) := by
  match s with
  | [] => rfl
  | [a] =>
    rcases utf8_cons_cases a [] with ⟨ha, e⟩ | ⟨ha, x, y, t, e, hx, hy⟩
    · rw [e]; rfl
    · rw [e]; cases t <;> simp [hf _ _ hx]
  | [a, b] =>
    rcases utf8_cons_cases a [b] with ⟨ha, e⟩ | ⟨ha, x, y, t, e, hx, hy⟩
    · rw [e]
      rcases utf8_cons_cases b [] with ⟨hb, e2⟩ | ⟨hb, x, y, t, e2, hx, hy⟩
      · rw [e2]; exact hfg a b ha hb
      · rw [e2]; simp [hg _ _ (Or.inr hb)]
    · rw [e]; cases t <;> simp [hf _ _ hx, hg _ _ (Or.inl ha)]
  | a :: b :: c :: t =>
    have h3 : (utf8 (a :: b :: c :: t)).length ≥ 3 := by
      have := (utf8_length_bounds (a :: b :: c :: t)).1
      simp only [List.length_cons] at this; omega
    match e : utf8 (a :: b :: c :: t) with
    | [] | [_] | [_, _] => simp [e] at h3
    | _ :: _ :: _ :: _ => rfl

theorem isWDL_utf8 (s : Str) : Impl.isWindowsDriveLetter (utf8 s) = Spec.isWindowsDriveLetter s :=
  pair_test_utf8 (fun a b => isAlphaN a.toNat && (b == 0x3a || b == 0x7c)) (fun a b => isAlphaN a.toNat && (b == ':' || b == '|'))
    (fun a b ha hb => by
      rw [toUInt8_toNat_ascii a ha, ← ascii_byte_beq b ':' hb (by decide), ← ascii_byte_beq b '|' hb (by decide)]; rfl)
    (fun x y h => by simp [isAlphaN_high _ h])
    (fun a b h => by
      rcases h with h | h
      · simp [isAlphaN_high _ h]
      · simp [char_beq_of_high b ':' h (by decide), char_beq_of_high b '|' h (by decide)]) s

theorem isNDL_utf8 (s : Str) : Impl.isNormalizedWindowsDriveLetter (utf8 s) = Spec.isNormalizedWindowsDriveLetter s :=
  pair_test_utf8 (fun a b => isAlphaN a.toNat && b == 0x3a) (fun a b => isAlphaN a.toNat && b == ':')
    (fun a b ha hb => by rw [toUInt8_toNat_ascii a ha, ← ascii_byte_beq b ':' hb (by decide)]; rfl)
    (fun x y h => by simp [isAlphaN_high _ h])
    (fun a b h => by
      rcases h with h | h
      · simp [isAlphaN_high _ h]
      · simp [char_beq_of_high b ':' h (by decide)]) s

theorem startsWithWDL_utf8 (s : Str) :
    Impl.startsWithAWindowsDriveLetter (utf8 s) = Spec.startsWithWindowsDriveLetter s := by
  match s with
  | [] => rfl
  | [a] =>
    rcases utf8_cons_cases a [] with ⟨ha, e⟩ | ⟨ha, x, y, t, e, hx, hy⟩
    · rw [e]; rfl
    · rw [e]
      simp [Impl.startsWithAWindowsDriveLetter, Spec.startsWithWindowsDriveLetter, Impl.isWindowsDriveLetter,
        isAlphaN_high _ hx]
  | a :: b :: rest =>
    rcases utf8_cons_cases a (b :: rest) with ⟨ha, e⟩ | ⟨ha, x, y, t, e, hx, hy⟩
    · rw [e]
      rcases utf8_cons_cases b rest with ⟨hb, e2⟩ | ⟨hb, x, y, t, e2, hx, hy⟩
      · rw [e2]
        have hw := isWDL_utf8 [a, b]
        have e3 : utf8 [a, b] = [a.toNat.toUInt8, b.toNat.toUInt8] := by
          rw [Utf8.utf8_cons, utf8_singleton, Utf8.utf8Char_ascii a ha, Utf8.utf8Char_ascii b hb]; rfl
        rw [e3] at hw
        unfold Impl.startsWithAWindowsDriveLetter Spec.startsWithWindowsDriveLetter
        simp only [hw]
        congr 1
        match rest with
        | [] => rfl
        | c :: r =>
          rcases utf8_cons_cases c r with ⟨hc, e4⟩ | ⟨hc, x, y, t, e4, hx, hy⟩
          · rw [e4]
            show _ = (c == '/' || c == '\\' || c == '?' || c == '#')
            rw [← ascii_byte_beq c '/' hc (by decide), ← ascii_byte_beq c '\\' hc (by decide),
              ← ascii_byte_beq c '?' hc (by decide), ← ascii_byte_beq c '#' hc (by decide)]
            rfl
          · rw [e4]
            simp only [byte_beq_of_high x 0x2f hx (by decide), byte_beq_of_high x 0x5c hx (by decide),
              byte_beq_of_high x 0x3f hx (by decide), byte_beq_of_high x 0x23 hx (by decide),
              char_beq_of_high c '/' hc (by decide), char_beq_of_high c '\\' hc (by decide),
              char_beq_of_high c '?' hc (by decide), char_beq_of_high c '#' hc (by decide)]
      · rw [e2]
        simp [Impl.startsWithAWindowsDriveLetter, Spec.startsWithWindowsDriveLetter, Impl.isWindowsDriveLetter,
          Spec.isWindowsDriveLetter, byte_beq_of_high x 0x3a hx (by decide), byte_beq_of_high x 0x7c hx (by decide),
          char_beq_of_high b ':' hb (by decide), char_beq_of_high b '|' hb (by decide)]
    · rw [e]
      simp [Impl.startsWithAWindowsDriveLetter, Spec.startsWithWindowsDriveLetter, Impl.isWindowsDriveLetter,
        Spec.isWindowsDriveLetter, isAlphaN_high _ hx, isAlphaN_high _ ha]

theorem REnv.base_cases {e : Env} {input : Str} {base : Option Spec.SUrl} {ov : Option Spec.St} {I : Idna}
    (hE : REnv e input base ov I) :
    (e.base = none ∧ base = none) ∨ ∃ bi bs, e.base = some bi ∧ base = some bs ∧ RUrl bi bs := by
  have := hE.base
  cases h1 : e.base <;> cases h2 : base <;> rw [h1, h2] at this
  · exact Or.inl ⟨rfl, rfl⟩
  · exact absurd this id
  · exact absurd this id
  · exact Or.inr ⟨_, _, rfl, rfl, this⟩

theorem ite_or_merge {α : Type} (c1 c2 : Bool) (a b : α) :
    (if c1 = true then a else if c2 = true then a else b) = if (c1 || c2) = true then a else b := by
  cases c1 <;> cases c2 <;> rfl

theorem RUrl.opqB {ui : Url} {us : Spec.SUrl} (h : RUrl ui us) : ui.path.opq = us.hasOpaquePath := by
  have hp := h.path
  unfold Spec.SUrl.hasOpaquePath
  match e : us.path with
  | .opaque s => rw [e] at hp; exact hp.1
  | .list l => rw [e] at hp; exact hp.1

theorem RUrl.list {ui : Url} {us : Spec.SUrl} (h : RUrl ui us) (hn : us.hasOpaquePath = false) :
    ∃ l, us.path = .list l ∧ ui.path = ⟨l.map utf8, false⟩ := by
  have hp := h.path
  unfold Spec.SUrl.hasOpaquePath at hn
  match e : us.path with
  | .opaque s => rw [e] at hn; cases hn
  | .list l =>
    rw [e] at hp
    refine ⟨l, rfl, ?_⟩
    obtain ⟨h1, h2⟩ := hp
    cases hpp : ui.path with
    | mk segs opq => rw [hpp] at h1 h2; simp only at h1 h2; rw [h1, h2]

theorem RUrl.isSp {ui : Url} {us : Spec.SUrl} (h : RUrl ui us) : Cfg.isSpecial {} ui.scheme = us.isSpecial := by
  rw [h.scheme, isSpecial_utf8]; rfl

theorem RPort.isSome {p : Option Bytes} {d : Nat} {sp : Option Nat} (h : RPort p d sp) : p.isSome = sp.isSome := by
  cases sp with
  | none => simp only [RPort] at h; rw [h]; rfl
  | some n => simp only [RPort] at h; rw [h.1]; rfl

theorem headD_map_utf8 (l : List Str) : (l.map utf8).headD [] = utf8 (l.headD []) := by
  cases l <;> rfl

/-- `url.path.shorten(url.scheme)` against "shorten url's path", for a list path -/
theorem shorten_sim {ui : Url} {us : Spec.SUrl} (h : RUrl ui us) (hn : us.hasOpaquePath = false) :
    RUrl { ui with path := ui.path.shorten ui.scheme } (Spec.shorten us) := by
  obtain ⟨l, e1, e2⟩ := h.list hn
  obtain ⟨h1, h2, h3, h4, h5, h6, h7, h8⟩ := h
  unfold Spec.shorten Path.shorten
  rw [e1, e2, h1]
  simp only [utf8_beq_lit_file, List.length_map, headD_map_utf8, isNDL_utf8]
  split
  · constructor <;> (try dsimp only) <;> first | assumption | skip
    rw [e1]; exact ⟨rfl, rfl⟩
  · cases l with
    | nil =>
      simp only [List.map_nil, List.isEmpty_nil, if_true, List.dropLast_nil]
      constructor <;> (try dsimp only) <;> first | assumption | skip
      exact ⟨rfl, rfl⟩
    | cons a t =>
      simp only [List.map_cons, List.isEmpty_cons, Bool.false_eq_true, if_false]
      constructor <;> (try dsimp only) <;> first | assumption | skip
      refine ⟨rfl, ?_⟩
      dsimp only
      rw [← List.map_cons, List.map_dropLast]

theorem shorten_nopq (us : Spec.SUrl) (hn : us.hasOpaquePath = false) : (Spec.shorten us).hasOpaquePath = false := by
  unfold Spec.SUrl.hasOpaquePath at hn
  unfold Spec.shorten
  match e : us.path with
  | .opaque s => rw [e] at hn; cases hn
  | .list l =>
    simp only
    split
    · unfold Spec.SUrl.hasOpaquePath; rw [e]
    · rfl

/-- `cleanDefaultPort` against "if url's port is url's scheme's default port, set it to null" -/
theorem cleanDefaultPort_sim {ui : Url} {us : Spec.SUrl} (h : RUrl ui us) :
    RUrl (cleanDefaultPort {} ui) (if us.port == Spec.defaultPort us.scheme then { us with port := none } else us) := by
  obtain ⟨h1, h2, h3, h4, h5, h6, h7, h8⟩ := h
  unfold cleanDefaultPort
  rw [h1, special?_utf8]
  cases hsp : Spec.isSpecialScheme us.scheme with
  | false =>
    simp only [Bool.false_eq_true, if_false]
    rw [defaultPort_of_not_special _ hsp]
    split
    · rename_i hp
      have hp' : us.port = none := by simpa using hp
      constructor <;> (try dsimp only) <;> first | assumption | skip
      rw [hp'] at h5; exact h5
    · constructor <;> assumption
  | true =>
    simp only [if_true]
    cases hp : us.port with
    | none =>
      rw [hp] at h5
      simp only [RPort] at h5
      have : (ui.port == none || ui.port == some (dpText (Spec.defaultPort us.scheme))) = true := by rw [h5]; rfl
      rw [if_pos this]
      split
      · constructor <;> (try dsimp only) <;> first | assumption | skip
        simp [RPort]
      · constructor <;> (try dsimp only) <;> first | assumption | skip
        rw [hp]; simp [RPort]
    | some n =>
      rw [hp] at h5
      simp only [RPort] at h5
      obtain ⟨h5a, h5b⟩ := h5
      cases hd : Spec.defaultPort us.scheme with
      | none =>
        have : (ui.port == none || ui.port == some (dpText none)) = false := by
          rw [h5a]
          simp [dpText, IPv6.itoa_ne]
        rw [this]
        simp only [Bool.false_eq_true, if_false]
        rw [if_neg (by simp)]
        constructor <;> (try dsimp only) <;> first | assumption | skip
        rw [hp]; exact ⟨h5a, h5b⟩
      | some m =>
        have : (ui.port == none || ui.port == some (dpText (some m))) = (n == m) := by
          rw [h5a]
          simp [dpText, itoa_beq]
        rw [this]
        have e2 : (some n == some m) = (n == m) := by simp
        rw [e2]
        split
        · constructor <;> (try dsimp only) <;> first | assumption | skip
          simp [RPort]
        · constructor <;> (try dsimp only) <;> first | assumption | skip
          rw [hp]; exact ⟨h5a, h5b⟩

/-- the port state's `cleanDefaultPort(url with port n)` against `setPort` -/
theorem setPort_sim {ui : Url} {us : Spec.SUrl} (h : RUrl ui us) (n : Nat) :
    RUrl (cleanDefaultPort {} { ui with decodedPort := n, port := some (itoa n) }) (Spec.setPort us n) := by
  have h' : RUrl { ui with decodedPort := n, port := some (itoa n) } { us with port := some n } := by
    obtain ⟨h1, h2, h3, h4, h5, h6, h7, h8⟩ := h
    constructor <;> (try dsimp only) <;> first | assumption | skip
    exact ⟨rfl, rfl⟩
  have := cleanDefaultPort_sim h'
  unfold Spec.setPort
  dsimp only at this
  have e : (some n == Spec.defaultPort us.scheme) = (Spec.defaultPort us.scheme == some n) := by
    exact BEq.comm
  rw [e] at this
  split
  · rename_i hc; rw [if_pos (by simpa using hc)] at this; exact this
  · rename_i hc; rw [if_neg (by simpa using hc)] at this; exact this

theorem percentEncodeRune_sim (tr : PSet) (c : Char) :
    percentEncodeRune {} tr c = utf8 (Spec.utf8PercentEncodeCp tr.has c) :=
  percentEncodeRune_default tr c

theorem credLoop_sim (s : Str) : ∀ (pw : Bool) (u p : Str),
    Impl.credLoop {} s pw (utf8 u) (utf8 p) =
      ((Spec.credLoop s pw u p).1, utf8 (Spec.credLoop s pw u p).2.1, utf8 (Spec.credLoop s pw u p).2.2) := by
  induction s with
  | nil => intro pw u p; rfl
  | cons c t ih =>
    intro pw u p
    unfold Impl.credLoop Spec.credLoop
    rw [percentEncodeRune_sim, Percent.userinfoSet_has]
    split
    · exact ih _ _ _
    · split
      · rw [← utf8_append]; exact ih _ _ _
      · rw [← utf8_append]; exact ih _ _ _

/-- the credentials loop on the Go buffer (with the `%40` of an earlier `@`) against the standard's -/
theorem credLoop_buf_sim (af : Bool) (sbuf : Str) (pw : Bool) (u p : Str) :
    Impl.credLoop {} (goRunes (if af = true then lit "%40" ++ utf8 sbuf else utf8 sbuf)) pw (utf8 u) (utf8 p) =
      ((Spec.credLoop (if af = true then "%40".toList ++ sbuf else sbuf) pw u p).1,
       utf8 (Spec.credLoop (if af = true then "%40".toList ++ sbuf else sbuf) pw u p).2.1,
       utf8 (Spec.credLoop (if af = true then "%40".toList ++ sbuf else sbuf) pw u p).2.2) := by
  cases af
  · simp only [Bool.false_eq_true, if_false, goRunes_utf8]; exact credLoop_sim _ _ _ _
  · simp only [if_true, (by decide : lit "%40" = utf8 "%40".toList), ← utf8_append, goRunes_utf8]; exact credLoop_sim _ _ _ _

theorem remainingFromPointer_eof (rs : Str) (ps : PS) (he : ps.eof = true) : remainingFromPointer rs ps = utf8 [] := by
  unfold remainingFromPointer; rw [he]; rfl

/-- the drive-letter test of the file states on the rest of the input (at EOF the Go side tests the empty string) -/
theorem startsWith_remaining (rs : Str) (ps : PS) :
    startsWithAWindowsDriveLetter (remainingFromPointer rs ps) =
      (!ps.eof && Spec.startsWithWindowsDriveLetter (rs.drop ps.pointer.toNat)) := by
  cases he : ps.eof
  · rw [remainingFromPointer_noeof _ _ he, startsWithWDL_utf8]; rfl
  · rw [remainingFromPointer_eof _ _ he, startsWithWDL_utf8]; rfl

/-- at EOF the standard tests the empty rest of the input, as the Go side does -/
theorem startsWith_rest {input : Str} {p : Int} {c : Option Char} (hge : c.isNone = true → (input.length : Int) ≤ p) :
    (!c.isNone && Spec.startsWithWindowsDriveLetter (input.drop p.toNat)) =
      Spec.startsWithWindowsDriveLetter (input.drop p.toNat) := by
  cases hn : c.isNone
  · rfl
  · rw [List.drop_eq_nil_of_le (by have := hge hn; omega)]; rfl

theorem isSingleDot_utf8 (s : Str) : Impl.isSingleDot (utf8 s) = Spec.isSingleDot s := by
  have e1 : lit "." = utf8 ['.'] := by decide
  have e2 : lit "%2e" = utf8 "%2e".toList := by decide
  unfold Impl.isSingleDot Spec.isSingleDot Spec.lowerStr
  rw [AsciiCase.asciiLower_utf8, e1, e2, utf8_beqB, utf8_beqB]

theorem isDoubleDot_utf8 (s : Str) : Impl.isDoubleDot (utf8 s) = Spec.isDoubleDot s := by
  have e1 : lit ".." = utf8 ['.', '.'] := by decide
  have e2 : lit ".%2e" = utf8 ".%2e".toList := by decide
  have e3 : lit "%2e." = utf8 "%2e.".toList := by decide
  have e4 : lit "%2e%2e" = utf8 "%2e%2e".toList := by decide
  unfold Impl.isDoubleDot Spec.isDoubleDot Spec.lowerStr
  rw [AsciiCase.asciiLower_utf8, e1, e2, e3, e4, utf8_beqB, utf8_beqB, utf8_beqB, utf8_beqB]

/-- the path state's normalisation of a Windows drive letter (`C|` becomes `C:`) -/
theorem driveLetter_normalise (s : Str) (h : Spec.isWindowsDriveLetter s = true) :
    (utf8 s).take 1 ++ [0x3a] ++ (utf8 s).drop 2 = utf8 (s.take 1 ++ [':']) := by
  match s, h with
  | [a, b], h =>
    simp only [Spec.isWindowsDriveLetter, Bool.and_eq_true, Bool.or_eq_true, beq_iff_eq] at h
    have ha : a.toNat < 0x80 := by
      have := h.1
      simp only [isAlphaN, isUpperN, isLowerN, Bool.or_eq_true, Bool.and_eq_true, decide_eq_true_eq] at this
      omega
    have hb : b.toNat < 0x80 := by
      rcases h.2 with rfl | rfl <;> decide
    have e : utf8 [a, b] = [a.toNat.toUInt8, b.toNat.toUInt8] := by
      rw [Utf8.utf8_cons, utf8_singleton, Utf8.utf8Char_ascii a ha, Utf8.utf8Char_ascii b hb]; rfl
    rw [e]
    simp only [List.take_succ_cons, List.take_zero, List.drop_succ_cons, List.drop_zero, List.nil_append,
      List.cons_append, List.append_nil]
    rw [Utf8.utf8_cons, utf8_singleton, Utf8.utf8Char_ascii a ha]
    rfl

/-- `strconv.Atoi` on the bytes against the standard's number on the code points, for ASCII text -/
theorem digitsVal_utf8 (radix : Nat) (s : Str) (h : ∀ c ∈ s, c.toNat < 0x80) :
    digitsVal radix (utf8 s) = Spec.strVal radix s := by
  rw [utf8_ascii s h]
  unfold digitsVal Spec.strVal
  rw [List.foldl_map]
  have : ∀ (l : Str) (a : Nat), (∀ c ∈ l, c.toNat < 0x80) →
      l.foldl (fun acc c => acc * radix + hexVal (c.toNat.toUInt8).toNat) a =
        l.foldl (fun acc c => acc * radix + hexVal c.toNat) a := by
    intro l
    induction l with
    | nil => intro a _; rfl
    | cons c t ih =>
      intro a hl
      simp only [List.foldl_cons]
      rw [toUInt8_toNat_ascii c (hl c (by simp))]
      exact ih _ (fun d hd => hl d (by simp [hd]))
  exact this s 0 h

theorem isDigitN_ascii {n : Nat} (h : isDigitN n = true) : n < 0x80 := by
  simp only [isDigitN, Bool.and_eq_true, decide_eq_true_eq] at h; omega

@[simp] theorem isDigitC_some (c : Char) : Spec.isDigitC (some c) = isDigitN c.toNat := rfl
@[simp] theorem isDigitC_none : Spec.isDigitC none = false := rfl

theorem RRes'.mono {r : Res} {s : Spec.SUrl × Bool} (h : RRes' true r s) (noOv : Bool) : RRes' noOv r s := by
  unfold RRes' at h ⊢
  split <;> simp_all

/-- what the standard's buffer holds, by state, as `SimA.lean`'s `Extra` states it. `BufL` (`SimStep.lean`) is what the
    per-state proofs use: the same but for the port state (ASCII instead of digits) and the file slash state (nothing
    instead of `[]`); `BufL.of` goes from this one to that. -/
def BufInv (st : State) (ss : Spec.PS) : Prop :=
  match st with
  | .authority => (ss.buffer.length : Int) ≤ ss.pointer
  | .port => ∀ c ∈ ss.buffer, isDigitN c.toNat = true
  | .scheme | .host | .hostname | .fileHost | .path | .opaquePath | .query | .fragment => True
  | _ => ss.buffer = []

/-- states reached only with a base whose path is a list: `relSt` of `SimDefs2.lean` under a second name -/
def needsBase : State → Bool
  | .specialRelativeOrAuthority | .relative | .relativeSlash => true
  | _ => false

theorem needsBase_eq_relSt : needsBase = relSt := by funext s; cases s <;> rfl

/-- the url's path is a list, except in the states after an opaque path was set (and under the protocol, host, hostname
    and port setters, which return before a segment is added) -/
def NoOpq (ov : Option Spec.St) (st : State) (ss : Spec.PS) : Prop :=
  match st with
  | .opaquePath | .query | .fragment => True
  | .schemeStart | .scheme | .host | .hostname | .port | .fileHost => ov.isNone → ss.url.hasOpaquePath = false
  | _ => ss.url.hasOpaquePath = false

/-- assumption on the base url (true of every url record produced by the parser): a special url has a list path. This is
    the standard's side; the Go side is `BaseOk cfg b` (`SimDefs2.lean`) for one url and `BaseOk? base` (`SimParse.lean`)
    for an optional one, and `A2.baseOK_of_envOk` goes from `EnvOk` to this. -/
def BaseOK (base : Option Spec.SUrl) : Prop :=
  ∀ b, base = some b → Spec.isSpecialScheme b.scheme = true → b.hasOpaquePath = false

/-! ### statements kept for their own sake

Nothing in the development calls the declarations from here to the end of the file: facts about U+FFFD, the literals
and `utf8` that stand beside the ones used above, first in `Sim`, then once more under the same names in `Sim.A2`
(`namespace Sim.A2` sees the `Sim` names anyway; only `A2.isC_none` is ever picked, where `Sim.isC_none` would be). -/

theorem repl_ne : repl ≠ '/' ∧ repl ≠ '\\' ∧ repl ≠ '?' ∧ repl ≠ '#' ∧ repl ≠ ':' ∧ repl ≠ '@' ∧ repl ≠ '+' ∧ repl ≠ '-' ∧
    repl ≠ '.' ∧ repl ≠ '[' ∧ repl ≠ ']' ∧ repl ≠ '%' := by decide
theorem repl_beq_lbr : (repl == '[') = false := by decide
theorem repl_beq_rbr : (repl == ']') = false := by decide
theorem repl_not_digit : isDigitN repl.toNat = false := by decide

theorem optmap_utf8_isSome (a : Option Str) : (a.map utf8).isSome = a.isSome := by cases a <;> rfl
theorem optmap_utf8_eq_none (a : Option Str) : (a.map utf8 = none) ↔ a = none := by cases a <;> simp

theorem lit_eq_utf8 (s : String) (h : ∀ c ∈ s.toList, c.toNat < 0x80) : lit s = utf8 s.toList := by
  rw [utf8_ascii _ h]; rfl

theorem lit_ftp : lit "ftp" = utf8 "ftp".toList := by decide
theorem lit_http : lit "http" = utf8 "http".toList := by decide
theorem lit_https : lit "https" = utf8 "https".toList := by decide
theorem lit_ws : lit "ws" = utf8 "ws".toList := by decide
theorem lit_wss : lit "wss" = utf8 "wss".toList := by decide

theorem utf8_eq_lit_file {s : Str} : utf8 s = lit "file" ↔ s = "file".toList := by rw [lit_fileB, utf8_eq_iffB]

theorem defaultPort_file : Spec.defaultPort "file".toList = none := by decide

private def dval (l : List Nat) : Nat := l.foldl (fun a d => a * 10 + d) 0

theorem utf8_cons_ne_nil (c : Char) (s : Str) : utf8 (c :: s) ≠ [] := fun e => by
  have := utf8_eq_nil.mp e; cases this

theorem special_ne (A B : Bool) : ((A && !B) || (!A && B)) = (A != B) := by cases A <;> cases B <;> rfl

end WhatwgUrl.Proofs.Sim

namespace WhatwgUrl.Proofs.Sim.A2
open WhatwgUrl WhatwgUrl.Impl
open WhatwgUrl.Proofs.Utf8 WhatwgUrl.Proofs.Percent

theorem repl_ne : repl ≠ '/' ∧ repl ≠ '\\' ∧ repl ≠ '?' ∧ repl ≠ '#' ∧ repl ≠ ':' ∧ repl ≠ '@' ∧ repl ≠ '+' ∧ repl ≠ '-' ∧
    repl ≠ '.' ∧ repl ≠ '[' ∧ repl ≠ ']' ∧ repl ≠ '%' := Sim.repl_ne
theorem repl_beq_lbr : (repl == '[') = false := Sim.repl_beq_lbr
theorem repl_beq_rbr : (repl == ']') = false := Sim.repl_beq_rbr
theorem repl_not_digit : isDigitN repl.toNat = false := Sim.repl_not_digit

@[simp] theorem isC_none (x : Char) : Spec.isC none x = false := Sim.isC_none x

theorem optmap_utf8_isSome (a : Option Str) : (a.map utf8).isSome = a.isSome := Sim.optmap_utf8_isSome a
theorem optmap_utf8_eq_none (a : Option Str) : (a.map utf8 = none) ↔ a = none := Sim.optmap_utf8_eq_none a

theorem lit_eq_utf8 (s : String) (h : ∀ c ∈ s.toList, c.toNat < 0x80) : lit s = utf8 s.toList := Sim.lit_eq_utf8 s h

theorem lit_ftp : lit "ftp" = utf8 "ftp".toList := Sim.lit_ftp
theorem lit_http : lit "http" = utf8 "http".toList := Sim.lit_http
theorem lit_https : lit "https" = utf8 "https".toList := Sim.lit_https
theorem lit_ws : lit "ws" = utf8 "ws".toList := Sim.lit_ws
theorem lit_wss : lit "wss" = utf8 "wss".toList := Sim.lit_wss
theorem lit_localhost : lit "localhost" = utf8 "localhost".toList := Sim.lit_localhost

theorem utf8_eq_lit_file {s : Str} : utf8 s = lit "file" ↔ s = "file".toList := Sim.utf8_eq_lit_file

theorem defaultPort_file : Spec.defaultPort "file".toList = none := Sim.defaultPort_file

private def dval (l : List Nat) : Nat := l.foldl (fun a d => a * 10 + d) 0

theorem utf8_cons_ne_nil (c : Char) (s : Str) : utf8 (c :: s) ≠ [] := Sim.utf8_cons_ne_nil c s

theorem special_ne (A B : Bool) : ((A && !B) || (!A && B)) = (A != B) := Sim.special_ne A B

end WhatwgUrl.Proofs.Sim.A2
