import WhatwgUrl.Impl.Host
import WhatwgUrl.Spec.Basic
import WhatwgUrl.Proofs.Utf8
/-
  C07 (IPv4): transport between the byte-level Go model (`Impl`) and the code-point-level standard (`Spec`) along
  `asStr = List.map bc`.  The first part is general (bytes as code points: `bc_inj`, `bc_beq`, `asStr`, `Ascii`,
  `utf8_asStr`, `goRunes_ascii`); the IPv4 parser starts at `spec_number_eq`.
-/
namespace WhatwgUrl.Proofs.IPv4
open WhatwgUrl WhatwgUrl.Impl

def Ascii (s : Bytes) : Prop := ∀ x ∈ s, x.toNat < 0x80
/-- the scalar value string with the same numbers as the bytes (for ASCII bytes: the decoded string) -/
def asStr (s : Bytes) : Str := s.map bc

open Utf8 (bc_toNat)

theorem bc_inj {x y : UInt8} (h : bc x = bc y) : x = y := by
  have := congrArg Char.toNat h
  rw [bc_toNat, bc_toNat] at this
  exact UInt8.toNat_inj.mp this

theorem bc_beq (x y : UInt8) : (bc x == bc y) = (x == y) := by
  by_cases h : x = y
  · subst h; simp
  · rw [beq_false_of_ne h, beq_false_of_ne fun e => h (bc_inj e)]

theorem bc_dot : ∀ x : UInt8, (bc x == '.') = (x == 0x2e) := fun x => bc_beq x 0x2e
theorem bc_0 : ∀ x : UInt8, (bc x == '0') = (x == 0x30) := fun x => bc_beq x 0x30
theorem bc_x : ∀ x : UInt8, (bc x == 'x') = (x == 0x78) := fun x => bc_beq x 0x78
theorem bc_X : ∀ x : UInt8, (bc x == 'X') = (x == 0x58) := fun x => bc_beq x 0x58

theorem bc_ne_repl (x : UInt8) : (bc x == repl) = false :=
  beq_false_of_ne fun h => by
    have := congrArg Char.toNat h
    rw [bc_toNat, show repl.toNat = 0xFFFD by decide] at this
    have := x.toNat_lt
    omega

@[simp] theorem asStr_nil : asStr [] = [] := rfl
@[simp] theorem asStr_cons (x : UInt8) (s : Bytes) : asStr (x :: s) = bc x :: asStr s := rfl
@[simp] theorem asStr_length (s : Bytes) : (asStr s).length = s.length := by simp [asStr]
@[simp] theorem asStr_isEmpty (s : Bytes) : (asStr s).isEmpty = s.isEmpty := by cases s <;> rfl
theorem asStr_drop (k : Nat) (s : Bytes) : (asStr s).drop k = asStr (s.drop k) := by simp [asStr]
theorem asStr_take (k : Nat) (s : Bytes) : (asStr s).take k = asStr (s.take k) := by simp [asStr]
theorem asStr_eq_nil {s : Bytes} : asStr s = [] ↔ s = [] := by cases s <;> simp

theorem asStr_all (p : Nat → Bool) (s : Bytes) :
    (asStr s).all (fun c => p c.toNat) = s.all (fun x => p x.toNat) := by
  simp [asStr, List.all_map, Function.comp_def, bc_toNat]

theorem strVal_asStr (r : Nat) (s : Bytes) : Spec.strVal r (asStr s) = digitsVal r s := by
  simp [Spec.strVal, digitsVal, asStr, List.foldl_map, bc_toNat]

theorem splitOn_cons_ne (sep x : UInt8) (s h : Bytes) (t : List Bytes) (hx : x ≠ sep) (hs : splitOn sep s = h :: t) :
    splitOn sep (x :: s) = (x :: h) :: t :=
  Utf8.splitOn_pre sep [x] s h t (by simpa using hx) hs

theorem splitStr_asStr (s : Bytes) : Spec.splitStr '.' (asStr s) = (splitOn 0x2e s).map asStr := by
  induction s with
  | nil => rfl
  | cons x xs ih =>
    simp only [asStr_cons, Spec.splitStr, splitOn, bc_dot]
    by_cases hx : (x == 0x2e) = true
    · simp [hx, ih]
    · simp only [hx, ih]
      cases splitOn 0x2e xs <;> simp

theorem hexFlag_eq (s : Bytes) :
    ((asStr s).take 2 == ['0', 'x'] || (asStr s).take 2 == ['0', 'X']) =
      (startsWith s (lit "0x") || startsWith s (lit "0X")) := by
  rw [show lit "0x" = [0x30, 0x78] by decide, show lit "0X" = [0x30, 0x58] by decide]
  match s with
  | [] => rfl
  | [a] => simp [startsWith, List.isPrefixOf]
  | a :: b :: rest => simp [startsWith, List.isPrefixOf, bc_0, bc_x, bc_X, BEq.comm (a := a), BEq.comm (a := b)]

theorem octFlag_eq (s : Bytes) : ((asStr s).head? == some '0') = startsWith s (lit "0") := by
  rw [show lit "0" = [0x30] by decide]
  match s with
  | [] => rfl
  | a :: rest => simp [startsWith, List.isPrefixOf, bc_0, BEq.comm (a := a)]

theorem utf8Char_bc (x : UInt8) (h : x.toNat < 0x80) : utf8Char (bc x) = [x] := by
  rw [Utf8.utf8Char_ascii _ (by rwa [bc_toNat]), bc_toNat]; simp

theorem utf8_asStr (s : Bytes) (h : Ascii s) : utf8 (asStr s) = s := by
  induction s with
  | nil => rfl
  | cons x xs ih =>
    have hx := utf8Char_bc x (h x (by simp))
    have hxs : Ascii xs := fun y hy => h y (List.mem_cons_of_mem _ hy)
    simp only [asStr_cons, utf8, List.flatMap_cons, hx]
    exact congrArg (x :: ·) (ih hxs)

theorem goRunes_ascii (s : Bytes) (h : Ascii s) : goRunes s = asStr s := by
  have := Utf8.goRunes_utf8 (asStr s)
  rwa [utf8_asStr s h] at this

theorem getLast?_asStr_nil (L : List Bytes) :
    ((L.map asStr).getLast? == some []) = (L.getLast? == some []) := by
  rw [List.getLast?_map]
  cases L.getLast? with
  | none => rfl
  | some x => cases x <;> rfl

/-- dropping one trailing empty label (ends-in-a-number checker) commutes with `asStr` -/
theorem trimE_map (L : List Bytes) :
    (if (L.map asStr).getLast? == some [] then (if (L.map asStr).length == 1 then [] else (L.map asStr).dropLast)
      else L.map asStr) =
    (if L.getLast? == some [] then (if L.length == 1 then [] else L.dropLast) else L).map asStr := by
  rw [getLast?_asStr_nil, List.length_map]
  split
  · split <;> simp [List.map_dropLast]
  · rfl

/-- the same for the IPv4 parser's test -/
theorem trimP_map (L : List Bytes) :
    (if ((L.map asStr).getLast? == some [] && decide ((L.map asStr).length > 1)) then (L.map asStr).dropLast
      else L.map asStr) =
    (if (L.getLast? == some [] && decide (L.length > 1)) then L.dropLast else L).map asStr := by
  rw [getLast?_asStr_nil, List.length_map]
  split <;> simp [List.map_dropLast]

theorem ite_bnot {α : Type} (b : Bool) (x y : α) : (if (!b) = true then x else y) = if b = true then y else x := by
  cases b <;> rfl

theorem radixDigit_16 : radixDigit 16 = fun x => isHexN x.toNat := by funext x; simp [radixDigit]
theorem radixDigit_8 : radixDigit 8 = fun x => isOctN x.toNat := by funext x; simp [radixDigit]
theorem radixDigit_10 : radixDigit 10 = fun x => isDigitN x.toNat := by funext x; simp [radixDigit]

/-- the standard's IPv4 number parser, restated on bytes with the Go code's own tests -/
theorem spec_number_eq (s : Bytes) :
    Spec.parseIPv4Number (asStr s) =
      if s.isEmpty then none
      else
        let isHex := decide (s.length ≥ 2) && (startsWith s (lit "0x") || startsWith s (lit "0X"))
        let isOct := !isHex && decide (s.length ≥ 2) && startsWith s (lit "0")
        let digits := if isHex then s.drop 2 else if isOct then s.drop 1 else s
        let radix := if isHex then 16 else if isOct then 8 else 10
        if digits.isEmpty then some 0
        else if !digits.all (radixDigit radix) then none
        else some (digitsVal radix digits) := by
  unfold Spec.parseIPv4Number
  simp only [asStr_isEmpty, asStr_length, hexFlag_eq, octFlag_eq]
  generalize (decide (s.length ≥ 2) && (startsWith s (lit "0x") || startsWith s (lit "0X"))) = hx
  generalize (!hx && decide (s.length ≥ 2) && startsWith s (lit "0")) = ox
  cases hx <;> cases ox <;>
    simp only [asStr_drop, asStr_isEmpty, asStr_all isHexN, asStr_all isOctN, asStr_all isDigitN, strVal_asStr,
      radixDigit_16, radixDigit_8, radixDigit_10, ite_bnot, Bool.false_eq_true, if_false, if_true, Nat.reduceBEq,
      beq_self_eq_true]

/-- range checks on the numbers and their combination (steps 7–11 of the IPv4 parser) -/
def combine (nums : List Nat) : Option Nat :=
  if nums.dropLast.any (· > 255) then none
  else match nums.getLast? with
    | none => none
    | some last =>
      if last ≥ 256 ^ (5 - nums.length) then none
      else
        let front := nums.dropLast
        some ((List.range front.length).foldl (fun acc i => acc + front[i]! * 256 ^ (3 - i)) last)

theorem spec_parseIPv4_eq (s : Str) :
    Spec.parseIPv4 s =
      (let parts := Spec.splitStr '.' s
       let parts := if parts.getLast? == some [] && parts.length > 1 then parts.dropLast else parts
       if parts.length > 4 then none
       else if (parts.map Spec.parseIPv4Number).any (·.isNone) then none
       else combine ((parts.map Spec.parseIPv4Number).map (·.getD 0))) := rfl

/- NB: the weights are kept abstract: the kernel must never be asked to compare by unfolding a term `x * 16777216`
   with `x` a variable (it unfolds `Nat.mul` on the literal and overflows its stack). -/
theorem foldg1 (w : Nat → Nat) (a l : Nat) :
    (List.range 1).foldl (fun acc i => acc + [a][i]! * w i) l = l + a * w 0 := rfl
theorem foldg2 (w : Nat → Nat) (a b l : Nat) :
    (List.range 2).foldl (fun acc i => acc + [a, b][i]! * w i) l = l + a * w 0 + b * w 1 := rfl
theorem foldg3 (w : Nat → Nat) (a b c l : Nat) :
    (List.range 3).foldl (fun acc i => acc + [a, b, c][i]! * w i) l = l + a * w 0 + b * w 1 + c * w 2 := rfl

theorem combine_1 (a : Nat) : combine [a] = if a ≥ 4294967296 then none else some a := by
  unfold combine
  simp only [List.dropLast_singleton, List.any_nil, List.getLast?_singleton, List.length_cons, List.length_nil,
    Nat.zero_add, Nat.reduceSub, Nat.reducePow, Bool.false_eq_true, if_false, List.range_zero, List.foldl_nil]

theorem combine_2 (a b : Nat) : combine [a, b] =
    if a > 255 then none else if b ≥ 16777216 then none else some (b + a * 16777216) := by
  unfold combine
  simp only [List.dropLast_cons_cons, List.dropLast_singleton, List.any_cons, List.any_nil,
    List.getLast?_cons_cons, List.getLast?_singleton, List.length_cons, List.length_nil, Nat.zero_add,
    Nat.reduceAdd, Nat.reduceSub]
  rw [foldg1 (fun i => 256 ^ (3 - i)) a b]
  simp only [Nat.reduceSub, Nat.reducePow, Bool.or_false, decide_eq_true_eq]

theorem combine_3 (a b c : Nat) : combine [a, b, c] =
    if a > 255 ∨ b > 255 then none else if c ≥ 65536 then none else some (c + a * 16777216 + b * 65536) := by
  unfold combine
  simp only [List.dropLast_cons_cons, List.dropLast_singleton, List.any_cons, List.any_nil,
    List.getLast?_cons_cons, List.getLast?_singleton, List.length_cons, List.length_nil, Nat.zero_add,
    Nat.reduceAdd, Nat.reduceSub]
  rw [foldg2 (fun i => 256 ^ (3 - i)) a b c]
  simp only [Nat.reduceSub, Nat.reducePow, Bool.or_false, Bool.or_eq_true, decide_eq_true_eq]

theorem combine_4 (a b c d : Nat) : combine [a, b, c, d] =
    if a > 255 ∨ b > 255 ∨ c > 255 then none else if d ≥ 256 then none
    else some (d + a * 16777216 + b * 65536 + c * 256) := by
  unfold combine
  simp only [List.dropLast_cons_cons, List.dropLast_singleton, List.any_cons, List.any_nil,
    List.getLast?_cons_cons, List.getLast?_singleton, List.length_cons, List.length_nil, Nat.zero_add,
    Nat.reduceAdd, Nat.reduceSub]
  rw [foldg3 (fun i => 256 ^ (3 - i)) a b c d]
  simp only [Nat.reduceSub, Nat.reducePow, Bool.or_false, Bool.or_eq_true, decide_eq_true_eq]

theorem combine_nil : combine [] = none := rfl

theorem combine_lt (nums : List Nat) (hlen : nums.length ≤ 4) (v : Nat) (h : combine nums = some v) : v < 2 ^ 32 := by
  match nums, hlen with
  | [], _ => simp [combine_nil] at h
  | [a], _ => rw [combine_1] at h; split at h <;> simp at h; omega
  | [a, b], _ => rw [combine_2] at h; (repeat' split at h) <;> simp at h; omega
  | [a, b, c], _ => rw [combine_3] at h; (repeat' split at h) <;> simp at h; omega
  | [a, b, c, d], _ => rw [combine_4] at h; (repeat' split at h) <;> simp at h; omega
  | _ :: _ :: _ :: _ :: _ :: _, hlen => simp at hlen

theorem dropLast_append_of_getLast? {α : Type} {l : List α} {a : α} (h : l.getLast? = some a) :
    l.dropLast ++ [a] = l := by
  have hne : l ≠ [] := by intro e; subst e; simp at h
  have h2 := List.dropLast_concat_getLast hne
  rw [List.getLast?_eq_some_getLast hne] at h
  injection h with h
  rw [h] at h2
  exact h2

theorem combine_big (nums : List Nat) (v : Nat) (hv : v ∈ nums) (hbig : v ≥ 2 ^ 32) : combine nums = none := by
  unfold combine
  split
  · rfl
  · rename_i hany
    cases hl : nums.getLast? with
    | none => rfl
    | some last =>
      have hsplit : nums.dropLast ++ [last] = nums := dropLast_append_of_getLast? hl
      have hlen : nums.length ≥ 1 := by rw [← hsplit]; simp
      rw [← hsplit] at hv
      rcases List.mem_append.mp hv with h | h
      · exfalso
        apply hany
        rw [List.any_eq_true]
        exact ⟨v, h, by simp; omega⟩
      · have hvl : v = last := by simpa using h
        subst hvl
        have h1 : 256 ^ (5 - nums.length) ≤ 256 ^ 4 := Nat.pow_le_pow_right (by omega) (by omega)
        have h2 : (256 : Nat) ^ 4 = 2 ^ 32 := by decide
        simp only []
        rw [if_pos (by omega)]

end WhatwgUrl.Proofs.IPv4
