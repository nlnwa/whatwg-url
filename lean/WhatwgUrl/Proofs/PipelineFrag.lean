import WhatwgUrl.Proofs.PipelineCongr
/-
  C18d: a run in the fragment state (the hash setter with a non-empty value) changes nothing but the fragment
  (and the diagnostics) and never panics — any configuration.  With it: for a profile that removes fragments the two
  fragments need not be related at all (`canonV_congr_rf`).
-/
namespace WhatwgUrl.Proofs.Pipeline
open WhatwgUrl WhatwgUrl.Impl WhatwgUrl.Proofs.Canon WhatwgUrl.Proofs.Machine

/-- the fragment state alone: under a state override the machine stays in it, and it writes the fragment only -/
def frSt : State → Bool
  | .fragment => true
  | _ => false

theorem keeps_frSt (f : Field) (hf : f ≠ .fragment) : Keeps true frSt f := by
  intro s
  cases s <;> cases f <;> first | decide | exact absurd rfl hf

theorem basicParser_fr (cfg : Cfg) (I : Idna) (input : Bytes) (base : Option Url) (u u0 : Url) (h : Ag true true false u u0) :
    Ag true true false (basicParser cfg I input base (some u) (some .fragment)).url u0 ∧
    ∀ n, (basicParser cfg I input base (some u) (some .fragment)).ret ≠ .panic n := by
  have k := fun f hf => basicParser_keeps (keeps_frSt f hf) cfg I input base u .fragment rfl
  obtain ⟨h1, h2, h3, h4, h5, h6, h7, h8, _⟩ := h
  exact ⟨⟨(k .scheme nofun).trans h1, (k .username nofun).trans h2, (k .password nofun).trans h3, (k .host nofun).trans h4,
    (k .port nofun).1.trans h5, (k .port nofun).2.trans h6, fun _ => (k .path nofun).trans (h7 rfl),
    fun _ => (k .query nofun).trans (h8 rfl), nofun⟩, NoPanic.basicParser_safe cfg I input base (some u) (some .fragment)
      fun v _ => by simp [NoPanic.relSt]⟩

theorem setHash_frame (cfg : Cfg) (I : Idna) (u : Url) (v : Bytes) (hv : v ≠ []) :
    Ag true true false (setU cfg I .hash u v).url u ∧ ∀ n, (setU cfg I .hash u v).ret ≠ .panic n := by
  show Ag true true false (setHash cfg I u v).url u ∧ ∀ n, (setHash cfg I u v).ret ≠ .panic n
  unfold setHash
  have : v.isEmpty = false := by cases v with | nil => exact absurd rfl hv | cons _ _ => rfl
  rw [this]
  simp only [Bool.false_eq_true, if_false]
  exact basicParser_fr cfg I _ none _ u ⟨rfl, rfl, rfl, rfl, rfl, rfl, fun _ => rfl, fun _ => rfl, nofun⟩

theorem decodeEncode_ne_nil (tr : PSet) (s : Bytes) (h : s ≠ []) : decodeEncode tr s ≠ [] := fun he =>
  h ((decodeEncode_nil_iff_of_eq tr s [] (he.trans (decodeEncode_nil tr).symm)).mpr rfl)

theorem hashG_cases (u : Url) (h : (hashG u != []) = true) : ∃ f, u.fragment = some f ∧ f ≠ [] := by
  unfold hashG at h
  cases hf : u.fragment with
  | none => rw [hf] at h; simp at h
  | some f =>
    rw [hf] at h
    cases f with
    | nil => simp at h
    | cons a t => exact ⟨a :: t, rfl, List.cons_ne_nil _ _⟩

theorem s4_frame (I : Idna) (p : Profile) (x : VS) :
    Ag true true false (step4 I p x).1.u x.u ∧ (step4 I p x).1.sp = x.sp ∧ ∀ n, (step4 I p x).2 ≠ .panic n := by
  unfold step4
  split
  · rename_i hc
    simp only [Bool.and_eq_true] at hc
    obtain ⟨f, hf, hne⟩ := hashG_cases x.u hc.2
    obtain ⟨_, ht⟩ := hashG_some x.u f hf hne
    rw [ht]
    have := setHash_frame p.cfg I x.u (decodeEncode hostSet f) (decodeEncode_ne_nil hostSet f hne)
    exact ⟨this.1, rfl, this.2⟩
  · exact ⟨Ag.refl _ _ _ _, rfl, nofun⟩

theorem s4_rf (I : Idna) (p : Profile) (x y : VS) (h : R3g (fun _ _ => True) x y) :
    RRel (R4w false) (step4 I p x) (step4 I p y) := by
  obtain ⟨hA, _, hsp⟩ := h
  obtain ⟨a1, a2, a3⟩ := s4_frame I p x
  obtain ⟨b1, b2, b3⟩ := s4_frame I p y
  exact Or.inr ⟨⟨(a1.trans hA).trans b1.symm, by rw [a2, b2, hsp]⟩, a3, b3⟩

theorem canonV_congr_rf (I : Idna) (p : Profile) (hrpd : p.repeatedPercentDecoding = true) (hrf : p.removeFragment = true)
    (hH : HostOk p.cfg I) (x y : VS) (h : R0g (fun _ _ => True) p.cfg x y) : RRel R4 (canonV I p x) (canonV I p y) :=
  canonV_congr_of I p hrpd hH (s4_rf I p) (Or.inr hrf) x y h

end WhatwgUrl.Proofs.Pipeline

#print axioms WhatwgUrl.Proofs.Pipeline.canonV_congr_rf
