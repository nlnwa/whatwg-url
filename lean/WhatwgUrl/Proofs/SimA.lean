import WhatwgUrl.Proofs.SimA2
/-
  One-iteration simulation lemmas for the twelve states scheme start, scheme, no scheme, special relative or authority,
  path or authority, relative, relative slash, special authority slashes, special authority ignore slashes, authority,
  file, file slash, in the form that carries the local invariant along: `RPS` alone is not an invariant under which one
  iteration of the two machines corresponds (three machine-checked counterexamples are at the end of this file), so every
  lemma takes the additional invariant `Extra input base ov pi ss` and re-establishes it
  (`Sim … a b = RStep a b ∧ XStep … a b`).  `scheme`, `file` and `file slash` also assume `BaseOK base`.  The oracle
  hypotheses are not needed for these states and are left out.  Each lemma is `A2.step_sim2_S` of `SimA2.lean` read
  through `Extra.loc` and `Sim.ofG`.

  This file holds the first form of the statements for these states, kept beside the chain that ends in `SimFinal.lean`;
  nothing imports it, no property module builds it: `lake build WhatwgUrl.Proofs.SimA`. Its `Sim.Extra`, `Sim.Extra.loc` and
  `Sim.step_sim_Statement` are not those of `SimBaseB.lean` / `SimB.lean`, which bear the same full names for the other
  nine states (a different structure, different binders): the two files cannot be imported together.
-/
namespace WhatwgUrl.Proofs.Sim
open WhatwgUrl WhatwgUrl.Impl

/-- what `RPS` lacks, on the standard's side: `Loc` (`SimStep.lean`) with the buffer clause in the form `BufInv` (digits in
    the port state) and `needsBase` for `relSt` (the clauses: `SimBase.lean`). Why each clause is needed is said where the
    Go side states them: `XCore`, `XInv` (`SimDefs2.lean`) and `YInv` (`SimYB.lean`). -/
structure Extra (input : Str) (base : Option Spec.SUrl) (ov : Option Spec.St) (pi : PS) (ss : Spec.PS) : Prop where
  lo : 0 ≤ ss.pointer
  hi : ss.pointer ≤ (input.length : Int)
  buf : BufInv pi.state ss
  base : needsBase pi.state = true → ∃ b, base = some b ∧ b.hasOpaquePath = false
  nopq : NoOpq ov pi.state ss

def XStep (input : Str) (base : Option Spec.SUrl) (ov : Option Spec.St) (a : StepR) (b : SStep) : Prop :=
  match a, b with
  | .cont pi, .cont ss => Extra input base ov pi ss
  | _, _ => True

def Sim (input : Str) (base : Option Spec.SUrl) (ov : Option Spec.St) (a : StepR) (b : SStep) : Prop :=
  RStep a b ∧ XStep input base ov a b

/-- the initial state of `basicParser` / `Spec.basicParse` satisfies `Extra` (for a url whose path is a list; under an
    override other than path start for any url) -/
theorem Extra_init (input : Str) (base : Option Spec.SUrl) (ov : Option State) (u : Url) (us : Spec.SUrl)
    (hu : ov = none ∨ ov = some .pathStart → us.hasOpaquePath = false)
    (hov : ov = none ∨ ov = some .schemeStart ∨ ov = some .host ∨ ov = some .hostname ∨ ov = some .port ∨
      ov = some .query ∨ ov = some .fragment ∨ ov = some .pathStart) :
    Extra input base (ov.map stateMap)
      { state := ov.getD .schemeStart, pointer := -1, eof := false, buffer := [], atFlag := false, bracketFlag := false,
        pwSeen := false, url := u }
      { state := (ov.map stateMap).getD .schemeStart, url := us } := by
  rcases hov with h | h | h | h | h | h | h | h <;> subst h <;>
    constructor <;> simp_all [BufInv, needsBase, NoOpq, stateMap]

section
variable {input : Str} {base : Option Spec.SUrl} {ov : Option Spec.St}

theorem Extra.loc {pi : PS} {ss : Spec.PS} (h : Extra input base ov pi ss) : Loc input base ov pi ss :=
  ⟨h.lo, h.hi, .of h.buf, needsBase_eq_relSt ▸ h.base, h.nopq⟩

theorem Sim.ofG {a : StepR} {b : SStep} (h : RStepG (A2.XA input base ov) (DD false) a b) : Sim input base ov a b := by
  cases a <;> cases b
  · exact ⟨h.1, Extra.mk h.2.1.lo h.2.1.hi h.2.2 (needsBase_eq_relSt ▸ h.2.1.base) h.2.1.nopq⟩
  · exact (h : False).elim
  · exact (h : False).elim
  · exact ⟨RResB_falseB.mp h.1, trivial⟩

end

theorem step_sim_schemeStart (I : Idna) (e : Env) (input : Str)
    (base : Option Spec.SUrl) (ov : Option Spec.St)
    (hE : REnv e input base ov I) (pi : PS) (ss : Spec.PS) (h : RPS pi ss) (hx : Extra input base ov pi ss)
    (hs : pi.state = .schemeStart) :
    Sim input base ov (step e pi) (afterRun input (Spec.run (specIdna I) input base ov ss)) :=
  .ofG (A2.step_sim2_schemeStart I e input base ov hE pi ss h hx.loc hs)

theorem step_sim_pathOrAuthority (I : Idna) (e : Env) (input : Str)
    (base : Option Spec.SUrl) (ov : Option Spec.St)
    (hE : REnv e input base ov I) (pi : PS) (ss : Spec.PS) (h : RPS pi ss) (hx : Extra input base ov pi ss)
    (hs : pi.state = .pathOrAuthority) :
    Sim input base ov (step e pi) (afterRun input (Spec.run (specIdna I) input base ov ss)) :=
  .ofG (A2.step_sim2_pathOrAuthority I e input base ov hE pi ss h hx.loc hs)

theorem step_sim_specialAuthorityIgnoreSlashes (I : Idna) (e : Env) (input : Str)
    (base : Option Spec.SUrl) (ov : Option Spec.St)
    (hE : REnv e input base ov I) (pi : PS) (ss : Spec.PS) (h : RPS pi ss) (hx : Extra input base ov pi ss)
    (hs : pi.state = .specialAuthorityIgnoreSlashes) :
    Sim input base ov (step e pi) (afterRun input (Spec.run (specIdna I) input base ov ss)) :=
  .ofG (A2.step_sim2_specialAuthorityIgnoreSlashes I e input base ov hE pi ss h hx.loc hs)

theorem step_sim_specialAuthoritySlashes (I : Idna) (e : Env) (input : Str)
    (base : Option Spec.SUrl) (ov : Option Spec.St)
    (hE : REnv e input base ov I) (pi : PS) (ss : Spec.PS) (h : RPS pi ss) (hx : Extra input base ov pi ss)
    (hs : pi.state = .specialAuthoritySlashes) :
    Sim input base ov (step e pi) (afterRun input (Spec.run (specIdna I) input base ov ss)) :=
  .ofG (A2.step_sim2_specialAuthoritySlashes I e input base ov hE pi ss h hx.loc hs)

theorem step_sim_specialRelativeOrAuthority (I : Idna) (e : Env) (input : Str)
    (base : Option Spec.SUrl) (ov : Option Spec.St)
    (hE : REnv e input base ov I) (pi : PS) (ss : Spec.PS) (h : RPS pi ss) (hx : Extra input base ov pi ss)
    (hs : pi.state = .specialRelativeOrAuthority) :
    Sim input base ov (step e pi) (afterRun input (Spec.run (specIdna I) input base ov ss)) :=
  .ofG (A2.step_sim2_specialRelativeOrAuthority I e input base ov hE pi ss h hx.loc hs)

theorem step_sim_noScheme (I : Idna) (e : Env) (input : Str)
    (base : Option Spec.SUrl) (ov : Option Spec.St)
    (hE : REnv e input base ov I) (pi : PS) (ss : Spec.PS) (h : RPS pi ss) (hx : Extra input base ov pi ss)
    (hs : pi.state = .noScheme) :
    Sim input base ov (step e pi) (afterRun input (Spec.run (specIdna I) input base ov ss)) :=
  .ofG (A2.step_sim2_noScheme I e input base ov hE pi ss h hx.loc hs)

theorem step_sim_relative (I : Idna) (e : Env) (input : Str)
    (base : Option Spec.SUrl) (ov : Option Spec.St)
    (hE : REnv e input base ov I) (pi : PS) (ss : Spec.PS) (h : RPS pi ss) (hx : Extra input base ov pi ss)
    (hs : pi.state = .relative) :
    Sim input base ov (step e pi) (afterRun input (Spec.run (specIdna I) input base ov ss)) :=
  .ofG (A2.step_sim2_relative I e input base ov hE pi ss h hx.loc hs)

theorem step_sim_relativeSlash (I : Idna) (e : Env) (input : Str)
    (base : Option Spec.SUrl) (ov : Option Spec.St)
    (hE : REnv e input base ov I) (pi : PS) (ss : Spec.PS) (h : RPS pi ss) (hx : Extra input base ov pi ss)
    (hs : pi.state = .relativeSlash) :
    Sim input base ov (step e pi) (afterRun input (Spec.run (specIdna I) input base ov ss)) :=
  .ofG (A2.step_sim2_relativeSlash I e input base ov hE pi ss h hx.loc hs)

theorem step_sim_authority (I : Idna) (e : Env) (input : Str)
    (base : Option Spec.SUrl) (ov : Option Spec.St)
    (hE : REnv e input base ov I) (pi : PS) (ss : Spec.PS) (h : RPS pi ss) (hx : Extra input base ov pi ss)
    (hs : pi.state = .authority) :
    Sim input base ov (step e pi) (afterRun input (Spec.run (specIdna I) input base ov ss)) :=
  .ofG (A2.step_sim2_authority I e input base ov hE pi ss h hx.loc hs)

theorem step_sim_file (I : Idna) (e : Env) (input : Str)
    (base : Option Spec.SUrl) (ov : Option Spec.St) (hB : BaseOK base)
    (hE : REnv e input base ov I) (pi : PS) (ss : Spec.PS) (h : RPS pi ss) (hx : Extra input base ov pi ss)
    (hs : pi.state = .file) :
    Sim input base ov (step e pi) (afterRun input (Spec.run (specIdna I) input base ov ss)) :=
  .ofG (A2.step_sim2_file I e input base ov hB hE pi ss h hx.loc hs)

theorem step_sim_fileSlash (I : Idna) (e : Env) (input : Str)
    (base : Option Spec.SUrl) (ov : Option Spec.St) (hB : BaseOK base)
    (hE : REnv e input base ov I) (pi : PS) (ss : Spec.PS) (h : RPS pi ss) (hx : Extra input base ov pi ss)
    (hs : pi.state = .fileSlash) :
    Sim input base ov (step e pi) (afterRun input (Spec.run (specIdna I) input base ov ss)) :=
  .ofG (A2.step_sim2_fileSlash I e input base ov hB hE pi ss h hx.loc hs)

theorem step_sim_scheme (I : Idna) (e : Env) (input : Str)
    (base : Option Spec.SUrl) (ov : Option Spec.St) (hB : BaseOK base)
    (hE : REnv e input base ov I) (pi : PS) (ss : Spec.PS) (h : RPS pi ss) (hx : Extra input base ov pi ss)
    (hs : pi.state = .scheme) :
    Sim input base ov (step e pi) (afterRun input (Spec.run (specIdna I) input base ov ss)) :=
  .ofG (A2.step_sim2_scheme I e input base ov hB hE pi ss h hx.loc hs)

/-! ### non-vacuity: the hypotheses of the twelve lemmas are satisfiable

  A one-code-point input, the empty url record as base, the machine at its first iteration in state `S`. -/

def wEnv (I : Idna) : Env := { cfg := {}, I := I, src := lit "a", runes := ['a'], base := some {}, ov := none }
def wPS (S : State) : PS := ⟨S, -1, false, [], false, false, false, {}⟩
def wSS (S : State) : Spec.PS := { state := stateMap S, url := {} }

theorem witness_ok (I : Idna) (S : State) (hS : S ≠ .query ∧ S ≠ .fragment ∧ S ≠ .opaquePath) :
    REnv (wEnv I) ['a'] (some {}) none I ∧ RPS (wPS S) (wSS S) ∧ Extra ['a'] (some {}) none (wPS S) (wSS S) ∧
    BaseOK (some {}) ∧ (wPS S).state = S := by
  refine ⟨⟨rfl, rfl, rfl, (by show goRunes (lit "a") = ['a']; decide), RUrl_empty, rfl⟩, ?_, ?_, ?_, rfl⟩
  · exact RPS_init S {} {} RUrl_empty hS.1 hS.2.1 hS.2.2
  · refine ⟨(by show (0 : Int) ≤ 0; decide), (by show (0 : Int) ≤ 1; decide), ?_, ?_, ?_⟩
    · cases S <;> simp [BufInv, wSS, wPS]
    · intro _; exact ⟨{}, rfl, rfl⟩
    · cases S <;> simp [NoOpq, wSS, wPS, Spec.SUrl.hasOpaquePath]
  · intro b hb hsp
    injection hb with hb
    subst hb
    exact absurd hsp (by decide)

/-- the twelve lemmas apply to the witness (each hypothesis is satisfiable, and the conclusion is not `False`) -/
example (I : Idna) : Sim ['a'] (some {}) none (step (wEnv I) (wPS .schemeStart))
    (afterRun ['a'] (Spec.run (specIdna I) ['a'] (some {}) none (wSS .schemeStart))) :=
  have w := witness_ok I .schemeStart (by decide)
  step_sim_schemeStart I _ _ _ _ w.1 _ _ w.2.1 w.2.2.1 w.2.2.2.2
example (I : Idna) : Sim ['a'] (some {}) none (step (wEnv I) (wPS .scheme))
    (afterRun ['a'] (Spec.run (specIdna I) ['a'] (some {}) none (wSS .scheme))) :=
  have w := witness_ok I .scheme (by decide)
  step_sim_scheme I _ _ _ _ w.2.2.2.1 w.1 _ _ w.2.1 w.2.2.1 w.2.2.2.2
example (I : Idna) : Sim ['a'] (some {}) none (step (wEnv I) (wPS .noScheme))
    (afterRun ['a'] (Spec.run (specIdna I) ['a'] (some {}) none (wSS .noScheme))) :=
  have w := witness_ok I .noScheme (by decide)
  step_sim_noScheme I _ _ _ _ w.1 _ _ w.2.1 w.2.2.1 w.2.2.2.2
example (I : Idna) : Sim ['a'] (some {}) none (step (wEnv I) (wPS .specialRelativeOrAuthority))
    (afterRun ['a'] (Spec.run (specIdna I) ['a'] (some {}) none (wSS .specialRelativeOrAuthority))) :=
  have w := witness_ok I .specialRelativeOrAuthority (by decide)
  step_sim_specialRelativeOrAuthority I _ _ _ _ w.1 _ _ w.2.1 w.2.2.1 w.2.2.2.2
example (I : Idna) : Sim ['a'] (some {}) none (step (wEnv I) (wPS .pathOrAuthority))
    (afterRun ['a'] (Spec.run (specIdna I) ['a'] (some {}) none (wSS .pathOrAuthority))) :=
  have w := witness_ok I .pathOrAuthority (by decide)
  step_sim_pathOrAuthority I _ _ _ _ w.1 _ _ w.2.1 w.2.2.1 w.2.2.2.2
example (I : Idna) : Sim ['a'] (some {}) none (step (wEnv I) (wPS .relative))
    (afterRun ['a'] (Spec.run (specIdna I) ['a'] (some {}) none (wSS .relative))) :=
  have w := witness_ok I .relative (by decide)
  step_sim_relative I _ _ _ _ w.1 _ _ w.2.1 w.2.2.1 w.2.2.2.2
example (I : Idna) : Sim ['a'] (some {}) none (step (wEnv I) (wPS .relativeSlash))
    (afterRun ['a'] (Spec.run (specIdna I) ['a'] (some {}) none (wSS .relativeSlash))) :=
  have w := witness_ok I .relativeSlash (by decide)
  step_sim_relativeSlash I _ _ _ _ w.1 _ _ w.2.1 w.2.2.1 w.2.2.2.2
example (I : Idna) : Sim ['a'] (some {}) none (step (wEnv I) (wPS .specialAuthoritySlashes))
    (afterRun ['a'] (Spec.run (specIdna I) ['a'] (some {}) none (wSS .specialAuthoritySlashes))) :=
  have w := witness_ok I .specialAuthoritySlashes (by decide)
  step_sim_specialAuthoritySlashes I _ _ _ _ w.1 _ _ w.2.1 w.2.2.1 w.2.2.2.2
example (I : Idna) : Sim ['a'] (some {}) none (step (wEnv I) (wPS .specialAuthorityIgnoreSlashes))
    (afterRun ['a'] (Spec.run (specIdna I) ['a'] (some {}) none (wSS .specialAuthorityIgnoreSlashes))) :=
  have w := witness_ok I .specialAuthorityIgnoreSlashes (by decide)
  step_sim_specialAuthorityIgnoreSlashes I _ _ _ _ w.1 _ _ w.2.1 w.2.2.1 w.2.2.2.2
example (I : Idna) : Sim ['a'] (some {}) none (step (wEnv I) (wPS .authority))
    (afterRun ['a'] (Spec.run (specIdna I) ['a'] (some {}) none (wSS .authority))) :=
  have w := witness_ok I .authority (by decide)
  step_sim_authority I _ _ _ _ w.1 _ _ w.2.1 w.2.2.1 w.2.2.2.2
example (I : Idna) : Sim ['a'] (some {}) none (step (wEnv I) (wPS .file))
    (afterRun ['a'] (Spec.run (specIdna I) ['a'] (some {}) none (wSS .file))) :=
  have w := witness_ok I .file (by decide)
  step_sim_file I _ _ _ _ w.2.2.2.1 w.1 _ _ w.2.1 w.2.2.1 w.2.2.2.2
example (I : Idna) : Sim ['a'] (some {}) none (step (wEnv I) (wPS .fileSlash))
    (afterRun ['a'] (Spec.run (specIdna I) ['a'] (some {}) none (wSS .fileSlash))) :=
  have w := witness_ok I .fileSlash (by decide)
  step_sim_fileSlash I _ _ _ _ w.2.2.2.1 w.1 _ _ w.2.1 w.2.2.1 w.2.2.2.2

/-! ### the statement with `RPS` alone is false: three concrete counterexamples

  (the oracle laws and the host-parser lemma are left out: the counterexamples do not involve a host.) -/

def step_sim_Statement (S : State) : Prop :=
  ∀ (I : Idna) (e : Env) (input : Str) (base : Option Spec.SUrl) (ov : Option Spec.St),
    REnv e input base ov I → ∀ (pi : PS) (ss : Spec.PS), RPS pi ss → pi.state = S →
      RStep (step e pi) (afterRun input (Spec.run (specIdna I) input base ov ss))

private def idI : Idna := fun s => (s, false)

/-- relative state without a base: Go panics (nil dereference), the standard returns failure -/
theorem step_sim_relative_Statement_false : ¬ step_sim_Statement .relative := by
  intro h
  have := h idI { cfg := {}, I := idI, src := [], runes := [], base := none, ov := none } [] none none
    ⟨rfl, rfl, rfl, by decide, trivial, rfl⟩
    ⟨.relative, -1, false, [], false, false, false, {}⟩ { state := .relative, url := {} }
    ⟨rfl, rfl, rfl, rfl, rfl, rfl, rfl, RUrl_empty, (by intro h; cases h), (by intro h; cases h), (by intro h; cases h)⟩ rfl
  simp [step, next, cur, body, stRelative, bottom, Spec.run, afterRun, RStep, RRes] at this

/-- a pointer below the start (here `ss.pointer = -2`): Go sees EOF and stops, the standard's driver goes on -/
theorem step_sim_relative_Statement_false' : ¬ step_sim_Statement .relative := by
  intro h
  have := h idI { cfg := {}, I := idI, src := [], runes := [], base := some {}, ov := none } [] (some {}) none
    ⟨rfl, rfl, rfl, by decide, RUrl_empty, rfl⟩
    ⟨.relative, -3, false, [], false, false, false, {}⟩ { state := .relative, pointer := -2, url := {} }
    ⟨rfl, rfl, rfl, rfl, rfl, rfl, rfl, RUrl_empty, (by intro h; cases h), (by intro h; cases h), (by intro h; cases h)⟩ rfl
  simp [step, next, cur, body, stRelative, bottom, Spec.run, Spec.cAt, afterRun, RStep, spBackslash, isSp,
    Cfg.isSpecial, Cfg.special?, Spec.isC, repl] at this

/-- a pointer beyond the end (here `ss.pointer = 2` on the empty input): Go rewinds and goes on, the standard's driver
    stops -/
theorem step_sim_pathOrAuthority_Statement_false : ¬ step_sim_Statement .pathOrAuthority := by
  intro h
  have := h idI { cfg := {}, I := idI, src := [], runes := [], base := none, ov := none } [] none none
    ⟨rfl, rfl, rfl, by decide, trivial, rfl⟩
    ⟨.pathOrAuthority, 1, false, [], false, false, false, {}⟩ { state := .pathOrAuthority, pointer := 2, url := {} }
    ⟨rfl, rfl, rfl, rfl, rfl, rfl, rfl, RUrl_empty, (by intro h; cases h), (by intro h; cases h), (by intro h; cases h)⟩ rfl
  simp [step, next, cur, body, stPathOrAuthority, bottom, Spec.run, Spec.cAt, afterRun, RStep, Spec.isC, repl,
    rewindLast] at this

end WhatwgUrl.Proofs.Sim
