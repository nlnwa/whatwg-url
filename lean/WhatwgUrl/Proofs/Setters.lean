import WhatwgUrl.Impl.Api
/-
  The shape of a value-level setter call, stated once: `setU cfg I s u v` is either a direct result (`Direct`: `u` with a
  few fields replaced) or a run of `basicParser` under a state override on a prepared url (`Run`).  An invariant of the
  record is kept by the setters as soon as it holds of the direct results and is kept by those runs (`setU_cases`).
-/
namespace WhatwgUrl.Proofs.Setters
open WhatwgUrl WhatwgUrl.Impl

theorem strip_eq_some_iff (p q : Path) :
    stripTrailingSpacesIfOpaque p = some q ↔
      (p.opq = false ∧ q = p) ∨ (p.opq = true ∧ ∃ s r, p.segs = s :: r ∧ q = ⟨trimRightByte 0x20 s :: r, true⟩) := by
  obtain ⟨segs, opq⟩ := p
  cases opq <;> cases segs <;> simp [stripTrailingSpacesIfOpaque, eq_comm]
  exact ⟨fun h => ⟨_, _, ⟨rfl, rfl⟩, h⟩, fun ⟨_, _, ⟨rfl, rfl⟩, h⟩ => h⟩

/-- the results a setter produces without running the parser -/
inductive Direct (cfg : Cfg) (u : Url) (v : Bytes) : Setter → Res → Prop
  | keep (s : Setter) : Direct cfg u v s ⟨u, .url⟩
  | username (x : Bytes) (h : ¬ cannotHaveUPP u = true) (hx : x = percentEncodeString cfg userinfoSet v) :
      Direct cfg u v .username ⟨{ u with username := x }, .url⟩
  | password (x : Bytes) (h : ¬ cannotHaveUPP u = true) (hx : x = percentEncodeString cfg userinfoSet v) :
      Direct cfg u v .password ⟨{ u with password := x }, .url⟩
  | port (h : ¬ cannotHaveUPP u = true) : Direct cfg u v .port ⟨{ u with port := none, decodedPort := 0 }, .url⟩
  | searchStrip (p : Path) (h : stripTrailingSpacesIfOpaque u.path = some p) :
      Direct cfg u v .search ⟨{ u with query := none, path := p }, .url⟩
  /-- the outcome is the panic of site 20 only if `stripTrailingSpacesIfOpaque` found no element; the path is left
      unstripped only if there is a fragment -/
  | searchNone (ret : Ret) (h : ret ≠ .url → stripTrailingSpacesIfOpaque u.path = none) (hf : ret = .url → u.fragment ≠ none) :
      Direct cfg u v .search ⟨{ u with query := none }, ret⟩
  | hashStrip (p : Path) (h : stripTrailingSpacesIfOpaque u.path = some p) :
      Direct cfg u v .hash ⟨{ u with fragment := none, path := p }, .url⟩
  | hashNone (ret : Ret) (h : ret ≠ .url → stripTrailingSpacesIfOpaque u.path = none) (hq : ret = .url → u.query ≠ none) :
      Direct cfg u v .hash ⟨{ u with fragment := none }, ret⟩

/-- the override runs of the setters: `Run u s st u'` — setter `s` on `u` runs the parser from state `st` on `u'` -/
inductive Run (u : Url) : Setter → State → Url → Prop
  | protocol : Run u .protocol .schemeStart u
  | host (h : ¬ u.path.opq = true) : Run u .host .host u
  | hostname (h : ¬ u.path.opq = true) : Run u .hostname .hostname u
  | port (h : ¬ cannotHaveUPP u = true) : Run u .port .port u
  | pathname (h : ¬ u.path.opq = true) : Run u .pathname .pathStart { u with path := Path.init }
  | search : Run u .search .query { u with query := some (u.query.getD []) }
  | hash : Run u .hash .fragment { u with fragment := some [] }

theorem setU_cases (cfg : Cfg) (I : Idna) (s : Setter) (u : Url) (v : Bytes) {R : Res → Prop}
    (hd : ∀ r, Direct cfg u v s r → R r)
    (hr : ∀ st u' input, Run u s st u' → R (basicParser cfg I input none (some u') (some st))) :
    R (setU cfg I s u v) := by
  cases s <;> unfold setU <;> dsimp only
  · exact hr _ _ _ .protocol
  · unfold setUsername keep
    split
    · exact hd _ (.keep _)
    · exact hd _ (.username _ ‹_› rfl)
  · unfold setPassword keep
    split
    · exact hd _ (.keep _)
    · exact hd _ (.password _ ‹_› rfl)
  · unfold setHost keep
    split
    · exact hd _ (.keep _)
    · exact hr _ _ _ (.host ‹_›)
  · unfold setHostname keep
    split
    · exact hd _ (.keep _)
    · exact hr _ _ _ (.hostname ‹_›)
  · unfold setPort keep
    split
    · exact hd _ (.keep _)
    · split
      · exact hd _ (.port ‹_›)
      · exact hr _ _ _ (.port ‹_›)
  · unfold setPathname keep
    split
    · exact hd _ (.keep _)
    · exact hr _ _ _ (.pathname ‹_›)
  · unfold setSearchU keep
    dsimp only
    split
    · split
      · split
        · exact hd _ (.searchStrip _ ‹_›)
        · exact hd _ (.searchNone _ (fun _ => ‹_›) nofun)
      · rename_i hf
        exact hd _ (.searchNone _ (fun h => absurd rfl h) fun _ => by simpa using hf)
    · have hu' : (if (u.query == none) = true then { u with query := some [] } else u)
          = { u with query := some (u.query.getD []) } := by
        cases hq : u.query with
        | none => simp
        | some q => cases u; simp_all
      rw [hu']
      exact hr _ _ _ .search
  · unfold setHash keep
    dsimp only
    split
    · split
      · split
        · exact hd _ (.hashStrip _ ‹_›)
        · exact hd _ (.hashNone _ (fun _ => ‹_›) nofun)
      · rename_i hq
        exact hd _ (.hashNone _ (fun h => absurd rfl h) fun _ => by simpa using hq)
    · exact hr _ _ _ .hash

end WhatwgUrl.Proofs.Setters
