import WhatwgUrl.Impl.Host
/-
  What a routine of hostparser.go does to its url, `Same u u'` (`u'` differs from `u` at most in the diagnostic fields `verrs`,
  `qlog`), and the error types it returns, `hostErrT`.  The namespace is `HostWF`: this is the vocabulary of HostWF.lean, in a
  file of its own because IPv6Parse.lean, which HostWF.lean imports, states its results with it.
-/
namespace WhatwgUrl.Proofs.HostWF
open WhatwgUrl WhatwgUrl.Impl

def Same (u u' : Url) : Prop :=
  u'.scheme = u.scheme ∧ u'.username = u.username ∧ u'.password = u.password ∧ u'.host = u.host ∧
  u'.port = u.port ∧ u'.decodedPort = u.decodedPort ∧ u'.path = u.path ∧ u'.query = u.query ∧ u'.fragment = u.fragment

theorem Same.refl (u : Url) : Same u u := ⟨rfl, rfl, rfl, rfl, rfl, rfl, rfl, rfl, rfl⟩

theorem Same.record {cfg : Cfg} {u u' : Url} {t : ErrT} {f : Bool} (h : Same u u') : Same u (record cfg u' t f) := by
  unfold Impl.record; split <;> exact h

theorem Same_record (cfg : Cfg) (u : Url) (t : ErrT) (f : Bool) : Same u (record cfg u t f) := (Same.refl u).record

theorem Same.scheme {u u' : Url} (h : Same u u') : u'.scheme = u.scheme := h.1
theorem Same.host {u u' : Url} (h : Same u u') : u'.host = u.host := h.2.2.2.1
theorem Same.path {u u' : Url} (h : Same u u') : u'.path = u.path := h.2.2.2.2.2.2.1
theorem Same.query {u u' : Url} (h : Same u u') : u'.query = u.query := h.2.2.2.2.2.2.2.1

/-- the error types of hostparser.go (`.InvalidURLUnit`: the opaque-host loop reports it) -/
def hostErrT : ErrT → Bool
  | .DomainToASCII | .DomainInvalidCodePoint | .HostInvalidCodePoint | .IPv4EmptyPart | .IPv4TooManyParts
  | .IPv4NonNumericPart | .IPv4NonDecimalPart | .IPv4OutOfRangePart | .IPv6Unclosed | .IPv6InvalidCompression
  | .IPv6TooManyPieces | .IPv6MultipleCompression | .IPv6InvalidCodePoint | .IPv6TooFewPieces
  | .IPv4InIPv6TooManyPieces | .IPv4InIPv6InvalidCodePoint | .IPv4InIPv6OutOfRangePart | .IPv4InIPv6TooFewParts
  | .InvalidURLUnit => true
  | _ => false

end WhatwgUrl.Proofs.HostWF
