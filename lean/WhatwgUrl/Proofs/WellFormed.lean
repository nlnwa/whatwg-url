import WhatwgUrl.Proofs.HostWF
import WhatwgUrl.Proofs.Percent
import WhatwgUrl.Proofs.Machine
/-
  Helper definitions and lemmas for C04b (structural well-formedness of every reachable URL record): the property `WFs`
  (`WFs ↔ WFa ∧ WFp`: authority part / path part), the machine invariant `J`, and what the field updates of the state
  functions do to the property.  `Proofs/WellFormed2.lean` proves that `body` and `basicParser` keep the invariant.

  `J e ps p` is "`WFs` so far", state by state, for the fresh parse (`e.ov = none`) and for the runs under a state
  override (setters); `p` is the index of the next code point.  Only the authority and host states are positional
  (`AuthZ`, `HostZ`): they record that the code points buffered since the last `@` start with a non-delimiter, which is
  what makes "credentials ⇒ non-empty host" true for NON-special schemes (`sc://u@/` fails, `sc://u@h/` ok); the rewind
  `len([]rune(buffer)) + 1` needs the UTF-8 round trip `Utf8.goRunes_utf8`.
  The machine proof leaves `WFa`, `WFp` folded over the fields they read (`WFaF`, `WFpF`) and uses the lemmas of the
  section "field updates", one per way in which a state function writes the url.
-/
namespace WhatwgUrl.Props.C04b
set_option linter.unusedSimpArgs false
open WhatwgUrl WhatwgUrl.Impl WhatwgUrl.Proofs WhatwgUrl.Proofs.HostWF

/-- alpha *(alnum / + / - / .), lower case -/
def schemeOk (s : Bytes) : Bool :=
  match s with
  | [] => false
  | c :: rest => isLowerN c.toNat && rest.all fun x => isLowerN x.toNat || isDigitN x.toNat || x == 0x2b || x == 0x2d || x == 0x2e

/-- canonical decimal in 0..65535, cache in sync, never the default -/
def portOk (cfg : Cfg) (u : Url) : Bool :=
  match u.port with
  | none => true
  | some p => p == itoa u.decodedPort && u.decodedPort ≤ 65535 && cfg.special? u.scheme != some p

/-- structural well-formedness -/
def WFs (cfg : Cfg) (u : Url) : Prop :=
  schemeOk u.scheme = true ∧
  (cfg.isSpecial u.scheme = true → u.host ≠ none ∧ (u.host = some [] → u.scheme = lit "file") ∧ u.path.opq = false ∧ u.path.segs ≠ []) ∧
  (u.path.opq = true → u.host = none ∧ u.path.segs.length = 1) ∧
  ((u.username ≠ [] ∨ u.password ≠ [] ∨ u.port ≠ none) → u.host ≠ none ∧ u.host ≠ some [] ∧ u.scheme ≠ lit "file") ∧
  portOk cfg u = true ∧
  (u.scheme = lit "file" → u.host ≠ none)

instance (cfg : Cfg) (u : Url) : Decidable (WFs cfg u) := by unfold WFs; infer_instance

theorem WFs_opaque_single {cfg : Cfg} {u : Url} (h : WFs cfg u) (ho : u.path.opq = true) : ∃ s, u.path.segs = [s] := by
  have := (h.2.2.1 ho).2
  match hs : u.path.segs, this with
  | [s], _ => exact ⟨s, rfl⟩

def portOkF (cfg : Cfg) (scheme : Bytes) (port : Option Bytes) (dp : Nat) : Bool :=
  match port with
  | none => true
  | some p => p == itoa dp && dp ≤ 65535 && cfg.special? scheme != some p

theorem portOk_eq (cfg : Cfg) (u : Url) : portOk cfg u = portOkF cfg u.scheme u.port u.decodedPort := rfl
@[simp] theorem portOkF_none (cfg : Cfg) (s : Bytes) (d : Nat) : portOkF cfg s none d = true := rfl

/-- everything of `WFs` that does not talk about the path -/
def WFa (cfg : Cfg) (u : Url) : Prop :=
  schemeOk u.scheme = true ∧
  (cfg.isSpecial u.scheme = true → u.host ≠ none ∧ (u.host = some [] → u.scheme = lit "file")) ∧
  ((u.username ≠ [] ∨ u.password ≠ [] ∨ u.port ≠ none) → u.host ≠ none ∧ u.host ≠ some [] ∧ u.scheme ≠ lit "file") ∧
  portOkF cfg u.scheme u.port u.decodedPort = true ∧
  (u.scheme = lit "file" → u.host ≠ none)

/-- the path clauses of `WFs` -/
def WFp (cfg : Cfg) (u : Url) : Prop :=
  (cfg.isSpecial u.scheme = true → u.path.opq = false ∧ u.path.segs ≠ []) ∧
  (u.path.opq = true → u.host = none ∧ u.path.segs.length = 1)

theorem WFs_iff (cfg : Cfg) (u : Url) : WFs cfg u ↔ WFa cfg u ∧ WFp cfg u := by
  unfold WFs WFa WFp
  rw [portOk_eq]
  constructor
  · rintro ⟨h1, h2, h3, h4, h5, h6⟩
    exact ⟨⟨h1, fun h => ⟨(h2 h).1, (h2 h).2.1⟩, h4, h5, h6⟩, fun h => ⟨(h2 h).2.2.1, (h2 h).2.2.2⟩, h3⟩
  · rintro ⟨⟨h1, h2, h4, h5, h6⟩, h7, h3⟩
    exact ⟨h1, fun h => ⟨(h2 h).1, (h2 h).2, (h7 h).1, (h7 h).2⟩, h3, h4, h5, h6⟩

def Blank (u : Url) : Prop :=
  u.username = [] ∧ u.password = [] ∧ u.host = none ∧ u.port = none ∧ u.path = ⟨[], false⟩

/-- url in the states between the scheme and the authority -/
def PreAuth (u : Url) : Prop := schemeOk u.scheme = true ∧ u.scheme ≠ lit "file" ∧ Blank u

/-- url in the file states -/
def FileJ (u : Url) : Prop :=
  u.scheme = lit "file" ∧ u.username = [] ∧ u.password = [] ∧ u.port = none ∧ u.host ≠ none ∧ u.path.opq = false

def CanPort (u : Url) : Prop := u.host ≠ none ∧ u.host ≠ some [] ∧ u.scheme ≠ lit "file"

def NonDelim (c : Char) : Prop := c ≠ '/' ∧ c ≠ '?' ∧ c ≠ '#'

/-- positional invariant of the authority state: the buffer is the UTF-8 of the code points read since the last `@`,
    and the first of them (at index `p - |s|`, `p` = index of the next code point to read) is not a delimiter -/
def AuthZ (e : Env) (ps : PS) (p : Int) : Prop :=
  ∃ s : Str, ps.buffer = utf8 s ∧ (s ≠ [] → ∃ c, cur e.runes (p - s.length) = some c ∧ NonDelim c)

/-- positional invariant of the host state (fresh parse): with credentials the host cannot come out empty -/
def HostZ (e : Env) (ps : PS) (p : Int) : Prop :=
  (ps.url.username ≠ [] ∨ ps.url.password ≠ []) → ps.buffer ≠ [] ∨ ∃ c, cur e.runes p = some c ∧ NonDelim c

/-- the state-indexed machine invariant; `p` is the index of the next code point to be read -/
def J (e : Env) (ps : PS) (p : Int) : Prop :=
  match ps.state with
  | .schemeStart =>
    ps.buffer = [] ∧ ((e.ov = none ∧ Blank ps.url) ∨ (e.ov = some .schemeStart ∧ WFs e.cfg ps.url))
  | .scheme =>
    schemeOk ps.buffer = true ∧ ((e.ov = none ∧ Blank ps.url) ∨ (e.ov = some .schemeStart ∧ WFs e.cfg ps.url))
  | .noScheme => e.ov = none ∧ ps.buffer = [] ∧ Blank ps.url
  | .relative =>
    e.ov = none ∧ ps.buffer = [] ∧ Blank ps.url ∧ (∀ b, e.base = some b → b.scheme ≠ lit "file" ∧ b.path.opq = false)
  | .relativeSlash =>
    e.ov = none ∧ ps.buffer = [] ∧ PreAuth ps.url ∧ (∀ b, e.base = some b → b.scheme = ps.url.scheme)
  | .specialRelativeOrAuthority =>
    e.ov = none ∧ ps.buffer = [] ∧ PreAuth ps.url ∧ e.cfg.isSpecial ps.url.scheme = true ∧
      ∃ b, e.base = some b ∧ b.scheme = ps.url.scheme
  | .specialAuthoritySlashes => e.ov = none ∧ ps.buffer = [] ∧ PreAuth ps.url
  | .specialAuthorityIgnoreSlashes => e.ov = none ∧ ps.buffer = [] ∧ PreAuth ps.url
  | .pathOrAuthority => e.ov = none ∧ ps.buffer = [] ∧ PreAuth ps.url ∧ e.cfg.isSpecial ps.url.scheme = false
  | .authority =>
    e.ov = none ∧ schemeOk ps.url.scheme = true ∧ ps.url.scheme ≠ lit "file" ∧ ps.url.host = none ∧ ps.url.port = none ∧
      ps.url.path = ⟨[], false⟩ ∧ (ps.atFlag = false → ps.url.username = [] ∧ ps.url.password = []) ∧ AuthZ e ps p
  | .host | .hostname =>
    (e.ov = none ∧ schemeOk ps.url.scheme = true ∧ ps.url.scheme ≠ lit "file" ∧ ps.url.port = none ∧
        ps.url.path = ⟨[], false⟩ ∧ HostZ e ps p) ∨
    (e.ov.isSome = true ∧ WFs e.cfg ps.url ∧ ps.url.path.opq = false)
  | .port =>
    WFa e.cfg ps.url ∧ CanPort ps.url ∧ (e.ov = none → ps.url.path = ⟨[], false⟩) ∧ (e.ov.isSome = true → WFs e.cfg ps.url)
  | .file => e.ov = none ∧ Blank ps.url
  | .fileSlash => e.ov = none ∧ FileJ ps.url ∧ ps.url.path = ⟨[], false⟩
  | .fileHost =>
    FileJ ps.url ∧ (e.ov = none → ps.url.path = ⟨[], false⟩) ∧ (e.ov.isSome = true → WFs e.cfg ps.url)
  | .pathStart => WFa e.cfg ps.url ∧ ps.url.path = ⟨[], false⟩ ∧ (e.ov = none ∨ e.ov = some .pathStart)
  | .path => WFa e.cfg ps.url ∧ ps.url.path.opq = false ∧ (e.ov = none ∨ e.ov = some .pathStart)
  | .opaquePath =>
    e.ov = none ∧ schemeOk ps.url.scheme = true ∧ e.cfg.isSpecial ps.url.scheme = false ∧ ps.url.scheme ≠ lit "file" ∧
      ps.url.username = [] ∧ ps.url.password = [] ∧ ps.url.host = none ∧ ps.url.port = none ∧
      ps.url.path.opq = true ∧ ps.url.path.segs.length = 1
  | .query => WFs e.cfg ps.url
  | .fragment => WFs e.cfg ps.url

/-- the hypotheses on the configuration / oracle under which the theorems hold -/
structure CfgOk (cfg : Cfg) (I : Idna) : Prop where
  /-- with the option on, the path-start state does not send a special url through the path state, and its path may stay
      empty -/
  hc : cfg.skipTrailingSlash = false
  /-- the hooks around the host parser are arbitrary functions: what they hand on may be the empty host -/
  hpre : cfg.preHost = none
  hpost : cfg.postHost = none
  /-- where the oracle reports an error on a non-empty ASCII label and the code goes on with its answer, the answer is not
      the empty string (an empty answer without error is a failure of `toAsciiOut` itself) -/
  hI : IdnaNonEmpty I

/-- the standing hypotheses of the machine proof: `CfgOk`, a well-formed base, and what two of the setters ask -/
structure Hyp (e : Env) : Prop extends CfgOk e.cfg e.I where
  hb : ∀ b, e.base = some b → WFs e.cfg b
  /-- only the protocol setter needs `file` to be special -/
  hfile : e.ov = some .schemeStart → e.cfg.isSpecial (lit "file") = true
  /-- only the pathname setter needs this: a non-fatal validation error that stops the parser (fail-on-validation-error
      mode) leaves the half-built path in the url -/
  hfail : e.ov = some .pathStart → e.cfg.failOnVErr = false

/-- what a continuing step leaves: at the end of the input `WFs` of the url (the loop bottom returns it), before it `J` at
    the next code point.  Up to the premise of `D` this is `Machine.Owes (fun ps => J e ps (ps.pointer + 1)) (D e)`
    (`Machine.Owes_iff`), the form in which the liftings of `Proofs/WellFormed2.lean` hand it on -/
def P (e : Env) (ps : PS) : Prop :=
  (ps.eof = true → WFs e.cfg ps.url) ∧ (ps.eof = false → J e ps (ps.pointer + 1))

/-- postcondition of a returning step: a returned url is well-formed; under a state override (setters) the mutated
    url is well-formed however the parser returned -/
def D (e : Env) (x : Res) : Prop :=
  (e.ov.isSome = true ∨ x.ret = .url) → WFs e.cfg x.url

/-- relation between the state after `nextCodePoint` and the code point it returned -/
def Cur (e : Env) (q : PS) (r : Char) : Prop :=
  (q.eof = false ∧ cur e.runes q.pointer = some r) ∨ (q.eof = true ∧ cur e.runes q.pointer = none ∧ r = repl)

attribute [simp] Machine.record_scheme Machine.record_username Machine.record_password Machine.record_host Machine.record_port
  Machine.record_decodedPort Machine.record_path Machine.record_query Machine.record_fragment Machine.next_url Machine.next_buffer
  Machine.shorten_opq

theorem WFs_same {cfg : Cfg} {u u' : Url} (h : Same u u') : WFs cfg u' ↔ WFs cfg u := by
  obtain ⟨h1, h2, h3, h4, h5, h6, h7, h8, h9⟩ := h
  unfold WFs
  rw [portOk_eq, portOk_eq, h1, h2, h3, h4, h5, h6, h7]

@[simp] theorem WFs_record (cfg cfg' : Cfg) (u : Url) (t : ErrT) (f : Bool) : WFs cfg (record cfg' u t f) ↔ WFs cfg u :=
  WFs_same (Same_record _ _ _ _)

theorem WFa_same {cfg : Cfg} {u u' : Url} (h : Same u u') : WFa cfg u' ↔ WFa cfg u := by
  obtain ⟨h1, h2, h3, h4, h5, h6, -⟩ := h
  unfold WFa
  rw [h1, h2, h3, h4, h5, h6]

@[simp] theorem WFa_record (cfg cfg' : Cfg) (u : Url) (t : ErrT) (f : Bool) : WFa cfg (record cfg' u t f) ↔ WFa cfg u :=
  WFa_same (Same_record _ _ _ _)

@[simp] theorem next_atFlag (rs : Str) (ps : PS) : (next rs ps).1.atFlag = ps.atFlag := by rw [Machine.next_fst]
@[simp] theorem next_state' (rs : Str) (ps : PS) : (next rs ps).1.state = ps.state := by rw [Machine.next_fst]

def okB (x : UInt8) : Bool := isLowerN x.toNat || isDigitN x.toNat || x == 0x2b || x == 0x2d || x == 0x2e

theorem okB_print : ∀ b : UInt8, okB b = true → 0x21 ≤ b.toNat ∧ b.toNat < 0x7f := by
  intro b
  have : ∀ i : Fin 256, okB (UInt8.ofNat i.val) = true →
      0x21 ≤ (UInt8.ofNat i.val).toNat ∧ (UInt8.ofNat i.val).toNat < 0x7f := by decide +kernel
  have := this ⟨b.toNat, b.toNat_lt⟩
  simpa using this

theorem schemeOk_append (b l : Bytes) (hb : schemeOk b = true) (hl : l.all okB = true) : schemeOk (b ++ l) = true := by
  match b, hb with
  | c :: rest, hb =>
    simp only [schemeOk, List.cons_append, List.all_append, Bool.and_eq_true] at hb ⊢
    exact ⟨hb.1, hb.2, hl⟩

theorem scheme_table : ∀ n : Fin 128,
    (isAlphaN (Char.ofNat n.val).toNat = true → schemeOk (utf8Char (lowerC (Char.ofNat n.val))) = true) ∧
    ((isAlnumN (Char.ofNat n.val).toNat || Char.ofNat n.val == '+' || Char.ofNat n.val == '-' || Char.ofNat n.val == '.') = true →
      (utf8Char (lowerC (Char.ofNat n.val))).all okB = true) := by decide

theorem schemeOk_first (r : Char) (h : isAlphaN r.toNat = true) : schemeOk (utf8Char (lowerC r)) = true := by
  have hlt : r.toNat < 128 := by
    simp [isAlphaN, isUpperN, isLowerN] at h; omega
  have hr : Char.ofNat r.toNat = r := Char.ofNat_toNat r
  have := (scheme_table ⟨r.toNat, hlt⟩).1
  simp only [hr] at this
  exact this h

theorem okB_next (r : Char) (h : (isAlnumN r.toNat || r == '+' || r == '-' || r == '.') = true) :
    (utf8Char (lowerC r)).all okB = true := by
  have hlt : r.toNat < 128 := by
    simp only [Bool.or_eq_true, beq_iff_eq] at h
    rcases h with ((h | h) | h) | h
    · simp [isAlnumN, isAlphaN, isUpperN, isLowerN, isDigitN] at h; omega
    · subst h; decide
    · subst h; decide
    · subst h; decide
  have hr : Char.ofNat r.toNat = r := Char.ofNat_toNat r
  have := (scheme_table ⟨r.toNat, hlt⟩).2
  simp only [hr] at this
  exact this h

theorem schemeOk_next (b : Bytes) (r : Char) (hb : schemeOk b = true)
    (h : (isAlnumN r.toNat || r == '+' || r == '-' || r == '.') = true) : schemeOk (b ++ utf8Char (lowerC r)) = true :=
  schemeOk_append _ _ hb (okB_next r h)

theorem schemeOk_file : schemeOk (lit "file") = true := by decide

theorem Cur_eof {e : Env} {q : PS} {r : Char} (h : Cur e q r) : q.eof = true → r = repl := by
  rcases h with ⟨h, _⟩ | ⟨_, _, h⟩
  · intro h'; rw [h] at h'; cases h'
  · intro _; exact h

theorem next_eof_of_rsw (rs : Str) (ps : PS) (c r : Char) (s : Str) (hc : cur rs ps.pointer = some r)
    (h : remainingStartsWith rs ps (c :: s) = true) : (next rs ps).1.eof = false := by
  refine Machine.remainingStartsWith_next rs ps c s (fun _ => ?_) h
  unfold cur at hc
  split at hc
  · assumption
  · cases hc

theorem AuthZ_nil (e : Env) (ps : PS) (p : Int) (h : ps.buffer = []) : AuthZ e ps p :=
  ⟨[], by simp [h, utf8], by simp⟩

attribute [simp] Machine.cleanDefaultPort_scheme Machine.cleanDefaultPort_username Machine.cleanDefaultPort_password
  Machine.cleanDefaultPort_host Machine.cleanDefaultPort_path

def portPre (port : Option Bytes) (dp : Nat) : Bool :=
  match port with
  | none => true
  | some p => p == itoa dp && dp ≤ 65535

theorem portPre_of_portOkF {cfg : Cfg} {s : Bytes} {port : Option Bytes} {dp : Nat} (h : portOkF cfg s port dp = true) :
    portPre port dp = true := by
  cases port with
  | none => rfl
  | some p => simp only [portOkF, portPre, Bool.and_eq_true] at h ⊢; exact h.1

theorem cdp_port (cfg : Cfg) (u : Url) : (cleanDefaultPort cfg u).port ≠ none → u.port ≠ none := by
  unfold cleanDefaultPort
  split
  · split
    · intro h; exact absurd rfl h
    · exact id
  · exact id

theorem cdp_portOk (cfg : Cfg) (u : Url) (h : portPre u.port u.decodedPort = true) :
    portOkF cfg u.scheme (cleanDefaultPort cfg u).port (cleanDefaultPort cfg u).decodedPort = true := by
  unfold cleanDefaultPort
  split
  · rename_i dp hdp
    split
    · rfl
    · rename_i hne
      cases hp : u.port with
      | none => simp [hp] at hne
      | some p =>
        rw [hp] at h
        simp only [hp, portOkF, portPre, Bool.and_eq_true, hdp] at h ⊢
        refine ⟨h, ?_⟩
        simp [hp] at hne
        simpa using fun e => hne e.symm
  · rename_i hnone
    cases hp : u.port with
    | none => rfl
    | some p =>
      rw [hp] at h
      simp only [portOkF, portPre, Bool.and_eq_true, hnone] at h ⊢
      exact ⟨h, by simp⟩

theorem WFs_setScheme (cfg : Cfg) (u : Url) (buf : Bytes) (hu : WFs cfg u) (hs : schemeOk buf = true)
    (hfile : cfg.isSpecial (lit "file") = true)
    (h1 : cfg.isSpecial u.scheme = true → cfg.isSpecial buf = true)
    (h2 : cfg.isSpecial u.scheme = false → cfg.isSpecial buf = false)
    (h3 : (u.username ≠ [] ∨ u.password ≠ []) ∨ u.port ≠ none → buf ≠ lit "file")
    (h5 : u.scheme = lit "file" → u.host ≠ some []) :
    WFs cfg (cleanDefaultPort cfg { u with scheme := buf }) := by
  have hp := cdp_portOk cfg { u with scheme := buf }
  have hp2 := cdp_port cfg { u with scheme := buf }
  simp only [WFs_iff, WFa, WFp, Machine.cleanDefaultPort_scheme, Machine.cleanDefaultPort_username, Machine.cleanDefaultPort_password, Machine.cleanDefaultPort_host, Machine.cleanDefaultPort_path] at hu ⊢
  have hpre := portPre_of_portOkF hu.1.2.2.2.1
  replace hp := hp hpre
  dsimp only at hp hp2 ⊢
  have hf' : buf = lit "file" → cfg.isSpecial buf = true := fun h => h ▸ hfile
  generalize (cleanDefaultPort cfg { u with scheme := buf }).port = port' at *
  generalize (cleanDefaultPort cfg { u with scheme := buf }).decodedPort = dp' at *
  cases hsp : cfg.isSpecial buf <;> cases hsu : cfg.isSpecial u.scheme <;> grind

theorem WFa_setPort (cfg : Cfg) (u : Url) (n : Nat) (h : WFa cfg u) (hc : CanPort u) (hn : ¬ n > 65535) :
    WFa cfg (cleanDefaultPort cfg { u with decodedPort := n, port := some (itoa n) }) := by
  have hp := cdp_portOk cfg { u with decodedPort := n, port := some (itoa n) }
    (by simp only [portPre, Bool.and_eq_true, beq_self_eq_true, true_and, decide_eq_true_eq]; omega)
  simp only [WFa, CanPort, Machine.cleanDefaultPort_scheme, Machine.cleanDefaultPort_username, Machine.cleanDefaultPort_password, Machine.cleanDefaultPort_host, Machine.cleanDefaultPort_path] at h hc ⊢
  dsimp only at hp ⊢
  generalize (cleanDefaultPort cfg { u with decodedPort := n, port := some (itoa n) }).port = port' at *
  generalize (cleanDefaultPort cfg { u with decodedPort := n, port := some (itoa n) }).decodedPort = dp' at *
  grind

theorem WFs_setPort (cfg : Cfg) (u : Url) (n : Nat) (h : WFs cfg u) (hc : CanPort u) (hn : ¬ n > 65535) :
    WFs cfg (cleanDefaultPort cfg { u with decodedPort := n, port := some (itoa n) }) := by
  rw [WFs_iff] at h ⊢
  exact ⟨WFa_setPort cfg u n h.1 hc hn,
    by simpa only [WFp, Machine.cleanDefaultPort_scheme, Machine.cleanDefaultPort_host, Machine.cleanDefaultPort_path] using h.2⟩

/-! ### field updates

`WFa` and `WFp` over the fields they read. The state functions write the url field by field; each lemma below says
what one such write needs in order to keep (or establish) one of the two halves. -/

def WFaF (cfg : Cfg) (s un pw : Bytes) (h p : Option Bytes) (dp : Nat) : Prop :=
  schemeOk s = true ∧
  (cfg.isSpecial s = true → h ≠ none ∧ (h = some [] → s = lit "file")) ∧
  ((un ≠ [] ∨ pw ≠ [] ∨ p ≠ none) → h ≠ none ∧ h ≠ some [] ∧ s ≠ lit "file") ∧
  portOkF cfg s p dp = true ∧
  (s = lit "file" → h ≠ none)

def WFpF (cfg : Cfg) (s : Bytes) (h : Option Bytes) (pa : Path) : Prop :=
  (cfg.isSpecial s = true → pa.opq = false ∧ pa.segs ≠ []) ∧ (pa.opq = true → h = none ∧ pa.segs.length = 1)

theorem WFa_fields (cfg : Cfg) (u : Url) :
    WFa cfg u ↔ WFaF cfg u.scheme u.username u.password u.host u.port u.decodedPort := Iff.rfl
theorem WFs_fields (cfg : Cfg) (u : Url) :
    WFs cfg u ↔ WFaF cfg u.scheme u.username u.password u.host u.port u.decodedPort ∧ WFpF cfg u.scheme u.host u.path :=
  WFs_iff cfg u

variable {cfg : Cfg} {s un pw : Bytes} {h p : Option Bytes} {dp : Nat} {pa : Path}

theorem WFaF.scheme (ha : WFaF cfg s un pw h p dp) : schemeOk s = true := ha.1
theorem WFaF.port (ha : WFaF cfg s un pw h p dp) : portOkF cfg s p dp = true := ha.2.2.2.1
theorem WFaF.of_file (ha : WFaF cfg (lit "file") un pw h p dp) : un = [] ∧ pw = [] ∧ p = none ∧ h ≠ none := by
  unfold WFaF at ha; grind
theorem WFpF.list_of_host (hp : WFpF cfg s h pa) (hh : h ≠ none) : pa.opq = false := by
  unfold WFpF at hp; grind
theorem WFpF.list_of_special (hp : WFpF cfg s h pa) (hs : cfg.isSpecial s = true) : pa.opq = false := (hp.1 hs).1

theorem WFaF_blank (dp : Nat) (hs : schemeOk s = true) (hn : cfg.isSpecial s = false) (hf : s ≠ lit "file") :
    WFaF cfg s [] [] none none dp := by
  simp [WFaF, hs, hn, hf]
theorem WFaF_file (cfg : Cfg) (h : Option Bytes) (dp : Nat) (hh : h ≠ none) : WFaF cfg (lit "file") [] [] h none dp := by
  simp [WFaF, schemeOk_file, hh]

/-- the host may be replaced by a non-empty one, and by an empty one if nothing forbids it -/
theorem WFaF_setHost (h : Bytes) (hs : schemeOk s = true) (hf : s ≠ lit "file") (hp : portOkF cfg s p dp = true)
    (h1 : cfg.isSpecial s = true → h ≠ []) (h2 : un ≠ [] ∨ pw ≠ [] ∨ p ≠ none → h ≠ []) :
    WFaF cfg s un pw (some h) p dp := by
  unfold WFaF; grind

/-- a url with an opaque path has no authority: a blank url with its scheme and path is well-formed -/
theorem WFaF_of_opaque (dp' : Nat) (ha : WFaF cfg s un pw h p dp) (hp : WFpF cfg s h pa) (ho : pa.opq = true) :
    WFaF cfg s [] [] none none dp' := by
  unfold WFaF WFpF at *; grind [portOkF_none]
theorem WFpF_of_opaque (hp : WFpF cfg s h pa) (ho : pa.opq = true) : WFpF cfg s none pa := by
  unfold WFpF at *; simp only [ho] at hp ⊢; grind

theorem WFpF_list (cfg : Cfg) (s : Bytes) (h : Option Bytes) (pa : Path) (ho : pa.opq = false)
    (hs : cfg.isSpecial s = true → pa.segs ≠ []) : WFpF cfg s h pa := by
  simp [WFpF, ho]; exact hs
theorem WFpF_opaque (hn : cfg.isSpecial s = false) (hl : pa.segs.length = 1) : WFpF cfg s none pa := by
  simp [WFpF, hn, hl]

/-- the host matters to the path clauses only for an opaque path -/
theorem WFpF_setHost (h' : Option Bytes) (hp : WFpF cfg s h pa) (ho : pa.opq = false) : WFpF cfg s h' pa := by
  unfold WFpF at *; grind

theorem parseHost_spec {e : Env} (H : Hyp e) (u : Url) (b : Bytes) (ns : Bool) :
    Same u (parseHost e.cfg e.I u b ns).url ∧ ∀ h, (parseHost e.cfg e.I u b ns).out = .ok h → (h = [] ↔ b = []) := by
  refine ⟨parseHost_frame _ _ _ _ _, fun h hh => ⟨fun h0 => ?_, fun b0 => ?_⟩⟩
  · exact Classical.byContradiction fun hb => parseHost_ne _ _ _ _ _ H.hpre H.hpost H.hI hb h hh h0
  · subst b0; rw [parseHost_nil _ _ _ _ H.hpre] at hh; cases hh; rfl

/-! ## statements and tactics kept for their own sake

  Nothing in the development calls what follows. `Sh P D` is the shape predicate `Machine.Sh P D` in ∀-form, with its rule
  for `retUrl`. The tactics close one outcome `P e {…}` / `D e ⟨…⟩` of a state function at field level: `wf_close he` rewrites
  the outcome and the context to the fields of the url (`he` is the fact about `eof`) and leaves the rest to `grind`;
  `wf_close_port he` is the variant for a url written through `cleanDefaultPort`. -/

def Sh (P : PS → Prop) (D : Res → Prop) (r : StepR) : Prop :=
  (∀ ps', r = .cont ps' → P ps') ∧ (∀ x, r = .done x → D x)

theorem Sh_retUrl (P : PS → Prop) (D : Res → Prop) (ps : PS) (hx : D ⟨ps.url, .url⟩) : Sh P D (retUrl ps) :=
  ⟨(by intro ps' h; cases h), (by intro y h; cases h; exact hx)⟩

macro "wf_fl" : tactic => `(tactic|
  simp only [P, D, J, Same, HostZ, NonDelim, writeRune, rewindLast, resetInput, rewind, isSp, spBackslash, Path.setOpaque, Path.addSegment, Path.init, List.length_singleton, shorten_opq, record_scheme, record_username,
    record_password, record_host, record_port, record_decodedPort, record_path, record_query, record_fragment, WFs_record,
    next_url, next_buffer, next_atFlag, next_state', next_pointer',
    true_implies, false_implies, and_true, true_and, reduceCtorEq, implies_true, not_true_eq_false, not_false_eq_true,
    forall_const, Bool.false_eq_true, Bool.true_eq_false, ne_eq, or_true, true_or, List.append_eq_nil_iff, List.cons_ne_nil, and_false] at *)

macro "wf_unf" : tactic => `(tactic|
  simp only [WFs_iff, WFa, WFp, Blank, PreAuth, FileJ, CanPort, shorten_opq, record_scheme, record_username,
    record_password, record_host, record_port, record_decodedPort, record_path, record_query, record_fragment,
    true_implies, false_implies, and_true, true_and, reduceCtorEq, implies_true, not_true_eq_false, not_false_eq_true,
    forall_const, Bool.false_eq_true, Bool.true_eq_false, ne_eq, List.append_eq_nil_iff, List.cons_ne_nil, and_false,
    Bool.and_eq_true, Bool.or_eq_true, Bool.not_eq_true', beq_iff_eq, bne_iff_ne, List.isEmpty_iff,
    Option.isSome_iff_ne_none, decide_eq_true_eq] at *)

macro "wf_grind" : tactic => `(tactic|
  grind (splits := 60) [portOkF_none, schemeOk_first', schemeOk_next, schemeOk_file, next_eof_of_rsw, AuthZ_nil])

macro "wf_close" he:ident : tactic => `(tactic|
  (wf_fl; (try simp only [$he:ident]);
   first | wf_grind
         | (wf_unf; wf_grind)))

macro "wf_fl2" : tactic => `(tactic|
  simp only [cdp_scheme, cdp_username, cdp_password, cdp_host, cdp_path] at *)

macro "wf_close_port" he:ident : tactic => `(tactic|
  (wf_fl; (try wf_fl2); (try simp only [$he:ident]);
   grind (splits := 60) [WFs_setPort, WFa_setPort]))

end WhatwgUrl.Props.C04b
