import WhatwgUrl.Proofs.ReportingBase
import WhatwgUrl.Proofs.HostTr
/-
  C15: reporting is neutral.  `erase` commutes with the model when the configuration on the right has reporting
  switched off (and otherwise agrees with the one on the left except for `report`):
      `erase… (f c1 u args) = f c2 (erase u) args`.
  The host level is one instance of `HostTr.parseHost_tr` (`NH.tr`); the machine level is `body_N`, lifted by induction
  on the fuel (`loop_N`) and through `Machine.basicParser_eq` (`basicParser_N`).
-/
namespace WhatwgUrl.Proofs.Reporting
open WhatwgUrl WhatwgUrl.Impl WhatwgUrl.Proofs.Machine

/-- the url-reading closures of the configuration do not look at the recorded validation errors -/
def HostFnsIgnoreVerrs (c : Cfg) : Prop :=
  (∀ f, c.preHost = some f → ∀ u h, f u h = f (erase u) h) ∧
  (∀ f, c.postHost = some f → ∀ u h, f u h = f (erase u) h)

/-- hypotheses of the neutrality pass: same configuration except `report`, which is off on the right -/
structure NH (c1 c2 : Cfg) : Prop where
  rel : CfgRel c1 c2
  fo : c1.failOnVErr = c2.failOnVErr
  rep : c2.report = false
  cl : HostFnsIgnoreVerrs c2

theorem NH.of_report (cfg : Cfg) (b : Bool) (hcl : HostFnsIgnoreVerrs cfg) :
    NH { cfg with report := b } { cfg with report := false } :=
  ⟨CfgRel.report cfg b false, rfl, rfl, hcl⟩

section
variable {c1 c2 : Cfg} (N : NH c1 c2)
include N

theorem NH.stops (f : Bool) : stops c1 f = stops c2 f := by simp [Impl.stops, N.fo]
theorem NH.rec2 (u : Url) (t : ErrT) (f : Bool) : record c2 u t f = u := record_off _ N.rep _ _ _

omit N in
theorem hom_ite {α β : Type} (g : α → β) (c : Prop) [Decidable c] (a b : α) (a' b' : β)
    (ha : c → g a = a') (hb : ¬ c → g b = b') : g (if c then a else b) = if c then a' else b' := by
  split
  · exact ha ‹_›
  · exact hb ‹_›

theorem NH.tr : HostTr.Tr2 c1 c2 erase where
  rcd u t f := (erase_record c1 u t f).trans (N.rec2 (erase u) t f).symm
  stops := N.stops
  lax := N.rel.laxHost
  enc := N.rel.encOverride
  pct _ := N.rel.pctSingle
  preH := N.rel.preHost
  postH := N.rel.postHost
  qlog _ _ := rfl
  pre f hf u h := (N.cl.1 f hf u h).symm
  post f hf u h := (N.cl.2 f hf u h).symm

theorem parseHost_N (I : Idna) (u : Url) (i : Bytes) (ns : Bool) :
    eraseHR (parseHost c1 I u i ns) = parseHost c2 I (erase u) i ns :=
  HostTr.parseHost_tr N.tr I u i ns

omit N in
theorem erase_cleanDefaultPort (c : Cfg) (u : Url) : erase (cleanDefaultPort c u) = cleanDefaultPort c (erase u) := by
  unfold cleanDefaultPort
  rw [erase_scheme, erase_port]
  split
  · exact apply_ite erase ..
  · rfl

end

theorem eraseS_cont (p : PS) : eraseS (.cont p) = .cont (erasePS p) := rfl
theorem eraseS_done (x : Res) : eraseS (.done x) = .done (eraseR x) := rfl

theorem eraseS_hostCases (o : HOut) (a : Bytes → StepR) (b : VErr → StepR) (c : Nat → StepR) :
    eraseS (hostCases o a b c) = hostCases o (fun h => eraseS (a h)) (fun er => eraseS (b er)) (fun n => eraseS (c n)) := by
  cases o <;> rfl

theorem eraseS_elim {α : Type} (o : Option α) (b : StepR) (f : α → StepR) :
    eraseS (o.elim b f) = o.elim (eraseS b) (fun x => eraseS (f x)) := by cases o <;> rfl

section
variable {c1 c2 : Cfg} (N : NH c1 c2) (I : Idna) (src : Bytes) (rs : Str) (base : Option Url) (ov : Option State)
include N

attribute [local simp] eraseS_elim afterHost_eq eraseS_hostCases eraseS_cont eraseS_done eraseHR ite_url ite_state ite_eof
  ite_pointer ite_buffer ite_atFlag ite_bracketFlag ite_pwSeen erasePS eraseR erase_mk erase_scheme erase_username
  erase_password erase_host erase_port erase_decodedPort erase_path erase_query erase_fragment erase_qlog erase_verrs
  erase_cleanDefaultPort stops_true next_fst in
theorem body_N (ps : PS) (r : Char) :
    eraseS (body ⟨c1, I, src, rs, base, ov⟩ ps r) = body ⟨c2, I, src, rs, base, ov⟩ (erasePS ps) r := by
  -- the host and hostname states run the same function
  have hH : eraseS (stHost ⟨c1, I, src, rs, base, ov⟩ ps r) = stHost ⟨c2, I, src, rs, base, ov⟩ (erasePS ps) r := by
    simp only [stHost_eq]
    dsimp +instances only [hostChar, herr, isSp, spBackslash, currentIsInvalid, currentAsByte, rewindLast, writeRune, retUrl,
      erasePS, erase_scheme, erase_username, erase_password, erase_port]
    simp [apply_ite eraseS, ← parseHost_N N, ← erase_eq, N.stops, N.rec2, record_eq c1, N.rel.isSpecial, N.rel.acceptInvalid]
  unfold body
  simp only [erasePS_state]
  split
  case h_10 | h_11 => exact hH
  case' h_16 => simp only [stPath_eq]
  case' h_18 => simp only [stQuery_eq]
  case' h_3 => cases base
  case' h_12 => cases base
  case' h_14 => cases base
  case' h_20 => cases base
  case' h_21 => cases base
  all_goals
    -- the unfoldings that hold by `rfl` first and with `+instances`: a condition that `simp` rewrites by `rfl` alone
    -- keeps the `Decidable` instance of the unrewritten term, which the other side's does not match
    dsimp +instances only [segEnd, segPath, stSchemeStart, stScheme, stNoScheme, stOpaquePath,
      stSpecialRelativeOrAuthority, stSpecialAuthoritySlashes, stSpecialAuthorityIgnoreSlashes, stPathOrAuthority, stAuthority,
      stFile, stFileHost, stFileSlash, stPort, stPathStart, stFragment, stRelative, stRelativeSlash, unitChecks, herr,
      isSp, spBackslash, remainingStartsWith, remainingFromPointer, remainingInvalidPct,
      rewindLast, resetInput, rewind, writeRune, retUrl, erasePS, erase_scheme, erase_username, erase_password, erase_host,
      erase_port, erase_decodedPort, erase_path, erase_query, erase_fragment, erase_qlog, erase_verrs]
    -- left: `eraseS` goes down to the leaves and `c1` becomes `c2`; right: `record` does nothing and `parseHost` is the
    -- erasure of the left call; then both sides are the same tree of `if`s with leaves equal field by field
    simp [apply_ite eraseS, apply_ite erase, ← parseHost_N N, ← erase_eq, N.stops, N.rec2, record_eq c1, N.rel.isSpecial,
      N.rel.cleanDefaultPort, N.rel.credLoop,
      N.rel.percentEncodeRune, N.rel.percentEncodeInvalidRune, N.rel.skipTrailingSlash, N.rel.skipDrive, N.rel.collapse,
      N.rel.pathSet, N.rel.spQuerySet, N.rel.querySet, N.rel.spFragSet, N.rel.fragSet]

omit N in
theorem next_erasePS (ps : PS) : next rs (erasePS ps) = (erasePS (next rs ps).1, (next rs ps).2) := by
  unfold next
  rw [erasePS_pointer]
  split <;> rfl

omit N in
theorem bottom_erase (s : StepR) : eraseS (bottom s) = bottom (eraseS s) := by
  cases s with
  | done x => rfl
  | cont p =>
    simp only [bottom]
    apply hom_ite <;> intro _ <;> rfl

theorem step_N (ps : PS) :
    eraseS (step ⟨c1, I, src, rs, base, ov⟩ ps) = step ⟨c2, I, src, rs, base, ov⟩ (erasePS ps) := by
  unfold step
  dsimp only
  rw [next_erasePS, bottom_erase, body_N N]

theorem loop_N (fuel : Nat) (ps : PS) :
    eraseR (loop ⟨c1, I, src, rs, base, ov⟩ fuel ps) = loop ⟨c2, I, src, rs, base, ov⟩ fuel (erasePS ps) := by
  induction fuel generalizing ps with
  | zero => rfl
  | succ n ih =>
    unfold loop
    rw [← step_N N]
    cases step ⟨c1, I, src, rs, base, ov⟩ ps with
    | cont ps' => exact ih ps'
    | done x => rfl

end

section
variable {c1 c2 : Cfg} (N : NH c1 c2) (I : Idna) (input : Bytes) (base url : Option Url) (ov : Option State)
include N

theorem prologue_N :
    eraseS (prologue c1 input url ov) = prologue c2 input (url.map erase) ov := by
  unfold prologue
  cases url
  all_goals
    simp only [Option.map, Option.getD, Option.isNone, N.stops]
    apply hom_ite <;> intro _
    · simp only [eraseS, eraseR, erase_record, N.rec2, erase_default]
    · apply hom_ite <;> intro _
      · simp only [eraseS, eraseR, apply_ite erase, erase_record, N.rec2, erase_default, ite_self]
      · simp only [eraseS, erasePS, apply_ite erase, erase_record, N.rec2, erase_default, ite_self]

theorem basicParser_N :
    eraseR (basicParser c1 I input base url ov) = basicParser c2 I input base (url.map erase) ov := by
  rw [basicParser_eq, basicParser_eq, ← prologue_N N,
    loopEnv_congr c2 I input base (url₁ := url.map erase) (url₂ := url) (by cases url <;> rfl)]
  cases prologue c1 input url ov with
  | cont ps => exact loop_N N I _ _ base ov _ ps
  | done x => rfl

end

/-! ### the recorded validation errors of the BASE are never read -/

theorem body_base (c : Cfg) (I : Idna) (src : Bytes) (rs : Str) (base : Option Url) (ov : Option State) (ps : PS)
    (r : Char) : body ⟨c, I, src, rs, base, ov⟩ ps r = body ⟨c, I, src, rs, base.map erase, ov⟩ ps r := by
  cases base with
  | none => rfl
  | some b =>
    unfold body
    split <;> rfl

theorem loop_base (c : Cfg) (I : Idna) (src : Bytes) (rs : Str) (base : Option Url) (ov : Option State) (fuel : Nat) :
    ∀ ps : PS, loop ⟨c, I, src, rs, base, ov⟩ fuel ps = loop ⟨c, I, src, rs, base.map erase, ov⟩ fuel ps := by
  induction fuel with
  | zero => intro ps; rfl
  | succ n ih =>
    intro ps
    simp only [loop, step, body_base c I src rs base ov, ih]

theorem basicParser_base (c : Cfg) (I : Idna) (input : Bytes) (base url : Option Url) (ov : Option State) :
    basicParser c I input base url ov = basicParser c I input (base.map erase) url ov := by
  simp only [basicParser, loop_base c I _ _ base ov]

end WhatwgUrl.Proofs.Reporting
