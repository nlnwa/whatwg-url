import WhatwgUrl.Proofs.WellFormed2
import WhatwgUrl.Proofs.IPv4
/-
  Helper definitions and lemmas for C04c (the character-set invariant of reachable URL records):
  the property `WFcC cfg u`, the byte-level facts about the percent-encoder (`percentEncodeRune`, `pesRunes`,
  `credLoop`), the path helpers (`addSegment`, `shorten`, drive letters, dot segments).
-/
namespace WhatwgUrl.Props.C04c
open WhatwgUrl WhatwgUrl.Impl WhatwgUrl.Proofs.HostWF WhatwgUrl.Proofs.IPv4
open WhatwgUrl.Proofs (forall_uint8)
open WhatwgUrl.Proofs.Percent (char_ne_of_toNat)

/-- printable ASCII (space included) -/
def printable (b : UInt8) : Bool := 0x20 ≤ b.toNat && b.toNat ≤ 0x7e

/-- every byte is printable ASCII and outside the percent-encode set -/
def okIn (set : PSet) (s : Bytes) : Bool := s.all fun b => printable b && !set.has b.toNat

/-- a byte of an IPv6 literal between the brackets: lower-case hex digit or `:` (the Go serializer never emits `.`) -/
def isV6Byte (b : UInt8) : Bool := isDigitN b.toNat || (0x61 ≤ b.toNat && b.toNat ≤ 0x66) || b == 0x3a

/-- `[` (hex / `:`)* `]` -/
def isV6Literal (h : Bytes) : Bool :=
  h.head? == some 0x5b && h.getLast? == some 0x5d && 2 ≤ h.length && ((h.drop 1).dropLast).all isV6Byte

/-- a host byte outside an IPv6 literal: printable, not a forbidden host (non-special) resp. domain (special) code point -/
def hostByteOk (special : Bool) (b : UInt8) : Bool :=
  printable b && !(if special then forbiddenDomain b.toNat else forbiddenHost b.toNat)

/-- an IPv6 literal, or no forbidden host code point (non-special; `%` allowed) resp. no forbidden domain code point (special) -/
def hostCharsOk (special : Bool) (h : Bytes) : Bool := isV6Literal h || h.all (hostByteOk special)

def hostOk (special : Bool) (o : Option Bytes) : Bool :=
  match o with
  | none => true
  | some h => hostCharsOk special h

/-- a byte of a path segment: printable, outside the path percent-encode set, not `/`, and not `\` in a special url -/
def segByteOk (special : Bool) (b : UInt8) : Bool :=
  printable b && !pathSet.has b.toNat && b != 0x2f && (!special || b != 0x5c)

/-- a stored path segment: good bytes, and not a single-dot / double-dot segment (the model's own tests) -/
def segOk (special : Bool) (s : Bytes) : Bool := s.all (segByteOk special) && !isSingleDot s && !isDoubleDot s

/-- opaque: every byte of every (i.e. the single) segment is printable ASCII (space allowed);
    list: every segment is `segOk` -/
def pathOk (special : Bool) (p : Path) : Bool :=
  if p.opq then p.segs.all (okIn c0Set) else p.segs.all (segOk special)

def queryOk (special : Bool) (o : Option Bytes) : Bool :=
  match o with
  | none => true
  | some q => okIn (if special then specialQuerySet else querySet) q

def fragOk (o : Option Bytes) : Bool :=
  match o with
  | none => true
  | some f => okIn fragmentSet f

/-- the character-set invariant (relative to the special-scheme table of `cfg`) -/
def WFcC (cfg : Cfg) (u : Url) : Prop :=
  okIn userinfoSet u.username = true ∧ okIn userinfoSet u.password = true ∧
  hostOk (cfg.isSpecial u.scheme) u.host = true ∧ pathOk (cfg.isSpecial u.scheme) u.path = true ∧
  queryOk (cfg.isSpecial u.scheme) u.query = true ∧ fragOk u.fragment = true

instance (cfg : Cfg) (u : Url) : Decidable (WFcC cfg u) := by unfold WFcC; infer_instance

@[simp] theorem okIn_nil (s : PSet) : okIn s [] = true := rfl
theorem okIn_append (s : PSet) (a b : Bytes) : okIn s (a ++ b) = (okIn s a && okIn s b) := by simp [okIn]
theorem okIn_append' (s : PSet) (a b : Bytes) (ha : okIn s a = true) (hb : okIn s b = true) : okIn s (a ++ b) = true := by
  rw [okIn_append, ha, hb]; rfl
@[simp] theorem hostOk_none (sp : Bool) : hostOk sp none = true := rfl
@[simp] theorem hostCharsOk_nil (sp : Bool) : hostCharsOk sp [] = true := by simp [hostCharsOk]
@[simp] theorem hostOk_some_nil (sp : Bool) : hostOk sp (some []) = true := by simp [hostOk]
theorem hostOk_some (sp : Bool) (h : Bytes) : hostOk sp (some h) = hostCharsOk sp h := rfl
@[simp] theorem queryOk_none (sp : Bool) : queryOk sp none = true := rfl
@[simp] theorem queryOk_some_nil (sp : Bool) : queryOk sp (some []) = true := by cases sp <;> rfl
theorem queryOk_some (sp : Bool) (q : Bytes) : queryOk sp (some q) = okIn (if sp then specialQuerySet else querySet) q := rfl
@[simp] theorem fragOk_none : fragOk none = true := rfl
@[simp] theorem fragOk_some_nil : fragOk (some []) = true := rfl
theorem fragOk_some (f : Bytes) : fragOk (some f) = okIn fragmentSet f := rfl
@[simp] theorem pathOk_init (sp : Bool) : pathOk sp ⟨[], false⟩ = true := rfl
@[simp] theorem pathOk_opaque (sp : Bool) (s : Bytes) : pathOk sp ⟨[s], true⟩ = okIn c0Set s := by simp [pathOk]
@[simp] theorem segs_all_nil (sp : Bool) : ([] : Bytes).all (segByteOk sp) = true := rfl

theorem WFcC_same {cfg : Cfg} {u u' : Url} (h : Same u u') : WFcC cfg u' ↔ WFcC cfg u := by
  obtain ⟨h1, h2, h3, h4, h5, h6, h7, h8, h9⟩ := h
  unfold WFcC
  rw [h1, h2, h3, h4, h7, h8, h9]

@[simp] theorem WFcC_record (cfg cfg' : Cfg) (u : Url) (t : ErrT) (f : Bool) : WFcC cfg (record cfg' u t f) ↔ WFcC cfg u :=
  WFcC_same (Same_record _ _ _ _)

theorem WFcC_fresh (cfg : Cfg) : WFcC cfg {} := by
  unfold WFcC; exact ⟨rfl, rfl, rfl, rfl, rfl, rfl⟩

/-- the bytes of a bracketed IPv6 literal -/
theorem v6_mem (h : Bytes) (hv : isV6Literal h = true) : ∀ b ∈ h, b = 0x5b ∨ b = 0x5d ∨ isV6Byte b = true := by
  unfold isV6Literal at hv
  simp only [Bool.and_eq_true, beq_iff_eq, decide_eq_true_eq, List.all_eq_true] at hv
  obtain ⟨⟨⟨h1, h2⟩, h3⟩, h4⟩ := hv
  match h, h1, h2, h3, h4 with
  | x :: t, h1, h2, h3, h4 =>
    simp only [List.head?_cons, Option.some.injEq] at h1
    simp only [List.drop_succ_cons, List.drop_zero] at h4
    have hne : t ≠ [] := by intro e; subst e; simp at h3
    have hl : t.getLast? = some 0x5d := by
      rw [List.getLast?_cons] at h2
      cases ht : t.getLast? with
      | none => rw [List.getLast?_eq_none_iff] at ht; exact absurd ht hne
      | some y => rw [ht] at h2; simpa using h2
    have hsplit : t = t.dropLast ++ [0x5d] := by
      exact (dropLast_append_of_getLast? hl).symm
    intro b hb
    rcases List.mem_cons.mp hb with rfl | hb
    · left; exact h1
    · rw [hsplit] at hb
      rcases List.mem_append.mp hb with hb | hb
      · right; right; exact h4 b hb
      · right; left; simpa using hb

/-! ### the percent-encoder at byte level -/

/-- a byte of a `%XX` escape -/
def isPctByte (b : UInt8) : Bool := b == 0x25 || isDigitN b.toNat || (0x41 ≤ b.toNat && b.toNat ≤ 0x46)

theorem pctByte_all : ∀ x : UInt8, (pctByte x).all isPctByte = true := forall_uint8 (by decide +kernel)

theorem flatMap_pct_all (l : Bytes) : (l.flatMap pctByte).all isPctByte = true := by
  induction l with
  | nil => rfl
  | cons x t ih => simp only [List.flatMap_cons, List.all_append, pctByte_all, ih, Bool.and_self]

theorem pe_shape (cfg : Cfg) (henc : cfg.encOverride = none) (tr : PSet) (r : Char) :
    (tr.has r.toNat = false ∧ r.toNat ≤ 0x7e ∧ percentEncodeRune cfg tr r = [r.toNat.toUInt8]) ∨
    (percentEncodeRune cfg tr r).all isPctByte = true := by
  unfold percentEncodeRune runeBytes
  rw [henc]
  cases h : tr.has r.toNat
  · left
    have hle : r.toNat ≤ 0x7e := by
      simp only [PSet.has, Bool.or_eq_false_iff, decide_eq_false_iff_not] at h
      omega
    exact ⟨rfl, hle, by simpa using WhatwgUrl.Proofs.Utf8.utf8Char_ascii r (by omega)⟩
  · right
    simpa using flatMap_pct_all _

theorem pe_all (cfg : Cfg) (henc : cfg.encOverride = none) (tr : PSet) (r : Char) (ok : UInt8 → Bool)
    (hpct : ∀ b, isPctByte b = true → ok b = true)
    (hlit : tr.has r.toNat = false → r.toNat ≤ 0x7e → ok r.toNat.toUInt8 = true) :
    (percentEncodeRune cfg tr r).all ok = true := by
  rcases pe_shape cfg henc tr r with ⟨h1, h2, h3⟩ | h
  · rw [h3]; simp [hlit h1 h2]
  · rw [List.all_eq_true] at h ⊢
    intro b hb; exact hpct b (h b hb)

/-- a set is fine for `okIn` if it has nothing below 0x20 outside and contains no escape byte -/
def SetOk (tr : PSet) : Prop :=
  (∀ i : Fin 128, tr.has i.val = false → 0x20 ≤ i.val) ∧ (∀ i : Fin 128, isPctByte i.val.toUInt8 = true → tr.has i.val = false)

theorem isPctByte_lt : ∀ b : UInt8, isPctByte b = true → b.toNat < 128 := forall_uint8 (by decide +kernel)

theorem toUInt8_toNat_of_lt (n : Nat) (h : n < 256) : n.toUInt8.toNat = n := by simp; omega

theorem pe_okIn (cfg : Cfg) (henc : cfg.encOverride = none) (tr : PSet) (htr : SetOk tr) (r : Char) :
    okIn tr (percentEncodeRune cfg tr r) = true := by
  unfold okIn
  apply pe_all cfg henc
  · intro b hb
    have hlt := isPctByte_lt b hb
    have h1 := htr.2 ⟨b.toNat, hlt⟩ (by simpa using hb)
    have h2 := htr.1 ⟨b.toNat, hlt⟩ h1
    simp only [printable, Bool.and_eq_true, decide_eq_true_eq, Bool.not_eq_true']
    dsimp only at h1 h2
    exact ⟨⟨h2, by
      simp only [PSet.has, Bool.or_eq_false_iff, decide_eq_false_iff_not] at h1; omega⟩, h1⟩
  · intro h1 h2
    have h3 := htr.1 ⟨r.toNat, by omega⟩ h1
    dsimp only at h3
    have h4 : r.toNat.toUInt8.toNat = r.toNat := toUInt8_toNat_of_lt _ (by omega)
    simp only [printable, h4, Bool.and_eq_true, decide_eq_true_eq, Bool.not_eq_true']
    exact ⟨⟨h3, h2⟩, h1⟩

theorem SetOk_c0 : SetOk c0Set := by constructor <;> decide
theorem SetOk_fragment : SetOk fragmentSet := by constructor <;> decide
theorem SetOk_query : SetOk querySet := by constructor <;> decide
theorem SetOk_specialQuery : SetOk specialQuerySet := by constructor <;> decide
theorem SetOk_path : SetOk pathSet := by constructor <;> decide
theorem SetOk_userinfo : SetOk userinfoSet := by constructor <;> decide

theorem SetOk_q (sp : Bool) : SetOk (if sp then specialQuerySet else querySet) := by
  cases sp
  · exact SetOk_query
  · exact SetOk_specialQuery

theorem seg_pct : ∀ b : UInt8, isPctByte b = true → segByteOk true b = true := forall_uint8 (by decide +kernel)

theorem segByteOk_mono (sp : Bool) (b : UInt8) (h : segByteOk true b = true) : segByteOk sp b = true := by
  cases sp
  · simp only [segByteOk, Bool.and_eq_true] at h ⊢
    exact ⟨h.1, by simp⟩
  · exact h

theorem seg_lit : ∀ i : Fin 128, pathSet.has i.val = false → i.val ≠ 0x2f →
    (segByteOk false i.val.toUInt8 = true ∧ (i.val ≠ 0x5c → segByteOk true i.val.toUInt8 = true)) := by decide

theorem pe_path (cfg : Cfg) (henc : cfg.encOverride = none) (sp : Bool) (r : Char) (h1 : r ≠ '/')
    (h2 : sp = true → r ≠ '\\') : (percentEncodeRune cfg pathSet r).all (segByteOk sp) = true := by
  apply pe_all cfg henc
  · intro b hb; exact segByteOk_mono sp b (seg_pct b hb)
  · intro hs hle
    have hne : r.toNat ≠ 0x2f := char_ne_of_toNat h1
    have := seg_lit ⟨r.toNat, by omega⟩ hs hne
    dsimp only at this
    cases sp
    · exact this.1
    · exact this.2 (char_ne_of_toNat (h2 rfl))

/-! ### drive letters and dot segments -/

theorem alpha_seg : ∀ a : UInt8, isAlphaN a.toNat = true →
    segByteOk true a = true ∧ segOk true [a, 0x3a] = true := forall_uint8 (by decide +kernel)

theorem drive_shape (buf : Bytes) (h : isWindowsDriveLetter buf = true) :
    ∃ a b, buf = [a, b] ∧ isAlphaN a.toNat = true ∧ (b = 0x3a ∨ b = 0x7c) := by
  unfold isWindowsDriveLetter at h
  split at h
  · rename_i a b
    simp only [Bool.and_eq_true, Bool.or_eq_true, beq_iff_eq] at h
    exact ⟨a, b, rfl, h.1, h.2⟩
  · cases h

theorem segByteOk_colon_bar : segByteOk true 0x3a = true ∧ segByteOk true 0x7c = true := by decide

theorem drive_bytes (sp : Bool) (buf : Bytes) (h : isWindowsDriveLetter buf = true) : buf.all (segByteOk sp) = true := by
  obtain ⟨a, b, rfl, ha, hb⟩ := drive_shape buf h
  have h1 := segByteOk_mono sp a (alpha_seg a ha).1
  rcases hb with rfl | rfl
  · simp [h1, segByteOk_mono sp _ segByteOk_colon_bar.1]
  · simp [h1, segByteOk_mono sp _ segByteOk_colon_bar.2]

theorem segOk_mono (sp : Bool) (s : Bytes) (h : segOk true s = true) : segOk sp s = true := by
  simp only [segOk, Bool.and_eq_true, List.all_eq_true] at h ⊢
  exact ⟨⟨fun b hb => segByteOk_mono sp b (h.1.1 b hb), h.1.2⟩, h.2⟩

theorem drive_norm (sp : Bool) (buf : Bytes) (h : isWindowsDriveLetter buf = true) :
    segOk sp (buf.take 1 ++ [0x3a] ++ buf.drop 2) = true := by
  obtain ⟨a, b, rfl, ha, hb⟩ := drive_shape buf h
  exact segOk_mono sp _ (alpha_seg a ha).2

theorem normDrive_segOk (sp : Bool) (s : Bytes) (h : isNormalizedWindowsDriveLetter s = true) : segOk sp s = true := by
  unfold isNormalizedWindowsDriveLetter at h
  split at h
  · rename_i a b
    simp only [Bool.and_eq_true, beq_iff_eq] at h
    obtain ⟨ha, rfl⟩ := h
    exact segOk_mono sp _ (alpha_seg a ha).2
  · cases h

@[simp] theorem segOk_nil (sp : Bool) : segOk sp [] = true := by cases sp <;> decide

theorem segOk_of (sp : Bool) (s : Bytes) (h1 : s.all (segByteOk sp) = true) (h2 : isSingleDot s = false)
    (h3 : isDoubleDot s = false) : segOk sp s = true := by
  simp [segOk, h1, h2, h3]

theorem pathOk_addSegment (sp : Bool) (p : Path) (s : Bytes) (hp : pathOk sp p = true) (ho : p.opq = false)
    (hs : segOk sp s = true) : pathOk sp (p.addSegment s) = true := by
  unfold pathOk at hp ⊢
  rw [ho] at hp
  simp only [Path.addSegment, Bool.false_eq_true, ↓reduceIte, List.all_append, List.all_cons, List.all_nil, Bool.and_true,
    Bool.and_eq_true] at hp ⊢
  exact ⟨hp, hs⟩

theorem all_dropLast {α : Type} (p : α → Bool) (l : List α) (h : l.all p = true) : l.dropLast.all p = true := by
  rw [List.all_eq_true] at h ⊢
  intro x hx; exact h x (List.dropLast_subset l hx)

theorem pathOk_shorten (sp : Bool) (p : Path) (s : Bytes) (hp : pathOk sp p = true) : pathOk sp (p.shorten s) = true := by
  unfold Path.shorten
  split
  · exact hp
  · split
    · exact hp
    · unfold pathOk at hp ⊢
      dsimp only
      split
      · rename_i ho; rw [if_pos ho] at hp; exact all_dropLast _ _ hp
      · rename_i ho; rw [if_neg ho] at hp; exact all_dropLast _ _ hp

/-- the collapse option of the path state replaces the last segment -/
theorem pathOk_setLast (sp : Bool) (p : Path) (x : Bytes) (hp : pathOk sp p = true) (ho : p.opq = false)
    (hx : segOk sp x = true) : pathOk sp { p with segs := p.segs.dropLast ++ [x] } = true := by
  have := all_dropLast (segOk sp) p.segs (by simpa [pathOk, ho] using hp)
  simp [pathOk, ho, this, hx]

theorem pathOk_headD (sp : Bool) (p : Path) (hp : pathOk sp p = true) (ho : p.opq = false) :
    segOk sp (p.segs.headD []) = true := by
  unfold pathOk at hp
  rw [ho] at hp
  simp only [Bool.false_eq_true, ↓reduceIte] at hp
  cases hs : p.segs with
  | nil => simp
  | cons a t => rw [hs] at hp; simp only [List.all_cons, Bool.and_eq_true] at hp; simpa using hp.1

/-! ### credentials, `PercentEncodeString` -/

theorem credLoop_ok (cfg : Cfg) (henc : cfg.encOverride = none) : ∀ (rs : Str) (pw : Bool) (user pass : Bytes),
    okIn userinfoSet user = true → okIn userinfoSet pass = true →
    okIn userinfoSet (credLoop cfg rs pw user pass).2.1 = true ∧ okIn userinfoSet (credLoop cfg rs pw user pass).2.2 = true := by
  intro rs
  induction rs with
  | nil => intro pw user pass hu hp; exact ⟨hu, hp⟩
  | cons c rest ih =>
    intro pw user pass hu hp
    unfold credLoop
    have hc := pe_okIn cfg henc userinfoSet SetOk_userinfo c
    split
    · exact ih _ _ _ hu hp
    · split
      · exact ih _ _ _ hu (okIn_append' _ _ _ hp hc)
      · exact ih _ _ _ (okIn_append' _ _ _ hu hc) hp

theorem pesRunes_ok (cfg : Cfg) (henc : cfg.encOverride = none) (hpct : cfg.pctSingle = false) (tr : PSet) (htr : SetOk tr) :
    ∀ rs : Str, okIn tr (pesRunes cfg tr rs) = true := by
  intro rs
  induction rs with
  | nil => rfl
  | cons r t ih =>
    unfold pesRunes
    rw [hpct]
    simp only [Bool.and_false, Bool.false_eq_true, ↓reduceIte]
    exact okIn_append' _ _ _ (pe_okIn cfg henc tr htr r) ih

theorem percentEncodeString_ok (cfg : Cfg) (henc : cfg.encOverride = none) (hpct : cfg.pctSingle = false) (tr : PSet)
    (htr : SetOk tr) (s : Bytes) : okIn tr (percentEncodeString cfg tr s) = true :=
  pesRunes_ok cfg henc hpct tr htr _

theorem okIn_trimRight (tr : PSet) (x : UInt8) (s : Bytes) (h : okIn tr s = true) : okIn tr (trimRightByte x s) = true := by
  unfold okIn trimRightByte at *
  rw [List.all_eq_true] at h ⊢
  intro b hb
  apply h
  rw [List.mem_reverse] at hb
  have := (List.dropWhile_sublist (fun y => y == x) (l := s.reverse)).subset hb
  simpa using this

end WhatwgUrl.Props.C04c
