import WhatwgUrl.Proofs.Neutral
import WhatwgUrl.Proofs.NeutralSets
/-
  Statements about the three option overwrites `upd` (the four relaxing options), `updS` (the special-scheme table and the
  five percent-encode sets) and `updC` (collapse-consecutive-slashes), kept for their own sake: each says that a function of
  the model that is not recursive and reads none of the overwritten fields is the same function under the overwritten
  configuration and under `c`, by `rfl`.  Nothing rests on them; the neutrality proofs go through `Agree`
  (`Proofs/CfgCongr.lean`).
-/
namespace WhatwgUrl.Proofs.Neutral
open WhatwgUrl WhatwgUrl.Impl WhatwgUrl.Proofs.Machine

section
variable (c : Cfg) (a b p d : Bool) (I : Idna) (src : Bytes) (rs : Str) (base : Option Url) (ov : Option State)

theorem hErr_upd : hErr (upd c a b p d) = hErr c := rfl
theorem parseIPv4Number_upd : parseIPv4Number (upd c a b p d) = parseIPv4Number c := rfl
theorem stSchemeStart_upd (ps : PS) (r : Char) :
    stSchemeStart ⟨upd c a b p d, I, src, rs, base, ov⟩ ps r = stSchemeStart ⟨c, I, src, rs, base, ov⟩ ps r := rfl
theorem stScheme_upd (ps : PS) (r : Char) :
    stScheme ⟨upd c a b p d, I, src, rs, base, ov⟩ ps r = stScheme ⟨c, I, src, rs, base, ov⟩ ps r := rfl
theorem stNoScheme_upd (ps : PS) (r : Char) :
    stNoScheme ⟨upd c a b p d, I, src, rs, base, ov⟩ ps r = stNoScheme ⟨c, I, src, rs, base, ov⟩ ps r := rfl
theorem stSpecialRelativeOrAuthority_upd (ps : PS) (r : Char) :
    stSpecialRelativeOrAuthority ⟨upd c a b p d, I, src, rs, base, ov⟩ ps r = stSpecialRelativeOrAuthority ⟨c, I, src, rs, base, ov⟩ ps r := rfl
theorem stPathOrAuthority_upd (ps : PS) (r : Char) :
    stPathOrAuthority ⟨upd c a b p d, I, src, rs, base, ov⟩ ps r = stPathOrAuthority ⟨c, I, src, rs, base, ov⟩ ps r := rfl
theorem stRelative_upd (ps : PS) (r : Char) :
    stRelative ⟨upd c a b p d, I, src, rs, base, ov⟩ ps r = stRelative ⟨c, I, src, rs, base, ov⟩ ps r := rfl
theorem stRelativeSlash_upd (ps : PS) (r : Char) :
    stRelativeSlash ⟨upd c a b p d, I, src, rs, base, ov⟩ ps r = stRelativeSlash ⟨c, I, src, rs, base, ov⟩ ps r := rfl
theorem stSpecialAuthoritySlashes_upd (ps : PS) (r : Char) :
    stSpecialAuthoritySlashes ⟨upd c a b p d, I, src, rs, base, ov⟩ ps r = stSpecialAuthoritySlashes ⟨c, I, src, rs, base, ov⟩ ps r := rfl
theorem stSpecialAuthorityIgnoreSlashes_upd (ps : PS) (r : Char) :
    stSpecialAuthorityIgnoreSlashes ⟨upd c a b p d, I, src, rs, base, ov⟩ ps r = stSpecialAuthorityIgnoreSlashes ⟨c, I, src, rs, base, ov⟩ ps r := rfl
theorem stPort_upd (ps : PS) (r : Char) :
    stPort ⟨upd c a b p d, I, src, rs, base, ov⟩ ps r = stPort ⟨c, I, src, rs, base, ov⟩ ps r := rfl
theorem stFile_upd (ps : PS) (r : Char) :
    stFile ⟨upd c a b p d, I, src, rs, base, ov⟩ ps r = stFile ⟨c, I, src, rs, base, ov⟩ ps r := rfl
theorem stFileSlash_upd (ps : PS) (r : Char) :
    stFileSlash ⟨upd c a b p d, I, src, rs, base, ov⟩ ps r = stFileSlash ⟨c, I, src, rs, base, ov⟩ ps r := rfl
theorem stPathStart_upd (ps : PS) (r : Char) :
    stPathStart ⟨upd c a b p d, I, src, rs, base, ov⟩ ps r = stPathStart ⟨c, I, src, rs, base, ov⟩ ps r := rfl
theorem stQuery_upd (ps : PS) (r : Char) :
    stQuery ⟨upd c a b p d, I, src, rs, base, ov⟩ ps r = stQuery ⟨c, I, src, rs, base, ov⟩ ps r := rfl
theorem stFragment_upd (ps : PS) (r : Char) :
    stFragment ⟨upd c a b p d, I, src, rs, base, ov⟩ ps r = stFragment ⟨c, I, src, rs, base, ov⟩ ps r := rfl
theorem currentIsInvalid_env (c1 : Cfg) (ps : PS) : currentIsInvalid ⟨c1, I, src, rs, base, ov⟩ ps = ciI src rs ps.pointer := rfl

end

section
variable (c : Cfg) (I : Idna) (src : Bytes) (rs : Str) (base : Option Url) (ov : Option State)

theorem currentAsByte_upd (a b p d : Bool) :
    currentAsByte ⟨upd c a b p d, I, src, rs, base, ov⟩ = currentAsByte ⟨c, I, src, rs, base, ov⟩ := rfl

end

section
variable (c : Cfg) (ss : List (Bytes × Bytes)) (t1 t2 t3 t4 t5 : PSet) (I : Idna) (src : Bytes) (rs : Str)
  (base : Option Url) (ov : Option State)

theorem record_updS : record (updS c ss t1 t2 t3 t4 t5) = record c := rfl
theorem stops_updS : stops (updS c ss t1 t2 t3 t4 t5) = stops c := rfl
theorem hErr_updS : hErr (updS c ss t1 t2 t3 t4 t5) = hErr c := rfl
theorem fail6_updS : fail6 (updS c ss t1 t2 t3 t4 t5) = fail6 c := rfl
theorem parseIPv4Number_updS : parseIPv4Number (updS c ss t1 t2 t3 t4 t5) = parseIPv4Number c := rfl
theorem endsInANumber_updS : endsInANumber (updS c ss t1 t2 t3 t4 t5) = endsInANumber c := rfl
theorem percentEncodeRune_updS : percentEncodeRune (updS c ss t1 t2 t3 t4 t5) = percentEncodeRune c := rfl
theorem stSchemeStart_updS (ps : PS) (r : Char) :
    stSchemeStart ⟨updS c ss t1 t2 t3 t4 t5, I, src, rs, base, ov⟩ ps r = stSchemeStart ⟨c, I, src, rs, base, ov⟩ ps r := rfl
theorem stNoScheme_updS (ps : PS) (r : Char) :
    stNoScheme ⟨updS c ss t1 t2 t3 t4 t5, I, src, rs, base, ov⟩ ps r = stNoScheme ⟨c, I, src, rs, base, ov⟩ ps r := rfl
theorem stSpecialRelativeOrAuthority_updS (ps : PS) (r : Char) :
    stSpecialRelativeOrAuthority ⟨updS c ss t1 t2 t3 t4 t5, I, src, rs, base, ov⟩ ps r = stSpecialRelativeOrAuthority ⟨c, I, src, rs, base, ov⟩ ps r := rfl
theorem stPathOrAuthority_updS (ps : PS) (r : Char) :
    stPathOrAuthority ⟨updS c ss t1 t2 t3 t4 t5, I, src, rs, base, ov⟩ ps r = stPathOrAuthority ⟨c, I, src, rs, base, ov⟩ ps r := rfl
theorem stSpecialAuthoritySlashes_updS (ps : PS) (r : Char) :
    stSpecialAuthoritySlashes ⟨updS c ss t1 t2 t3 t4 t5, I, src, rs, base, ov⟩ ps r = stSpecialAuthoritySlashes ⟨c, I, src, rs, base, ov⟩ ps r := rfl
theorem stSpecialAuthorityIgnoreSlashes_updS (ps : PS) (r : Char) :
    stSpecialAuthorityIgnoreSlashes ⟨updS c ss t1 t2 t3 t4 t5, I, src, rs, base, ov⟩ ps r = stSpecialAuthorityIgnoreSlashes ⟨c, I, src, rs, base, ov⟩ ps r := rfl
theorem stFile_updS (ps : PS) (r : Char) :
    stFile ⟨updS c ss t1 t2 t3 t4 t5, I, src, rs, base, ov⟩ ps r = stFile ⟨c, I, src, rs, base, ov⟩ ps r := rfl
theorem stFileSlash_updS (ps : PS) (r : Char) :
    stFileSlash ⟨updS c ss t1 t2 t3 t4 t5, I, src, rs, base, ov⟩ ps r = stFileSlash ⟨c, I, src, rs, base, ov⟩ ps r := rfl
theorem stOpaquePath_updS (ps : PS) (r : Char) :
    stOpaquePath ⟨updS c ss t1 t2 t3 t4 t5, I, src, rs, base, ov⟩ ps r = stOpaquePath ⟨c, I, src, rs, base, ov⟩ ps r := rfl

end

section
variable (c : Cfg) (t1 t2 t3 t4 t5 : PSet)

theorem isSpecial_updS_self : (updS c c.specialSchemes t1 t2 t3 t4 t5).isSpecial = c.isSpecial := rfl

end

@[reducible] def updC (c : Cfg) (x : Bool) : Cfg := { c with collapse := x }

section
variable (c : Cfg) (x : Bool) (I : Idna) (src : Bytes) (rs : Str) (base : Option Url) (ov : Option State)

theorem record_updC : record (updC c x) = record c := rfl
theorem stops_updC : stops (updC c x) = stops c := rfl
theorem hErr_updC : hErr (updC c x) = hErr c := rfl
theorem fail6_updC : fail6 (updC c x) = fail6 c := rfl
theorem parseIPv4Number_updC : parseIPv4Number (updC c x) = parseIPv4Number c := rfl
theorem endsInANumber_updC : endsInANumber (updC c x) = endsInANumber c := rfl

theorem percentEncodeRune_updC : percentEncodeRune (updC c x) = percentEncodeRune c := rfl

theorem stSchemeStart_updC (ps : PS) (r : Char) :
    stSchemeStart ⟨updC c x, I, src, rs, base, ov⟩ ps r = stSchemeStart ⟨c, I, src, rs, base, ov⟩ ps r := rfl
theorem stScheme_updC (ps : PS) (r : Char) :
    stScheme ⟨updC c x, I, src, rs, base, ov⟩ ps r = stScheme ⟨c, I, src, rs, base, ov⟩ ps r := rfl
theorem stNoScheme_updC (ps : PS) (r : Char) :
    stNoScheme ⟨updC c x, I, src, rs, base, ov⟩ ps r = stNoScheme ⟨c, I, src, rs, base, ov⟩ ps r := rfl
theorem stSpecialRelativeOrAuthority_updC (ps : PS) (r : Char) :
    stSpecialRelativeOrAuthority ⟨updC c x, I, src, rs, base, ov⟩ ps r = stSpecialRelativeOrAuthority ⟨c, I, src, rs, base, ov⟩ ps r := rfl
theorem stPathOrAuthority_updC (ps : PS) (r : Char) :
    stPathOrAuthority ⟨updC c x, I, src, rs, base, ov⟩ ps r = stPathOrAuthority ⟨c, I, src, rs, base, ov⟩ ps r := rfl
theorem stRelative_updC (ps : PS) (r : Char) :
    stRelative ⟨updC c x, I, src, rs, base, ov⟩ ps r = stRelative ⟨c, I, src, rs, base, ov⟩ ps r := rfl
theorem stRelativeSlash_updC (ps : PS) (r : Char) :
    stRelativeSlash ⟨updC c x, I, src, rs, base, ov⟩ ps r = stRelativeSlash ⟨c, I, src, rs, base, ov⟩ ps r := rfl
theorem stSpecialAuthoritySlashes_updC (ps : PS) (r : Char) :
    stSpecialAuthoritySlashes ⟨updC c x, I, src, rs, base, ov⟩ ps r = stSpecialAuthoritySlashes ⟨c, I, src, rs, base, ov⟩ ps r := rfl
theorem stSpecialAuthorityIgnoreSlashes_updC (ps : PS) (r : Char) :
    stSpecialAuthorityIgnoreSlashes ⟨updC c x, I, src, rs, base, ov⟩ ps r = stSpecialAuthorityIgnoreSlashes ⟨c, I, src, rs, base, ov⟩ ps r := rfl
theorem stPort_updC (ps : PS) (r : Char) :
    stPort ⟨updC c x, I, src, rs, base, ov⟩ ps r = stPort ⟨c, I, src, rs, base, ov⟩ ps r := rfl
theorem stFile_updC (ps : PS) (r : Char) :
    stFile ⟨updC c x, I, src, rs, base, ov⟩ ps r = stFile ⟨c, I, src, rs, base, ov⟩ ps r := rfl
theorem stFileSlash_updC (ps : PS) (r : Char) :
    stFileSlash ⟨updC c x, I, src, rs, base, ov⟩ ps r = stFileSlash ⟨c, I, src, rs, base, ov⟩ ps r := rfl
theorem stPathStart_updC (ps : PS) (r : Char) :
    stPathStart ⟨updC c x, I, src, rs, base, ov⟩ ps r = stPathStart ⟨c, I, src, rs, base, ov⟩ ps r := rfl
theorem stQuery_updC (ps : PS) (r : Char) :
    stQuery ⟨updC c x, I, src, rs, base, ov⟩ ps r = stQuery ⟨c, I, src, rs, base, ov⟩ ps r := rfl
theorem stFragment_updC (ps : PS) (r : Char) :
    stFragment ⟨updC c x, I, src, rs, base, ov⟩ ps r = stFragment ⟨c, I, src, rs, base, ov⟩ ps r := rfl

theorem stOpaquePath_updC (ps : PS) (r : Char) :
    stOpaquePath ⟨updC c x, I, src, rs, base, ov⟩ ps r = stOpaquePath ⟨c, I, src, rs, base, ov⟩ ps r := rfl

theorem isSpecial_updC : (updC c x).isSpecial = c.isSpecial := rfl

end

end WhatwgUrl.Proofs.Neutral
