import WhatwgUrl.Impl.Api
import WhatwgUrl.Proofs.Machine2
import WhatwgUrl.Proofs.RunScan
/-
  The shift lemma of C18c: two runs of the state machine over two texts that share a suffix behave identically once both
  cursors are inside the common suffix, as long as no rewind crosses the boundary.  Two states can reset the cursor (scheme
  start, scheme) and the authority state rewinds by the length of its buffer: the invariant `Inv` excludes the former and
  bounds the latter.  Both runs branch on the same conditions because what a state function reads of the text (`next`,
  the look-aheads, the byte under the cursor) is the same at shifted positions.
-/
namespace WhatwgUrl.Proofs.Spelling
open WhatwgUrl WhatwgUrl.Impl WhatwgUrl.Proofs.Machine

/-- the machine state of the second run: the same state with the cursor `d` positions further -/
def sh (d : Int) (ps : PS) : PS := { ps with pointer := ps.pointer + d }

/-- the environment of the second run: the same configuration, oracle, base and override over the other text -/
def envWith (e : Env) (src : Bytes) (rs : Str) : Env := { e with src := src, runes := rs }

/-- from position `b` on, the text of `e` is the text `rs₂` read `d` positions further -/
structure Shift (e : Env) (src₂ : Bytes) (rs₂ : Str) (b d : Int) : Prop where
  hb : 0 ≤ b
  hbd : 0 ≤ b + d
  runes : ∀ p : Int, b ≤ p → rs₂.drop (p + d).toNat = e.runes.drop p.toNat
  /-- the bytes are read only by `currentIsInvalid` / `currentAsByte` in the host state, and only if the configuration
      accepts invalid code points -/
  src : e.cfg.acceptInvalid = false ∨
    ∀ p : Int, b ≤ p → src₂.drop (byteOffset src₂ (p + d)) = e.src.drop (byteOffset e.src p)

theorem ps_ext {a b : PS} (h1 : a.state = b.state) (h2 : a.pointer = b.pointer) (h3 : a.eof = b.eof)
    (h4 : a.buffer = b.buffer) (h5 : a.atFlag = b.atFlag) (h6 : a.bracketFlag = b.bracketFlag)
    (h7 : a.pwSeen = b.pwSeen) (h8 : a.url = b.url) : a = b := by
  cases a; cases b; simp_all

variable {e : Env} {src₂ : Bytes} {rs₂ : Str} {b d : Int}

theorem cur_shift (S : Shift e src₂ rs₂ b d) (p : Int) (hp : b ≤ p) : cur rs₂ (p + d) = cur e.runes p := by
  have h1 := S.hb
  have h2 := S.hbd
  unfold cur
  rw [if_pos (by omega), if_pos (by omega), ← List.head?_drop, ← List.head?_drop, S.runes p hp]

theorem next_shift (S : Shift e src₂ rs₂ b d) (ps : PS) (hp : b ≤ ps.pointer + 1) :
    next rs₂ (sh d ps) = (sh d (next e.runes ps).1, (next e.runes ps).2) := by
  have hc := cur_shift S (ps.pointer + 1) hp
  have e1 : (sh d ps).pointer + 1 = ps.pointer + 1 + d := by simp only [sh]; omega
  unfold next
  rw [e1, hc]
  split
  · simp only [sh]
  · simp only [sh]

/-- the states from which the authority state (and its rewind by the buffer length) is still to come: the relative and
    no-scheme states can go on to it, the file states go to the file host state instead -/
def AuthReach : State → Bool
  | .noScheme | .specialRelativeOrAuthority | .specialAuthoritySlashes | .specialAuthorityIgnoreSlashes
  | .pathOrAuthority | .authority | .relative | .relativeSlash => true
  | _ => false

/-- neither of the two states that reset the cursor, and the authority state is behind: in such a state `Inv b ps` asks
    `b ≤ ps.pointer + 1` and nothing of the buffer -/
def PastAuth (s : State) : Prop := s ≠ .schemeStart ∧ s ≠ .scheme ∧ AuthReach s = false

instance (s : State) : Decidable (PastAuth s) := by unfold PastAuth; infer_instance

/-- the cursor is inside the common suffix, which starts at `b`; the state is neither of the two that reset the cursor;
    where the authority state is still to come, its rewind by the buffer length will stay inside the common suffix -/
def Inv (b : Int) (ps : PS) : Prop :=
  b ≤ ps.pointer + 1 ∧ ps.state ≠ .schemeStart ∧ ps.state ≠ .scheme ∧
  (AuthReach ps.state = true → ∃ l : Str, ps.buffer = utf8 l ∧ b + (l.length : Int) ≤ ps.pointer + 1)

@[simp] theorem envWith_base (e : Env) (s : Bytes) (r : Str) : (envWith e s r).base = e.base := rfl
@[simp] theorem envWith_cfg (e : Env) (s : Bytes) (r : Str) : (envWith e s r).cfg = e.cfg := rfl
@[simp] theorem envWith_ov (e : Env) (s : Bytes) (r : Str) : (envWith e s r).ov = e.ov := rfl
@[simp] theorem envWith_I (e : Env) (s : Bytes) (r : Str) : (envWith e s r).I = e.I := rfl
@[simp] theorem envWith_runes (e : Env) (s : Bytes) (r : Str) : (envWith e s r).runes = r := rfl
@[simp] theorem envWith_src (e : Env) (s : Bytes) (r : Str) : (envWith e s r).src = s := rfl

@[simp] theorem sh_state (d : Int) (q : PS) : (sh d q).state = q.state := rfl
@[simp] theorem sh_eof (d : Int) (q : PS) : (sh d q).eof = q.eof := rfl
@[simp] theorem sh_buffer (d : Int) (q : PS) : (sh d q).buffer = q.buffer := rfl
@[simp] theorem sh_atFlag (d : Int) (q : PS) : (sh d q).atFlag = q.atFlag := rfl
@[simp] theorem sh_bracketFlag (d : Int) (q : PS) : (sh d q).bracketFlag = q.bracketFlag := rfl
@[simp] theorem sh_pwSeen (d : Int) (q : PS) : (sh d q).pwSeen = q.pwSeen := rfl
@[simp] theorem sh_url (d : Int) (q : PS) : (sh d q).url = q.url := rfl
/-- the buffer holds code points read at or after the boundary `b`, the last of them before position `p` -/
def BufIn (b : Int) (buf : Bytes) (p : Int) : Prop := ∃ l : Str, buf = utf8 l ∧ b + (l.length : Int) ≤ p

theorem BufIn.mono {b p p' : Int} {buf : Bytes} (h : BufIn b buf p) (hp : p ≤ p') : BufIn b buf p' := by
  obtain ⟨l, h1, h2⟩ := h
  exact ⟨l, h1, by omega⟩

theorem BufIn_nil {b p : Int} : BufIn b [] p ↔ b ≤ p :=
  ⟨fun ⟨l, _, h2⟩ => by omega, fun h => ⟨[], rfl, by simpa using h⟩⟩

theorem BufIn.write {b p : Int} {buf : Bytes} (h : BufIn b buf p) (r : Char) : BufIn b (buf ++ utf8Char r) (p + 1) := by
  obtain ⟨l, h1, h2⟩ := h
  exact ⟨l ++ [r], by simp [h1, utf8], by simp; omega⟩

theorem BufIn.le_rewind {b p : Int} {buf : Bytes} (h : BufIn b buf p) : b ≤ p - ((goRunes buf).length : Int) := by
  obtain ⟨l, h1, h2⟩ := h
  rw [h1, Utf8.goRunes_utf8]
  omega

/-- the states of the two runs at the top of the loop: the second is the first `d` positions further -/
def Shifted (b d : Int) (a a' : PS) : Prop := a' = sh d a ∧ Inv b a

theorem Shifted_iff (b d : Int) (a a' : PS) : Shifted b d a a' ↔
    a' = { a with pointer := a.pointer + d } ∧ b ≤ a.pointer + 1 ∧ a.state ≠ .schemeStart ∧ a.state ≠ .scheme ∧
      (AuthReach a.state = true → BufIn b a.buffer (a.pointer + 1)) := Iff.rfl

theorem shift_sub (p d n : Int) : p + d - n = p - n + d := by omega

/-- `herr` records in the url only: it is enough to relate the continuations for every url -/
theorem herr_sim (p : PS) (t : ErrT) (f : Bool) (k₁ k₂ : PS → StepR)
    (hk : ∀ u, Sh2 (Shifted b d) Eq (fun _ _ => False) (k₁ { p with url := u }) (k₂ { sh d p with url := u })) :
    Sh2 (Shifted b d) Eq (fun _ _ => False) (herr e p t f k₁) (herr (envWith e src₂ rs₂) (sh d p) t f k₂) := by
  unfold herr
  simp only [envWith_cfg, sh_url]
  exact (Sh2_ite _ _ _ _ _).2 ⟨fun _ => rfl, fun _ => hk _⟩

/-- … and so do the two unit checks, which read the text from the cursor on -/
theorem unitChecks_sim (S : Shift e src₂ rs₂ b d) (p : PS) (hp : b ≤ p.pointer) (r : Char) (k₁ k₂ : PS → StepR)
    (hk : ∀ u, Sh2 (Shifted b d) Eq (fun _ _ => False) (k₁ { p with url := u }) (k₂ { sh d p with url := u })) :
    Sh2 (Shifted b d) Eq (fun _ _ => False) (unitChecks e p r k₁) (unitChecks (envWith e src₂ rs₂) (sh d p) r k₂) := by
  have hri : ∀ u, remainingInvalidPct rs₂ { sh d p with url := u } = remainingInvalidPct e.runes { p with url := u } := by
    intro u
    simp only [remainingInvalidPct, runesFrom, sh]
    rw [S.runes _ hp]
  have h2 : ∀ u, Sh2 (Shifted b d) Eq (fun _ _ => False)
      (if remainingInvalidPct e.runes { p with url := u } then herr e { p with url := u } .InvalidURLUnit false k₁ else k₁ { p with url := u })
      (if remainingInvalidPct (envWith e src₂ rs₂).runes { sh d p with url := u } then
        herr (envWith e src₂ rs₂) { sh d p with url := u } .InvalidURLUnit false k₂ else k₂ { sh d p with url := u }) := by
    intro u
    rw [envWith_runes, hri u]
    exact (Sh2_ite _ _ _ _ _).2 ⟨fun _ => herr_sim { p with url := u } _ _ _ _ hk, fun _ => hk u⟩
  unfold unitChecks
  exact (Sh2_ite _ _ _ _ _).2 ⟨fun _ => herr_sim p _ _ _ _ h2, fun _ => h2 p.url⟩

/-- the end of a path segment does not look at the input -/
theorem segEnd_sim (p : PS) (r : Char) (hst : p.state = .path) (hp : b ≤ p.pointer + 1) :
    Sh2 (Shifted b d) Eq (fun _ _ => False) (segEnd e r p) (segEnd (envWith e src₂ rs₂) r (sh d p)) := by
  have h : segPath (envWith e src₂ rs₂) (sh d p) r = segPath e p r := rfl
  simp only [segEnd, h]
  simp [sh, Sh2_ite, Sh2_cont, Shifted_iff, AuthReach, hst, hp]

/-- the host state on a code point of the host: the byte under the cursor is the same in both texts -/
theorem hostChar_sim (S : Shift e src₂ rs₂ b d) (q : PS) (r : Char) (hst : q.state = .host ∨ q.state = .hostname)
    (hq : b ≤ q.pointer) :
    Sh2 (Shifted b d) Eq (fun _ _ => False) (hostChar e q r) (hostChar (envWith e src₂ rs₂) (sh d q) r) := by
  have hq' : b ≤ q.pointer + 1 := by omega
  have hc := cur_shift S _ hq
  have hn : q.state ≠ .schemeStart ∧ q.state ≠ .scheme ∧ AuthReach q.state = false := by
    rcases hst with h | h <;> simp [h, AuthReach]
  rcases S.src with ha | hs
  · simp [hostChar, envWith, sh, ha, Sh2_cont, Shifted_iff, writeRune, ite_state, ite_pointer, ite_eof,
      ite_buffer, ite_atFlag, ite_bracketFlag, ite_pwSeen, ite_url, hn, hq'] <;> grind -- the bracket flag at `[` and `]`
  · have hs0 := hs _ hq
    have hg : src₂[byteOffset src₂ (q.pointer + d)]? = e.src[byteOffset e.src q.pointer]? := by
      rw [← List.head?_drop, ← List.head?_drop, hs0]
    simp [hostChar, envWith, sh, currentIsInvalid, currentAsByte, Sh2_ite, Sh2_elim, Sh2_cont, Sh2_done, Shifted_iff,
      writeRune, ite_state, ite_pointer, ite_eof, ite_buffer, ite_atFlag, ite_bracketFlag, ite_pwSeen, ite_url,
      hc, hs0, hg, hn, hq'] <;> grind

theorem stHost_sim (S : Shift e src₂ rs₂ b d) (q : PS) (r : Char) (hst : q.state = .host ∨ q.state = .hostname)
    (hq : b ≤ q.pointer) :
    Sh2 (Shifted b d) Eq (fun _ _ => False) (stHost e q r) (stHost (envWith e src₂ rs₂) (sh d q) r) := by
  have hq' : b ≤ q.pointer + 1 := by omega
  have hc : Sh2 (Shifted b d) Eq (fun _ _ => False) (hostChar e q r)
      (hostChar { e with src := src₂, runes := rs₂ } { q with pointer := q.pointer + d } r) := hostChar_sim S q r hst hq
  simp [stHost_eq, stops, envWith, sh, herr, isSp, spBackslash, Sh2_ite, Sh2_afterHost, Sh2_cont, Sh2_done, Sh2_retUrl,
    Shifted_iff, AuthReach, rewindLast, shift_sub, hc, hq, hq']

theorem body_sim (S : Shift e src₂ rs₂ b d) (q : PS) (r : Char) (hq : b ≤ q.pointer)
    (h1 : q.state ≠ .schemeStart) (h2 : q.state ≠ .scheme)
    (hA : AuthReach q.state = true → BufIn b q.buffer q.pointer) :
    Sh2 (Shifted b d) Eq (fun _ _ => False) (body e q r) (body (envWith e src₂ rs₂) (sh d q) r) := by
  have hq' : b ≤ q.pointer + 1 := by omega
  have hr0 := S.runes _ hq
  unfold body
  simp only [sh_state]
  split <;> rename_i hst <;> simp [hst, AuthReach] at h1 h2 hA
  -- the states are addressed by their position in the `match` of `body`
  case h_7 | h_8 => -- special authority ignore slashes, path or authority
    have hA' := hA.mono (Int.le_add_one (Int.le_refl _))
    simp [stSpecialAuthorityIgnoreSlashes, stPathOrAuthority, envWith, sh, herr, Sh2_ite, Sh2_cont, Sh2_done, Shifted_iff,
      AuthReach, rewindLast, shift_sub, hst, hq, hq', hA, hA']
  case h_3 | h_20 | h_21 => -- no scheme, relative, relative slash
    have hA' := hA.mono (Int.le_add_one (Int.le_refl _))
    cases hb : e.base <;>
      simp [stNoScheme, stRelative, stRelativeSlash, envWith, sh, herr, isSp, spBackslash, Sh2_ite, Sh2_cont, Sh2_done,
        Shifted_iff, AuthReach, rewindLast, shift_sub, hst, hb, hq, hq', hA, hA']
  case h_5 | h_6 => -- special relative or authority, special authority slashes
    -- the look-ahead and the skipped `/` are at position `pointer + 1`
    have hp1 : q.pointer + d + 1 = q.pointer + 1 + d := Int.add_right_comm ..
    have hr1 := S.runes _ hq'
    have hc1 := cur_shift S _ hq'
    have hq'' : b ≤ q.pointer + 1 + 1 := by omega
    have hA' := hA.mono (Int.le_add_one (Int.le_refl _))
    have hA'' := hA'.mono (Int.le_add_one (Int.le_refl _))
    simp [stSpecialRelativeOrAuthority, stSpecialAuthoritySlashes, envWith, sh, herr, remainingStartsWith, runesFrom,
      next_fst, Sh2_ite, Sh2_cont, Sh2_done, Shifted_iff, AuthReach, rewindLast, shift_sub, hp1, hr1, hc1, hst, hq, hq'',
      hA, hA'']
  case h_9 => -- authority: the rewind by the buffer length stays inside the common suffix (`BufIn.le_rewind`)
    have hw := hA.write r
    have hrw := hA.le_rewind
    simp [stAuthority, envWith, sh, herr, isSp, spBackslash, Sh2_ite, Sh2_cont, Sh2_done, Shifted_iff, AuthReach, rewind,
      writeRune, BufIn_nil, shift_sub, hst, hq', hw]
    omega
  case h_10 | h_11 => -- host, hostname
    exact stHost_sim S q r (by simp [hst]) hq
  case h_4 => -- opaque path
    obtain ⟨ip, hip⟩ : ∃ ip, invalidPct (e.runes.drop q.pointer.toNat) = ip := ⟨_, rfl⟩
    unfold stOpaquePath
    refine (Sh2_ite _ _ _ _ _).2 ⟨fun _ => ?_, fun _ => (Sh2_ite _ _ _ _ _).2 ⟨fun _ => ?_, fun _ => (Sh2_ite _ _ _ _ _).2
      ⟨fun _ => unitChecks_sim S q hq r _ _ fun u => ?_, fun _ => ?_⟩⟩⟩
    all_goals simp [envWith, sh, Sh2_cont, Shifted_iff, AuthReach, remainingInvalidPct, runesFrom, hr0, hip, hst, hq']
  case h_12 | h_14 => -- file, file slash
    cases hb : e.base <;>
      simp [stFile, stFileSlash, envWith, sh, herr, Sh2_ite, Sh2_cont, Sh2_done, Shifted_iff, AuthReach, rewindLast,
        remainingFromPointer, runesFrom, ite_url, ite_state, ite_pointer, ite_buffer, ite_atFlag, ite_bracketFlag,
        ite_pwSeen, shift_sub, hr0, hst, hb, hq, hq']
  case h_16 => -- path
    obtain ⟨ip, hip⟩ : ∃ ip, invalidPct (e.runes.drop q.pointer.toNat) = ip := ⟨_, rfl⟩
    rw [stPath_eq, stPath_eq]
    refine (Sh2_ite _ _ _ _ _).2 ⟨fun _ => (Sh2_ite _ _ _ _ _).2
      ⟨fun _ => herr_sim q _ _ _ _ fun u => segEnd_sim { q with url := u } r hst hq', fun _ => segEnd_sim q r hst hq'⟩,
      fun _ => unitChecks_sim S q hq r _ _ fun u => ?_⟩
    simp [envWith, sh, Sh2_ite, Sh2_cont, Shifted_iff, AuthReach, remainingInvalidPct, runesFrom, hr0, hip, hst, hq']
  case h_17 => -- path start
    simp [stPathStart, envWith, sh, herr, isSp, Sh2_ite, Sh2_cont, Sh2_done, Shifted_iff, AuthReach, rewindLast, ite_url,
      ite_eof, ite_pointer, ite_buffer, ite_atFlag, ite_bracketFlag, ite_pwSeen, hst, hq']
    grind
  case h_19 => -- fragment
    unfold stFragment
    simp only [sh_eof]
    refine (Sh2_ite _ _ _ _ _).2 ⟨fun _ => unitChecks_sim S q hq r _ _ fun u => ?_, fun _ => ?_⟩
    · simp [envWith, sh, isSp, Sh2_cont, Shifted_iff, AuthReach, hst, hq']; rfl
    · simp [sh, Sh2_cont, Shifted_iff, AuthReach, hst, hq']
  case h_18 => -- query
    rw [stQuery_eq, stQuery_eq]
    refine (Sh2_ite _ _ _ _ _).2 ⟨fun _ => ?_, fun _ => (Sh2_ite _ _ _ _ _).2
      ⟨fun _ => unitChecks_sim S q hq r _ _ fun u => ?_, fun _ => ?_⟩⟩
    all_goals simp [envWith, sh, isSp, Sh2_ite, Sh2_cont, Sh2_done, Shifted_iff, AuthReach, hst, hq']
    rfl
  all_goals -- file host, port
    simp [stFileHost, stPort, envWith, sh, herr, isSp, spBackslash, Sh2_ite, Sh2_afterHost, Sh2_cont, Sh2_done, Sh2_retUrl,
      Shifted_iff, AuthReach, rewindLast, writeRune, shift_sub, hst, hq, hq']

/-- the scheme state on the colon (the only continuing step of the scheme state that is not a self-loop and does not reset) -/
theorem stScheme_colon_sim (S : Shift e src₂ rs₂ b d) (q : PS) (hq : b ≤ q.pointer + 1) :
    Sh2 (Shifted b d) Eq (fun _ _ => False) (stScheme e q ':') (stScheme (envWith e src₂ rs₂) (sh d q) ':') := by
  have hp1 : q.pointer + d + 1 = q.pointer + 1 + d := Int.add_right_comm ..
  have hr1 := S.runes _ hq
  have hc1 := cur_shift S _ hq
  have hq' : b ≤ q.pointer + 1 + 1 := by omega
  have h58 : isAlnumN 58 = false := by decide
  cases hb : e.base <;>
    simp [stScheme, h58, envWith, sh, herr, isSp, remainingStartsWith, runesFrom, next_fst, Sh2_ite, Sh2_cont, Sh2_done, Sh2_retUrl,
      Shifted_iff, AuthReach, BufIn_nil, hp1, hr1, hc1, hb, hq, hq']

theorem step_sim (S : Shift e src₂ rs₂ b d) (ps : PS) (hI : Inv b ps) :
    Sh2 (Shifted b d) Eq (fun _ _ => False) (step e ps) (step (envWith e src₂ rs₂) (sh d ps)) := by
  obtain ⟨h0, h1, h2, h3⟩ := hI
  unfold step
  rw [envWith_runes, next_shift S ps h0]
  refine Sh2_bottom _ _ (fun _ _ h => by rw [h.1]; rfl) ((body_sim S _ _ ?_ ?_ ?_ ?_).mono
    (fun _ _ h => ⟨h, fun _ => by rw [h.1]; rfl⟩) (fun _ _ h => h) (fun _ _ h => h.elim))
  all_goals simpa [next_fst] using ‹_›

/-- the iteration of the scheme state that reads the colon (the boundary may be the colon itself) -/
theorem step_scheme_colon_sim (S : Shift e src₂ rs₂ b d) (ps : PS) (hst : ps.state = .scheme) (hp : b ≤ ps.pointer + 1)
    (hc : cur e.runes (ps.pointer + 1) = some ':') :
    Sh2 (Shifted b d) Eq (fun _ _ => False) (step e ps) (step (envWith e src₂ rs₂) (sh d ps)) := by
  have hn2 : (next e.runes ps).2 = ':' := by rw [next_snd, hc]; rfl
  unfold step
  rw [envWith_runes, next_shift S ps hp, hn2]
  have hb : body e (next e.runes ps).1 ':' = stScheme e (next e.runes ps).1 ':' := by simp [body, next_fst, hst]
  have hb' : body (envWith e src₂ rs₂) (sh d (next e.runes ps).1) ':' =
      stScheme (envWith e src₂ rs₂) (sh d (next e.runes ps).1) ':' := by simp [body, next_fst, hst]
  rw [hb, hb']
  refine Sh2_bottom _ _ (fun _ _ h => by rw [h.1]; rfl) ((stScheme_colon_sim S _ ?_).mono
    (fun _ _ h => ⟨h, fun _ => by rw [h.1]; rfl⟩) (fun _ _ h => h) (fun _ _ h => h.elim))
  simp [next_fst]; omega

theorem loop_shift (S : Shift e src₂ rs₂ b d) : ∀ (n : Nat) (ps : PS), Inv b ps →
    loop (envWith e src₂ rs₂) n (sh d ps) = loop e n ps := fun n ps hI =>
  (loop_inv2 (P := Shifted b d) (D := Eq) (A := fun _ _ => False) e _
    (fun p₁ _ h => by rw [h.1]; exact step_sim S p₁ h.2) (fun _ _ _ h => h.elim)
    (fun _ _ h => by rw [h.1]; rfl) n ps _ ⟨rfl, hI⟩).symm

/-! ### two runs with the same result -/

open WhatwgUrl.Proofs.Resolve (Runs)

/-- the two runs return the same result (they may need different numbers of iterations) -/
def LoopEq (e₁ : Env) (ps₁ : PS) (e₂ : Env) (ps₂ : PS) : Prop := ∃ r, Runs e₁ ps₁ r ∧ Runs e₂ ps₂ r

theorem LoopEq.done {e₁ e₂ : Env} {ps₁ ps₂ : PS} {r : Res} (h₁ : step e₁ ps₁ = .done r) (h₂ : step e₂ ps₂ = .done r) :
    LoopEq e₁ ps₁ e₂ ps₂ := ⟨r, .done h₁, .done h₂⟩

theorem LoopEq.steps_l {e₁ e₂ : Env} {ps₁ ps₁' ps₂ : PS} (S : Run.Steps e₁ ps₁ ps₁') (H : LoopEq e₁ ps₁' e₂ ps₂) :
    LoopEq e₁ ps₁ e₂ ps₂ := H.imp fun _ hr => ⟨S.runs hr.1, hr.2⟩

theorem LoopEq.steps_r {e₁ e₂ : Env} {ps₁ ps₂ ps₂' : PS} (S : Run.Steps e₂ ps₂ ps₂') (H : LoopEq e₁ ps₁ e₂ ps₂') :
    LoopEq e₁ ps₁ e₂ ps₂ := H.imp fun _ hr => ⟨hr.1, S.runs hr.2⟩

/-- two loops that agree for every fuel: the first runs to completion (Termination) and hands its result to the second -/
theorem LoopEq.of_loop_eq {e₁ e₂ : Env} {ps₁ ps₂ : PS} (hT : Termination.Inv e₁.runes.length ps₁)
    (h : ∀ n, loop e₂ n ps₂ = loop e₁ n ps₁) : LoopEq e₁ ps₁ e₂ ps₂ := by
  obtain ⟨r, hr, hne⟩ := Runs.exists e₁ ps₁ hT
  obtain ⟨n, hn⟩ := hr.loop_add
  have h2 : loop e₂ (n + 0) ps₂ = r := by rw [h, hn]
  exact ⟨r, hr, h2 ▸ Runs.of_loop _ _ _ (by rw [h2]; exact hne)⟩

theorem LoopEq.of_shift (S : Shift e src₂ rs₂ b d) (ps : PS) (hI : Inv b ps) (hT : Termination.Inv e.runes.length ps) :
    LoopEq e ps (envWith e src₂ rs₂) (sh d ps) :=
  .of_loop_eq hT fun n => loop_shift S n ps hI

theorem LoopEq.of_step (S : Shift e src₂ rs₂ b d) (ps ps' : PS) (hT : Termination.Inv e.runes.length ps)
    (h : Sh2 (Shifted b d) Eq (fun _ _ => False) (step e ps) (step (envWith e src₂ rs₂) ps')) :
    LoopEq e ps (envWith e src₂ rs₂) ps' := by
  generalize hx : step e ps = x at h
  generalize hy : step (envWith e src₂ rs₂) ps' = y at h
  cases x <;> cases y
  · obtain ⟨rfl, h2⟩ := h
    exact LoopEq.steps_l (.one hx) (LoopEq.steps_r (.one hy) (LoopEq.of_shift S _ h2 (Termination.step_cont e ps _ hT hx).1))
  · exact h.elim
  · exact h.elim
  · cases (h : _ = _)
    exact LoopEq.done hx hy

theorem loopEq_fuel {e₁ e₂ : Env} {ps₁ ps₂ : PS} (H : LoopEq e₁ ps₁ e₂ ps₂)
    (hp₁ : ps₁.pointer = -1) (he₁ : ps₁.eof = false) (hp₂ : ps₂.pointer = -1) (he₂ : ps₂.eof = false) :
    loop e₁ (fuelFor e₁.runes) ps₁ = loop e₂ (fuelFor e₂.runes) ps₂ := by
  obtain ⟨r, h₁, h₂⟩ := H
  rw [h₁.loop_fuelFor hp₁ he₁, h₂.loop_fuelFor hp₂ he₂]

/-! ### building `Shift` -/

theorem byteOffset_utf8_append (pre : Str) (bsuf : Bytes) (j : Nat) :
    byteOffset (utf8 pre ++ bsuf) ((pre.length + j : Nat) : Int) = (utf8 pre).length + byteOffset bsuf (j : Int) := by
  unfold byteOffset
  rw [Utf8.goDecode_utf8_append]
  simp only [Int.toNat_natCast]
  rw [List.take_append, List.map_append, List.sum_append]
  simp only [List.length_map, Nat.add_sub_cancel_left]
  congr 1
  rw [List.take_of_length_le (by simp)]
  have := Utf8.goDecode_sizes_sum (utf8 pre)
  rw [Utf8.goDecode_utf8] at this
  exact this

theorem Shift.of_append (e : Env) (pre₁ pre₂ : Str) (bsuf : Bytes) (hs : e.src = utf8 pre₁ ++ bsuf)
    (hr : e.runes = pre₁ ++ goRunes bsuf) :
    Shift e (utf8 pre₂ ++ bsuf) (pre₂ ++ goRunes bsuf) (pre₁.length : Int) ((pre₂.length : Int) - (pre₁.length : Int)) := by
  refine ⟨by omega, by omega, ?_, Or.inr ?_⟩
  · intro p hp
    obtain ⟨j, rfl⟩ : ∃ j : Nat, p = ((pre₁.length + j : Nat) : Int) := ⟨(p - pre₁.length).toNat, by omega⟩
    rw [hr, show ((pre₁.length + j : Nat) : Int) + ((pre₂.length : Int) - (pre₁.length : Int)) = ((pre₂.length + j : Nat) : Int) by omega]
    simp only [Int.toNat_natCast, List.drop_length_add_append]
  · intro p hp
    obtain ⟨j, rfl⟩ : ∃ j : Nat, p = ((pre₁.length + j : Nat) : Int) := ⟨(p - pre₁.length).toNat, by omega⟩
    rw [hs, show ((pre₁.length + j : Nat) : Int) + ((pre₂.length : Int) - (pre₁.length : Int)) = ((pre₂.length + j : Nat) : Int) by omega]
    rw [byteOffset_utf8_append, byteOffset_utf8_append, List.drop_length_add_append, List.drop_length_add_append]


/-! ### statements kept for their own sake

  Nothing in the development refers to what follows: `SR`, the relation `Sh2 (Shifted b d) Eq (fun _ _ => False)` written
  as a `match` (with its two rules for returning outcomes), five equations about `sh` and `envWith`, and two tactics for
  the invariant at a leaf of a state function. -/

def SR (d : Int) (P : PS → Prop) : StepR → StepR → Prop
  | .cont a, .cont a' => a' = sh d a ∧ P a
  | .done x, .done y => x = y
  | _, _ => False

theorem SR_done' (d : Int) (P : PS → Prop) (x y : Res) (h : x = y) : SR d P (.done x) (.done y) := h
theorem SR_retUrl (d : Int) (P : PS → Prop) (a : PS) : SR d P (retUrl a) (retUrl (sh d a)) := rfl

theorem rfp_shift (S : Shift e src₂ rs₂ b d) (ps : PS) (hp : b ≤ ps.pointer) :
    remainingFromPointer rs₂ (sh d ps) = remainingFromPointer e.runes ps := by
  unfold remainingFromPointer runesFrom
  show (if ps.eof = true then [] else utf8 (rs₂.drop (ps.pointer + d).toNat)) = _
  rw [S.runes _ hp]

theorem sh_rewind (d : Int) (q : PS) (n : Nat) : rewind (sh d q) n = sh d (rewind q n) := by
  apply ps_ext <;> first | rfl | (simp only [sh, rewind]; omega)

theorem sh_pointer (d : Int) (q : PS) : (sh d q).pointer = q.pointer + d := rfl
theorem isSp_envWith (e : Env) (s : Bytes) (r : Str) (u : Url) : isSp (envWith e s r) u = isSp e u := rfl
theorem spBackslash_envWith (e : Env) (s : Bytes) (r : Str) (u : Url) (c : Char) :
    spBackslash (envWith e s r) u c = spBackslash e u c := rfl

section
set_option linter.unusedVariables false

/-- the invariant of a leaf whose state is not authority-reaching -/
macro "leaf_inv" hq:ident hst:ident : tactic => `(tactic|
  (refine ⟨?_, ?_, ?_, ?_⟩
   · (try simp only [sh, rewindLast, rewind, resetInput, writeRune]); omega
   · simp [rewindLast, rewind, writeRune, $hst:ident]
   · simp [rewindLast, rewind, writeRune, $hst:ident]
   · simp [AuthReach, rewindLast, rewind, writeRune, $hst:ident]))

/-- the invariant of a leaf whose state is authority-reaching and whose buffer is unchanged -/
macro "leaf_invA" hq:ident hst:ident hl:ident : tactic => `(tactic|
  (refine ⟨?_, ?_, ?_, ?_⟩
   · (try simp only [sh, rewindLast, rewind, resetInput, writeRune]); omega
   · simp [rewindLast, rewind, writeRune, $hst:ident]
   · simp [rewindLast, rewind, writeRune, $hst:ident]
   · intro _
     obtain ⟨l, h1, h2⟩ := $hl
     refine ⟨l, h1, ?_⟩
     (try simp only [sh, rewindLast, rewind, resetInput, writeRune]); omega))

end

end WhatwgUrl.Proofs.Spelling
