import WhatwgUrl.Proofs.HostWF
/-
  The proof rules shared by every invariant of the `BasicParser` loop.

  A state function ends in `.cont ps` or `.done x` behind a tree of `if`, `herr`, `afterHost` and `unitChecks`.
  `Sh P D r` says what an invariant proof needs of such a tree, and the `Sh_*` equivalences push it through each
  node, so that `simp only [stX, Sh_ite, Sh_herr, …]` turns `Sh P D (stX e ps r)` into one implication per leaf.
  `Sh_step` and `loop_inv` then lift a fact about `body` to the loop; the prologue of `basicParser` is step zero
  (`prologue`, `basicParser_eq`, `prologue_cases`), and `Proofs/Lifting.lean` puts the two together.

  A proof about `body` starts with `unfold body; split`; the cases `h_1 … h_21` are the arms of `Impl.body` in its order:
  1 schemeStart, 2 scheme, 3 noScheme, 4 opaquePath, 5 specialRelativeOrAuthority, 6 specialAuthoritySlashes,
  7 specialAuthorityIgnoreSlashes, 8 pathOrAuthority, 9 authority, 10 host, 11 hostname, 12 file, 13 fileHost, 14 fileSlash,
  15 port, 16 path, 17 pathStart, 18 query, 19 fragment, 20 relative, 21 relativeSlash (3, 12, 14, 20, 21 and the scheme
  state read the base).  `Sh_step` asks of `body` the predicate `Owes P D` (`if ps.eof then D ⟨ps.url, .url⟩ else P ps`):
  at the end of the input a continuing outcome is the returned url.

  The traversals close up to 21 goals with one `simp` set, of which each goal uses a part: the files that hold one switch
  `linter.unusedSimpArgs` off.
-/
namespace WhatwgUrl.Proofs.Machine
open WhatwgUrl WhatwgUrl.Impl WhatwgUrl.Proofs.HostWF

theorem record_eq (cfg : Cfg) (u : Url) (t : ErrT) (f : Bool) :
    record cfg u t f = { u with verrs := if cfg.report then u.verrs ++ [⟨t, f⟩] else u.verrs } := by
  unfold record; split <;> rfl

theorem next_fst (rs : Str) (ps : PS) :
    (next rs ps).1 = { ps with pointer := ps.pointer + 1, eof := ps.eof || (cur rs (ps.pointer + 1)).isNone } := by
  unfold next; split <;> simp [*]

theorem next_eof_iff (rs : Str) (ps : PS) :
    (next rs ps).1.eof = false ↔ ps.eof = false ∧ 0 ≤ ps.pointer + 1 ∧ ps.pointer + 1 < rs.length := by
  rw [next_fst]
  simp [cur]
  grind

theorem next_snd (rs : Str) (ps : PS) : (next rs ps).2 = (cur rs (ps.pointer + 1)).getD repl := by
  unfold next; split <;> simp [*]

theorem next_spec (rs : Str) (ps : PS) : cur rs (ps.pointer + 1) = some (next rs ps).2 ∨ (next rs ps).2 = repl := by
  rw [next_snd]; cases cur rs (ps.pointer + 1) <;> simp

section
variable (cfg : Cfg) (u : Url) (t : ErrT) (f : Bool)
theorem record_scheme : (record cfg u t f).scheme = u.scheme := by rw [record_eq]
theorem record_username : (record cfg u t f).username = u.username := by rw [record_eq]
theorem record_password : (record cfg u t f).password = u.password := by rw [record_eq]
theorem record_host : (record cfg u t f).host = u.host := by rw [record_eq]
theorem record_port : (record cfg u t f).port = u.port := by rw [record_eq]
theorem record_decodedPort : (record cfg u t f).decodedPort = u.decodedPort := by rw [record_eq]
theorem record_path : (record cfg u t f).path = u.path := by rw [record_eq]
theorem record_query : (record cfg u t f).query = u.query := by rw [record_eq]
theorem record_fragment : (record cfg u t f).fragment = u.fragment := by rw [record_eq]
end

section
variable (rs : Str) (ps : PS)
theorem next_url : (next rs ps).1.url = ps.url := by rw [next_fst]
theorem next_buffer : (next rs ps).1.buffer = ps.buffer := by rw [next_fst]
theorem next_state : (next rs ps).1.state = ps.state := by rw [next_fst]
theorem next_pointer : (next rs ps).1.pointer = ps.pointer + 1 := by rw [next_fst]
end

theorem next_repl (rs : Str) (ps : PS) (h : ps.eof = false) (he : (next rs ps).1.eof = true) : (next rs ps).2 = repl := by
  rw [next_fst] at he
  rw [next_snd]
  cases hc : cur rs (ps.pointer + 1) <;> simp_all

theorem next_cur (rs : Str) (ps : PS) (h : ps.eof = false) :
    cur rs (next rs ps).1.pointer = if (next rs ps).1.eof then none else some (next rs ps).2 := by
  rw [next_fst, next_snd]
  cases hc : cur rs (ps.pointer + 1) <;> simp [h]

theorem remainingStartsWith_next (rs : Str) (ps : PS) (c : Char) (s : Str) (hq : ps.eof = false → 0 ≤ ps.pointer)
    (h : remainingStartsWith rs ps (c :: s) = true) : (next rs ps).1.eof = false := by
  unfold remainingStartsWith runesFrom at h
  simp only [Bool.and_eq_true, Bool.not_eq_true'] at h
  obtain ⟨he, hp⟩ := h
  have h0 := hq he
  unfold next cur
  rw [if_pos (by omega)]
  have : rs[(ps.pointer + 1).toNat]? = some c := by
    generalize (ps.pointer + 1).toNat = k at hp
    rw [← List.head?_drop]
    cases hd : List.drop k rs with
    | nil => rw [hd] at hp; simp at hp
    | cons x xs => rw [hd] at hp; simp [List.isPrefixOf] at hp; simp [hp.1]
  rw [this]
  exact he

/-- U+FFFD, the code point read at the end of the input, passes none of the tests of the state functions -/
theorem repl_class : isAlphaN repl.toNat = false ∧ isAlnumN repl.toNat = false ∧ isDigitN repl.toNat = false ∧ repl ≠ '/' ∧
    repl ≠ '\\' ∧ repl ≠ '?' ∧ repl ≠ '#' ∧ repl ≠ ':' ∧ repl ≠ '@' ∧ repl ≠ '+' ∧ repl ≠ '-' ∧ repl ≠ '.' ∧ repl ≠ '[' ∧
    repl ≠ ']' := by decide

theorem stops_true (cfg : Cfg) : stops cfg true = true := Bool.true_or _
theorem stops_false_iff (cfg : Cfg) : stops cfg false = false ↔ cfg.failOnVErr = false := by simp [stops]

/-! ### the host parser writes `verrs` and `qlog` only (`HostWF.parseHost_frame`), field by field -/

section
variable (cfg : Cfg) (I : Idna) (u : Url) (s : Bytes) (ns : Bool)
theorem parseHost_scheme : (parseHost cfg I u s ns).url.scheme = u.scheme := (parseHost_frame cfg I u s ns).1
theorem parseHost_username : (parseHost cfg I u s ns).url.username = u.username := (parseHost_frame cfg I u s ns).2.1
theorem parseHost_password : (parseHost cfg I u s ns).url.password = u.password := (parseHost_frame cfg I u s ns).2.2.1
theorem parseHost_host : (parseHost cfg I u s ns).url.host = u.host := (parseHost_frame cfg I u s ns).2.2.2.1
theorem parseHost_port : (parseHost cfg I u s ns).url.port = u.port := (parseHost_frame cfg I u s ns).2.2.2.2.1
theorem parseHost_decodedPort : (parseHost cfg I u s ns).url.decodedPort = u.decodedPort :=
  (parseHost_frame cfg I u s ns).2.2.2.2.2.1
theorem parseHost_path : (parseHost cfg I u s ns).url.path = u.path := (parseHost_frame cfg I u s ns).2.2.2.2.2.2.1
theorem parseHost_query : (parseHost cfg I u s ns).url.query = u.query := (parseHost_frame cfg I u s ns).2.2.2.2.2.2.2.1
theorem parseHost_fragment : (parseHost cfg I u s ns).url.fragment = u.fragment := (parseHost_frame cfg I u s ns).2.2.2.2.2.2.2.2
end

theorem cleanDefaultPort_eq (cfg : Cfg) (u : Url) :
    ∃ p d, cleanDefaultPort cfg u = { u with port := p, decodedPort := d } := by
  unfold cleanDefaultPort; repeat' split
  all_goals exact ⟨_, _, rfl⟩

theorem cleanDefaultPort_scheme (cfg : Cfg) (u : Url) : (cleanDefaultPort cfg u).scheme = u.scheme := by
  obtain ⟨_, _, h⟩ := cleanDefaultPort_eq cfg u; rw [h]
theorem cleanDefaultPort_username (cfg : Cfg) (u : Url) : (cleanDefaultPort cfg u).username = u.username := by
  obtain ⟨_, _, h⟩ := cleanDefaultPort_eq cfg u; rw [h]
theorem cleanDefaultPort_password (cfg : Cfg) (u : Url) : (cleanDefaultPort cfg u).password = u.password := by
  obtain ⟨_, _, h⟩ := cleanDefaultPort_eq cfg u; rw [h]
theorem cleanDefaultPort_host (cfg : Cfg) (u : Url) : (cleanDefaultPort cfg u).host = u.host := by
  obtain ⟨_, _, h⟩ := cleanDefaultPort_eq cfg u; rw [h]
theorem cleanDefaultPort_path (cfg : Cfg) (u : Url) : (cleanDefaultPort cfg u).path = u.path := by
  obtain ⟨_, _, h⟩ := cleanDefaultPort_eq cfg u; rw [h]
theorem cleanDefaultPort_query (cfg : Cfg) (u : Url) : (cleanDefaultPort cfg u).query = u.query := by
  obtain ⟨_, _, h⟩ := cleanDefaultPort_eq cfg u; rw [h]
theorem cleanDefaultPort_fragment (cfg : Cfg) (u : Url) : (cleanDefaultPort cfg u).fragment = u.fragment := by
  obtain ⟨_, _, h⟩ := cleanDefaultPort_eq cfg u; rw [h]
theorem cleanDefaultPort_verrs (cfg : Cfg) (u : Url) : (cleanDefaultPort cfg u).verrs = u.verrs := by
  obtain ⟨_, _, h⟩ := cleanDefaultPort_eq cfg u; rw [h]

theorem shorten_opq (p : Path) (s : Bytes) : (p.shorten s).opq = p.opq := by
  unfold Path.shorten; repeat' split
  all_goals rfl

/-! a field of a machine state chosen by `if` (`apply_ite` at each projection of `PS`, under names the `simp` sets can list) -/

theorem ite_url (c : Prop) [Decidable c] (a b : PS) : (if c then a else b).url = if c then a.url else b.url := by
  split <;> rfl
theorem ite_state (c : Prop) [Decidable c] (a b : PS) : (if c then a else b).state = if c then a.state else b.state := by
  split <;> rfl
theorem ite_eof (c : Prop) [Decidable c] (a b : PS) : (if c then a else b).eof = if c then a.eof else b.eof := by
  split <;> rfl
theorem ite_pointer (c : Prop) [Decidable c] (a b : PS) :
    (if c then a else b).pointer = if c then a.pointer else b.pointer := by
  split <;> rfl
theorem ite_buffer (c : Prop) [Decidable c] (a b : PS) :
    (if c then a else b).buffer = if c then a.buffer else b.buffer := by
  split <;> rfl

theorem ite_atFlag (c : Prop) [Decidable c] (a b : PS) : (if c then a else b).atFlag = if c then a.atFlag else b.atFlag := by
  split <;> rfl
theorem ite_bracketFlag (c : Prop) [Decidable c] (a b : PS) :
    (if c then a else b).bracketFlag = if c then a.bracketFlag else b.bracketFlag := by
  split <;> rfl
theorem ite_pwSeen (c : Prop) [Decidable c] (a b : PS) : (if c then a else b).pwSeen = if c then a.pwSeen else b.pwSeen := by
  split <;> rfl

/-! ### the path state without its detour through `Option (Url × Bytes)` -/

/-- the path the path state stores when a segment ends -/
def segPath (e : Env) (ps : PS) (r : Char) : Path :=
  let slash := r == '/' || spBackslash e ps.url r
  let url := ps.url
  if isDoubleDot ps.buffer then
    let p := url.path.shorten url.scheme
    if !slash then p.addSegment [] else p
  else if isSingleDot ps.buffer && !slash then url.path.addSegment []
  else if !isSingleDot ps.buffer then
    let buf :=
      if url.scheme == lit "file" && url.path.isEmpty && isWindowsDriveLetter ps.buffer && !e.cfg.skipDrive then
        ps.buffer.take 1 ++ [0x3a] ++ ps.buffer.drop 2
      else ps.buffer
    if !e.cfg.collapse || !isSp e url || url.path.isEmpty || (url.path.segs.getLast?.getD []).length > 0 then
      url.path.addSegment buf
    else { url.path with segs := url.path.segs.dropLast ++ [buf] }
  else url.path

/-- the end of a segment: store the path, empty the buffer, leave for query / fragment at `?` / `#` -/
def segEnd (e : Env) (r : Char) (ps : PS) : StepR :=
  let ps := { ps with url := { ps.url with path := segPath e ps r }, buffer := [] }
  if r == '?' then .cont { ps with state := .query, url := { ps.url with query := some [] } }
  else if r == '#' then .cont { ps with state := .fragment, url := { ps.url with fragment := some [] } }
  else .cont ps

theorem stPath_eq (e : Env) (ps : PS) (r : Char) :
    stPath e ps r =
      if (ps.eof || r == '/') || spBackslash e ps.url r || (e.ov.isNone && (r == '?' || r == '#')) then
        if spBackslash e ps.url r then herr e ps .InvalidReverseSolidus false (segEnd e r) else segEnd e r ps
      else
        unitChecks e ps r fun ps =>
          if remainingInvalidPct e.runes ps then
            .cont { ps with buffer := ps.buffer ++ percentEncodeInvalidRune e.cfg e.cfg.pathSet r }
          else .cont { ps with buffer := ps.buffer ++ percentEncodeRune e.cfg e.cfg.pathSet r } := by
  unfold stPath
  dsimp only
  refine ite_congr rfl (fun _ => ?_) (fun _ => rfl)
  suffices hk : ∀ p : PS, (_ : StepR) = segEnd e r p from
    ite_congr rfl (fun _ => congrArg _ (funext hk)) (fun _ => hk ps)
  intro p
  unfold segEnd segPath
  dsimp only
  by_cases h1 : isDoubleDot p.buffer = true
  · simp only [if_pos h1]
  · simp only [if_neg h1]
    by_cases h2 : (isSingleDot p.buffer && !(r == '/' || spBackslash e p.url r)) = true
    · simp only [if_pos h2]
    · simp only [if_neg h2]
      by_cases h3 : (!isSingleDot p.buffer) = true
      · simp only [if_pos h3]
        by_cases h4 : (!e.cfg.collapse || !isSp e p.url || p.url.path.isEmpty ||
            decide ((p.url.path.segs.getLast?.getD []).length > 0)) = true
        · simp only [if_pos h4]
        · simp only [if_neg h4]
      · simp only [if_neg h3]

theorem segPath_opq (e : Env) (ps : PS) (r : Char) (h : ps.url.path.opq = false) : (segPath e ps r).opq = false := by
  unfold segPath; dsimp only; repeat' split
  all_goals simp [shorten_opq, Path.addSegment, h]

theorem segPath_ne (e : Env) (ps : PS) (r : Char) (hs : (r == '/' || spBackslash e ps.url r) = false) :
    (segPath e ps r).segs ≠ [] := by
  unfold segPath
  dsimp only
  rw [hs]
  repeat' split
  all_goals simp_all [Path.addSegment]

/-! ### `match`es on run-time values, as `if` / `Option.elim` or moved outward (the `Sh` rules do not see through a `match`) -/

/-- the host state on a code point that belongs to the host -/
def hostChar (e : Env) (ps : PS) (r : Char) : StepR :=
  let ps := if r == '[' then { ps with bracketFlag := true } else if r == ']' then { ps with bracketFlag := false } else ps
  if currentIsInvalid e ps && e.cfg.acceptInvalid then
    (currentAsByte e ps).elim (.done ⟨ps.url, .panic 13⟩) fun x => .cont { ps with buffer := ps.buffer ++ [x] }
  else .cont (writeRune ps r)

theorem stHost_eq (e : Env) (ps : PS) (r : Char) :
    stHost e ps r =
      if e.ov.isSome && ps.url.scheme == lit "file" then .cont { (rewindLast ps) with state := .fileHost }
      else if r == ':' && !ps.bracketFlag then
        let k : PS → StepR := fun ps =>
          if e.ov == some .hostname then retUrl ps
          else afterHost (parseHost e.cfg e.I ps.url ps.buffer (!isSp e ps.url)) ps fun ps h =>
            .cont { ps with url := { ps.url with host := some h }, buffer := [], state := .port }
        if ps.buffer.isEmpty then herr e ps .HostMissing true k else k ps
      else if ps.eof || (r == '/' || r == '?' || r == '#' || spBackslash e ps.url r) then
        let ps := rewindLast ps
        if isSp e ps.url && ps.buffer.isEmpty then herr e ps .HostMissing true .cont
        else if e.ov.isSome && ps.buffer.isEmpty && (ps.url.username != [] || ps.url.password != [] || ps.url.port.isSome) then retUrl ps
        else afterHost (parseHost e.cfg e.I ps.url ps.buffer (!isSp e ps.url)) ps fun ps h =>
          let ps := { ps with url := { ps.url with host := some h }, buffer := [], state := .pathStart }
          if e.ov.isSome then retUrl ps else .cont ps
      else hostChar e ps r := by
  unfold stHost hostChar
  dsimp only
  refine ite_congr rfl (fun _ => rfl) (fun _ => ite_congr rfl (fun _ => rfl) (fun _ => ite_congr rfl (fun _ => rfl) (fun _ => ?_)))
  refine ite_congr rfl (fun _ => ?_) (fun _ => rfl)
  split <;> rename_i h <;> rw [h] <;> rfl

theorem hostChar_eq (e : Env) (ps : PS) (r : Char) :
    hostChar e ps r =
      let bf := if r == '[' then true else if r == ']' then false else ps.bracketFlag
      if currentIsInvalid e ps && e.cfg.acceptInvalid then
        (currentAsByte e ps).elim (.done ⟨ps.url, .panic 13⟩) fun x => .cont { ps with bracketFlag := bf, buffer := ps.buffer ++ [x] }
      else .cont { ps with bracketFlag := bf, buffer := ps.buffer ++ utf8Char r } := by
  unfold hostChar currentIsInvalid currentAsByte writeRune
  cases r == '[' <;> cases r == ']' <;> rfl

theorem stQuery_eq (e : Env) (ps : PS) (r : Char) :
    stQuery e ps r =
      if e.ov.isNone && r == '#' then
        if ps.url.query.isNone then .done ⟨ps.url, .panic 15⟩
        else .cont { ps with state := .fragment, buffer := [], url := { ps.url with fragment := some [], query := some ps.buffer } }
      else if !ps.eof then
        unitChecks e ps r fun ps =>
          let set := if isSp e ps.url then e.cfg.spQuerySet else e.cfg.querySet
          .cont { ps with buffer := ps.buffer ++ percentEncodeRune e.cfg set r }
      else .cont { ps with url := { ps.url with query := some ps.buffer } } := by
  unfold stQuery
  refine ite_congr rfl (fun _ => ?_) (fun _ => rfl)
  split <;> simp [*]

/-- `afterHost` with its `match` on the outcome alone -/
def hostCases (o : HOut) (a : Bytes → StepR) (b : VErr → StepR) (c : Nat → StepR) : StepR :=
  match o with
  | .ok h => a h
  | .err er => b er
  | .panic n => c n

theorem afterHost_eq (hr : HR) (ps : PS) (k : PS → Bytes → StepR) :
    afterHost hr ps k = hostCases hr.out (fun h => k { ps with url := hr.url } h) (fun er => .done ⟨hr.url, .err er true⟩)
      (fun n => .done ⟨hr.url, .panic n⟩) := by
  unfold afterHost hostCases; cases hr.out <;> rfl

/-- the file slash state with its `match` on the base outside the continuation -/
theorem stFileSlash_eq (e : Env) (ps : PS) (r : Char) :
    stFileSlash e ps r =
      if r == '/' || r == '\\' then
        if r == '\\' then herr e ps .InvalidReverseSolidus false fun ps => .cont { ps with state := .fileHost }
        else .cont { ps with state := .fileHost }
      else match e.base with
        | some b =>
          if b.scheme == lit "file" then
            if !startsWithAWindowsDriveLetter (remainingFromPointer e.runes { ps with url := { ps.url with host := b.host } }) &&
                !b.path.segs.isEmpty && isNormalizedWindowsDriveLetter (b.path.segs.headD []) then
              .cont { (rewindLast ps) with
                state := .path, url := { ps.url with host := b.host, path := ps.url.path.addSegment (b.path.segs.headD []) } }
            else .cont { (rewindLast ps) with state := .path, url := { ps.url with host := b.host } }
          else .cont { (rewindLast ps) with state := .path }
        | none => .cont { (rewindLast ps) with state := .path } := by
  unfold stFileSlash
  refine ite_congr rfl (fun _ => rfl) (fun _ => ?_)
  cases e.base with
  | none => rfl
  | some b =>
    dsimp only
    by_cases h1 : (b.scheme == lit "file") = true
    · rw [if_pos h1, if_pos h1]; split <;> rfl
    · rw [if_neg h1, if_neg h1]

/-! ### the shape of a state function's result -/

/-- `r` continues only into a machine state satisfying `P` and returns only a result satisfying `D` -/
def Sh (P : PS → Prop) (D : Res → Prop) : StepR → Prop
  | .cont ps => P ps
  | .done x => D x

variable {P : PS → Prop} {D : Res → Prop}

theorem Sh_cont (ps : PS) : Sh P D (.cont ps) ↔ P ps := Iff.rfl
theorem Sh_done (x : Res) : Sh P D (.done x) ↔ D x := Iff.rfl
theorem Sh_retUrl (ps : PS) : Sh P D (retUrl ps) ↔ D ⟨ps.url, .url⟩ := Iff.rfl

theorem Sh_ite (c : Prop) [Decidable c] (a b : StepR) :
    Sh P D (if c then a else b) ↔ (c → Sh P D a) ∧ (¬ c → Sh P D b) := by
  split <;> simp [*]

theorem Sh_herr (e : Env) (ps : PS) (t : ErrT) (f : Bool) (k : PS → StepR) :
    Sh P D (herr e ps t f k) ↔
      (stops e.cfg f = true → D ⟨record e.cfg ps.url t f, .err ⟨t, f⟩ false⟩) ∧
      (stops e.cfg f = false → Sh P D (k { ps with url := record e.cfg ps.url t f })) := by
  unfold herr; split <;> simp [*, Sh]

theorem Sh_afterHost (hr : HR) (ps : PS) (k : PS → Bytes → StepR) :
    Sh P D (afterHost hr ps k) ↔
      (∀ h, hr.out = .ok h → Sh P D (k { ps with url := hr.url } h)) ∧
      (∀ er, hr.out = .err er → D ⟨hr.url, .err er true⟩) ∧
      (∀ n, hr.out = .panic n → D ⟨hr.url, .panic n⟩) := by
  unfold afterHost; split <;> simp [*, Sh]

theorem Sh_elim {α : Type} (o : Option α) (b : StepR) (f : α → StepR) :
    Sh P D (o.elim b f) ↔ (o = none → Sh P D b) ∧ (∀ x, o = some x → Sh P D (f x)) := by
  cases o <;> simp

theorem Sh_unitChecks (e : Env) (ps : PS) (r : Char) (k : PS → StepR) :
    Sh P D (unitChecks e ps r k) ↔
      let k2 : PS → StepR := fun ps =>
        if remainingInvalidPct e.runes ps then herr e ps .InvalidURLUnit false k else k ps
      ((!isUrlCp r.toNat && r != '%') = true → Sh P D (herr e ps .InvalidURLUnit false k2)) ∧
      (¬ (!isUrlCp r.toNat && r != '%') = true → Sh P D (k2 ps)) := by
  unfold unitChecks; exact Sh_ite _ _ _

theorem Sh.mono {P' : PS → Prop} {D' : Res → Prop} {r : StepR} (h : Sh P D r)
    (hP : ∀ ps, P ps → P' ps) (hD : ∀ x, D x → D' x) : Sh P' D' r := by
  cases r with
  | cont ps => exact hP _ h
  | done x => exact hD _ h

theorem Sh.and {P' : PS → Prop} {D' : Res → Prop} {r : StepR} (h : Sh P D r) (h' : Sh P' D' r) :
    Sh (fun ps => P ps ∧ P' ps) (fun x => D x ∧ D' x) r := by
  cases r with
  | cont ps => exact ⟨h, h'⟩
  | done x => exact ⟨h, h'⟩

theorem Sh_trivial (hP : ∀ p, P p) (hD : ∀ x, D x) (r : StepR) : Sh P D r := by
  cases r with
  | cont p => exact hP p
  | done x => exact hD x

/-- what a continuing outcome of the switch owes the loop: at the end of the input it is the returned url -/
def Owes (P : PS → Prop) (D : Res → Prop) (ps : PS) : Prop := if ps.eof then D ⟨ps.url, .url⟩ else P ps

theorem Owes_iff (ps : PS) : Owes P D ps ↔ (ps.eof = true → D ⟨ps.url, .url⟩) ∧ (ps.eof = false → P ps) := by
  unfold Owes; cases ps.eof <;> simp

theorem Sh_step (e : Env) (ps : PS) :
    Sh P D (step e ps) ↔ Sh (Owes P D) D (body e (next e.runes ps).1 (next e.runes ps).2) := by
  unfold step
  cases body e (next e.runes ps).1 (next e.runes ps).2 with
  | cont ps' => by_cases h : ps'.eof = true <;> simp [bottom, Sh, Owes, h]
  | done x => rfl

/-- where nothing is claimed of what is returned, the end of the input needs no case of its own -/
theorem Sh_step_of_body {e : Env} {ps : PS} (h : Sh P (fun _ => True) (body e (next e.runes ps).1 (next e.runes ps).2)) :
    Sh P (fun _ => True) (step e ps) :=
  (Sh_step e ps).2 (h.mono (fun _ hp => (Owes_iff _).2 ⟨fun _ => trivial, fun _ => hp⟩) (fun _ hx => hx))

theorem loop_succ (e : Env) (n : Nat) (ps : PS) :
    loop e (n + 1) ps = match step e ps with | .cont ps' => loop e n ps' | .done r => r := rfl

theorem loop_inv (e : Env) (hstep : ∀ ps, P ps → Sh P D (step e ps)) :
    ∀ (fuel : Nat) (ps : PS), P ps → D (loop e fuel ps) ∨ ∃ ps', P ps' ∧ loop e fuel ps = ⟨ps'.url, .outOfFuel⟩ := by
  intro fuel
  induction fuel with
  | zero => intro ps hp; exact Or.inr ⟨ps, hp, rfl⟩
  | succ k ih =>
    intro ps hp
    have hs := hstep ps hp
    unfold loop
    split
    · rename_i ps' h; rw [h] at hs; exact ih ps' hs
    · rename_i x h; rw [h] at hs; exact Or.inl hs

/-- the url with which the loop starts: the given one (or a fresh one) after the validation errors of the prologue.
    `HostWF.Went` is the sharper relation of the host parser: its entries are non-fatal and made only where the run goes
    on (`stops cfg false = false`). `Recorded` forgets both, which is all the invariants lifted by `basicParser_of_body`
    need (the liftings of `Proofs/Lifting.lean` hand on still less, `Recorded.same`); `prologue_cases_of` keeps both
    (`Reporting.basicParser_U`) -/
inductive Recorded (cfg : Cfg) (u : Url) : Url → Prop
  | refl : Recorded cfg u u
  | record {v : Url} (t : ErrT) (f : Bool) : Recorded cfg u v → Recorded cfg u (record cfg v t f)

theorem Recorded.eq {cfg : Cfg} {u v : Url} (h : Recorded cfg u v) : ∃ l, v = { u with verrs := l } := by
  induction h with
  | refl => exact ⟨_, rfl⟩
  | record t f _ ih => obtain ⟨l, rfl⟩ := ih; exact ⟨_, record_eq _ _ _ _⟩

theorem Recorded.same {cfg : Cfg} {u v : Url} (h : Recorded cfg u v) : Same u v := by
  obtain ⟨l, rfl⟩ := h.eq; exact ⟨rfl, rfl, rfl, rfl, rfl, rfl, rfl, rfl, rfl⟩

/-- the environment in which `basicParser` runs the loop; its text is `Neutral.prologueText url input` (`loopEnv_eq` in
    `Machine2.lean`) -/
def loopEnv (cfg : Cfg) (I : Idna) (input : Bytes) (base url : Option Url) (ov : Option State) : Env :=
  let src := (removeTabNl (if url.isNone then (trim c0OrSpaceSet input).1 else input)).1
  { cfg := cfg, I := I, src := src, runes := goRunes src, base := base, ov := ov }

/-- the machine state in which the loop starts: in state `s` (the state override, or scheme start) on the url `u`, the
    cursor before the first code point, nothing buffered, no flag set.  It is what `prologue` continues with; `simp`
    unfolds it -/
@[simp] abbrev start (s : State) (u : Url) : PS :=
  { state := s, pointer := -1, eof := false, buffer := [], atFlag := false, bracketFlag := false, pwSeen := false, url := u }

/-! ### `basicParser`: the prologue is step zero -/

/-- `basicParser` before the loop: it returns, or the loop starts in this state -/
def prologue (cfg : Cfg) (input : Bytes) (url : Option Url) (ov : Option State) : StepR :=
  let u0 := url.getD {}
  let t := trim c0OrSpaceSet input
  if url.isNone && t.2 && stops cfg false then .done ⟨record cfg u0 .InvalidURLUnit false, .err ⟨.InvalidURLUnit, false⟩ false⟩
  else
    let u1 := if url.isNone && t.2 then record cfg u0 .InvalidURLUnit false else u0
    let rm := removeTabNl (if url.isNone then t.1 else input)
    if rm.2 && stops cfg false then .done ⟨record cfg u1 .InvalidURLUnit false, .err ⟨.InvalidURLUnit, false⟩ false⟩
    else .cont (start (ov.getD .schemeStart) (if rm.2 then record cfg u1 .InvalidURLUnit false else u1))

/-- a function of the prologue's outcome, as the two tests `basicParser` makes -/
theorem prologue_elim {α : Type} (cfg : Cfg) (input : Bytes) (url : Option Url) (ov : Option State) (d : Res → α) (k : PS → α) :
    (let u0 := url.getD {}
     let t := trim c0OrSpaceSet input
     if url.isNone && t.2 && stops cfg false then d ⟨record cfg u0 .InvalidURLUnit false, .err ⟨.InvalidURLUnit, false⟩ false⟩
     else
       let u1 := if url.isNone && t.2 then record cfg u0 .InvalidURLUnit false else u0
       let rm := removeTabNl (if url.isNone then t.1 else input)
       if rm.2 && stops cfg false then d ⟨record cfg u1 .InvalidURLUnit false, .err ⟨.InvalidURLUnit, false⟩ false⟩
       else k { state := ov.getD .schemeStart, pointer := -1, eof := false, buffer := [], atFlag := false,
                bracketFlag := false, pwSeen := false, url := if rm.2 then record cfg u1 .InvalidURLUnit false else u1 }) =
      match prologue cfg input url ov with
      | .done x => d x
      | .cont ps => k ps := by
  unfold prologue
  dsimp only
  by_cases h1 : (url.isNone && (trim c0OrSpaceSet input).2 && stops cfg false) = true
  · simp only [h1, ↓reduceIte]
  · by_cases h2 : ((removeTabNl (if url.isNone then (trim c0OrSpaceSet input).1 else input)).2 && stops cfg false) = true <;>
      simp only [h1, h2, ↓reduceIte, Bool.false_eq_true]

theorem basicParser_eq (cfg : Cfg) (I : Idna) (input : Bytes) (base url : Option Url) (ov : Option State) :
    basicParser cfg I input base url ov =
      match prologue cfg input url ov with
      | .done x => x
      | .cont ps => loop (loopEnv cfg I input base url ov) (fuelFor (loopEnv cfg I input base url ov).runes) ps :=
  prologue_elim cfg input url ov id _

/-- the two outcomes of the prologue, for any property `R` of the url that holds at the start and survives the recording of a
    non-fatal error after which the run goes on -/
theorem prologue_cases_of (cfg : Cfg) (input : Bytes) (url : Option Url) (ov : Option State) (R : Url → Prop)
    (h0 : R (url.getD {})) (hn : ∀ u, R u → stops cfg false = false → R (record cfg u .InvalidURLUnit false)) :
    (stops cfg false = true ∧ ∃ u, R u ∧
      prologue cfg input url ov = .done ⟨record cfg u .InvalidURLUnit false, .err ⟨.InvalidURLUnit, false⟩ false⟩) ∨
    ∃ u, R u ∧
      prologue cfg input url ov =
        .cont (start (ov.getD .schemeStart) u) := by
  have note_if : ∀ (b : Bool) (u : Url), R u → ¬ (b && stops cfg false) = true →
      R (if b = true then record cfg u .InvalidURLUnit false else u) := by
    intro b u hu hb
    split
    · exact hn u hu (by simp_all)
    · exact hu
  unfold prologue
  dsimp only
  generalize (url.isNone && (trim c0OrSpaceSet input).2) = b1
  generalize removeTabNl _ = rm
  by_cases c1 : (b1 && stops cfg false) = true
  · rw [if_pos c1]
    exact Or.inl ⟨(Bool.and_eq_true_iff.1 c1).2, _, h0, rfl⟩
  · rw [if_neg c1]
    by_cases c2 : (rm.2 && stops cfg false) = true
    · rw [if_pos c2]
      exact Or.inl ⟨(Bool.and_eq_true_iff.1 c2).2, _, note_if b1 _ h0 c1, rfl⟩
    · rw [if_neg c2]
      exact Or.inr ⟨_, note_if rm.2 _ (note_if b1 _ h0 c1) c2, rfl⟩

theorem prologue_cases (cfg : Cfg) (input : Bytes) (url : Option Url) (ov : Option State) :
    (stops cfg false = true ∧ ∃ u, Recorded cfg (url.getD {}) u ∧
      prologue cfg input url ov = .done ⟨record cfg u .InvalidURLUnit false, .err ⟨.InvalidURLUnit, false⟩ false⟩) ∨
    ∃ u, Recorded cfg (url.getD {}) u ∧
      prologue cfg input url ov =
        .cont (start (ov.getD .schemeStart) u) :=
  prologue_cases_of cfg input url ov (Recorded cfg (url.getD {})) .refl fun _ h _ => .record _ _ h

theorem prologue_cont (cfg : Cfg) (input : Bytes) (url : Option Url) (ov : Option State) (ps : PS)
    (h : prologue cfg input url ov = .cont ps) :
    ∃ u, Recorded cfg (url.getD {}) u ∧
      ps = start (ov.getD .schemeStart) u := by
  rcases prologue_cases cfg input url ov with ⟨_, u, _, hd⟩ | ⟨u, hu, hc⟩
  · rw [hd] at h; cases h
  · rw [hc] at h; cases h; exact ⟨u, hu, rfl⟩

end WhatwgUrl.Proofs.Machine
