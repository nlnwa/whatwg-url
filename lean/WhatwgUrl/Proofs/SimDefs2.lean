import WhatwgUrl.Proofs.SimDefs
/-
  The result relation, the side invariant and the one-iteration statement the conformance theorems are proved with.
  `SimDefs.lean` / `SimLoop.lean` state the simulation with `RRes` and without invariant (`StepSim`); that statement is
  unsatisfiable (`StepSim_false` in `SimParse.lean`). The per-state lemmas prove the conclusion of `StepSim'` below from its
  hypotheses and, for the nine states from the host state on, the invariant `YInv` of `SimYB.lean` in addition (the port state
  needs it): `stepSim'_A`, `stepSim'_B_all`. So `StepSim' I ov` itself is proved for no `ov`; what is assembled is
  `StepSimG XIY (RRes' ov.isNone) I ov` (`stepSimG_all` in `SimFinal.lean`), and the chain uses `RRes'` only.
  Only definitions live here; the facts about them are in `SimInv.lean` (the invariant is preserved by `step`),
  `SimLoop.lean`, `SimParse.lean`, `SimSetters.lean` (lifting and assembly).

  1. `RRes` is too weak / wrong in two places:
     * it maps Go's `return nil, nil` (`.nilNil`: file host state under a state override, empty buffer) to `False`, while
       the standard returns (without failure) there and the two urls correspond;
     * it says nothing about the urls when both runs fail, but the setters keep the url "as modified so far".
     `RRes'` covers both. One more difference is real and harmless: under a state override the Go port state returns the
     error `PortMissing` (failure) for an empty buffer where the standard just returns; the urls are equal (unchanged).
     Therefore under an override `RRes'` does not compare the failure flags of a failing Go run.
  2. `RPS` / `REnv` do not exclude some unreachable situations in which the two machines really disagree (see `XInv`).
-/
namespace WhatwgUrl.Proofs.Sim
open WhatwgUrl WhatwgUrl.Impl

/-- results correspond: the urls correspond in every case; `return nil, nil` (which only happens under a
    state override) counts as success; without a state override (`noOv = true`) a failing Go run is a failing run of
    the standard -/
def RRes' (noOv : Bool) (r : Res) (s : Spec.SUrl × Bool) : Prop :=
  match r.ret with
  | .url => s.2 = false ∧ RUrl r.url s.1
  | .nilNil => noOv = false ∧ s.2 = false ∧ RUrl r.url s.1
  | .err _ _ => (noOv = true → s.2 = true) ∧ RUrl r.url s.1
  | _ => False

/-- one iteration corresponds (result relation `RRes'`) -/
def RStep' (noOv : Bool) (a : StepR) (b : SStep) : Prop :=
  match a, b with
  | .cont pi, .cont ss => RPS pi ss
  | .done r, .stop s => RRes' noOv r s
  | _, _ => False

/-- a well-formedness clause of url records (the second clause of `WFs` in `Proofs/WellFormed.lean`): a url with a
    special scheme has no opaque path. For an ill-formed base record such as `{scheme "http", opaque path "x"}` the Go
    code and the standard disagree (relative state: `Path.shorten` empties the opaque path, the standard's shorten
    leaves it alone). -/
def BaseOk (cfg : Cfg) (b : Url) : Prop := cfg.isSpecial b.scheme = true → b.path.opq = false

def EnvOk (e : Env) : Prop := ∀ b, e.base = some b → BaseOk e.cfg b

/-- states in which the Go buffer is empty (they may move to the query / fragment states without resetting the buffer,
    or to the authority state, whose rewind counts the buffered code points) -/
def bufEmptySt : State → Bool
  | .schemeStart | .noScheme | .specialRelativeOrAuthority | .specialAuthoritySlashes | .specialAuthorityIgnoreSlashes
  | .pathOrAuthority | .relative | .relativeSlash | .file | .pathStart => true
  | _ => false

/-- states that dereference the base -/
def relSt : State → Bool
  | .relative | .relativeSlash | .specialRelativeOrAuthority => true
  | _ => false

/-- states in which the url may have an opaque path -/
def opqSt : State → Bool
  | .opaquePath | .query | .fragment => true
  | _ => false

/-- … and the additional ones under a state override (they never reach the path states) -/
def ovOpqSt : State → Bool
  | .schemeStart | .scheme | .host | .hostname | .fileHost | .port => true
  | _ => false

/-- the Go-side invariant at loop tops that the per-state lemmas may assume in addition to `RPS` -/
structure XCore (e : Env) (pi : PS) : Prop where
  /-- the cursor has not been rewound past the start (else Go sees EOF and leaves the loop, the standard goes on) -/
  ptr : -1 ≤ pi.pointer
  /-- in the authority state no more code points are buffered than have been consumed (the rewind stays in range) -/
  auth : pi.state = .authority → ((goRunes pi.buffer).length : Int) ≤ pi.pointer + 1
  /-- the buffer is empty where the Go code relies on it -/
  buf : bufEmptySt pi.state = true → pi.buffer = []
  /-- the relative states are only entered with a base whose path is not opaque (Go: nil dereference `.panic 11/12`
      otherwise, the standard: failure) -/
  rel : relSt pi.state = true → ∃ b, e.base = some b ∧ b.path.opq = false
  /-- an opaque path only where the path is not edited as a list (Go `addSegment` turns an opaque path into a list, the
      standard appends to the opaque string) -/
  opq : pi.url.path.opq = true → opqSt pi.state = true ∨ (e.ov.isSome = true ∧ ovOpqSt pi.state = true)

structure XInv (e : Env) (pi : PS) : Prop where
  /-- the cursor is inside the input (else a rewind at EOF leaves the standard's pointer at EOF: it stops, Go goes on) -/
  lt : pi.pointer < e.runes.length
  core : XCore e pi

/-- the frame property of the host parser (`parseHost_url` in `Proofs/SimHost.lean`): it leaves the url record alone;
    only the ghost field `qlog` may grow -/
def HostFrame (I : Idna) : Prop :=
  ∀ (u : Url) (b : Bytes) (ns : Bool), { (parseHost {} I u b ns).url with qlog := [] } = { u with qlog := [] }

/-- the shape of the per-state lemmas, for one value of the state override: the invariant `XInv` and the
    well-formedness of the base are additional hypotheses (the invariant is re-established centrally: `XInv_step`),
    the conclusion uses `RRes'`. The lemmas for the nine states from the host state on ask for `YInv` as well
    (`stepSim'_B_all`), so this statement is the hypothesis of the `…_of_sim'` forms and is proved for no `ov`. -/
def StepSim' (I : Idna) (ov : Option Spec.St) : Prop :=
  ∀ (e : Env) (input : Str) (base : Option Spec.SUrl), REnv e input base ov I → EnvOk e →
    ∀ (pi : PS) (ss : Spec.PS), RPS pi ss → XInv e pi →
      RStep' ov.isNone (step e pi) (afterRun input (Spec.run (specIdna I) input base ov ss))

end WhatwgUrl.Proofs.Sim
