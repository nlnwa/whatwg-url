import WhatwgUrl.Proofs.SimStep
/-
  One iteration of the Go machine against one step of the standard's, for the twelve states scheme start, scheme, no
  scheme, special relative or authority, path or authority, relative, relative slash, special authority slashes, special
  authority ignore slashes, authority, file, file slash.

  `RPS` alone is not an invariant under which one iteration of the two machines corresponds (counterexamples: end of
  `SimA.lean`). Each state has one lemma `step_sim2_S`, under the side condition `Loc` (`SimStep.lean`), with the
  conclusion `RStepG (XA …) (DD false)`: both continue in related states and `Loc` with the full buffer clause holds
  again, or both stop with related urls (both fail or both return). From it follow
  * `stepSim'_A`: the twelve states in the shape of `StepSim'` (`SimDefs2.lean`), where `Loc` and `BaseOK base` are derived
    from `RPS`, `XInv`, `REnv`, `EnvOk` (`Loc.of_inv`, `baseOK_of_envOk`); `SimFinal.stepSimG_all` puts it together with
    `stepSim'_B_all` and re-establishes the invariant on the Go side (`XInv_step`, `YInv_step`);
  * the lemmas `step_sim_S` of `SimA.lean`, which carry the local invariant along.
  None of the twelve states calls the host parser: `stepSim'_A` takes the oracle laws (`_hI`) only so that it is called
  like `stepSim'_B_all`.

  What the chain to `SimFinal.lean` uses of a per-state lemma (here and in `SimB2Core.lean`): the hypotheses `RPS` and
  `Loc`; of the conclusion `RStepG X (DD o)`, that continuing pairs are in `RPS` and results in `RRes' (!o)`, the second
  half of `DD o`. The `X` of a continuing pair — here `XA`, for which every `go_any` / `go_ord` call supplies `hlo`, `hbi`,
  `hbase`, `hno`; in `SimB2Core.lean` `P → Extra`, void at `P := False` — and `RResB o`, the first half of `DD o`, are there
  for the kept statements of `SimA.lean` / `SimB.lean` only. Those cannot be had from leaner lemmas (`X := True`,
  `D := RRes' (!o)`) plus a separate preservation lemma without a second pass over the 21 states: they assume the
  standard-side `Extra` alone (nine of the twelve in `SimA.lean` have no condition on the base, which the Go-side
  `XInv_step` needs in the states that consult it), so preservation would have to be proved along `Spec.run` state by
  state; and `RResB true` says more about the two differing leaves than `RRes' false`.
-/
namespace WhatwgUrl.Proofs.Sim.A2
open WhatwgUrl WhatwgUrl.Impl
open WhatwgUrl.Proofs.Percent

/-- what the twelve lemmas re-establish for a continuing pair: `Loc`, and its buffer clause in the stronger form `BufInv`
    of `SimA.lean`'s `Extra` (who uses it: the head of this file) -/
def XA (input : Str) (base : Option Spec.SUrl) (ov : Option Spec.St) (p : PS) (s : Spec.PS) : Prop :=
  Loc input base ov p s ∧ BufInv p.state s

section
variable {input : Str} {base : Option Spec.SUrl} {ov : Option Spec.St}

/-- `Go.go` with the clauses of `RPS` and of the side condition for the target state `st`, each of which computes to a
    statement about the fields once `st` is a constructor -/
theorem go_any {st : State} {p : Int} {ev : Bool} {buf : Bytes} {a b w : Bool} {u : Url} {sbuf : Str} {us : Spec.SUrl}
    (hev : ev = false) (hlo : -1 ≤ p) (hhi : p < (input.length : Int))
    (hbuf : RBuf st (Spec.isSpecialScheme us.scheme) buf ⟨stateMap st, p + 1, sbuf, a, b, w, us⟩)
    (hurl : RUrl (viewUrl ⟨st, p, false, buf, a, b, w, u⟩) us)
    (hfrag : st = .fragment → u.fragment ≠ none) (hopq : st = .opaquePath → u.path = ⟨[buf], true⟩)
    (hqry : st = .query → u.query ≠ none)
    (hbi : BufInv st ⟨stateMap st, p + 1, sbuf, a, b, w, us⟩)
    (hbase : relSt st = true → ∃ b, base = some b ∧ b.hasOpaquePath = false)
    (hno : NoOpq ov st ⟨stateMap st, p + 1, sbuf, a, b, w, us⟩) :
    Go input (XA input base ov) (DD false) ⟨st, p, ev, buf, a, b, w, u⟩ ⟨stateMap st, p, sbuf, a, b, w, us⟩ :=
  Go.go hev hhi ⟨rfl, rfl, rfl, rfl, rfl, rfl, hbuf, hurl, hfrag, hopq, hqry⟩
    ⟨⟨by dsimp only; omega, by dsimp only; omega, .of hbi, hbase, hno⟩, hbi⟩

theorem go_ord {st : State} {p : Int} {ev : Bool} {buf : Bytes} {a b w : Bool} {u : Url} {sbuf : Str} {us : Spec.SUrl}
    (hev : ev = false) (hord : opqSt st = false) (hlo : -1 ≤ p) (hhi : p < (input.length : Int))
    (hbuf : buf = utf8 sbuf) (hurl : RUrl u us)
    (hbi : BufInv st ⟨stateMap st, p + 1, sbuf, a, b, w, us⟩)
    (hbase : relSt st = true → ∃ b, base = some b ∧ b.hasOpaquePath = false)
    (hno : NoOpq ov st ⟨stateMap st, p + 1, sbuf, a, b, w, us⟩) :
    Go input (XA input base ov) (DD false) ⟨st, p, ev, buf, a, b, w, u⟩ ⟨stateMap st, p, sbuf, a, b, w, us⟩ := by
  cases st <;> first
    | exact go_any hev hlo hhi hbuf hurl nofun nofun nofun hbi hbase hno
    | cases hord

end

theorem step_sim2_schemeStart (I : Idna) (e : Env) (input : Str)
    (base : Option Spec.SUrl) (ov : Option Spec.St)
    (hE : REnv e input base ov I) (pi : PS) (ss : Spec.PS) (h : RPS pi ss) (hx : Loc input base ov pi ss)
    (hs : pi.state = .schemeStart) :
    RStepG (XA input base ov) (DD false) (step e pi) (afterRun input (Spec.run (specIdna I) input base ov ss)) := by
  obtain rfl := hE.ov
  obtain ⟨hbuf, hurl⟩ := h.ord (by rw [hs]; rfl)
  have hbi : ss.buffer = [] := hx.buf_at hs
  have hno := hx.nopq_at hs
  refine step_sim_open hE h hx hs fun hcfg hlo hhi hlt hge => ?_
  dsimp only [body, stateMap]; unfold Spec.run; dsimp only
  generalize Spec.cAt input ss.pointer = c at hlt hge ⊢
  -- without a state override: rewind, on to the no scheme state; with one: failure
  have hrest : ShS (Go input (XA input base (e.ov.map stateMap)) (DD false)) (DD false)
      (if e.ov.isNone = true then
        .cont ⟨.noScheme, ss.pointer - 1, false, utf8 ss.buffer, ss.atSignSeen, ss.insideBrackets, ss.passwordTokenSeen, pi.url⟩
       else .done ⟨pi.url, .err ⟨.InvalidURLUnit, true⟩ false⟩)
      (if e.ov.isNone = true then
        .cont ⟨.noScheme, ss.pointer - 1, ss.buffer, ss.atSignSeen, ss.insideBrackets, ss.passwordTokenSeen, ss.url⟩
       else .failure ss.url) :=
    (ShS_ite _ _ _ _ _).2 ⟨fun h2 => (ShS_cont _ _).2 <| go_ord rfl rfl (by omega) (by omega) rfl hurl hbi nofun
      (hno (by rw [Option.isNone_map]; exact h2)), fun _ => DD_fail hurl⟩
  cases c with
  | none =>
    simp only [stSchemeStart, hbuf, Option.getD_none, Machine.repl_class.1, Bool.false_eq_true, if_false, Option.isNone_map,
      herr_fatal e hcfg, rewindLast]
    exact hrest
  | some ch =>
    have hlt' := hlt rfl
    simp only [stSchemeStart, hbuf, Option.getD_some, Option.isNone_some, Option.isNone_map, herr_fatal e hcfg, writeRune,
      rewindLast, ShS_ite, ShS_cont]
    exact ⟨fun _ => go_ord rfl rfl (by omega) hlt' (by rw [utf8_append, utf8_singleton]) hurl trivial nofun hno,
      fun _ => (ShS_ite _ _ _ _ _).1 hrest⟩

theorem step_sim2_pathOrAuthority (I : Idna) (e : Env) (input : Str)
    (base : Option Spec.SUrl) (ov : Option Spec.St)
    (hE : REnv e input base ov I) (pi : PS) (ss : Spec.PS) (h : RPS pi ss) (hx : Loc input base ov pi ss)
    (hs : pi.state = .pathOrAuthority) :
    RStepG (XA input base ov) (DD false) (step e pi) (afterRun input (Spec.run (specIdna I) input base ov ss)) := by
  obtain ⟨hbuf, hurl⟩ := h.ord (by rw [hs]; rfl)
  have hbi : ss.buffer = [] := hx.buf_at hs
  have hno := hx.nopq_at hs
  refine step_sim_open hE h hx hs fun _ hlo hhi hlt hge => ?_
  dsimp only [body, stateMap]; unfold Spec.run; dsimp only
  generalize Spec.cAt input ss.pointer = c at hlt hge ⊢
  simp only [stPathOrAuthority, hbuf, getD_repl_beq _ '/' rfl, rewindLast, ShS_ite, ShS_cont]
  refine ⟨fun h1 => ?_, fun _ => go_ord rfl rfl (by omega) (by omega) rfl hurl trivial nofun hno⟩
  have hn := isNone_of_isC h1
  have hlt' := hlt hn
  exact go_ord hn rfl (by omega) hlt' rfl hurl (by rw [hbi]; show (0 : Int) ≤ ss.pointer + 1; omega) nofun hno

theorem step_sim2_specialAuthorityIgnoreSlashes (I : Idna) (e : Env) (input : Str)
    (base : Option Spec.SUrl) (ov : Option Spec.St)
    (hE : REnv e input base ov I) (pi : PS) (ss : Spec.PS) (h : RPS pi ss) (hx : Loc input base ov pi ss)
    (hs : pi.state = .specialAuthorityIgnoreSlashes) :
    RStepG (XA input base ov) (DD false) (step e pi) (afterRun input (Spec.run (specIdna I) input base ov ss)) := by
  obtain ⟨hbuf, hurl⟩ := h.ord (by rw [hs]; rfl)
  have hbi : ss.buffer = [] := hx.buf_at hs
  have hno := hx.nopq_at hs
  refine step_sim_open hE h hx hs fun hcfg hlo hhi hlt hge => ?_
  dsimp only [body, stateMap]; unfold Spec.run; dsimp only
  generalize Spec.cAt input ss.pointer = c at hlt hge ⊢
  simp only [stSpecialAuthorityIgnoreSlashes, hbuf, getD_repl_bne _ '/' rfl, getD_repl_bne _ '\\' rfl, herr_nonfatal e hcfg,
    rewindLast, ShS_ite, ShS_cont]
  refine ⟨fun _ => go_ord rfl rfl (by omega) (by omega) rfl hurl
    (by rw [hbi]; show (0 : Int) ≤ ss.pointer - 1 + 1; omega) nofun hno, fun h1 => ?_⟩
  have hn : c.isNone = false := by cases c <;> simp_all
  have hlt' := hlt hn
  exact go_ord hn rfl (by omega) hlt' rfl hurl hbi nofun hno

/-- the special authority slashes and special relative or authority states run the same code: at two slashes on to the
    special authority ignore slashes state past both, else a rewind -/
private theorem step_sim2_slashes (I : Idna) (e : Env) (input : Str) (base : Option Spec.SUrl) (ov : Option Spec.St)
    (hE : REnv e input base ov I) (pi : PS) (ss : Spec.PS) (h : RPS pi ss) (hx : Loc input base ov pi ss) {S : State}
    (hS : S = .specialAuthoritySlashes ∨ S = .specialRelativeOrAuthority) (hs : pi.state = S) :
    RStepG (XA input base ov) (DD false) (step e pi) (afterRun input (Spec.run (specIdna I) input base ov ss)) := by
  have hru := hE.runes
  rcases hS with rfl | rfl <;>
  · obtain ⟨hbuf, hurl⟩ := h.ord (by rw [hs]; rfl)
    have hbi : ss.buffer = [] := hx.buf_at hs
    have hno := hx.nopq_at hs
    refine step_sim_open hE h hx hs fun hcfg hlo hhi hlt hge => ?_
    dsimp only [body, stateMap]; unfold Spec.run; dsimp only
    generalize Spec.cAt input ss.pointer = c at hlt hge ⊢
    simp only [stSpecialAuthoritySlashes, stSpecialRelativeOrAuthority, hbuf, hru, getD_repl_beq _ '/' rfl,
      remainingStartsWith_singleton, isC_and_not_isNone, herr_nonfatal e hcfg, rewindLast, ShS_ite, ShS_cont]
    -- the relative state (entered from the second of the two) needs the base, which the second has
    refine ⟨fun h1 => ?_, fun _ => go_ord rfl rfl (by omega) (by omega) rfl hurl hbi
      (fun hn => hx.base_at hs (by revert hn; decide)) hno⟩
    -- two slashes: the extra `next` succeeds
    obtain ⟨hn2, hlt2⟩ := next_of_remaining input
      ⟨pi.state, ss.pointer, c.isNone, utf8 ss.buffer, ss.atSignSeen, ss.insideBrackets, ss.passwordTokenSeen, pi.url⟩
      '/' (by dsimp only; omega) (Bool.and_eq_true _ _ ▸ h1).2
    rw [hs] at hn2
    rw [hn2]
    dsimp only at hlt2 ⊢
    exact go_ord (isNone_of_isC (Bool.and_eq_true _ _ ▸ h1).1) rfl (by omega) hlt2 rfl hurl hbi nofun hno

theorem step_sim2_specialAuthoritySlashes (I : Idna) (e : Env) (input : Str)
    (base : Option Spec.SUrl) (ov : Option Spec.St)
    (hE : REnv e input base ov I) (pi : PS) (ss : Spec.PS) (h : RPS pi ss) (hx : Loc input base ov pi ss)
    (hs : pi.state = .specialAuthoritySlashes) :
    RStepG (XA input base ov) (DD false) (step e pi) (afterRun input (Spec.run (specIdna I) input base ov ss)) :=
  step_sim2_slashes I e input base ov hE pi ss h hx (Or.inl rfl) hs

theorem step_sim2_specialRelativeOrAuthority (I : Idna) (e : Env) (input : Str)
    (base : Option Spec.SUrl) (ov : Option Spec.St)
    (hE : REnv e input base ov I) (pi : PS) (ss : Spec.PS) (h : RPS pi ss) (hx : Loc input base ov pi ss)
    (hs : pi.state = .specialRelativeOrAuthority) :
    RStepG (XA input base ov) (DD false) (step e pi) (afterRun input (Spec.run (specIdna I) input base ov ss)) :=
  step_sim2_slashes I e input base ov hE pi ss h hx (Or.inr rfl) hs

theorem step_sim2_noScheme (I : Idna) (e : Env) (input : Str)
    (base : Option Spec.SUrl) (ov : Option Spec.St)
    (hE : REnv e input base ov I) (pi : PS) (ss : Spec.PS) (h : RPS pi ss) (hx : Loc input base ov pi ss)
    (hs : pi.state = .noScheme) :
    RStepG (XA input base ov) (DD false) (step e pi) (afterRun input (Spec.run (specIdna I) input base ov ss)) := by
  obtain ⟨hbuf, hurl⟩ := h.ord (by rw [hs]; rfl)
  have hbi : ss.buffer = [] := hx.buf_at hs
  have hno := hx.nopq_at hs
  refine step_sim_open hE h hx hs fun hcfg hlo hhi hlt hge => ?_
  dsimp only [body, stateMap]; unfold Spec.run; dsimp only
  generalize Spec.cAt input ss.pointer = c at hlt hge ⊢
  rcases hE.base_cases with ⟨hb1, rfl⟩ | ⟨bi, bs, hb1, rfl, hb⟩
  · simp only [stNoScheme, hb1, herr_fatal e hcfg, ShS_fail]
    exact DD_fail hurl
  · simp only [stNoScheme, hb1, hbuf, hbi, herr_fatal e hcfg, getD_repl_bne _ '#' rfl, getD_repl_beq _ '#' rfl, hb.opqB,
      hb.scheme, utf8_bne_lit_file, rewindLast, ShS_ite, ShS_cont, ShS_fail]
    refine ⟨fun _ => DD_fail hurl, fun h0 => ⟨fun h1 => ?_, fun h1 => ?_⟩⟩
    · have hn := isNone_of_isC (Bool.and_eq_true _ _ ▸ h1).2
      have hlt' := hlt hn
      exact go_any hn (by omega) hlt' trivial
        ⟨rfl, hurl.username, hurl.password, hurl.host, hurl.port, hb.path, hb.query, rfl⟩
        (fun _ => nofun) nofun nofun trivial nofun trivial
    · have hop : bs.hasOpaquePath = false := by
        cases hq : bs.hasOpaquePath <;> cases hh : Spec.isC c '#' <;> simp_all
      exact ⟨fun _ => go_ord rfl rfl (by omega) (by omega) rfl hurl rfl (fun _ => ⟨bs, rfl, hop⟩) hno,
        fun _ => go_ord rfl rfl (by omega) (by omega) rfl hurl rfl nofun hno⟩

theorem step_sim2_relativeSlash (I : Idna) (e : Env) (input : Str)
    (base : Option Spec.SUrl) (ov : Option Spec.St)
    (hE : REnv e input base ov I) (pi : PS) (ss : Spec.PS) (h : RPS pi ss) (hx : Loc input base ov pi ss)
    (hs : pi.state = .relativeSlash) :
    RStepG (XA input base ov) (DD false) (step e pi) (afterRun input (Spec.run (specIdna I) input base ov ss)) := by
  obtain ⟨hbuf, hurl⟩ := h.ord (by rw [hs]; rfl)
  have hbi : ss.buffer = [] := hx.buf_at hs
  have hno := hx.nopq_at hs
  obtain ⟨b0, hb0, hnb⟩ := hx.base_at hs rfl
  refine step_sim_open hE h hx hs fun hcfg hlo hhi hlt hge => ?_
  dsimp only [body, stateMap]; unfold Spec.run; dsimp only
  generalize Spec.cAt input ss.pointer = c at hlt hge ⊢
  rcases hE.base_cases with ⟨hb1, rfl⟩ | ⟨bi, bs, hb1, rfl, hb⟩
  · cases hb0
  · simp only [stRelativeSlash, hb1, hbuf, herr_nonfatal e hcfg, getD_repl_beq _ '/' rfl, getD_repl_beq _ '\\' rfl, isSp, hcfg,
      hurl.isSp, ite_self, rewindLast, ShS_ite, ShS_cont]
    refine ⟨fun h1 => ?_, fun _ => ⟨fun h2 => ?_, fun _ => ?_⟩⟩
    · have hn : c.isNone = false := by
        simp only [Bool.and_eq_true, Bool.or_eq_true] at h1
        exact h1.2.elim isNone_of_isC isNone_of_isC
      have hlt' := hlt hn
      exact go_ord hn rfl (by omega) hlt' rfl hurl hbi nofun hno
    · have hn := isNone_of_isC h2
      have hlt' := hlt hn
      exact go_ord hn rfl (by omega) hlt' rfl hurl (by rw [hbi]; show (0 : Int) ≤ ss.pointer + 1; omega) nofun hno
    · exact go_ord rfl rfl (by omega) (by omega) rfl
        ⟨hurl.scheme, hb.username, hb.password, hb.host, hb.port, hurl.path, hurl.query, hurl.fragment⟩
        trivial nofun hno

theorem step_sim2_relative (I : Idna) (e : Env) (input : Str)
    (base : Option Spec.SUrl) (ov : Option Spec.St)
    (hE : REnv e input base ov I) (pi : PS) (ss : Spec.PS) (h : RPS pi ss) (hx : Loc input base ov pi ss)
    (hs : pi.state = .relative) :
    RStepG (XA input base ov) (DD false) (step e pi) (afterRun input (Spec.run (specIdna I) input base ov ss)) := by
  obtain ⟨hbuf, hurl⟩ := h.ord (by rw [hs]; rfl)
  have hbi : ss.buffer = [] := hx.buf_at hs
  have hno := hx.nopq_at hs
  obtain ⟨b0, hb0, hnb⟩ := hx.base_at hs rfl
  refine step_sim_open hE h hx hs fun hcfg hlo hhi hlt hge => ?_
  dsimp only [body, stateMap]; unfold Spec.run; dsimp only
  generalize Spec.cAt input ss.pointer = c at hlt hge ⊢
  rcases hE.base_cases with ⟨hb1, rfl⟩ | ⟨bi, bs, hb1, rfl, hb⟩
  · cases hb0
  · injection hb0 with hb0; subst hb0
    simp only [stRelative, hb1, hbuf, hbi, herr_nonfatal e hcfg, getD_repl_beq _ '/' rfl, getD_repl_beq _ '\\' rfl,
      getD_repl_beq _ '?' rfl, getD_repl_beq _ '#' rfl, spBackslash, isSp, hcfg, hb.scheme, isSpecial_utf8,
      Spec.SUrl.isSpecial, optc_isSome, rewindLast, ShS_ite, ShS_cont]
    have hsl : c.isNone = false →
        Go input (XA input (some bs) ov) (DD false)
          ⟨.relativeSlash, ss.pointer, c.isNone, utf8 [], ss.atSignSeen, ss.insideBrackets, ss.passwordTokenSeen,
            { pi.url with scheme := utf8 bs.scheme }⟩
          ⟨.relativeSlash, ss.pointer, [], ss.atSignSeen, ss.insideBrackets, ss.passwordTokenSeen,
            { ss.url with scheme := bs.scheme }⟩ := fun hn =>
      go_ord hn rfl (by omega) (hlt hn) rfl
        ⟨rfl, hurl.username, hurl.password, hurl.host, hurl.port, hurl.path, hurl.query, hurl.fragment⟩ rfl
        (fun _ => ⟨bs, rfl, hnb⟩) hno
    refine ⟨fun h1 => hsl (isNone_of_isC h1), fun _ => ⟨fun h2 => hsl (isNone_of_isC (Bool.and_eq_true _ _ ▸ h2).2),
      fun _ => ⟨fun h3 => ?_, fun _ => ⟨fun h4 => ?_, fun _ => ⟨fun hn => ?_, fun hn => ?_⟩⟩⟩⟩⟩
    · have hn := isNone_of_isC h3
      have hlt' := hlt hn
      exact go_any hn (by omega) hlt' ⟨rfl, rfl⟩
        ⟨rfl, hb.username, hb.password, hb.host, hb.port, hb.path, rfl, hurl.fragment⟩
        nofun nofun (fun _ => nofun) trivial nofun trivial
    · have hn := isNone_of_isC h4
      have hlt' := hlt hn
      exact go_any hn (by omega) hlt' trivial
        ⟨rfl, hb.username, hb.password, hb.host, hb.port, hb.path, hb.query, rfl⟩
        (fun _ => nofun) nofun nofun trivial nofun trivial
    · have hU : RUrl { pi.url with scheme := utf8 bs.scheme, username := bi.username, password := bi.password, host := bi.host, port := bi.port, decodedPort := bi.decodedPort, path := bi.path, query := none }
          { ss.url with scheme := bs.scheme, username := bs.username, password := bs.password, host := bs.host, port := bs.port, path := bs.path, query := none } :=
        ⟨rfl, hb.username, hb.password, hb.host, hb.port, hb.path, rfl, hurl.fragment⟩
      exact go_ord rfl rfl (by omega) (by omega) rfl (shorten_sim hU hnb) trivial nofun (shorten_nopq _ hnb)
    · have hn' : c.isNone = true := by simpa using hn
      simp only [hn']
      exact Go.eof (hge hn') ⟨rfl, hb.username, hb.password, hb.host, hb.port, hb.path, hb.query, hurl.fragment⟩

theorem step_sim2_authority (I : Idna) (e : Env) (input : Str)
    (base : Option Spec.SUrl) (ov : Option Spec.St)
    (hE : REnv e input base ov I) (pi : PS) (ss : Spec.PS) (h : RPS pi ss) (hx : Loc input base ov pi ss)
    (hs : pi.state = .authority) :
    RStepG (XA input base ov) (DD false) (step e pi) (afterRun input (Spec.run (specIdna I) input base ov ss)) := by
  obtain ⟨hbuf, hurl⟩ := h.ord (by rw [hs]; rfl)
  have hbi : (ss.buffer.length : Int) ≤ ss.pointer := hx.buf_at hs
  have hno := hx.nopq_at hs
  refine step_sim_open hE h hx hs fun hcfg hlo hhi hlt hge => ?_
  dsimp only [body, stateMap]; unfold Spec.run; dsimp only
  generalize Spec.cAt input ss.pointer = c at hlt hge ⊢
  simp only [stAuthority, hbuf, herr_nonfatal e hcfg, herr_fatal e hcfg, getD_repl_beq _ '@' rfl, getD_repl_beq _ '/' rfl,
    getD_repl_beq _ '\\' rfl, getD_repl_beq _ '?' rfl, getD_repl_beq _ '#' rfl, spBackslash, isSp, hcfg, hurl.isSp,
    hurl.username, hurl.password, credLoop_buf_sim, utf8_isEmpty, WhatwgUrl.Proofs.Utf8.goRunes_utf8, Bool.or_assoc, rewind,
    writeRune, ShS_ite, ShS_cont, ShS_fail]
  refine ⟨fun h1 => ?_, fun _ => ⟨fun _ => ⟨fun _ => DD_fail hurl, fun _ => ?_⟩, fun h2 => ?_⟩⟩
  · have hn := isNone_of_isC h1
    have hlt' := hlt hn
    exact go_ord hn rfl (by omega) hlt' rfl
      ⟨hurl.scheme, rfl, rfl, hurl.host, hurl.port, hurl.path, hurl.query, hurl.fragment⟩
      (by show (0 : Int) ≤ ss.pointer + 1; omega) nofun hno
  · exact go_ord rfl rfl (by omega) (by omega) rfl hurl trivial nofun (fun _ => hno)
  · have hn : c.isNone = false := by cases c <;> simp_all
    have hlt' := hlt hn
    exact go_ord hn rfl (by omega) hlt' (by rw [getD_of_not_isNone hn ' ', utf8_append, utf8_singleton]) hurl
      (by show ((ss.buffer ++ [c.getD ' ']).length : Int) ≤ ss.pointer + 1
          rw [List.length_append, List.length_singleton]; omega) nofun hno

theorem step_sim2_file (I : Idna) (e : Env) (input : Str)
    (base : Option Spec.SUrl) (ov : Option Spec.St) (hB : BaseOK base)
    (hE : REnv e input base ov I) (pi : PS) (ss : Spec.PS) (h : RPS pi ss) (hx : Loc input base ov pi ss)
    (hs : pi.state = .file) :
    RStepG (XA input base ov) (DD false) (step e pi) (afterRun input (Spec.run (specIdna I) input base ov ss)) := by
  have hru := hE.runes
  obtain ⟨hbuf, hurl⟩ := h.ord (by rw [hs]; rfl)
  have hbi : ss.buffer = [] := hx.buf_at hs
  have hno := hx.nopq_at hs
  refine step_sim_open hE h hx hs fun hcfg hlo hhi hlt hge => ?_
  dsimp only [body, stateMap]; unfold Spec.run; dsimp only
  generalize Spec.cAt input ss.pointer = c at hlt hge ⊢
  have hW := startsWith_rest hge
  have hF : RUrl { pi.url with scheme := lit "file", host := some [] } { ss.url with scheme := "file".toList, host := some [] } :=
    ⟨lit_fileB, hurl.username, hurl.password, rfl, hurl.port, hurl.path, hurl.query, hurl.fragment⟩
  simp only [stFile, hbuf, hbi, herr_nonfatal e hcfg, getD_repl_beq _ '/' rfl, getD_repl_beq _ '\\' rfl, ite_self, ShS_ite,
    ShS_cont]
  refine ⟨fun h1 => ?_, fun _ => ?_⟩
  · have hn : c.isNone = false := (Bool.or_eq_true _ _ ▸ h1).elim isNone_of_isC isNone_of_isC
    have hlt' := hlt hn
    exact go_ord hn rfl (by omega) hlt' rfl hF rfl nofun hno
  -- without a base with scheme "file": rewind, on to the path state
  have hpath := go_ord (input := input) (base := base) (ov := ov) (ev := false) (a := ss.atSignSeen)
    (b := ss.insideBrackets) (w := ss.passwordTokenSeen) rfl (st := .path) rfl (p := ss.pointer - 1) (by omega) (by omega)
    (sbuf := []) rfl hF trivial nofun hno
  rcases hE.base_cases with ⟨hb1, rfl⟩ | ⟨bi, bs, hb1, rfl, hb⟩
  · simp only [hb1, rewindLast, ShS_cont]
    exact hpath
  · simp only [hb1, hb.scheme, utf8_beq_lit_file, getD_repl_beq _ '?' rfl, getD_repl_beq _ '#' rfl, optc_isSome, rewindLast,
      hru, startsWith_remaining, hW, ShS_ite, ShS_cont]
    refine ⟨fun hf => ?_, fun _ => hpath⟩
    have hnb : bs.hasOpaquePath = false := hB bs rfl (by rw [beq_iff_eq.mp hf]; exact isSpecialScheme_file)
    refine ⟨fun hq => ?_, fun _ => ⟨fun hh => ?_, fun _ => ⟨fun hn => ?_, fun hn => ?_⟩⟩⟩
    · have hn := isNone_of_isC hq
      have hlt' := hlt hn
      exact go_any hn (by omega) hlt' ⟨rfl, rfl⟩
        ⟨lit_fileB, hurl.username, hurl.password, hb.host, hurl.port, hb.path, rfl, hurl.fragment⟩
        nofun nofun (fun _ => nofun) trivial nofun trivial
    · have hn := isNone_of_isC hh
      have hlt' := hlt hn
      exact go_any hn (by omega) hlt' trivial
        ⟨lit_fileB, hurl.username, hurl.password, hb.host, hurl.port, hb.path, hb.query, rfl⟩
        (fun _ => nofun) nofun nofun trivial nofun trivial
    · -- the standard computes the url under the `if`, the Go code branches
      cases hw : Spec.startsWithWindowsDriveLetter (List.drop ss.pointer.toNat input) <;>
        simp only [Bool.not_false, Bool.not_true, Bool.false_eq_true, if_true, if_false, ShS_cont]
      · have hU : RUrl { pi.url with scheme := lit "file", host := bi.host, path := bi.path, query := none }
            { ss.url with scheme := "file".toList, host := bs.host, path := bs.path, query := none } :=
          ⟨lit_fileB, hurl.username, hurl.password, hb.host, hurl.port, hb.path, rfl, hurl.fragment⟩
        exact go_ord rfl rfl (by omega) (by omega) rfl (shorten_sim hU hnb) trivial nofun (shorten_nopq _ hnb)
      · exact go_ord rfl rfl (by omega) (by omega) rfl
          ⟨lit_fileB, hurl.username, hurl.password, hb.host, hurl.port, ⟨rfl, rfl⟩, rfl, hurl.fragment⟩ trivial nofun rfl
    · have hn' : c.isNone = true := by simpa using hn
      simp only [hn']
      exact Go.eof (hge hn') ⟨lit_fileB, hurl.username, hurl.password, hb.host, hurl.port, hb.path, hb.query, hurl.fragment⟩

theorem step_sim2_fileSlash (I : Idna) (e : Env) (input : Str)
    (base : Option Spec.SUrl) (ov : Option Spec.St) (hB : BaseOK base)
    (hE : REnv e input base ov I) (pi : PS) (ss : Spec.PS) (h : RPS pi ss) (hx : Loc input base ov pi ss)
    (hs : pi.state = .fileSlash) :
    RStepG (XA input base ov) (DD false) (step e pi) (afterRun input (Spec.run (specIdna I) input base ov ss)) := by
  have hru := hE.runes
  obtain ⟨hbuf, hurl⟩ := h.ord (by rw [hs]; rfl)
  have hno : ss.url.hasOpaquePath = false := hx.nopq_at hs
  refine step_sim_open hE h hx hs fun hcfg hlo hhi hlt hge => ?_
  dsimp only [body, stateMap]; unfold Spec.run; dsimp only
  generalize Spec.cAt input ss.pointer = c at hlt hge ⊢
  have hW := startsWith_rest hge
  simp only [stFileSlash, hbuf, herr_nonfatal e hcfg, getD_repl_beq _ '/' rfl, getD_repl_beq _ '\\' rfl, ite_self, ShS_ite,
    ShS_cont]
  refine ⟨fun h1 => ?_, fun _ => ?_⟩
  · have hn : c.isNone = false := (Bool.or_eq_true _ _ ▸ h1).elim isNone_of_isC isNone_of_isC
    have hlt' := hlt hn
    exact go_ord hn rfl (by omega) hlt' rfl hurl trivial nofun (fun _ => hno)
  -- rewind, on to the path state, with the url `u` the base leaves
  have hpath : ∀ {u : Url} {us : Spec.SUrl}, RUrl u us → us.hasOpaquePath = false →
      Go input (XA input base ov) (DD false)
        ⟨.path, ss.pointer - 1, false, utf8 ss.buffer, ss.atSignSeen, ss.insideBrackets, ss.passwordTokenSeen, u⟩
        ⟨.path, ss.pointer - 1, ss.buffer, ss.atSignSeen, ss.insideBrackets, ss.passwordTokenSeen, us⟩ := fun hu ho =>
    go_ord rfl rfl (by omega) (by omega) rfl hu trivial nofun ho
  rcases hE.base_cases with ⟨hb1, rfl⟩ | ⟨bi, bs, hb1, rfl, hb⟩
  · simp only [hb1, rewindLast]
    exact hpath hurl hno
  · have hH : RUrl { pi.url with host := bi.host } { ss.url with host := bs.host } :=
      ⟨hurl.scheme, hurl.username, hurl.password, hb.host, hurl.port, hurl.path, hurl.query, hurl.fragment⟩
    simp only [hb1, hb.scheme, utf8_beq_lit_file, rewindLast]
    by_cases hf : (bs.scheme == "file".toList) = true
    · have hnb : bs.hasOpaquePath = false := hB bs rfl (by rw [beq_iff_eq.mp hf]; exact isSpecialScheme_file)
      obtain ⟨l, hl1, hl2⟩ := hb.list hnb
      obtain ⟨l', hl1', hl2'⟩ := hurl.list hno
      simp only [hf, if_true, hru, startsWith_remaining, hW, hl2, Spec.pathList, hl1, List.isEmpty_map, headD_map_utf8,
        isNDL_utf8]
      cases hw : Spec.startsWithWindowsDriveLetter (List.drop ss.pointer.toNat input)
      · cases l with
        | nil =>
          simp only [List.isEmpty_nil, Bool.not_true, Bool.and_false, Bool.false_and, Bool.false_eq_true, if_false,
            List.head?_nil]
          exact hpath hH hno
        | cons a t =>
          simp only [List.isEmpty_cons, Bool.not_false, Bool.true_and, List.head?_cons, List.headD_cons]
          cases hd : Spec.isNormalizedWindowsDriveLetter a
          · simp only [Bool.false_eq_true, if_false]
            exact hpath hH hno
          · simp only [if_true, Spec.pathAppend, hl1', Path.addSegment, hl2']
            exact hpath ⟨hurl.scheme, hurl.username, hurl.password, hb.host, hurl.port,
              ⟨rfl, (List.map_append (f := utf8) (l₁ := l') (l₂ := [a])).symm⟩, hurl.query, hurl.fragment⟩ rfl
      · simp only [Bool.not_true, Bool.false_and, Bool.false_eq_true, if_false]
        exact hpath hH hno
    · simp only [hf, Bool.false_eq_true, if_false]
      exact hpath hurl hno

theorem step_sim2_scheme (I : Idna) (e : Env) (input : Str)
    (base : Option Spec.SUrl) (ov : Option Spec.St) (hB : BaseOK base)
    (hE : REnv e input base ov I) (pi : PS) (ss : Spec.PS) (h : RPS pi ss) (hx : Loc input base ov pi ss)
    (hs : pi.state = .scheme) :
    RStepG (XA input base ov) (DD false) (step e pi) (afterRun input (Spec.run (specIdna I) input base ov ss)) := by
  obtain rfl := hE.ov
  have hru := hE.runes
  obtain ⟨hbuf, hurl⟩ := h.ord (by rw [hs]; rfl)
  have hno := hx.nopq_at hs
  refine step_sim_open hE h hx hs fun hcfg hlo hhi hlt hge => ?_
  dsimp only [body, stateMap]; unfold Spec.run; dsimp only
  generalize Spec.cAt input ss.pointer = c at hlt hge ⊢
  generalize ss.buffer = sbuf at hbuf ⊢
  have hU : RUrl { pi.url with scheme := utf8 sbuf } { ss.url with scheme := sbuf } :=
    ⟨rfl, hurl.username, hurl.password, hurl.host, hurl.port, hurl.path, hurl.query, hurl.fragment⟩
  -- neither a scheme character nor `:`; without a state override: start over in the no scheme state
  have hrest : ShS (Go input (XA input base (e.ov.map stateMap)) (DD false)) (DD false)
      (if e.ov.isNone = true then
        .cont ⟨.noScheme, -1, false, [], ss.atSignSeen, ss.insideBrackets, ss.passwordTokenSeen, pi.url⟩
       else .done ⟨pi.url, .err ⟨.InvalidURLUnit, true⟩ false⟩)
      (if e.ov.isNone = true then
        .cont ⟨.noScheme, -1, [], ss.atSignSeen, ss.insideBrackets, ss.passwordTokenSeen, ss.url⟩
       else .failure ss.url) :=
    (ShS_ite _ _ _ _ _).2 ⟨fun h3 => (ShS_cont _ _).2 <| go_ord rfl rfl (by omega) (by omega) rfl hurl rfl nofun
      (hno (by rw [Option.isNone_map]; exact h3)), fun _ => DD_fail hurl⟩
  simp only [stScheme, hbuf, herr_nonfatal e hcfg, herr_fatal e hcfg, retUrl, hcfg, hru, Option.isSome_map,
    Option.isNone_map, ite_self, writeRune, resetInput, getD_repl_beq _ '+' rfl, getD_repl_beq _ '-' rfl,
    getD_repl_beq _ '.' rfl, getD_repl_beq _ ':' rfl]
  cases c with
  | none =>
    simp only [Option.getD_none, Machine.repl_class.2.1, isC_none, Bool.or_self, Bool.false_eq_true, if_false]
    exact hrest
  | some ch =>
    have hlt' := hlt rfl
    simp only [Option.getD_some, isC_some, Option.isNone_some, ShS_ite, ShS_cont]
    refine ⟨fun _ => go_ord rfl rfl (by omega) hlt' (by rw [utf8_append, utf8_singleton]) hurl trivial nofun hno,
      fun _ => ⟨fun _ => ?_, fun _ => (ShS_ite _ _ _ _ _).1 hrest⟩⟩
    cases hov : e.ov with
    | some o =>
      -- under a state override the state returns: four tests on the Go side, three in the standard
      have hh : (pi.url.host == some []) = (ss.url.host == some []) := by rw [hurl.host, optmap_utf8_beq_some_nil]
      have hsc : (pi.url.scheme == lit "file") = (ss.url.scheme == "file".toList) := by rw [hurl.scheme, utf8_beq_lit_file]
      have hm4 : ∀ A B X : Bool, (A && !B || (!A && B || X)) = ((A != B) || X) := by
        intro A B X; cases A <;> cases B <;> rfl
      simp only [Option.isSome_some, Bool.true_and, ite_or_merge, hurl.isSp, isSpecial_utf8, hm4, hurl.includesCredentials,
        RPort.isSome hurl.port, utf8_beq_lit_file, hh, hsc, Spec.SUrl.isSpecial, if_true, ShS_ite, ShS_ret]
      exact ⟨fun _ => DD_url hurl, fun _ => DD_url (cleanDefaultPort_sim hU)⟩
    | none =>
      have hno' : ss.url.hasOpaquePath = false := hno (by rw [hov]; rfl)
      simp only [Option.isSome_none, Bool.false_and, Bool.false_eq_true, if_false, isSp, hcfg, isSpecial_utf8,
        utf8_beq_lit_file, Spec.SUrl.isSpecial, remainingStartsWith_singleton, Bool.not_false,
        Bool.true_and, ShS_ite, ShS_cont]
      refine ⟨fun _ => go_ord rfl rfl (by omega) hlt' rfl hU rfl nofun hno', fun _ => ?_⟩
      -- "same scheme as the base": a `match` on each side's base, so the two tests are split one by one
      refine (ShS_ite_left _ _ _ _).2 ⟨fun hI => ?_, fun hI => ?_⟩ <;>
        refine (ShS_ite_right _ _ _ _).2 ⟨fun hS => ?_, fun hS => ?_⟩
      · rcases hE.base_cases with ⟨hb1, rfl⟩ | ⟨bi, bs, hb1, rfl, hb⟩
        · simp at hS
        · have hnb : bs.hasOpaquePath = false := by
            simp only [Bool.and_eq_true, beq_iff_eq] at hS
            exact hB bs rfl (by rw [hS.2]; exact hS.1)
          exact go_ord rfl rfl (by omega) hlt' rfl hU rfl (fun _ => ⟨bs, rfl, hnb⟩) hno'
      -- the two tests agree
      iterate 2
        rcases hE.base_cases with ⟨hb1, rfl⟩ | ⟨bi, bs, hb1, rfl, hb⟩
        · simp_all
        · have := hb.scheme; simp_all [utf8_eq_iffB]
      · refine (ShS_ite _ _ _ _ _).2 ⟨fun _ => go_ord rfl rfl (by omega) hlt' rfl hU rfl nofun hno', fun _ =>
          (ShS_ite _ _ _ _ _).2 ⟨fun h6 => ?_, fun _ => ?_⟩⟩
        · obtain ⟨hn2, hlt2⟩ := next_of_remaining input
            ⟨.scheme, ss.pointer, false, [], ss.atSignSeen, ss.insideBrackets, ss.passwordTokenSeen,
              { pi.url with scheme := utf8 sbuf }⟩ '/' (by dsimp only; omega) h6
          rw [hn2]
          dsimp only at hlt2 ⊢
          exact go_ord rfl rfl (by omega) hlt2 rfl hU rfl nofun hno'
        · exact go_any rfl (by omega) hlt' rfl
            ⟨rfl, hurl.username, hurl.password, hurl.host, hurl.port, ⟨rfl, rfl⟩, hurl.query, hurl.fragment⟩
            nofun (fun _ => rfl) nofun trivial nofun trivial

def _root_.WhatwgUrl.Proofs.Sim.stA : State → Bool
  | .schemeStart | .scheme | .noScheme | .specialRelativeOrAuthority | .pathOrAuthority | .relative | .relativeSlash
  | .specialAuthoritySlashes | .specialAuthorityIgnoreSlashes | .authority | .file | .fileSlash => true
  | _ => false

/-- `BaseOK base` from `EnvOk e` and `REnv.base` (`RUrl` transports "special ⇒ list path") -/
theorem baseOK_of_envOk {e : Env} {input : Str} {base : Option Spec.SUrl} {ov : Option Spec.St} {I : Idna}
    (hE : REnv e input base ov I) (hOk : EnvOk e) : BaseOK base := by
  intro b hb hsp
  rcases hE.base_cases with ⟨_, rfl⟩ | ⟨bi, bs, hb1, rfl, hr⟩
  · cases hb
  · injection hb with hb; subst hb
    have h1 := hOk bi hb1
    unfold BaseOk at h1
    rw [hE.cfg, hr.isSp, hr.opqB] at h1
    exact h1 hsp

end WhatwgUrl.Proofs.Sim.A2

namespace WhatwgUrl.Proofs.Sim
open WhatwgUrl WhatwgUrl.Impl

/-- `StepSim' I ov` restricted to the twelve states of `stA`. The oracle laws are not used (none of the twelve states
    calls the host parser), and `YInv` is not asked for (no port buffer yet), unlike in `stepSim'_B_all`. -/
theorem stepSim'_A (I : Idna) (_hI : IdnaLaws I) (ov : Option Spec.St) (e : Env) (input : Str) (base : Option Spec.SUrl)
    (hE : REnv e input base ov I) (hOk : EnvOk e) (pi : PS) (ss : Spec.PS) (h : RPS pi ss) (hx : XInv e pi)
    (hs : stA pi.state = true) :
    RStep' ov.isNone (step e pi) (afterRun input (Spec.run (specIdna I) input base ov ss)) := by
  have hX : Loc input base ov pi ss := Loc.of_inv hE h hx (fun hp => by rw [hp] at hs; cases hs)
  have hB := A2.baseOK_of_envOk hE hOk
  cases hst : pi.state <;> rw [hst] at hs <;> simp only [stA, Bool.false_eq_true] at hs
  · exact (A2.step_sim2_schemeStart I e input base ov hE pi ss h hX hst).rstep'_any _
  · exact (A2.step_sim2_scheme I e input base ov hB hE pi ss h hX hst).rstep'_any _
  · exact (A2.step_sim2_noScheme I e input base ov hE pi ss h hX hst).rstep'_any _
  · exact (A2.step_sim2_specialRelativeOrAuthority I e input base ov hE pi ss h hX hst).rstep'_any _
  · exact (A2.step_sim2_specialAuthoritySlashes I e input base ov hE pi ss h hX hst).rstep'_any _
  · exact (A2.step_sim2_specialAuthorityIgnoreSlashes I e input base ov hE pi ss h hX hst).rstep'_any _
  · exact (A2.step_sim2_pathOrAuthority I e input base ov hE pi ss h hX hst).rstep'_any _
  · exact (A2.step_sim2_authority I e input base ov hE pi ss h hX hst).rstep'_any _
  · exact (A2.step_sim2_file I e input base ov hB hE pi ss h hX hst).rstep'_any _
  · exact (A2.step_sim2_fileSlash I e input base ov hB hE pi ss h hX hst).rstep'_any _
  · exact (A2.step_sim2_relative I e input base ov hE pi ss h hX hst).rstep'_any _
  · exact (A2.step_sim2_relativeSlash I e input base ov hE pi ss h hX hst).rstep'_any _

/-- `stA` spelled out (a statement kept for its own sake: nothing calls it) -/
theorem stA_iff (s : State) : stA s = true ↔
    s = .schemeStart ∨ s = .scheme ∨ s = .noScheme ∨ s = .specialRelativeOrAuthority ∨ s = .pathOrAuthority ∨
    s = .relative ∨ s = .relativeSlash ∨ s = .specialAuthoritySlashes ∨ s = .specialAuthorityIgnoreSlashes ∨
    s = .authority ∨ s = .file ∨ s = .fileSlash := by
  cases s <;> simp [stA]

/-! ### non-vacuity

  A one-code-point input, the empty url record as base, the machine at its first iteration in state `S`, with `EnvOk`
  and `XInv`. (`IdnaLaws I` is a parameter here; `SimA2Check.lean` supplies the oracle `I0` of `SimHost.lean`.) -/
namespace A2

def wEnv (I : Idna) : Env := { cfg := {}, I := I, src := lit "a", runes := ['a'], base := some {}, ov := none }
def wPS (S : State) : PS := ⟨S, -1, false, [], false, false, false, {}⟩
def wSS (S : State) : Spec.PS := { state := stateMap S, url := {} }

theorem witness_ok2 (I : Idna) (S : State) (hS : stA S = true) :
    REnv (wEnv I) ['a'] (some {}) none I ∧ EnvOk (wEnv I) ∧ RPS (wPS S) (wSS S) ∧ XInv (wEnv I) (wPS S) ∧
    stA (wPS S).state = true := by
  refine ⟨⟨rfl, rfl, rfl, (by show goRunes (lit "a") = ['a']; decide), RUrl_empty, rfl⟩, ?_, ?_, ?_, hS⟩
  · intro b hb _
    have : b = {} := by
      have : some ({} : Url) = some b := hb
      injection this with this; exact this.symm
    subst this; rfl
  · exact RPS_init S {} {} RUrl_empty (by rintro rfl; cases hS) (by rintro rfl; cases hS) (by rintro rfl; cases hS)
  · refine ⟨by show (-1 : Int) < ((['a'] : Str).length : Int); decide, ⟨Int.le_refl _, ?_, fun _ => rfl, ?_, ?_⟩⟩
    · intro _; show ((goRunes []).length : Int) ≤ -1 + 1; decide
    · intro _; exact ⟨{}, rfl, rfl⟩
    · intro h; cases h

/-- the theorem applies to the witness in each of the twelve states (every hypothesis is satisfiable) -/
example (I : Idna) (hI : IdnaLaws I) (S : State) (hS : stA S = true) :
    RStep' true (step (wEnv I) (wPS S)) (afterRun ['a'] (Spec.run (specIdna I) ['a'] (some {}) none (wSS S))) :=
  have w := witness_ok2 I S hS
  stepSim'_A I hI none _ _ _ w.1 w.2.1 _ _ w.2.2.1 w.2.2.2.1 w.2.2.2.2

example : stA .schemeStart = true ∧ stA .scheme = true ∧ stA .noScheme = true ∧ stA .specialRelativeOrAuthority = true ∧
    stA .pathOrAuthority = true ∧ stA .relative = true ∧ stA .relativeSlash = true ∧ stA .specialAuthoritySlashes = true ∧
    stA .specialAuthorityIgnoreSlashes = true ∧ stA .authority = true ∧ stA .file = true ∧ stA .fileSlash = true ∧
    stA .host = false ∧ stA .hostname = false ∧ stA .port = false ∧ stA .fileHost = false ∧ stA .pathStart = false ∧
    stA .path = false ∧ stA .opaquePath = false ∧ stA .query = false ∧ stA .fragment = false := by decide

/-- the witness environment without a base -/
def wEnvNB (I : Idna) : Env := { cfg := {}, I := I, src := lit "a", runes := ['a'], base := none, ov := none }

/-- a failure leaf is really exercised, and there the clause of `RRes'` that the urls correspond has content:
    no-scheme state without a base — Go returns `MissingSchemeNonRelativeURL` with the url record as it is -/
example (I : Idna) : step (wEnvNB I) (wPS .noScheme) = .done ⟨{}, .err ⟨.MissingSchemeNonRelativeURL, true⟩ false⟩ ∧
    afterRun ['a'] (Spec.run (specIdna I) ['a'] none none (wSS .noScheme)) = .stop ({}, true) := by
  constructor <;> rfl

theorem wXInvNB (I : Idna) : XInv (wEnvNB I) (wPS .noScheme) := by
  refine ⟨by show (-1 : Int) < ((['a'] : Str).length : Int); decide, ⟨Int.le_refl _, ?_, fun _ => rfl, ?_, ?_⟩⟩
  · intro h; cases h
  · intro h; cases h
  · intro h; cases h

example (I : Idna) (hI : IdnaLaws I) :
    RStep' true (step (wEnvNB I) (wPS .noScheme)) (afterRun ['a'] (Spec.run (specIdna I) ['a'] none none (wSS .noScheme))) :=
  stepSim'_A I hI none (wEnvNB I) ['a'] none
    ⟨rfl, rfl, rfl, (by show goRunes (lit "a") = ['a']; decide), trivial, rfl⟩ (fun b hb => by cases hb)
    _ _ (witness_ok2 I .noScheme rfl).2.2.1 (wXInvNB I) rfl

end A2
end WhatwgUrl.Proofs.Sim

open WhatwgUrl.Proofs.Sim in
#print axioms stepSim'_A
open WhatwgUrl.Proofs.Sim in
#print axioms A2.baseOK_of_envOk
