import WhatwgUrl.Proofs.SpExactB
/-
  C11b, the `→` direction by two counting arguments: bytes ≥ 0x80 never disappear in the parser, so ill-formed input
  cannot come back; lengths never grow, so no `&`.
-/
namespace WhatwgUrl.Proofs.SpExact
open WhatwgUrl WhatwgUrl.Impl
open WhatwgUrl.Proofs.SkipEquals (parseSeq spInit_eq)
open WhatwgUrl.Proofs.Percent (decodePercent_default)

def hi (x : UInt8) : Bool := decide (0x80 ≤ x.toNat)
/-- number of bytes ≥ 0x80 -/
def H (s : Bytes) : Nat := s.countP hi
/-- 1 if the string contains `=` -/
def I (s : Bytes) : Nat := if 0x3d ∈ s then 1 else 0

theorem H_nil : H [] = 0 := rfl
theorem H_cons (x : UInt8) (t : Bytes) : H (x :: t) = H t + (if hi x = true then 1 else 0) := by
  simp [H, List.countP_cons]
theorem H_append (a b : Bytes) : H (a ++ b) = H a + H b := by simp [H, List.countP_append]

theorem hex_not_hi (x : UInt8) (h : isHexN x.toNat = true) : hi x = false := by
  simp [isHexN, isDigitN] at h
  simp [hi]
  omega

theorem H_PD (s : Bytes) : H s ≤ H (PD s) := by
  simp only [PD]
  induction s using Percent.esc_induction with
  | nil => simp
  | esc h1 h2 r a b ih =>
    have e1 : hi 0x25 = false := by decide
    rw [Percent.percentDecode_esc _ _ _ a b]
    simp only [H_cons, e1, hex_not_hi h1 a, hex_not_hi h2 b, Bool.false_eq_true, ↓reduceIte] at ih ⊢
    omega
  | plain x r hx ih => rw [Percent.percentDecode_cons_of_not _ _ hx]; simp only [H_cons] at ih ⊢; omega

theorem H_R (s : Bytes) : H (R s) = H s := by
  induction s with
  | nil => rfl
  | cons x t ih =>
    rw [R_cons, H_cons, H_cons, ih]
    by_cases hx : x = 0x2b
    · subst hx; rfl
    · simp [hx]

theorem splitFirst_spec (q : Bytes) :
    (∃ a b, q = a ++ 0x3d :: b ∧ (∀ x ∈ a, x ≠ 0x3d) ∧ splitFirst 0x3d q = (a, some b)) ∨
    ((∀ x ∈ q, x ≠ 0x3d) ∧ splitFirst 0x3d q = (q, none)) := by
  by_cases h : (0x3d : UInt8) ∈ q
  · obtain ⟨a, b, rfl, ha⟩ := List.eq_append_cons_of_mem h
    have ha' : ∀ x ∈ a, x ≠ 0x3d := fun x hx e => ha (e ▸ hx)
    exact .inl ⟨a, b, rfl, ha', SkipEquals.splitFirst_append_sep 0x3d a b ha'⟩
  · have hq : ∀ x ∈ q, x ≠ 0x3d := fun x hx e => h (e ▸ hx)
    exact .inr ⟨hq, SkipEquals.splitFirst_no_sep 0x3d q hq⟩

theorem I_le_one (s : Bytes) : I s ≤ 1 := by unfold I; split <;> omega

theorem parseSeq_cases (q : Bytes) (hq : q ≠ []) :
    (∃ a b, q = a ++ 0x3d :: b ∧ (∀ x ∈ a, x ≠ 0x3d) ∧ parseSeq Cfg.default q = some (PD (R a), PD (R b))) ∨
    ((∀ x ∈ q, x ≠ 0x3d) ∧ parseSeq Cfg.default q = some (PD (R q), [])) := by
  have hne : q.isEmpty = false := by cases q <;> simp_all
  unfold parseSeq
  simp only [hne, Bool.false_eq_true, ↓reduceIte, decodePercent_default]
  rcases splitFirst_spec q with ⟨a, b, e, ha, hs⟩ | ⟨ha, hs⟩
  · exact .inl ⟨a, b, e, ha, by rw [hs]; rfl⟩
  · exact .inr ⟨ha, by rw [hs]; rfl⟩

/-- what one sequence yields: the bytes ≥ 0x80 are kept, the length does not grow and a `=` is consumed -/
theorem parseSeq_measure (q : Bytes) :
    (q = [] ∧ parseSeq Cfg.default q = none) ∨
    (∃ r, parseSeq Cfg.default q = some r ∧ H q ≤ H r.1 + H r.2 ∧ r.1.length + r.2.length + I q ≤ q.length) := by
  cases q with
  | nil => left; exact ⟨rfl, rfl⟩
  | cons x t =>
    right
    rcases parseSeq_cases (x :: t) (List.cons_ne_nil _ _) with ⟨a, b, e, _, hp⟩ | ⟨ha, hp⟩
    · have h1 := H_PD (R a); have h2 := H_PD (R b); rw [H_R] at h1 h2
      have l1 := PD_length_le (R a); have l2 := PD_length_le (R b); rw [R_length] at l1 l2
      have h3 : hi 0x3d = false := by decide
      have h4 := I_le_one (x :: t)
      refine ⟨(PD (R a), PD (R b)), hp, ?_, ?_⟩
      · show H (x :: t) ≤ H (PD (R a)) + H (PD (R b))
        rw [e]; simp only [H_append, H_cons, h3, Bool.false_eq_true, ↓reduceIte]; omega
      · show (PD (R a)).length + (PD (R b)).length + I (x :: t) ≤ (x :: t).length
        rw [e] at h4 ⊢; simp only [List.length_append, List.length_cons]; omega
    · have h1 := H_PD (R (x :: t)); rw [H_R] at h1
      have l1 := PD_length_le (R (x :: t)); rw [R_length] at l1
      have h3 : I (x :: t) = 0 := by unfold I; rw [if_neg]; intro hm; exact ha _ hm rfl
      exact ⟨(PD (R (x :: t)), []), hp, by show _ ≤ H (PD (R (x :: t))) + H []; rw [H_nil]; omega,
        by show (PD (R (x :: t))).length + ([] : Bytes).length + I (x :: t) ≤ _; rw [h3, List.length_nil]; omega⟩

theorem H_pieces (s : Bytes) : H s = ((splitOn 0x26 s).map H).sum := by
  refine Utf8.splitOn_induction 0x26 (P := fun s l => H s = (l.map H).sum) rfl (fun s ih => ?_) (fun x s h t _ _ ih => ?_) s
  · have : hi 0x26 = false := by decide
    simp [H_cons, ih, this, H_nil]
  · simp only [List.map_cons, List.sum_cons, H_cons] at ih ⊢; omega

theorem L_pieces (s : Bytes) : s.length + 1 = ((splitOn 0x26 s).map (fun q => q.length + 1)).sum := by
  refine Utf8.splitOn_induction 0x26 (P := fun s l => s.length + 1 = (l.map (fun q => q.length + 1)).sum) rfl
    (fun s ih => ?_) (fun x s h t _ _ ih => ?_) s
  all_goals simp only [List.map_cons, List.sum_cons, List.length_cons, List.length_nil] at ih ⊢; omega

theorem I_cons (x : UInt8) (t : Bytes) : I (x :: t) = if x = 0x3d then 1 else I t := by
  unfold I
  by_cases hx : x = 0x3d
  · simp [hx]
  · have : ¬ (0x3d : UInt8) = x := fun e => hx e.symm
    simp [hx, this]

theorem I_pieces (s : Bytes) : I s ≤ ((splitOn 0x26 s).map I).sum := by
  refine Utf8.splitOn_induction 0x26 (P := fun s l => I s ≤ (l.map I).sum) (by simp [I]) (fun s ih => ?_)
    (fun x s h t _ _ ih => ?_) s
  · have : ¬ ((0x26 : UInt8) = 0x3d) := by decide
    simp only [List.map_cons, List.sum_cons, I_cons, if_neg this]; omega
  · simp only [List.map_cons, List.sum_cons, I_cons] at ih ⊢
    have := I_le_one h
    split <;> omega

def pairH (r : Bytes × Bytes) : Nat := H r.1 + H r.2
def pairL (r : Bytes × Bytes) : Nat := r.1.length + r.2.length

theorem pieces_measure (ps : List Bytes) :
    (ps.map H).sum ≤ ((ps.filterMap (parseSeq Cfg.default)).map pairH).sum ∧
    ((ps.filterMap (parseSeq Cfg.default)).map pairL).sum + (ps.map I).sum + ps.length ≤
      (ps.map (fun q => q.length + 1)).sum := by
  induction ps with
  | nil => simp
  | cons q ps ih =>
    obtain ⟨ih1, ih2⟩ := ih
    rcases parseSeq_measure q with ⟨rfl, hn⟩ | ⟨r, hr, m1, m2⟩
    · rw [List.filterMap_cons, hn]
      have : I [] = 0 := rfl
      simp only [List.map_cons, List.sum_cons, H_nil, this, List.length_cons, List.length_nil]
      exact ⟨by omega, by omega⟩
    · rw [List.filterMap_cons, hr]
      simp only [List.map_cons, List.sum_cons, List.length_cons, pairH, pairL] at ih1 ih2 ⊢
      exact ⟨by omega, by omega⟩

theorem spInit_H (s : Bytes) : H s ≤ ((spInit Cfg.default s).map pairH).sum := by
  rw [spInit_eq, H_pieces]
  exact (pieces_measure _).1

/-- lengths do not grow: on top of the decoded bytes every piece costs its separator, and a `=` in the text one byte more -/
theorem spInit_L (s : Bytes) :
    ((spInit Cfg.default s).map pairL).sum + I s + (splitOn 0x26 s).length ≤ s.length + 1 := by
  rw [spInit_eq, L_pieces]
  have := (pieces_measure (splitOn 0x26 s)).2
  have := I_pieces s
  omega

/-- a text with a `=` yields a pair: the piece that holds the `=` is not empty -/
theorem spInit_ne_nil (s : Bytes) (h : 0x3d ∈ s) : spInit Cfg.default s ≠ [] := by
  intro e
  have h1 := I_pieces s
  have hI : I s = 1 := by simp [I, h]
  rw [spInit_eq, List.filterMap_eq_nil_iff] at e
  have h0 : ((splitOn 0x26 s).map I).sum = 0 := by
    generalize splitOn 0x26 s = ps at e
    induction ps with
    | nil => rfl
    | cons q ps ih =>
      have hq := e q (by simp)
      rcases parseSeq_measure q with ⟨rfl, _⟩ | ⟨r, hr, _⟩
      · have : I [] = 0 := rfl
        simp only [List.map_cons, List.sum_cons, this]
        rw [ih (fun a ha => e a (by simp [ha]))]
      · rw [hr] at hq; simp at hq
  omega

theorem splitOn_single (sep : UInt8) (s : Bytes) : (splitOn sep s).length ≤ 1 → ∀ x ∈ s, x ≠ sep := by
  refine Utf8.splitOn_induction sep (P := fun s l => l.length ≤ 1 → ∀ x ∈ s, x ≠ sep) (fun _ x hx => by simp at hx)
    (fun s _ h => ?_) (fun y s a b hy _ ih h => ?_) s
  · have := List.length_pos_iff.mpr (Utf8.splitOn_ne_nil sep s)
    simp only [List.length_cons] at h; omega
  · intro x hx
    rcases List.mem_cons.mp hx with rfl | hx
    · exact hy
    · exact ih (by simpa using h) x hx

end WhatwgUrl.Proofs.SpExact
