import WhatwgUrl.Proofs.SimDefs2
import WhatwgUrl.Proofs.Run
import WhatwgUrl.Proofs.SimPrologue
/-
  The invariant `XInv` of `SimDefs2.lean` holds initially and is preserved by every continuing iteration of the Go
  machine, in every configuration in which "file" is a special scheme (`step_inv`, `XInv_step`); the per-state
  simulation lemmas may therefore assume the invariant.
-/
namespace WhatwgUrl.Proofs.Sim
open WhatwgUrl WhatwgUrl.Impl WhatwgUrl.Proofs.Machine
open WhatwgUrl.Proofs.Termination (step_cont)

theorem addSegment_opq (p : Path) (s : Bytes) : (p.addSegment s).opq = false := rfl

/-- `XCore` looks at the state, the cursor, the buffer and the opaque flag only -/
def XC (base : Option Url) (ov : Option State) (st : State) (ptr : Int) (buf : Bytes) (opq : Bool) : Prop :=
  -1 ≤ ptr ∧ (st = .authority → ((goRunes buf).length : Int) ≤ ptr + 1) ∧ (bufEmptySt st = true → buf = []) ∧
  (relSt st = true → ∃ b, base = some b ∧ b.path.opq = false) ∧
  (opq = true → opqSt st = true ∨ (ov.isSome = true ∧ ovOpqSt st = true))

theorem XCore_iff (e : Env) (pi : PS) : XCore e pi ↔ XC e.base e.ov pi.state pi.pointer pi.buffer pi.url.path.opq :=
  ⟨fun ⟨a, b, c, d, f⟩ => ⟨a, b, c, d, f⟩, fun ⟨a, b, c, d, f⟩ => ⟨a, b, c, d, f⟩⟩

/-- every state function re-establishes `XCore`, in every configuration in which "file" is a special scheme; `q` is the
    machine state after `next`, so its cursor is one ahead -/
theorem body_inv (e : Env) (q : PS) (r : Char) (hfile : e.cfg.isSpecial (lit "file") = true) (hE : EnvOk e)
    (hq : XC e.base e.ov q.state (q.pointer - 1) q.buffer q.url.path.opq) :
    Sh (XCore e) (fun _ => True) (body e q r) := by
  unfold body
  split <;> rename_i hst <;> simp [XC, hst, bufEmptySt, relSt, opqSt, ovOpqSt, Option.isSome_iff_ne_none] at hq
  -- the states that consult the base, by their place among the arms of `body`: scheme, no scheme, file, file slash,
  -- relative, relative slash; `EnvOk`: a base with a special scheme has a list path
  case' h_2 | h_3 | h_12 | h_14 | h_20 | h_21 =>
    cases hb : e.base <;>
      simp only [EnvOk, BaseOk, hb, reduceCtorEq, false_implies, implies_true, Option.some.injEq, forall_eq'] at hE
  all_goals
    simp [stSchemeStart, stScheme, stNoScheme, stOpaquePath, stSpecialRelativeOrAuthority, stSpecialAuthoritySlashes,
      stSpecialAuthorityIgnoreSlashes, stPathOrAuthority, stAuthority, stFile, stFileHost, stFileSlash, stPort, stPathStart,
      stHost_eq, hostChar, stPath_eq, segEnd, stQuery_eq, stFragment, stRelative, stRelativeSlash, isSp, spBackslash, stops,
      Sh_unitChecks, Sh_afterHost, Sh_ite, Sh_herr, Sh_cont, Sh_done, Sh_retUrl, Sh_elim, XCore_iff, XC, bufEmptySt, relSt,
      opqSt, ovOpqSt, rewindLast, resetInput, rewind, writeRune, ite_url, ite_eof, ite_state, ite_pointer, ite_buffer,
      apply_ite Url.path, apply_ite Path.opq, record_eq, next_fst, cleanDefaultPort_path, parseHost_path, shorten_opq, addSegment_opq,
      segPath_opq, Path.init, Path.setOpaque, goRunes_append_utf8Char, Option.isSome_iff_ne_none, *]
  -- left: the cursor bounds (the authority state rewinds by the buffered code points, which `auth` bounds) and, in the
  -- file state, that a base with scheme "file" has a list path
  all_goals grind

theorem step_inv (e : Env) (hfile : e.cfg.isSpecial (lit "file") = true) (hE : EnvOk e) (pi : PS) (h : XCore e pi) :
    Sh (XCore e) (fun _ => True) (step e pi) :=
  Sh_step_of_body (body_inv e _ _ hfile hE (by simpa [next_fst, XCore_iff] using h))

theorem REnv.file {e : Env} {input : Str} {base : Option Spec.SUrl} {ov : Option Spec.St} {I : Idna}
    (hE : REnv e input base ov I) : e.cfg.isSpecial (lit "file") = true := by rw [hE.cfg]; decide

theorem XInv_step (e : Env) (hfile : e.cfg.isSpecial (lit "file") = true) (hE : EnvOk e) (pi pi' : PS) (he : pi.eof = false)
    (h : XInv e pi) (hs : step e pi = .cont pi') : XInv e pi' := by
  refine ⟨(step_cont e pi pi' ⟨h.lt, he⟩ hs).1.1, ?_⟩
  have := step_inv e hfile hE pi h.core
  rwa [hs] at this

/-- the invariant holds for the initial state of `basicParser` (the two side conditions hold for a fresh url without
    override, and for every setter: see `SimParse.lean`, `SimSetters.lean`) -/
theorem XInv_init (e : Env) (st : State) (u : Url) (hrel : relSt st = false)
    (hopq : u.path.opq = true → opqSt st = true ∨ (e.ov.isSome = true ∧ ovOpqSt st = true)) :
    XInv e (Spelling.ps0 st u) := by
  refine ⟨by show (-1 : Int) < _; omega, (XCore_iff _ _).2 ?_⟩
  simpa [XC, Spelling.ps0, hrel] using hopq

end WhatwgUrl.Proofs.Sim
