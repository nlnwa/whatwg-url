import WhatwgUrl.Proofs.HeapInvPath
/-
  Helper lemmas for C02b: the sanity predicate `SaneC cfg` is an invariant of the parser and the setters (`Sane` of
  Props/C02b.lean, stated for every configuration in which "file" is special).

  `SaneC` has two clauses. The second, `PathOk`, holds for every configuration and asks `PathOk` of the base only
  (`Proofs/HeapInvPath.lean`); it is taken from there. This file proves the first, `Auth`: a url whose scheme is "file" or
  special has a host and a list path. It needs "file" to be special when a setter calls, and `Auth` of the base.

  A fresh parse and a call under a state override keep different invariants (`Kc`): the first a fact per state (`J`) from
  which `Auth` follows when the loop ends, the second `Auth` itself at every step, since a setter returns the url
  whatever the outcome.
-/
namespace WhatwgUrl.Proofs.SaneInv
set_option linter.unusedSimpArgs false
open WhatwgUrl WhatwgUrl.Impl WhatwgUrl.Proofs.NoPanic WhatwgUrl.Proofs.Machine
open WhatwgUrl.Proofs.HeapInvNP (PathOk)
open WhatwgUrl.Proofs.HeapInvPath (parse_pathOk setU_pathOk)

/-- schemes the machine gives an authority: "file" (tested literally by the code) and the special schemes of the configuration -/
def SP (cfg : Cfg) (s : Bytes) : Prop := s = lit "file" ∨ cfg.isSpecial s = true

/-- the record invariant: urls with a special scheme (or "file") have a host and a list path;
    an opaque path has its one element -/
def SaneC (cfg : Cfg) (u : Url) : Prop :=
  (SP cfg u.scheme → u.host ≠ none ∧ u.path.opq = false) ∧ (u.path.opq = true → u.path.segs ≠ [])

/-- the first clause of `SaneC`, of the three fields it reads; the second clause is `PathOk` -/
def Auth (cfg : Cfg) (s : Bytes) (h : Option Bytes) (p : Path) : Prop := SP cfg s → h ≠ none ∧ p.opq = false

/-- what holds from the first state after the authority on: a list path, and a host if the scheme asks for one -/
def Hq (cfg : Cfg) (u : Url) : Prop := u.path.opq = false ∧ (SP cfg u.scheme → u.host ≠ none)

theorem Hq_SaneC {cfg : Cfg} {u : Url} (h : Hq cfg u) : SaneC cfg u :=
  ⟨fun hs => ⟨h.2 hs, h.1⟩, fun ho => by rw [h.1] at ho; cases ho⟩

/-- agreement on scheme, host and path, which is all `Auth` reads -/
def Core (u u' : Url) : Prop := u'.scheme = u.scheme ∧ u'.host = u.host ∧ u'.path = u.path

theorem Auth_core {cfg : Cfg} {u u' : Url} (hc : Core u u') (h : Auth cfg u.scheme u.host u.path) :
    Auth cfg u'.scheme u'.host u'.path := by
  rw [hc.1, hc.2.1, hc.2.2]; exact h

theorem addSegment_opq (p : Path) (s : Bytes) : (p.addSegment s).opq = false := rfl
theorem setOpaque_opq (s : Bytes) : (Path.setOpaque s).opq = true := rfl
theorem init_opq : Path.init.opq = false := rfl

/-- what a fresh parse knows in each state. Up to the authority the path is the list path it started as. The relative
    states remember of the base what they copy: `relative` that its path is a list (an opaque base leaves `noScheme` only
    for the fragment state), `relativeSlash` that the scheme is the base's, so that the base's host, copied when no second
    slash follows, is there if the scheme asks for one. `pathOrAuthority` and `opaquePath` are entered with a scheme that
    asks for nothing. From `fileSlash` on the host is there (`Hq`); `query` and `fragment` are also entered from `noScheme`
    and `opaquePath` with an opaque path, hence `Auth` and not `Hq` -/
def J (cfg : Cfg) (base : Option Url) (ps : PS) : Prop :=
  match ps.state with
  | .schemeStart | .scheme | .noScheme | .file | .specialAuthoritySlashes | .specialAuthorityIgnoreSlashes
  | .authority | .host | .hostname => ps.url.path.opq = false
  | .specialRelativeOrAuthority | .relative => ps.url.path.opq = false ∧ ∃ b, base = some b ∧ b.path.opq = false
  | .relativeSlash => ps.url.path.opq = false ∧ ∃ b, base = some b ∧ ps.url.scheme = b.scheme
  | .pathOrAuthority => ps.url.path.opq = false ∧ ¬ SP cfg ps.url.scheme
  | .fileSlash | .fileHost | .port | .pathStart | .path => Hq cfg ps.url
  | .opaquePath => ¬ SP cfg ps.url.scheme
  | .query | .fragment => Auth cfg ps.url.scheme ps.url.host ps.url.path

/-- the invariant: `J` for a fresh parse; under a state override `Auth` all the time (the path states then have a list
    path: `NoPanic.OvL`) -/
def Kc (cfg : Cfg) (base : Option Url) (ov : Option State) (ps : PS) : Prop :=
  (ov = none → J cfg base ps) ∧ (ov.isSome = true → Auth cfg ps.url.scheme ps.url.host ps.url.path)

/-- what a returning step owes: `Auth` of a returned url, and of whatever url a run under a state override leaves -/
def DK (cfg : Cfg) (ov : Option State) (x : Res) : Prop :=
  (x.ret = .url ∨ ov.isSome = true) → Auth cfg x.url.scheme x.url.host x.url.path

theorem segEnd_sg (e : Env) (r : Char) (p : PS) (hst : p.state = .path) (h : Hq e.cfg p.url) :
    Sh (Owes (Kc e.cfg e.base e.ov) (DK e.cfg e.ov)) (DK e.cfg e.ov) (segEnd e r p) := by
  have h1 := segPath_opq e p r h.1
  simp [segEnd, Sh_ite, Sh_cont, Owes, DK, Kc, J, ovSt, pathSt, hst, Hq, h1, h.2]
  grind [Auth, Hq]

attribute [local grind .] Auth SP Hq addSegment_opq setOpaque_opq init_opq in
/-- every state function keeps the invariant. `hO`: under a state override the machine is in a state of `ovSt`, with a list
    path in the path states (the lifting has it from `NoPanic.body_ovSt`); `hB`: the base, which the relative states copy,
    satisfies `Auth`; `hF`: "file" is a special scheme when a setter calls; `hrepl`: at the end of the input the code point
    is U+FFFD; `hq`: before the end of the input the pointer is not negative -/
theorem body_sg (e : Env) (q : PS) (r : Char) (hO : OvL e.ov q) (hK : Kc e.cfg e.base e.ov q)
    (hB : ∀ b, e.base = some b → Auth e.cfg b.scheme b.host b.path) (hF : e.ov.isSome = true → e.cfg.isSpecial (lit "file") = true)
    (hrepl : q.eof = true → r = repl) (hq : q.eof = false → 0 ≤ q.pointer) :
    Sh (Owes (Kc e.cfg e.base e.ov) (DK e.cfg e.ov)) (DK e.cfg e.ov) (body e q r) := by
  have hr := repl_class
  -- the two states that skip a second slash need not be sane yet, so they must not be left at the end of the input
  have hn := remainingStartsWith_next e.runes q '/' [] hq
  simp [next_fst] at hn
  unfold body
  split <;> rename_i hst
  case h_16 =>
    -- the path state: `Hq` holds in either mode, and it is all the end of a segment needs
    have hH : Hq e.cfg q.url := by
      cases ho : e.ov <;> simp [Kc, OvL, J, hst, ho, pathSt, ovSt] at hK hO
      · exact hK
      · exact ⟨hO, fun hs => (hK hs).1⟩
    have hS : Auth e.cfg q.url.scheme q.url.host q.url.path := (Hq_SaneC hH).1
    have hs : ∀ p : PS, p.state = .path → p.url.scheme = q.url.scheme → p.url.host = q.url.host → p.url.path = q.url.path →
        Sh (Owes (Kc e.cfg e.base e.ov) (DK e.cfg e.ov)) (DK e.cfg e.ov) (segEnd e r p) :=
      fun p h1 h2 h3 h4 => segEnd_sg e r p h1 (by unfold Hq; rw [h2, h3, h4]; exact hH)
    simp [stPath_eq, Sh_unitChecks, Sh_ite, Sh_herr, Sh_cont, Sh_done, hs, hH.1, hS, record_eq, Owes, Kc, J, DK, Hq, hst,
      ovSt, pathSt]
    grind
  -- the two modes apart; under an override `hO` excludes the states outside `ovSt`
  all_goals
    obtain ⟨cfg, I, src, runes, base, ov⟩ := e
    cases ov <;> simp [Kc, OvL, J, hst, ovSt, pathSt, Hq] at hK hO
  -- scheme, noScheme, file, fileSlash, relative, relativeSlash: the states of a fresh parse that look at the base
  case' h_2.none | h_3.none | h_12.none | h_14.none | h_20.none | h_21.none => cases base <;> simp at hB
  all_goals
    -- `Option.some_beq_some` is a `dsimp` lemma: it would rewrite the test for the `hostname` override and leave
    -- the `Decidable` instance of the unrewritten test in the `if`, which `Sh_ite` does not match
    simp [stSchemeStart, stScheme, stNoScheme, stOpaquePath, stSpecialRelativeOrAuthority, stSpecialAuthoritySlashes,
      stSpecialAuthorityIgnoreSlashes, stPathOrAuthority, stAuthority, stHost_eq, hostChar, stFile, stFileHost, stFileSlash,
      stPort, stPathStart, stQuery_eq, stFragment, stRelative, stRelativeSlash, Sh_unitChecks, Sh_afterHost, Sh_elim, Sh_ite,
      Sh_herr, Sh_cont, Sh_done, Sh_retUrl, Owes, Kc, J, DK, ovSt, pathSt, rewindLast, resetInput, rewind, writeRune, ite_url,
      ite_eof, ite_state, record_eq, cleanDefaultPort_scheme, cleanDefaultPort_host, cleanDefaultPort_path, next_fst,
      parseHost_scheme, parseHost_host, parseHost_path, parseHost_out_ne_panic, Hq, stops, isSp, spBackslash,
      Machine.shorten_opq, hst, hK, -Option.some_beq_some]
    -- what is left reads `Auth` of a changed scheme, host or path. In the scheme state under an override the scheme
    -- changes only within its class, special or not, and "file" is special (`hF`): `SP` of the new scheme gives `SP` of the old
    <;> grind

theorem basicParser_sg (cfg : Cfg) (I : Idna) (input : Bytes) (base url : Option Url) (ov : Option State)
    (hB : ∀ b, base = some b → Auth cfg b.scheme b.host b.path) (hF : ov.isSome = true → cfg.isSpecial (lit "file") = true)
    (hS : ov.isSome = true → Auth cfg (url.getD {}).scheme (url.getD {}).host (url.getD {}).path)
    (hO : OvL ov (start (ov.getD .schemeStart) (url.getD {})))
    (h0 : ∀ u : Url, Core (url.getD {}) u → Kc cfg base ov (start (ov.getD .schemeStart) u)) :
    DK cfg ov (basicParser cfg I input base url ov) := by
  have hc : ∀ u, HostWF.Same (url.getD {}) u → Core (url.getD {}) u := fun u hu => ⟨hu.scheme, hu.host, hu.path⟩
  refine basicParser_of_body_ov (K := Kc cfg base ov) (D := DK cfg ov) cfg I input base url ov
    (fun _ u hu h => Auth_core (hc _ hu.record) (hS (h.resolve_left (by simp))))
    (fun ps q r h R hq => body_sg _ q r hq (by rw [R.eq]; exact h) hB hF R.repl fun he => (R.inside he).1) hO
    (fun u hu => h0 u (hc u hu))

theorem parse_saneC (cfg : Cfg) (I : Idna) (input : Bytes) (base : Option Url)
    (hB : ∀ b, base = some b → SaneC cfg b) (h : (basicParser cfg I input base none none).ret = .url) :
    SaneC cfg (basicParser cfg I input base none none).url := by
  refine ⟨basicParser_sg cfg I input base none none (fun b hb => (hB b hb).1) (by simp) (by simp) nofun
    (fun u hcore => ⟨fun _ => ?_, nofun⟩) (Or.inl h), parse_pathOk cfg I input base (fun b hb => (hB b hb).2) h⟩
  show u.path.opq = false
  rw [hcore.2.2]
  rfl

/-- a run under a state override keeps the first clause -/
theorem ov_auth (cfg : Cfg) (I : Idna) (input : Bytes) (u : Url) (s : State)
    (hF : cfg.isSpecial (lit "file") = true) (hs : ovSt s = true) (hu : Auth cfg u.scheme u.host u.path)
    (hp : pathSt s = true → u.path.opq = false) :
    Auth cfg (basicParser cfg I input none (some u) (some s)).url.scheme (basicParser cfg I input none (some u) (some s)).url.host
      (basicParser cfg I input none (some u) (some s)).url.path := by
  exact basicParser_sg cfg I input none (some u) (some s) (by intro b hb; cases hb) (fun _ => hF) (fun _ => hu)
    (fun _ => ⟨hs, hp⟩) (fun u' hcore => ⟨nofun, fun _ => Auth_core hcore hu⟩) (Or.inr rfl)

theorem setU_saneC (cfg : Cfg) (I : Idna) (s : Setter) (u : Url) (v : Bytes)
    (hF : cfg.isSpecial (lit "file") = true) (hu : SaneC cfg u) : SaneC cfg (setU cfg I s u v).url := by
  have hstrip : ∀ (u' : Url) (p : Path), Auth cfg u'.scheme u'.host u'.path → stripTrailingSpacesIfOpaque u'.path = some p →
      Auth cfg u'.scheme u'.host p := by
    intro u' p hu' hp
    rcases (Setters.strip_eq_some_iff _ _).1 hp with ⟨_, rfl⟩ | ⟨ho, _, _, _, rfl⟩
    · exact hu'
    · exact fun hs => absurd (hu' hs).2 (by rw [ho]; simp)
  refine ⟨?_, setU_pathOk cfg I s u v hu.2⟩
  refine Setters.setU_cases cfg I s u v (R := fun r => Auth cfg r.url.scheme r.url.host r.url.path) (fun r h => ?_)
    (fun st u' input h => ?_)
  · cases h
    case searchStrip p h => exact hstrip { u with query := none } p hu.1 h
    case hashStrip p h => exact hstrip { u with fragment := none } p hu.1 h
    all_goals exact hu.1
  · cases h
    case pathname => exact ov_auth _ _ _ _ _ hF rfl (fun hs => ⟨(hu.1 hs).1, rfl⟩) (fun _ => rfl)
    all_goals exact ov_auth _ _ _ _ _ hF rfl hu.1 nofun

/-! ## statements kept for their own sake

  Nothing in the development calls what follows: four facts about U+FFFD and the character classes (`body_sg` takes them
  from `Machine.repl_class`), the element of a path made opaque, and a tactic that splits the five cases in which the path
  state stores a segment (`Machine.segPath` is that case split as a function). -/

theorem isDigitN_repl : isDigitN 65533 = false := by decide
theorem isAlphaN_repl' : isAlphaN (Char.toNat '\uFFFD') = false := by decide
theorem isAlnumN_repl' : isAlnumN (Char.toNat '\uFFFD') = false := by decide
theorem isDigitN_repl' : isDigitN (Char.toNat '\uFFFD') = false := by decide
theorem setOpaque_segs (s : Bytes) : (Path.setOpaque s).segs = [s] := rfl

macro "path_k" e:ident r:ident p:ident : tactic => `(tactic|
  (by_cases h1 : isDoubleDot ($p).buffer = true
   · simp only [pathUrl, h1, ↓reduceIte]; rfl
   · by_cases h2 : (isSingleDot ($p).buffer && !($r == '/' || spBackslash $e ($p).url $r)) = true
     · simp only [pathUrl, h1, h2, ↓reduceIte]; rfl
     · by_cases h3 : (!isSingleDot ($p).buffer) = true
       · by_cases h4 : (!($e).cfg.collapse || !isSp $e ($p).url || ($p).url.path.isEmpty ||
             decide ((($p).url.path.segs.getLast?.getD []).length > 0)) = true
         · simp only [pathUrl, h1, h2, h3, h4, ↓reduceIte]; rfl
         · simp only [pathUrl, h1, h2, h3, h4, ↓reduceIte]; rfl
       · simp only [pathUrl, h1, h2, h3, ↓reduceIte]; rfl))

end WhatwgUrl.Proofs.SaneInv
