import WhatwgUrl.Proofs.Machine
/-
  Two runs of the `BasicParser` loop side by side, under two environments: `Sh2` relates the results of one iteration, with
  rules like those of `Machine.Sh`.  Where the two configurations differ, `herr` and `unitChecks` are unfolded (they are
  `if`s on `stops`, and the relation between the configurations says how the two conditions compare); where both runs share
  the configuration and their states are related by a relation kept under a simultaneous `record`, `Sh2_herr_of` and
  `Sh2_unitChecks_of` apply.
-/
namespace WhatwgUrl.Proofs.Machine
open WhatwgUrl WhatwgUrl.Impl

/-- The outcomes of one iteration of two runs.  The relation is not symmetric: the first run may return while the second
    goes on (`A`), never the other way round; `A := fun _ _ => False` is lock-step. -/
def Sh2 (P : PS → PS → Prop) (D : Res → Res → Prop) (A : Res → PS → Prop) : StepR → StepR → Prop
  | .cont p₁, .cont p₂ => P p₁ p₂
  | .done x₁, .done x₂ => D x₁ x₂
  | .done x₁, .cont p₂ => A x₁ p₂
  | .cont _, .done _ => False

variable {P : PS → PS → Prop} {D : Res → Res → Prop} {A : Res → PS → Prop}

theorem Sh2_cont (p₁ p₂ : PS) : Sh2 P D A (.cont p₁) (.cont p₂) ↔ P p₁ p₂ := Iff.rfl
theorem Sh2_done (x₁ x₂ : Res) : Sh2 P D A (.done x₁) (.done x₂) ↔ D x₁ x₂ := Iff.rfl
theorem Sh2_retUrl (p₁ p₂ : PS) : Sh2 P D A (retUrl p₁) (retUrl p₂) ↔ D ⟨p₁.url, .url⟩ ⟨p₂.url, .url⟩ := Iff.rfl

theorem Sh2_done_left (x₁ : Res) (r₂ : StepR) : Sh2 P D A (.done x₁) r₂ ↔ Sh (A x₁) (D x₁) r₂ := by
  cases r₂ <;> rfl

/-- The two `Decidable` instances are separate implicit arguments: the two runs reach the same condition through different
    rewrites and carry different instance terms, which a single `[Decidable c]` would not match. -/
theorem Sh2_ite (c : Prop) {d₁ d₂ : Decidable c} (a₁ b₁ a₂ b₂ : StepR) :
    Sh2 P D A (@ite _ c d₁ a₁ b₁) (@ite _ c d₂ a₂ b₂) ↔ (c → Sh2 P D A a₁ a₂) ∧ (¬ c → Sh2 P D A b₁ b₂) := by
  by_cases h : c <;> simp [h]

theorem Sh2_elim {α : Type} (o : Option α) (b₁ b₂ : StepR) (f₁ f₂ : α → StepR) :
    Sh2 P D A (o.elim b₁ f₁) (o.elim b₂ f₂) ↔ (o = none → Sh2 P D A b₁ b₂) ∧ (∀ x, o = some x → Sh2 P D A (f₁ x) (f₂ x)) := by
  cases o <;> simp

theorem Sh2_afterHost (hr₁ hr₂ : HR) (h : hr₂.out = hr₁.out) (p₁ p₂ : PS) (k₁ k₂ : PS → Bytes → StepR) :
    Sh2 P D A (afterHost hr₁ p₁ k₁) (afterHost hr₂ p₂ k₂) ↔
      (∀ b, hr₁.out = .ok b → Sh2 P D A (k₁ { p₁ with url := hr₁.url } b) (k₂ { p₂ with url := hr₂.url } b)) ∧
      (∀ er, hr₁.out = .err er → D ⟨hr₁.url, .err er true⟩ ⟨hr₂.url, .err er true⟩) ∧
      (∀ n, hr₁.out = .panic n → D ⟨hr₁.url, .panic n⟩ ⟨hr₂.url, .panic n⟩) := by
  unfold afterHost; rw [h]; split <;> simp [*, Sh2]

theorem Sh2.mono {P' : PS → PS → Prop} {D' : Res → Res → Prop} {A' : Res → PS → Prop} {r₁ r₂ : StepR}
    (h : Sh2 P D A r₁ r₂) (hP : ∀ p₁ p₂, P p₁ p₂ → P' p₁ p₂) (hD : ∀ x₁ x₂, D x₁ x₂ → D' x₁ x₂)
    (hA : ∀ x₁ p₂, A x₁ p₂ → A' x₁ p₂) : Sh2 P' D' A' r₁ r₂ := by
  cases r₁ <;> cases r₂
  · exact hP _ _ h
  · exact h
  · exact hA _ _ h
  · exact hD _ _ h

/-- At the end of the input a continuing pair is a returned pair (`bottom`); `hP`: related states are at the end of the
    input together, so that both sides of `bottom` take the same branch. -/
theorem Sh2_bottom (r₁ r₂ : StepR) (hP : ∀ p₁ p₂, P p₁ p₂ → p₁.eof = p₂.eof)
    (h : Sh2 (fun p₁ p₂ => P p₁ p₂ ∧ (p₁.eof = true → D ⟨p₁.url, .url⟩ ⟨p₂.url, .url⟩)) D
          (fun x₁ p₂ => A x₁ p₂ ∧ (p₂.eof = true → D x₁ ⟨p₂.url, .url⟩)) r₁ r₂) :
    Sh2 P D A (bottom r₁) (bottom r₂) := by
  cases r₁ <;> cases r₂
  · rename_i p₁ p₂
    have he := hP _ _ h.1
    by_cases h1 : p₁.eof = true
    · simpa [bottom, h1, ← he, Sh2] using h.2 h1
    · simpa [bottom, h1, ← he, Sh2] using h.1
  · exact (h : False).elim
  · rename_i x₁ p₂
    by_cases h2 : p₂.eof = true
    · simpa [bottom, h2, Sh2] using h.2 h2
    · simpa [bottom, h2, Sh2] using h.1
  · exact h

theorem Sh2_of_eq {r₁ r₂ : StepR} (h : r₁ = r₂) (hr : Sh (fun p => P p p) (fun x => D x x) r₂) : Sh2 P D A r₁ r₂ := by
  subst h
  cases r₁ with
  | cont p => exact hr
  | done x => exact hr

theorem Sh2_herr_of (Q : PS → PS → Prop) (e : Env) (k₁ k₂ : PS → StepR)
    (hrec : ∀ p₁ p₂ t f, Q p₁ p₂ → Q { p₁ with url := record e.cfg p₁.url t f } { p₂ with url := record e.cfg p₂.url t f })
    (hD : ∀ p₁ p₂ ret, Q p₁ p₂ → D ⟨p₁.url, ret⟩ ⟨p₂.url, ret⟩)
    (hk : ∀ p₁ p₂, Q p₁ p₂ → Sh2 P D A (k₁ p₁) (k₂ p₂)) (t : ErrT) (f : Bool) (p₁ p₂ : PS) (h : Q p₁ p₂) :
    Sh2 P D A (herr e p₁ t f k₁) (herr e p₂ t f k₂) := by
  unfold herr
  split
  · exact hD _ _ _ (hrec _ _ t f h)
  · exact hk _ _ (hrec _ _ t f h)

theorem Sh2_unitChecks_of (Q : PS → PS → Prop) (e : Env) (r : Char) (k₁ k₂ : PS → StepR)
    (hrec : ∀ p₁ p₂ t f, Q p₁ p₂ → Q { p₁ with url := record e.cfg p₁.url t f } { p₂ with url := record e.cfg p₂.url t f })
    (hptr : ∀ p₁ p₂, Q p₁ p₂ → p₁.pointer = p₂.pointer)
    (hD : ∀ p₁ p₂ ret, Q p₁ p₂ → D ⟨p₁.url, ret⟩ ⟨p₂.url, ret⟩)
    (hk : ∀ p₁ p₂, Q p₁ p₂ → Sh2 P D A (k₁ p₁) (k₂ p₂)) (p₁ p₂ : PS) (h : Q p₁ p₂) :
    Sh2 P D A (unitChecks e p₁ r k₁) (unitChecks e p₂ r k₂) := by
  have hk2 : ∀ p₁ p₂, Q p₁ p₂ →
      Sh2 P D A (if remainingInvalidPct e.runes p₁ then herr e p₁ .InvalidURLUnit false k₁ else k₁ p₁)
        (if remainingInvalidPct e.runes p₂ then herr e p₂ .InvalidURLUnit false k₂ else k₂ p₂) := by
    intro p₁ p₂ h
    simp only [remainingInvalidPct, hptr p₁ p₂ h]
    exact (Sh2_ite _ _ _ _ _).2 ⟨fun _ => Sh2_herr_of Q e k₁ k₂ hrec hD hk _ _ p₁ p₂ h, fun _ => hk p₁ p₂ h⟩
  unfold unitChecks
  exact (Sh2_ite _ _ _ _ _).2 ⟨fun _ => Sh2_herr_of Q e _ _ hrec hD hk2 _ _ p₁ p₂ h, fun _ => hk2 p₁ p₂ h⟩

/-- Both loops get the same fuel (in `basicParser` it is computed from the text, which no configuration influences); `hA`
    is where the second run is finished alone. -/
theorem loop_inv2 (e₁ e₂ : Env) (hstep : ∀ p₁ p₂, P p₁ p₂ → Sh2 P D A (step e₁ p₁) (step e₂ p₂))
    (hA : ∀ x₁ p₂ fuel, A x₁ p₂ → D x₁ (loop e₂ fuel p₂))
    (h0 : ∀ p₁ p₂, P p₁ p₂ → D ⟨p₁.url, .outOfFuel⟩ ⟨p₂.url, .outOfFuel⟩) :
    ∀ (fuel : Nat) (p₁ p₂ : PS), P p₁ p₂ → D (loop e₁ fuel p₁) (loop e₂ fuel p₂) := by
  intro fuel
  induction fuel with
  | zero => exact h0
  | succ k ih =>
    intro p₁ p₂ hp
    have hs := hstep p₁ p₂ hp
    unfold loop
    generalize step e₁ p₁ = r₁ at hs
    generalize step e₂ p₂ = r₂ at hs
    cases r₁ <;> cases r₂
    · exact ih _ _ hs
    · exact hs.elim
    · exact hA _ _ _ hs
    · exact hs

theorem credLoop_congr {c₁ c₂ : Cfg} (he : percentEncodeRune c₁ = percentEncodeRune c₂) (s : Str) (pw : Bool) (us pa : Bytes) :
    credLoop c₁ s pw us pa = credLoop c₂ s pw us pa := by
  induction s generalizing pw us pa with
  | nil => rfl
  | cons y rest ih => simp only [credLoop, ih, he]

/-- the text the state machine runs on -/
def _root_.WhatwgUrl.Proofs.Neutral.prologueText (url : Option Url) (input : Bytes) : Bytes :=
  (removeTabNl (if url.isNone then (trim c0OrSpaceSet input).1 else input)).1

/-- `loopEnv` spells the text out; statements about the loop of `basicParser` use either form -/
theorem loopEnv_eq (cfg : Cfg) (I : Idna) (input : Bytes) (base url : Option Url) (ov : Option State) :
    loopEnv cfg I input base url ov =
      ⟨cfg, I, Neutral.prologueText url input, goRunes (Neutral.prologueText url input), base, ov⟩ := rfl

theorem prologue_congr (c₁ c₂ : Cfg) (hr : record c₁ = record c₂) (hs : stops c₁ = stops c₂) (input : Bytes)
    (url : Option Url) (ov : Option State) : prologue c₁ input url ov = prologue c₂ input url ov := by
  unfold prologue; rw [hr, hs]

theorem basicParser_congr_loop (c₁ c₂ : Cfg) (hr : record c₁ = record c₂) (hs : stops c₁ = stops c₂) (I : Idna) (input : Bytes)
    (base url : Option Url) (ov : Option State)
    (h : ∀ ps, prologue c₂ input url ov = .cont ps →
      loop (loopEnv c₁ I input base url ov) (fuelFor (loopEnv c₁ I input base url ov).runes) ps =
        loop (loopEnv c₂ I input base url ov) (fuelFor (loopEnv c₂ I input base url ov).runes) ps) :
    basicParser c₁ I input base url ov = basicParser c₂ I input base url ov := by
  rw [basicParser_eq, basicParser_eq, prologue_congr c₁ c₂ hr hs]
  cases hp : prologue c₂ input url ov with
  | done x => rfl
  | cont ps => exact h ps hp

theorem loopEnv_congr (cfg : Cfg) (I : Idna) (input : Bytes) (base : Option Url) {url₁ url₂ : Option Url}
    (h : url₁.isNone = url₂.isNone) (ov : Option State) : loopEnv cfg I input base url₁ ov = loopEnv cfg I input base url₂ ov := by
  unfold loopEnv; rw [h]

theorem basicParser_rel {P : PS → PS → Prop} {D : Res → Res → Prop} {A : Res → PS → Prop} (c₁ c₂ : Cfg) (I : Idna)
    (input : Bytes) (base url₁ url₂ : Option Url) (ov : Option State) (hn : url₁.isNone = url₂.isNone)
    (hpro : Sh2 P D A (prologue c₁ input url₁ ov) (prologue c₂ input url₂ ov))
    (hstep : ∀ p₁ p₂, P p₁ p₂ →
      Sh2 P D A (step (loopEnv c₁ I input base url₂ ov) p₁) (step (loopEnv c₂ I input base url₂ ov) p₂))
    (hA : ∀ x₁ p₂ fuel, A x₁ p₂ → D x₁ (loop (loopEnv c₂ I input base url₂ ov) fuel p₂))
    (h0 : ∀ p₁ p₂, P p₁ p₂ → D ⟨p₁.url, .outOfFuel⟩ ⟨p₂.url, .outOfFuel⟩) :
    D (basicParser c₁ I input base url₁ ov) (basicParser c₂ I input base url₂ ov) := by
  rw [basicParser_eq, basicParser_eq, loopEnv_congr c₁ I input base hn]
  generalize prologue c₁ input url₁ ov = r₁ at hpro
  generalize prologue c₂ input url₂ ov = r₂ at hpro
  cases r₁ <;> cases r₂
  · exact loop_inv2 _ _ hstep hA h0 _ _ _ hpro
  · exact hpro.elim
  · exact hA _ _ _ hpro
  · exact hpro

end WhatwgUrl.Proofs.Machine
