import WhatwgUrl.Proofs.CfgCongr
/-
  C16b, lax host parsing.  Lax host parsing is not neutral step by step: the run under `{ c with laxHost := true }` does what
  the strict run does unless the strict host parser fails (`Lax`, `basicParser_lax`).  (The three other relaxing options are
  neutral step by step: instances of `Agree` in `Props/C16b.lean`.)  `upd c a b p d` is `c` with the four options
  overwritten; the `rfl` lemmas about it serve as rewriting rules here, the rest of them stands in `NeutralOverwrites`.
-/
namespace WhatwgUrl.Proofs.Neutral
open WhatwgUrl WhatwgUrl.Impl WhatwgUrl.Proofs.Machine

@[reducible] def upd (c : Cfg) (a b p d : Bool) : Cfg :=
  { c with laxHost := a, acceptInvalid := b, pctSingle := p, skipDrive := d }

section
variable (c : Cfg) (a b p d : Bool) (I : Idna) (src : Bytes) (rs : Str) (base : Option Url) (ov : Option State)

theorem record_upd : record (upd c a b p d) = record c := rfl
theorem stops_upd : stops (upd c a b p d) = stops c := rfl
theorem fail6_upd : fail6 (upd c a b p d) = fail6 c := rfl
theorem endsInANumber_upd : endsInANumber (upd c a b p d) = endsInANumber c := rfl
theorem percentEncodeRune_upd : percentEncodeRune (upd c a b p d) = percentEncodeRune c := rfl

theorem opaqueLoop_lax (hc : c.laxHost = false) (input : Bytes) (s : Str) (u : Url) (out : Bytes) (h : Bytes)
    (hok : (opaqueLoop c input s u out).out = .ok h) :
    opaqueLoop { c with laxHost := true } input s u out = opaqueLoop c input s u out := by
  induction s generalizing u out with
  | nil => rfl
  | cons x rest ih =>
    simp only [opaqueLoop, hc, record_upd, stops_upd, percentEncodeRune_upd] at hok ⊢
    by_cases hf : forbiddenHost x.toNat = true
    · simp [hf] at hok
    · by_cases h1 : (!isUrlCp x.toNat && x != '%' && stops c false) = true
      · simp [hf, h1]
      · by_cases h2 : (x == '%' && invalidPct (x :: rest) && stops c false) = true
        · simp [hf, h1, h2]
        · simp only [hf, h1, h2, if_false, Bool.false_eq_true] at hok ⊢
          exact ih _ _ hok

theorem forbiddenLoop_lax (hc : c.laxHost = false) (ad : Bytes) (s : Str) (u : Url)
    (hok : (forbiddenLoop c ad s u).2 = none) :
    forbiddenLoop { c with laxHost := true } ad s u = forbiddenLoop c ad s u := by
  induction s generalizing u with
  | nil => rfl
  | cons x rest ih =>
    simp only [forbiddenLoop, hc, record_upd] at hok ⊢
    by_cases hf : forbiddenDomain x.toNat = true
    · simp [hf] at hok
    · simp only [hf, if_false, Bool.false_eq_true] at hok ⊢
      exact ih _ hok

theorem toASCII_lax (hc : c.laxHost = false) (u : Url) (s x : Bytes) (hok : (toASCII c I u s).1 = .ok x) :
    toASCII { c with laxHost := true } I u s = toASCII c I u s := by
  -- the oracle's answer `a`, its failure flag `f` and the ASCII test `k` as variables: if the strict branch is `.ok`, then
  -- not through `f && !laxHost`
  have key : ∀ (a : Bytes) (f k : Bool) (u' : Url),
      ((if (f && k) = true then (ToAsciiR.ok a, u') else if (f && !false) = true then (.err a, u')
        else if a.isEmpty = true then (.err [], u') else (.ok a, u')) : ToAsciiR × Url).1 = .ok x →
      ((if (f && k) = true then (ToAsciiR.ok a, u') else if (f && !true) = true then (.err a, u')
        else if a.isEmpty = true then (.err [], u') else (.ok a, u')) : ToAsciiR × Url) =
      (if (f && k) = true then (ToAsciiR.ok a, u') else if (f && !false) = true then (.err a, u')
        else if a.isEmpty = true then (.err [], u') else (.ok a, u')) := by
    intro a f k u' h
    cases f <;> cases k <;> simp_all
  unfold toASCII at hok ⊢
  by_cases h0 : s.isEmpty = true
  · simp only [h0, if_true]
  · simp only [h0, if_false, Bool.false_eq_true, hc] at hok ⊢
    exact key _ _ _ _ hok

/-- a strict run of the host parser (after the pre-parse hook) that returns a host did not consult `laxHost` -/
theorem hostOf_lax (hc : c.laxHost = false) (u : Url) (i : Bytes) (ns : Bool) (h : Bytes)
    (hok : (HostWF.hostOf c I u ns i).out = .ok h) :
    HostWF.hostOf { c with laxHost := true } I u ns i = HostWF.hostOf c I u ns i := by
  cases i with
  | nil => rfl
  | cons b0 t =>
    have h6 : parseIPv6 { c with laxHost := true } = parseIPv6 c := HostTr.parseIPv6_congr ⟨fun _ _ _ => rfl⟩
    have h4 : parseIPv4 { c with laxHost := true } = parseIPv4 c := HostTr.parseIPv4_congr ⟨⟨fun _ _ _ => rfl⟩, fun _ => rfl⟩
    have hd : decodePercent { c with laxHost := true } = decodePercent c := Percent.decodePercent_congr rfl
    unfold HostWF.hostOf at hok ⊢
    by_cases hb : (b0 == 0x5b) = true
    · simp only [hb, if_true, HostWF.bracketHost, fail6_upd, h6]
    · simp only [hb, if_false, Bool.false_eq_true] at hok ⊢
      by_cases hn : ns = true
      · simp only [hn, if_true, parseOpaqueHost] at hok ⊢
        exact opaqueLoop_lax c hc _ _ _ _ h hok
      · simp only [hn, if_false, Bool.false_eq_true] at hok ⊢
        -- the strict run returned a host: it came through every test of the domain branch
        obtain ⟨hv, ad, hta, hfl, -⟩ := HostWF.domainHost_strict_ok hc I u (b0 :: t) h hok
        simp only [HostWF.domainHost, Domain.finishDomain, fail6_upd, hd, hc, endsInANumber_upd, h4, hv, Bool.not_true,
          Bool.false_and, Bool.false_eq_true, if_false, toASCII_lax c I hc u _ ad hta, hta,
          forbiddenLoop_lax c hc _ _ _ hfl]

theorem parseHost_lax (hc : c.laxHost = false) (u : Url) (s : Bytes) (ns : Bool) (h : Bytes)
    (hok : (parseHost c I u s ns).out = .ok h) :
    parseHost { c with laxHost := true } I u s ns = parseHost c I u s ns := by
  rw [HostWF.parseHost_eq] at hok
  rw [HostWF.parseHost_eq, HostWF.parseHost_eq]
  exact hostOf_lax c I hc u _ ns h hok

end

/-- the first run is the strict one, the second the lax one: equal states while both go on; equal results if the strict run
    returns a url; once the strict run has returned anything else nothing is claimed of the lax run -/
abbrev Lax : StepR → StepR → Prop :=
  Sh2 (fun p₁ p₂ => p₂ = p₁) (fun x₁ x₂ => x₁.ret = .url → x₂ = x₁) (fun x₁ _ => x₁.ret ≠ .url)

theorem Lax.refl (r : StepR) : Lax r r :=
  Sh2_of_eq rfl (Sh_trivial (fun _ => rfl) (fun _ _ => rfl) r)

section
variable (c : Cfg) (I : Idna) (src : Bytes) (rs : Str) (base : Option Url) (ov : Option State)

theorem isSp_upd (a b p d : Bool) : isSp ⟨upd c a b p d, I, src, rs, base, ov⟩ = isSp ⟨c, I, src, rs, base, ov⟩ := rfl
theorem spBackslash_upd (a b p d : Bool) :
    spBackslash ⟨upd c a b p d, I, src, rs, base, ov⟩ = spBackslash ⟨c, I, src, rs, base, ov⟩ := rfl
theorem herr_upd (a b p d : Bool) : herr ⟨upd c a b p d, I, src, rs, base, ov⟩ = herr ⟨c, I, src, rs, base, ov⟩ := rfl
theorem hostChar_upd (a p d : Bool) :
    hostChar ⟨upd c a c.acceptInvalid p d, I, src, rs, base, ov⟩ = hostChar ⟨c, I, src, rs, base, ov⟩ := rfl

theorem afterHost_lax (hc : c.laxHost = false) (u : Url) (s : Bytes) (ns : Bool) (ps : PS) (k : PS → Bytes → StepR) :
    Lax (afterHost (parseHost c I u s ns) ps k)
      (afterHost (parseHost { c with laxHost := true } I u s ns) ps k) := by
  cases ho : (parseHost c I u s ns).out with
  | ok x => rw [parseHost_lax c I hc u s ns x ho]; exact Lax.refl _
  | err _ | panic _ =>
    simp only [afterHost, ho]
    exact (Sh2_done_left _ _).2 (Sh_trivial (fun _ h => by cases h) (fun _ h => by cases h) _)

theorem stHost_lax (hc : c.laxHost = false) (ps : PS) (r : Char) :
    Lax (stHost ⟨c, I, src, rs, base, ov⟩ ps r)
      (stHost ⟨{ c with laxHost := true }, I, src, rs, base, ov⟩ ps r) := by
  simp only [stHost_eq, herr_upd, isSp_upd, spBackslash_upd, hostChar_upd]
  simp only [herr, Sh2_ite, Lax.refl, afterHost_lax c I hc, implies_true, and_self]

theorem stFileHost_lax (hc : c.laxHost = false) (ps : PS) (r : Char) :
    Lax (stFileHost ⟨c, I, src, rs, base, ov⟩ ps r)
      (stFileHost ⟨{ c with laxHost := true }, I, src, rs, base, ov⟩ ps r) := by
  simp only [stFileHost, herr_upd, isSp_upd]
  simp only [herr, Sh2_ite, Lax.refl, afterHost_lax c I hc, implies_true, and_self]

theorem body_lax (hc : c.laxHost = false) (ps : PS) (r : Char) :
    Lax (body ⟨c, I, src, rs, base, ov⟩ ps r)
      (body ⟨{ c with laxHost := true }, I, src, rs, base, ov⟩ ps r) := by
  by_cases hst : ps.state = .host ∨ ps.state = .hostname ∨ ps.state = .fileHost
  · unfold body
    rcases hst with h | h | h <;> simp only [h]
    · exact stHost_lax c I src rs base ov hc ps r
    · exact stHost_lax c I src rs base ov hc ps r
    · exact stFileHost_lax c I src rs base ov hc ps r
  · rw [body_agree (c₁ := { c with laxHost := true }) (c₂ := c) { host := fun h => absurd h hst }]
    exact Lax.refl _

theorem step_lax (hc : c.laxHost = false) (ps : PS) :
    Lax (step ⟨c, I, src, rs, base, ov⟩ ps)
      (step ⟨{ c with laxHost := true }, I, src, rs, base, ov⟩ ps) :=
  Sh2_bottom _ _ (fun _ _ h => by rw [h]) ((body_lax c I src rs base ov hc _ _).mono
    (fun _ _ h => ⟨h, fun _ _ => by rw [h]⟩) (fun _ _ h => h) (fun _ _ h => ⟨h, fun _ hu => absurd hu h⟩))

end

theorem basicParser_lax (c : Cfg) (hc : c.laxHost = false) (I : Idna) (input : Bytes) (base url : Option Url)
    (ov : Option State) (hu : (basicParser c I input base url ov).ret = .url) :
    basicParser { c with laxHost := true } I input base url ov =
      basicParser c I input base url ov := by
  refine basicParser_rel (P := fun p₁ p₂ => p₂ = p₁) (D := fun x₁ x₂ => x₁.ret = .url → x₂ = x₁)
    (A := fun x₁ _ => x₁.ret ≠ .url) c { c with laxHost := true } I input base url url ov rfl ?_
    (by rintro _ p₂ rfl; exact step_lax c I _ _ base ov hc p₂) (fun _ _ _ h hu => absurd hu h) (fun _ _ h _ => by rw [h]) hu
  rw [prologue_congr c { c with laxHost := true } rfl rfl]
  exact Lax.refl _

end WhatwgUrl.Proofs.Neutral
