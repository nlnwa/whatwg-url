import WhatwgUrl.Proofs.Lifting
import WhatwgUrl.Impl.Api
/-
  For C02c, C12c and C13b: a `BasicParser` call under the state override `query` on a url whose query is non-nil returns — for
  every outcome — a url whose query is non-nil.  (Under an override the query state is never left.)
  This is what makes panic site 31 (`*u.query` on nil in `SetSearch`) unreachable; the heap-level descriptions of `SetSearch`
  (`Proofs/Heap.lean`, `IndepHist.stepV`) take from it that the query is `some _` after a call with a non-empty value.
-/
namespace WhatwgUrl.Proofs.HeapInvQuery
open WhatwgUrl WhatwgUrl.Impl WhatwgUrl.Proofs.Machine

def InvQS (ps : PS) : Prop := ps.state = .query ∧ ps.url.query.isSome = true
def DQS (x : Res) : Prop := x.url.query.isSome = true

/-- under an override the query state is not left, and it writes `some _` to the query if it writes it at all -/
theorem body_qs (e : Env) (q : PS) (r : Char) (hov : e.ov.isSome = true) (hI : InvQS q) : Sh InvQS DQS (body e q r) := by
  obtain ⟨hst, hq⟩ := hI
  have hov' : e.ov.isNone = false := by cases h : e.ov <;> simp_all
  simp [body, hst, stQuery_eq, Sh_unitChecks, Sh_ite, Sh_herr, Sh_cont, InvQS, DQS, record_eq, hov', hq]

theorem basicParser_query_isSome (cfg : Cfg) (I : Idna) (input : Bytes) (base : Option Url) (u : Url)
    (hu : u.query.isSome = true) : (basicParser cfg I input base (some u) (some .query)).url.query.isSome = true := by
  have hq : ∀ v, HostWF.Same u v → v.query.isSome = true := fun v hv => by rw [hv.query]; exact hu
  exact basicParser_of_inv (P := InvQS) (D := DQS) cfg I input base (some u) (some .query)
    (fun _ v hv => by simpa [DQS, record_eq] using hq v hv) (fun _ _ _ h => h) (fun ps q r h R => body_qs _ q r rfl h)
    (fun _ h => h.2) (fun v hv => ⟨rfl, hq v hv⟩)

theorem setSearchU_query_isSome (cfg : Cfg) (I : Idna) (u : Url) (v : Bytes) (hv : v.isEmpty = false) :
    (setSearchU cfg I u v).url.query.isSome = true := by
  unfold setSearchU
  rw [if_neg (by simp [hv])]
  apply basicParser_query_isSome
  split
  · rfl
  · rename_i h; cases hq : u.query <;> simp_all

theorem setSearchU_query_some (cfg : Cfg) (I : Idna) (u : Url) (v : Bytes) (hv : v.isEmpty = false) :
    ∃ q, (setSearchU cfg I u v).url.query = some q :=
  Option.isSome_iff_exists.mp (setSearchU_query_isSome cfg I u v hv)

end WhatwgUrl.Proofs.HeapInvQuery
