import WhatwgUrl.Impl.Heap
/-
  `bytesLt` (Go's `<` on strings) is a strict total order, and `sortStable` (the model of `sort.SliceStable`) is the stable
  sort by key: a permutation, ordered, keeping the order within each key — which determines it (`stable_sort_unique`), so it
  agrees with core's merge sort.  Namespace of `SearchParams.lean`; `sortStable_idem`, `sortStable_mem` serve `IdemPipeline.lean`.
-/
namespace WhatwgUrl.Proofs.SearchParams
open WhatwgUrl WhatwgUrl.Impl

theorem bytesLt_irrefl (a : Bytes) : bytesLt a a = false := by
  induction a with
  | nil => rfl
  | cons x xs ih => simp [bytesLt, ih]

theorem bytesLt_asymm : ∀ (a b : Bytes), bytesLt a b = true → bytesLt b a = false
  | [], [] => by simp [bytesLt]
  | [], _ :: _ => by simp [bytesLt]
  | _ :: _, [] => by simp [bytesLt]
  | x :: xs, y :: ys => by
    have ih := bytesLt_asymm xs ys
    unfold bytesLt
    by_cases h1 : x.toNat < y.toNat
    · have : ¬ y.toNat < x.toNat := by omega
      simp [h1, this]
    · by_cases h2 : y.toNat < x.toNat
      · simp [h1, h2]
      · simpa [h1, h2] using ih

theorem bytesLt_trans : ∀ (a b c : Bytes), bytesLt a b = true → bytesLt b c = true → bytesLt a c = true
  | [], [], _ => by simp [bytesLt]
  | [], _ :: _, [] => by simp [bytesLt]
  | [], _ :: _, _ :: _ => by simp [bytesLt]
  | _ :: _, [], _ => by simp [bytesLt]
  | _ :: _, _ :: _, [] => by simp [bytesLt]
  | x :: xs, y :: ys, z :: zs => by
    have ih := bytesLt_trans xs ys zs
    unfold bytesLt
    by_cases h1 : x.toNat < y.toNat
    · by_cases h2 : y.toNat < z.toNat
      · have : x.toNat < z.toNat := by omega
        simp [this]
      · by_cases h3 : z.toNat < y.toNat
        · simp [h1, h2, h3]
        · have : x.toNat < z.toNat := by omega
          simp [this]
    · by_cases h1' : y.toNat < x.toNat
      · simp [h1, h1']
      · have hxy : x.toNat = y.toNat := by omega
        by_cases h2 : y.toNat < z.toNat
        · have : x.toNat < z.toNat := by omega
          simp [this]
        · by_cases h3 : z.toNat < y.toNat
          · simp [h1, h1', h2, h3]
          · have h4 : ¬ x.toNat < z.toNat := by omega
            have h5 : ¬ z.toNat < x.toNat := by omega
            simpa [h1, h1', h2, h3, h4, h5] using ih

theorem bytesLt_total : ∀ (a b : Bytes), bytesLt a b = false → bytesLt b a = false → a = b
  | [], [] => by simp
  | [], _ :: _ => by simp [bytesLt]
  | _ :: _, [] => by simp [bytesLt]
  | x :: xs, y :: ys => by
    have ih := bytesLt_total xs ys
    unfold bytesLt
    by_cases h1 : x.toNat < y.toNat
    · simp [h1]
    · by_cases h2 : y.toNat < x.toNat
      · simp [h1, h2]
      · have hxy : x = y := UInt8.toNat_inj.mp (by omega)
        simp only [h1, h2, ↓reduceIte]
        intro ha hb
        rw [hxy, ih ha hb]

def keyLe (a b : Bytes) : Prop := bytesLt b a = false

theorem keyLe_trans {a b c : Bytes} (h1 : keyLe a b) (h2 : keyLe b c) : keyLe a c := by
  unfold keyLe at *
  cases h : bytesLt c a with
  | false => rfl
  | true =>
    cases hab : bytesLt a b with
    | true => rw [bytesLt_trans c a b h hab] at h2; exact h2
    | false =>
      have := bytesLt_total a b hab h1
      subst this
      rw [h] at h2; exact h2

theorem insertStable_perm (key : Bytes × Bytes → Bytes) (x : Bytes × Bytes) (l : Pairs) :
    (insertStable key x l).Perm (x :: l) := by
  induction l with
  | nil => exact List.Perm.refl _
  | cons y ys ih =>
    unfold insertStable
    split
    · exact List.Perm.refl _
    · exact (List.Perm.cons y ih).trans (List.Perm.swap x y ys)

theorem foldl_insert_perm (key : Bytes × Bytes → Bytes) (l acc : Pairs) :
    (l.foldl (fun acc x => insertStable key x acc) acc).Perm (acc ++ l) := by
  induction l generalizing acc with
  | nil => simp
  | cons x xs ih =>
    simp only [List.foldl_cons]
    refine (ih _).trans ?_
    refine ((insertStable_perm key x acc).append_right xs).trans ?_
    simpa using (List.perm_middle (a := x) (l₁ := acc) (l₂ := xs)).symm

abbrev Sorted (key : Bytes × Bytes → Bytes) (l : Pairs) : Prop :=
  l.Pairwise (fun a b => keyLe (key a) (key b))

theorem insertStable_sorted (key : Bytes × Bytes → Bytes) (x : Bytes × Bytes) (l : Pairs)
    (h : Sorted key l) : Sorted key (insertStable key x l) := by
  induction l with
  | nil => simp [insertStable, Sorted]
  | cons y ys ih =>
    unfold insertStable
    have hy := (List.pairwise_cons.mp h)
    split
    · rename_i hlt
      refine List.pairwise_cons.mpr ⟨?_, h⟩
      intro z hz
      rcases List.mem_cons.mp hz with rfl | hz
      · exact bytesLt_asymm _ _ hlt
      · exact keyLe_trans (bytesLt_asymm _ _ hlt) (hy.1 z hz)
    · rename_i hlt
      refine List.pairwise_cons.mpr ⟨?_, ih hy.2⟩
      intro z hz
      have := (insertStable_perm key x ys).mem_iff.mp hz
      rcases List.mem_cons.mp this with rfl | hz
      · simpa [keyLe] using hlt
      · exact hy.1 z hz

theorem foldl_insert_sorted (key : Bytes × Bytes → Bytes) (l acc : Pairs) (h : Sorted key acc) :
    Sorted key (l.foldl (fun acc x => insertStable key x acc) acc) := by
  induction l generalizing acc with
  | nil => exact h
  | cons x xs ih => exact ih _ (insertStable_sorted key x acc h)

/-- inserting into a sorted list appends `x` at the end of the sublist of the elements with `x`'s key,
    and leaves the sublists of all other keys untouched -/
theorem insertStable_filter (key : Bytes × Bytes → Bytes) (x : Bytes × Bytes) (k : Bytes) (l : Pairs)
    (h : Sorted key l) :
    (insertStable key x l).filter (fun p => key p == k) =
      l.filter (fun p => key p == k) ++ (if key x == k then [x] else []) := by
  induction l with
  | nil => simp [insertStable, List.filter_cons]
  | cons y ys ih =>
    have hy := (List.pairwise_cons.mp h)
    unfold insertStable
    split
    · rename_i hlt
      by_cases hk : key x == k
      · have hk' : key x = k := by simpa using hk
        -- every element of `y :: ys` has a key strictly greater than `k`
        have hnone : (y :: ys).filter (fun p => key p == k) = [] := by
          rw [List.filter_eq_nil_iff]
          intro z hz hzk
          have hzk' : key z = k := by simpa using hzk
          have hle : keyLe (key y) (key z) := by
            rcases List.mem_cons.mp hz with rfl | hz
            · exact bytesLt_irrefl _
            · exact hy.1 z hz
          -- key x < key y ≤ key z = key x
          rw [hzk', ← hk'] at hle
          simp [keyLe, hlt] at hle
        rw [List.filter_cons, hnone]
        simp [hk]
      · rw [List.filter_cons]
        simp [hk]
    · rw [List.filter_cons, ih hy.2, List.filter_cons]
      split <;> simp

theorem foldl_insert_filter (key : Bytes × Bytes → Bytes) (k : Bytes) (l acc : Pairs) (h : Sorted key acc) :
    (l.foldl (fun acc x => insertStable key x acc) acc).filter (fun p => key p == k) =
      acc.filter (fun p => key p == k) ++ l.filter (fun p => key p == k) := by
  induction l generalizing acc with
  | nil => simp
  | cons x xs ih =>
    simp only [List.foldl_cons]
    rw [ih _ (insertStable_sorted key x acc h), insertStable_filter key x k acc h, List.filter_cons]
    split <;> simp

/-- a list sorted by key is determined by its per-key sublists: any two stable sorts of the same list agree -/
theorem stable_sort_unique (key : Bytes × Bytes → Bytes) (l1 l2 : Pairs)
    (h1 : Sorted key l1) (h2 : Sorted key l2)
    (hf : ∀ k, l1.filter (fun p => key p == k) = l2.filter (fun p => key p == k)) : l1 = l2 := by
  induction l1 generalizing l2 with
  | nil =>
    cases l2 with
    | nil => rfl
    | cons b l2' =>
      have := hf (key b)
      simp at this
  | cons a l1' ih =>
    cases l2 with
    | nil =>
      have := hf (key a)
      simp at this
    | cons b l2' =>
      have s1 := List.pairwise_cons.mp h1
      have s2 := List.pairwise_cons.mp h2
      have hab : a = b := by
        by_cases hk : key b = key a
        · have := hf (key a)
          simp only [List.filter_cons, beq_self_eq_true, hk, ↓reduceIte, List.cons.injEq] at this
          exact this.1
        · exfalso
          have hk' : key a ≠ key b := fun h => hk h.symm
          have e1 := hf (key a)
          have e2 := hf (key b)
          simp only [List.filter_cons, beq_self_eq_true, ↓reduceIte, beq_iff_eq, hk] at e1
          simp only [List.filter_cons, beq_self_eq_true, ↓reduceIte, beq_iff_eq, hk'] at e2
          have ha : a ∈ l2' := by
            have : a ∈ l2'.filter (fun p => key p == key a) := by rw [← e1]; simp
            exact (List.mem_filter.mp this).1
          have hb : b ∈ l1' := by
            have : b ∈ l1'.filter (fun p => key p == key b) := by rw [e2]; simp
            exact (List.mem_filter.mp this).1
          exact hk (bytesLt_total _ _ (s1.1 b hb) (s2.1 a ha))
      subst hab
      congr 1
      refine ih l2' s1.2 s2.2 (fun k => ?_)
      have := hf k
      simp only [List.filter_cons] at this
      split at this
      · exact (List.cons.inj this).2
      · exact this

def leKey (key : Bytes × Bytes → Bytes) (a b : Bytes × Bytes) : Bool := !bytesLt (key b) (key a)

theorem leKey_iff (key : Bytes × Bytes → Bytes) (a b : Bytes × Bytes) :
    leKey key a b = true ↔ keyLe (key a) (key b) := by
  simp [leKey, keyLe]

theorem leKey_trans (key : Bytes × Bytes → Bytes) (a b c : Bytes × Bytes) :
    leKey key a b = true → leKey key b c = true → leKey key a c = true := by
  simp only [leKey_iff]; exact keyLe_trans

theorem leKey_total (key : Bytes × Bytes → Bytes) (a b : Bytes × Bytes) :
    (leKey key a b || leKey key b a) = true := by
  cases h : bytesLt (key b) (key a) with
  | false => simp [leKey, h]
  | true => simp [leKey, bytesLt_asymm _ _ h]

theorem mergeSort_filter (key : Bytes × Bytes → Bytes) (l : Pairs) (k : Bytes) :
    (l.mergeSort (leKey key)).filter (fun p => key p == k) = l.filter (fun p => key p == k) := by
  have hpw : (l.filter (fun p => key p == k)).Pairwise (fun a b => leKey key a b = true) := by
    rw [List.pairwise_filter]
    refine List.pairwise_of_forall (fun a b => ?_)
    intro ha hb
    have ha' : key a = k := by simpa using ha
    have hb' : key b = k := by simpa using hb
    rw [leKey_iff, ha', hb']
    exact bytesLt_irrefl k
  have hsub := List.sublist_mergeSort (le := leKey key) (xs := l) (leKey_trans key) (leKey_total key) hpw
    List.filter_sublist
  have hsub' := hsub.filter (fun p => key p == k)
  rw [List.filter_filter] at hsub'
  simp only [Bool.and_self] at hsub'
  have hlen := ((List.mergeSort_perm l (leKey key)).filter (fun p => key p == k)).length_eq
  exact (hsub'.eq_of_length hlen.symm).symm

theorem sortStable_filter (key : Bytes × Bytes → Bytes) (l : Pairs) (k : Bytes) :
    (sortStable key l).filter (fun p => key p == k) = l.filter (fun p => key p == k) := by
  unfold sortStable
  rw [foldl_insert_filter key k l [] List.Pairwise.nil]
  simp

theorem sortStable_perm (key : Bytes × Bytes → Bytes) (l : Pairs) : (sortStable key l).Perm l := by
  simpa [sortStable] using foldl_insert_perm key l []

theorem sortStable_sorted (key : Bytes × Bytes → Bytes) (l : Pairs) :
    (sortStable key l).Pairwise (fun a b => keyLe (key a) (key b)) :=
  foldl_insert_sorted key l [] List.Pairwise.nil

theorem sortStable_eq_mergeSort (key : Bytes × Bytes → Bytes) (l : Pairs) :
    sortStable key l = l.mergeSort (leKey key) := by
  apply stable_sort_unique key
  · exact sortStable_sorted key l
  · have := List.pairwise_mergeSort (le := leKey key) (leKey_trans key) (leKey_total key) l
    exact this.imp (fun {a b} h => (leKey_iff key a b).mp h)
  · intro k
    rw [sortStable_filter, mergeSort_filter]

theorem sortStable_mem (key : Bytes × Bytes → Bytes) (l : Pairs) : ∀ z, z ∈ sortStable key l ↔ z ∈ l :=
  fun _ => (sortStable_perm key l).mem_iff

/-- sorting a sorted list changes neither the order nor the per-key sublists, which determine the result -/
theorem sortStable_idem (key : Bytes × Bytes → Bytes) (l : Pairs) : sortStable key (sortStable key l) = sortStable key l :=
  stable_sort_unique key _ _ (sortStable_sorted key _) (sortStable_sorted key l) (fun k => sortStable_filter key _ k)

end WhatwgUrl.Proofs.SearchParams
