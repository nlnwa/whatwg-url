import WhatwgUrl.Proofs.PipelineCongr
import WhatwgUrl.Proofs.WebQuery
import WhatwgUrl.Proofs.PipelineHost
import WhatwgUrl.Proofs.CanonText
/-
  C18d / C18e / C17c: `(*profile).Parse` on an ordinary web url `scheme://host/seg/…/seg?n=v&…#frag` whose components are
  spellings (`render`, `WebText`, `SameWeb`), for a variable parser configuration (`WebParseCfg` / `WebCfg`): two spellings
  of the same plain url parse to records related as the congruence of `Proofs/PipelineCongr.lean` requires, and so have
  the same canonical text; the default-scheme retry of `(*profile).Parse` does not happen on such inputs.
-/
namespace WhatwgUrl.Props.C18d
open WhatwgUrl WhatwgUrl.Impl WhatwgUrl.Proofs.Pipeline
open WhatwgUrl.Proofs.RoundTrip (pathText qTail fTail)

/-- the input: `pre` (= `scheme://host`), then `/seg` for every segment, `?n=v&…` if there is a query, `#frag` if there is
    a fragment -/
def render (pre : Bytes) (segs : List Bytes) (q : Option (List (Bytes × Bytes))) (f : Option Bytes) : Bytes :=
  pre ++ (pathText segs ++ (qTail (q.map qText) ++ fTail f))

def OptRel {α β : Type} (R : α → β → Prop) : Option α → Option β → Prop
  | none, none => True
  | some a, some b => R a b
  | _, _ => False

/-- the components of one input are spellings: every segment of a plain segment that is not a dot segment, every name, value
    and the fragment of a non-empty plain text (plain: over the unreserved characters `A-Z a-z 0-9 - . _ ~`) -/
structure WebText (segs : List Bytes) (q : Option (List (Bytes × Bytes))) (f : Option Bytes) : Prop where
  hsegs : ∀ x ∈ segs, ∃ p, Seg p x
  hne : segs ≠ []
  hquery : ∀ l, q = some l → ∀ nv ∈ l, (∃ p, Tok p nv.1) ∧ (∃ p, Tok p nv.2)
  hfrag : ∀ x, f = some x → ∃ p, Tok p x

/-- both inputs are spellings of the same plain url -/
structure SameWeb (segs₁ segs₂ : List Bytes) (q₁ q₂ : Option (List (Bytes × Bytes))) (f₁ f₂ : Option Bytes) : Prop where
  hsegs : All2 SegSame segs₁ segs₂
  hne : segs₁ ≠ []
  hquery : OptRel (All2 PairSame) q₁ q₂
  hfrag : OptRel TokSame f₁ f₂

theorem SameWeb.left {segs₁ segs₂ : List Bytes} {q₁ q₂ : Option (List (Bytes × Bytes))} {f₁ f₂ : Option Bytes}
    (h : SameWeb segs₁ segs₂ q₁ q₂ f₁ f₂) : WebText segs₁ q₁ f₁ := by
  refine ⟨fun x hx => ?_, h.hne, fun l hl nv hnv => ?_, fun x hx => ?_⟩
  · obtain ⟨y, _, p, h1, _⟩ := All2.mem_left h.hsegs x hx
    exact ⟨p, h1⟩
  · subst hl
    cases q₂ with
    | none => exact (h.hquery).elim
    | some l₂ =>
      obtain ⟨y, _, ⟨p1, h1, _⟩, ⟨p2, h2, _⟩⟩ := All2.mem_left h.hquery nv hnv
      exact ⟨⟨p1, h1⟩, ⟨p2, h2⟩⟩
  · subst hx
    cases f₂ with
    | none => exact (h.hfrag).elim
    | some y =>
      obtain ⟨p, h1, _⟩ := h.hfrag
      exact ⟨p, h1⟩

theorem SameWeb.right {segs₁ segs₂ : List Bytes} {q₁ q₂ : Option (List (Bytes × Bytes))} {f₁ f₂ : Option Bytes}
    (h : SameWeb segs₁ segs₂ q₁ q₂ f₁ f₂) : WebText segs₂ q₂ f₂ := by
  refine ⟨fun x hx => ?_, ?_, fun l hl nv hnv => ?_, fun x hx => ?_⟩
  · obtain ⟨y, _, p, _, h2⟩ := All2.mem_right h.hsegs x hx
    exact ⟨p, h2⟩
  · have := h.hsegs
    cases this with
    | nil => exact absurd rfl h.hne
    | cons _ _ => exact List.cons_ne_nil _ _
  · subst hl
    cases q₁ with
    | none => exact (h.hquery).elim
    | some l₁ =>
      obtain ⟨y, _, ⟨p1, _, h1⟩, ⟨p2, _, h2⟩⟩ := All2.mem_right h.hquery nv hnv
      exact ⟨⟨p1, h1⟩, ⟨p2, h2⟩⟩
  · subst hx
    cases f₁ with
    | none => exact (h.hfrag).elim
    | some y =>
      obtain ⟨p, _, h2⟩ := h.hfrag
      exact ⟨p, h2⟩

end WhatwgUrl.Props.C18d

namespace WhatwgUrl.Proofs.Pipeline
open WhatwgUrl WhatwgUrl.Impl
open WhatwgUrl.Props.C18d (canonOut)

theorem canonOut_of_rel (I : Idna) (p : Profile) (u₁ u₂ : Url) (h : RRel R4 (canonV I p ⟨u₁, none⟩) (canonV I p ⟨u₂, none⟩)) :
    canonOut I p ⟨u₁, .url⟩ = canonOut I p ⟨u₂, .url⟩ := by
  unfold canonOut
  simp only [if_true]
  rcases h with ⟨n, h1, h2⟩ | ⟨⟨hR, _⟩, h1, h2⟩
  · rw [h1, h2]; simp
  · rw [(canonV_ret I p ⟨u₁, none⟩).resolve_right fun ⟨n, h⟩ => h1 n h, (canonV_ret I p ⟨u₂, none⟩).resolve_right fun ⟨n, h⟩ => h2 n h]
    simp only [if_true]
    obtain ⟨e1, e2, e3, e4, e5, _, e7, e8, e9⟩ := hR
    unfold href
    rw [e1, e2, e3, e4, e5, e7 rfl, e8 rfl, e9 rfl]

theorem canonOut_congr (I : Idna) (p : Profile) (hp : p.repeatedPercentDecoding = true) (hH : HostOk p.cfg I) (u₁ u₂ : Url)
    (hA : Ag false false false u₁ u₂) (hP : PathEq u₁.path u₂.path) (hQ : QueryEq p.cfg u₁.query u₂.query)
    (hF : FragEq u₁.fragment u₂.fragment) :
    canonOut I p ⟨u₁, .url⟩ = canonOut I p ⟨u₂, .url⟩ :=
  canonOut_of_rel I p u₁ u₂ (canonV_congr I p hp hH ⟨u₁, none⟩ ⟨u₂, none⟩ ⟨hA, hP, hQ, hF, rfl, rfl⟩)

/-- unless the parse fails for want of a scheme (the one error after which `(*profile).Parse` retries with the default
    scheme), the canonical text is what `canonOut` makes of the parse result, whatever the heap -/
theorem canonText_of_parse (I : Idna) (p : Profile) (H : Heap) (raw : Bytes)
    (hnm : ∀ er w, (parse p.cfg I raw).ret = .err er w → er.t ≠ .MissingSchemeNonRelativeURL) :
    Props.C17b.canonText (canonParse I p H raw) = canonOut I p (parse p.cfg I raw) := by
  rw [Props.C18d.canonText_canonParse, canonParseBase_eq_parse I p raw (Or.inr (Or.inr hnm))]

theorem hooksOk_of_ignore {c : Cfg} (h : Idem.HooksIgnore c) : HooksOk c :=
  ⟨fun f hf a b x _ => h.1 f hf a b x, fun f hf a b x _ => h.2 f hf a b x⟩

end WhatwgUrl.Proofs.Pipeline

namespace WhatwgUrl.Proofs.Web
open WhatwgUrl WhatwgUrl.Impl WhatwgUrl.Proofs.Pipeline
open WhatwgUrl.Props.C17b (canonText)
open WhatwgUrl.Props.C18d (render WebText SameWeb OptRel canonOut canonText_canonParse)
open WhatwgUrl.Proofs.RoundTrip (pathText qTail fTail setQ setF)
open WhatwgUrl.Proofs.Spelling (hostText hostFail)

/-- the pre-parse-host closures of the two predefined profiles do not look at the record -/
theorem hooksIgnore_gsb : Idem.HooksIgnore gsbCfg :=
  ⟨fun f hf a b h => (by cases hf; rfl), fun f hf => (by cases hf)⟩
theorem hooksIgnore_semantic : Idem.HooksIgnore semanticCfg :=
  ⟨fun f hf a b h => (by cases hf; rfl), fun f hf => (by cases hf)⟩

theorem hooksOk_gsb : HooksOk gsbCfg := hooksOk_of_ignore hooksIgnore_gsb
theorem hooksOk_semantic : HooksOk semanticCfg := hooksOk_of_ignore hooksIgnore_semantic

theorem wt_segC {segs : List Bytes} {q : Option (List (Bytes × Bytes))} {f : Option Bytes} (h : WebText segs q f) :
    ∀ x ∈ segs, SegC x := fun x hx => by obtain ⟨p, hp⟩ := h.hsegs x hx; exact seg_segC hp

theorem wt_nonempty {segs : List Bytes} {q : Option (List (Bytes × Bytes))} {f : Option Bytes} (h : WebText segs q f) :
    ∀ x ∈ segs, x ≠ [] := fun x hx => by obtain ⟨p, hp⟩ := h.hsegs x hx; exact tok_ne_nil hp.1

theorem wt_qOkC {segs : List Bytes} {q : Option (List (Bytes × Bytes))} {f : Option Bytes} (h : WebText segs q f) :
    QOkC (q.map qText) := by
  cases q with
  | none => intro x hx; cases hx
  | some l =>
    intro x hx
    cases hx
    exact ⟨qText_qB l (tokPairs_sp (h.hquery l rfl)), pctOk_qText l (h.hquery l rfl)⟩

theorem wt_fOkC {segs : List Bytes} {q : Option (List (Bytes × Bytes))} {f : Option Bytes} (h : WebText segs q f) :
    FOkC f := by
  intro x hx
  obtain ⟨p, hp⟩ := h.hfrag x hx
  exact ⟨tok_spB hp, tok_pctOk hp⟩

theorem parse_render_c (cfg : Cfg) (hW : WebParseCfg cfg) (I : Idna) (s dp a : Bytes) (hsd : cfg.special? s = some dp)
    (hdp : dp ≠ []) (ha : hostText a = true)
    (segs : List Bytes) (q : Option (List (Bytes × Bytes))) (f : Option Bytes) (hw : WebText segs q f) :
    parse cfg I (render (s ++ lit "://" ++ a) segs q f) = webResC cfg I s a segs (q.map qText) f :=
  parse_web_c cfg hW I s dp a hsd hdp ha segs (wt_segC hw) hw.hne
    (fun x hx => wt_nonempty hw x (List.dropLast_subset segs hx)) (q.map qText) f (wt_qOkC hw) (wt_fOkC hw)

theorem webResC_ok (cfg : Cfg) (I : Idna) (s a h : Bytes) (segs : List Bytes) (q f : Option Bytes)
    (hout : (parseHost cfg I (hostU s) a false).out = .ok h) :
    ∃ u, webResC cfg I s a segs q f = ⟨u, .url⟩ ∧ u.scheme = s ∧ u.username = [] ∧ u.password = [] ∧ u.host = some h ∧
      u.port = none ∧ u.decodedPort = 0 ∧ u.path = ⟨segs, false⟩ ∧ u.query = q ∧ u.fragment = f := by
  obtain ⟨e1, e2, e3, _, e5, e6, _, e8, e9⟩ := WhatwgUrl.Proofs.HostWF.parseHost_frame cfg I (hostU s) a false
  unfold webResC
  rw [hout]
  dsimp only
  rw [setF_setQ]
  · exact ⟨_, rfl, e1, e2, e3, rfl, e5, e6, rfl, rfl, rfl⟩
  · exact e8
  · exact e9

theorem webResC_fail (cfg : Cfg) (I : Idna) (s a : Bytes) (segs : List Bytes) (q f : Option Bytes)
    (hno : ∀ h, (parseHost cfg I (hostU s) a false).out ≠ .ok h) :
    (webResC cfg I s a segs q f).ret ≠ .url ∧
    ∀ er w, (webResC cfg I s a segs q f).ret = .err er w → er.t ≠ .MissingSchemeNonRelativeURL :=
  (webResU_fail cfg I (hostU s) a none segs q f hno).2

/-- **the parse of two inputs** (`parse_render_c` twice; the host texts may differ, as long as the host parser makes the same
    host `h` of both): both parses succeed and the two records are related as `canonOut_congr` requires -/
theorem parse_related_hosts (cfg : Cfg) (hW : WebCfg cfg) (I : Idna) (s dp a₁ a₂ h : Bytes) (hsd : cfg.special? s = some dp)
    (hdp : dp ≠ []) (ha₁ : hostText a₁ = true) (ha₂ : hostText a₂ = true)
    (hout₁ : (parseHost cfg I (hostU s) a₁ false).out = .ok h) (hout₂ : (parseHost cfg I (hostU s) a₂ false).out = .ok h)
    (segs₁ segs₂ : List Bytes) (q₁ q₂ : Option (List (Bytes × Bytes))) (f₁ f₂ : Option Bytes)
    (hw : SameWeb segs₁ segs₂ q₁ q₂ f₁ f₂) :
    ∃ u₁ u₂, parse cfg I (render (s ++ lit "://" ++ a₁) segs₁ q₁ f₁) = ⟨u₁, .url⟩ ∧
      parse cfg I (render (s ++ lit "://" ++ a₂) segs₂ q₂ f₂) = ⟨u₂, .url⟩ ∧
      Ag false false false u₁ u₂ ∧ PathEq u₁.path u₂.path ∧ QueryEq cfg u₁.query u₂.query ∧ FragEq u₁.fragment u₂.fragment ∧
      u₁.path = ⟨segs₁, false⟩ ∧ u₂.path = ⟨segs₂, false⟩ ∧ u₁.query = q₁.map qText ∧ u₂.query = q₂.map qText ∧
      u₁.fragment = f₁ ∧ u₂.fragment = f₂ := by
  obtain ⟨u₁, r1, a1, a2, a3, a4, a5, a6, a7, a8, a9⟩ := webResC_ok cfg I s a₁ h segs₁ (q₁.map qText) f₁ hout₁
  obtain ⟨u₂, r2, b1, b2, b3, b4, b5, b6, b7, b8, b9⟩ := webResC_ok cfg I s a₂ h segs₂ (q₂.map qText) f₂ hout₂
  refine ⟨u₁, u₂, ?_, ?_, ?_, ?_, ?_, ?_, a7, b7, a8, b8, a9, b9⟩
  · rw [parse_render_c cfg hW.toWebParseCfg I s dp a₁ hsd hdp ha₁ _ _ _ hw.left, r1]
  · rw [parse_render_c cfg hW.toWebParseCfg I s dp a₂ hsd hdp ha₂ _ _ _ hw.right, r2]
  · exact ⟨a1.trans b1.symm, a2.trans b2.symm, a3.trans b3.symm, a4.trans b4.symm, a5.trans b5.symm, a6.trans b6.symm,
      Bool.noConfusion, Bool.noConfusion, Bool.noConfusion⟩
  · rw [a7, b7]
    obtain ⟨ps, h1, h2⟩ := segSame_plains hw.hsegs
    exact pathEq_of_segs h1 h2
  · rw [a8, b8]
    cases q₁ with
    | none =>
      cases q₂ with
      | none => exact Or.inl rfl
      | some l₂ => exact (hw.hquery).elim
    | some l₁ =>
      cases q₂ with
      | none => exact (hw.hquery).elim
      | some l₂ => exact queryEq_of_pairs_c cfg hW hw.hquery
  · rw [a9, b9]
    cases f₁ with
    | none =>
      cases f₂ with
      | none => exact Or.inl rfl
      | some y => exact (hw.hfrag).elim
    | some x =>
      cases f₂ with
      | none => exact (hw.hfrag).elim
      | some y => exact fragEq_of_tok hw.hfrag

theorem same_canonical_of_out (I : Idna) (p : Profile) (hp : p.repeatedPercentDecoding = true) (hW : WebCfg p.cfg)
    (hk : HooksOk p.cfg) (H₁ H₂ : Heap) (s dp a₁ a₂ : Bytes) (hsd : p.cfg.special? s = some dp) (hdp : dp ≠ [])
    (ha₁ : hostText a₁ = true) (ha₂ : hostText a₂ = true)
    (hout : (parseHost p.cfg I (hostU s) a₁ false).out = (parseHost p.cfg I (hostU s) a₂ false).out)
    (segs₁ segs₂ : List Bytes) (q₁ q₂ : Option (List (Bytes × Bytes))) (f₁ f₂ : Option Bytes)
    (hw : SameWeb segs₁ segs₂ q₁ q₂ f₁ f₂) :
    canonText (canonParse I p H₁ (render (s ++ lit "://" ++ a₁) segs₁ q₁ f₁)) =
      canonText (canonParse I p H₂ (render (s ++ lit "://" ++ a₂) segs₂ q₂ f₂)) := by
  by_cases hok : ∃ h, (parseHost p.cfg I (hostU s) a₁ false).out = .ok h
  · obtain ⟨h, hout₁⟩ := hok
    obtain ⟨u₁, u₂, r1, r2, hA, hP, hQ, hF, _⟩ :=
      parse_related_hosts p.cfg hW I s dp a₁ a₂ h hsd hdp ha₁ ha₂ hout₁ (hout ▸ hout₁) segs₁ segs₂ q₁ q₂ f₁ f₂ hw
    rw [canonText_of_parse I p H₁ _ (by rw [r1]; exact fun _ _ h => nomatch h),
      canonText_of_parse I p H₂ _ (by rw [r2]; exact fun _ _ h => nomatch h), r1, r2]
    exact canonOut_congr I p hp (hostOk_of_hooks p.cfg I hk) u₁ u₂ hA hP hQ hF
  · -- the host parser rejects both host texts: both parses are its failure, which is not the error the retry waits for
    have hno₁ : ∀ h, (parseHost p.cfg I (hostU s) a₁ false).out ≠ .ok h := fun h hh => hok ⟨h, hh⟩
    have p₁ := parse_render_c p.cfg hW.toWebParseCfg I s dp a₁ hsd hdp ha₁ _ _ _ hw.left
    have p₂ := parse_render_c p.cfg hW.toWebParseCfg I s dp a₂ hsd hdp ha₂ _ _ _ hw.right
    obtain ⟨f1, f2⟩ := webResC_fail p.cfg I s a₁ segs₁ (q₁.map qText) f₁ hno₁
    obtain ⟨g1, g2⟩ := webResC_fail p.cfg I s a₂ segs₂ (q₂.map qText) f₂ (hout ▸ hno₁)
    rw [canonText_of_parse I p H₁ _ (p₁ ▸ f2), canonText_of_parse I p H₂ _ (p₂ ▸ g2), p₁, p₂]
    unfold canonOut
    rw [if_neg f1, if_neg g1]

end WhatwgUrl.Proofs.Web
