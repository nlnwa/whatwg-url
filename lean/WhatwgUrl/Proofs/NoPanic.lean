import WhatwgUrl.Proofs.Lifting
/-
  Helper lemmas for C02b (absence of Go run-time panics in the host parser, the `BasicParser` state machine and
  the setters).

  "Site n" is the place where the model returns `Ret.panic n`, one for each index expression or pointer dereference of the
  Go code that has no test in front of it: 1–4 in `Impl/Host.lean` (IPv4 and IPv6 parser), 11–15 in `Impl/Parser.lean`
  (11, 12: `base.scheme` in the states `relative`, `relativeSlash`; 13: the byte at the pointer in the host state; 14: the
  last segment in the path state; 15: `*url.query` in the query state), 20, 21 in `Impl/Api.lean` (the element of an
  opaque path in the search and hash setters), 30, 31 in `Impl/Heap.lean`. Site 14 is behind a `match` that never takes
  that arm (`Machine.stPath_eq` has the state function without it); `Safe` is what 11, 12 and 15 need.

  Between the host parsers and `Safe` stands what the setters' invariants (`HeapInvPath.Kp`, `SaneInv.Kc`) share: `OvL`, the
  states a run under a state override visits and its list path in the path states, with its own lifting.
-/
namespace WhatwgUrl.Proofs.NoPanic
set_option linter.unusedSimpArgs false
open WhatwgUrl WhatwgUrl.Impl WhatwgUrl.Proofs.Machine WhatwgUrl.Proofs.HostWF

def NP (r : HR) : Prop := ∀ n, r.out ≠ .panic n

theorem _root_.WhatwgUrl.Proofs.HostWF.Ends.np {cfg : Cfg} {Q : Bytes → Prop} {u0 : Url} {r : HR} (h : Ends cfg Q u0 r) :
    NP r := by
  intro n e
  unfold Ends at h
  rw [e] at h
  exact h

/-- site 1 (`numbers[len(numbers)-1]`): see `HostWF.ipv4AfterCount_ends` -/
theorem parseIPv4_np (cfg : Cfg) (u : Url) (s : Bytes) : NP (parseIPv4 cfg u s) :=
  (parseIPv4_ends (u0 := u) s .refl).np

/-- sites 2–4 (the stores into `address`, the swap loop) are never reached out of range: the parser is the standard's -/
theorem parseIPv6_np (cfg : Cfg) (u : Url) (s : Bytes) : NP (parseIPv6 cfg u s) :=
  (parseIPv6_ends (u0 := u) s .refl).np

theorem parseHost_np (cfg : Cfg) (I : Idna) (u : Url) (s : Bytes) (ns : Bool) : NP (parseHost cfg I u s ns) :=
  (parseHost_ends cfg I u s ns).np

theorem sum_take_lt : ∀ (l : List Nat) (k : Nat), (∀ x ∈ l, 1 ≤ x) → k < l.length → (l.take k).sum < l.sum := by
  intro l
  induction l with
  | nil => intro k _ h; simp at h
  | cons x xs ih =>
    intro k hx hk
    cases k with
    | zero =>
      have := hx x (by simp)
      simp only [List.take_zero, List.sum_nil, List.sum_cons]
      omega
    | succ k =>
      simp only [List.take_succ_cons, List.sum_cons]
      have := ih k (fun y hy => hx y (by simp [hy])) (by simpa using hk)
      omega

theorem byteOffset_lt (src : Bytes) (k : Int) (h0 : 0 ≤ k) (h1 : k < ((goRunes src).length : Nat)) :
    byteOffset src k < src.length := by
  unfold byteOffset
  have hs := Utf8.goDecode_sizes_sum src
  have hk : k.toNat < ((goDecode src).map (·.2)).length := by
    simp only [goRunes, List.length_map] at h1 ⊢
    omega
  have := sum_take_lt ((goDecode src).map (·.2)) k.toNat
    (by
      intro x hx
      simp only [List.mem_map] at hx
      obtain ⟨d, hd, rfl⟩ := hx
      exact (Utf8.goDecode_size_pos src d hd).1) hk
  rw [List.map_take]
  omega

/-- `relative` and `relativeSlash` read `base.scheme` with no nil test in front (sites 11, 12);
    `specialRelativeOrAuthority` only continues into `relative` -/
def relSt : State → Bool
  | .relative | .relativeSlash | .specialRelativeOrAuthority => true
  | _ => false
/-- states reachable under a state override (from scheme start, host, hostname, port, path start, query, fragment) -/
def ovSt : State → Bool
  | .schemeStart | .scheme | .host | .hostname | .fileHost | .port | .pathStart | .path | .query | .fragment => true
  | _ => false
/-- what is known of a run under a state override: it is in a state of `ovSt`, and in the path states the path is a list
    (the path states are entered only by starting there, and keep a list path: `Machine.keeps_list`) -/
def OvL (ov : Option State) (ps : PS) : Prop :=
  ov.isSome = true → ovSt ps.state = true ∧ (pathSt ps.state = true → ps.url.path.opq = false)

theorem body_ovSt (e : Env) (q : PS) (r : Char) (hrepl : q.eof = true → r = repl) (hq : OvL e.ov q) :
    Sh (OvL e.ov) (fun _ => True) (body e q r) := by
  cases hov : e.ov.isSome
  · exact Sh_trivial (fun _ h => nomatch hov ▸ h) (fun _ => trivial) _
  · have hS : ∀ s, ovSt s = true → ∀ s' ∈ succ true s, ovSt s' = true ∧ (pathSt s' = true → pathSt s = true) :=
      fun s => by cases s <;> decide
    obtain ⟨h1, h2⟩ := hq hov
    refine (body_eff e q r fun _ => hrepl).mono (fun ps' h _ => ?_) (fun _ _ => trivial)
    unfold Eff at h
    rw [hov] at h
    refine ⟨(hS _ h1 _ h.1).1, fun hp => ?_⟩
    have hp' := (hS _ h1 _ h.1).2 hp
    exact h.2.2.2 .list (keeps_list _ hp').2 (h2 hp')

/-- `Machine.basicParser_of_body` for an invariant `K` whose step needs to know `OvL` of a run under a state override -/
theorem basicParser_of_body_ov {K : PS → Prop} {D : Res → Prop} (cfg : Cfg) (I : Idna) (input : Bytes) (base url : Option Url)
    (ov : Option State)
    (hpro : stops cfg false = true → ∀ u, Same (url.getD {}) u →
      D ⟨record cfg u .InvalidURLUnit false, .err ⟨.InvalidURLUnit, false⟩ false⟩)
    (hbody : ∀ ps q r, K ps → Read (loopEnv cfg I input base url ov) ps q r → OvL ov q →
      Sh (Owes K D) D (body (loopEnv cfg I input base url ov) q r))
    (hO : OvL ov (start (ov.getD .schemeStart) (url.getD {})))
    (h0 : ∀ u, Same (url.getD {}) u → K (start (ov.getD .schemeStart) u)) :
    D (basicParser cfg I input base url ov) := by
  refine basicParser_of_body (P := fun ps => OvL ov ps ∧ K ps) cfg I input base url ov hpro
    (fun ps q r h R => ?_) (fun u hu => ⟨fun ho => ⟨(hO ho).1, fun hp => by rw [hu.path]; exact (hO ho).2 hp⟩, h0 u hu⟩)
  have hq : OvL ov q := by rw [R.eq]; exact h.1
  refine ((body_ovSt _ q r R.repl hq).and (hbody ps q r h.2 R hq)).mono (fun ps' h' => ?_) (fun _ h' => h'.2)
  rw [Owes_iff] at h' ⊢
  exact ⟨h'.2.1, fun he => ⟨h'.1, h'.2.2 he⟩⟩

/-- what the panic sites of the machine need: a base where it is dereferenced, a query in the query state -/
@[simp] def Safe (base : Option Url) (ps : PS) : Prop :=
  (relSt ps.state = true → base.isSome = true) ∧ (ps.state = .query → ps.url.query.isSome = true)

theorem parseHost_out_ne_panic (cfg : Cfg) (I : Idna) (u : Url) (s : Bytes) (ns : Bool) (n : Nat) :
    ((parseHost cfg I u s ns).out = .panic n) = False := eq_false (parseHost_np cfg I u s ns n)

/-- no state function panics from a `Safe` machine state, and each continues into one; `hr`, `hq`: before the end of the
    input the pointer is a valid index of the runes of the source, which is what site 13 needs (the lifting has it from
    `Read.inside`) -/
theorem body_np (e : Env) (q : PS) (r : Char) (hI : Safe e.base q)
    (hr : e.runes = goRunes e.src) (hq : q.eof = false → 0 ≤ q.pointer ∧ q.pointer < (e.runes.length : Nat)) :
    Sh (Safe e.base) (fun x => ∀ n, x.ret ≠ .panic n) (body e q r) := by
  unfold body
  split <;> rename_i hst <;> simp [hst, relSt] at hI
  case h_10 | h_11 =>
    -- site 13 (`getCurrentAsByte`): the host state reads the byte at the pointer only before the end of the input
    have hb := fun he => byteOffset_lt e.src q.pointer (hq he).1 (by rw [← hr]; exact (hq he).2)
    simp [stHost_eq, hostChar, currentAsByte, Sh_elim, Sh_afterHost, Sh_ite, Sh_herr, Sh_cont, Sh_done, Sh_retUrl, relSt, rewindLast, writeRune, ite_url, ite_pointer, ite_state, record_eq, parseHost_out_ne_panic, hst, hI]
    grind
  case h_16 =>
    simp [stPath_eq, segEnd, Sh_unitChecks, Sh_ite, Sh_herr, Sh_cont, Sh_done, relSt, record_eq, hst, hI]
  -- the states that `match` on the base; sites 11, 12: `relSt`
  case h_3 | h_12 | h_14 | h_20 | h_21 =>
    cases hb : e.base <;>
      simp [stNoScheme, stFile, stFileSlash, stRelative, stRelativeSlash, Sh_ite, Sh_herr, Sh_cont, Sh_done, relSt,
        rewindLast, ite_url, ite_state, record_eq, hst, hb, hI] <;>
      grind
  all_goals
    simp [stSchemeStart, stScheme, stOpaquePath, stSpecialRelativeOrAuthority, stSpecialAuthoritySlashes,
      stSpecialAuthorityIgnoreSlashes, stPathOrAuthority, stAuthority, stFileHost, stPort, stPathStart, stQuery_eq,
      stFragment, Sh_unitChecks, Sh_afterHost, Sh_ite, Sh_herr, Sh_cont, Sh_done, Sh_retUrl, relSt, rewindLast,
      resetInput, rewind, writeRune, ite_url, ite_state, record_eq, cleanDefaultPort_query, next_fst,
      parseHost_out_ne_panic, hst, hI] <;>
    grind

theorem basicParser_safe (cfg : Cfg) (I : Idna) (input : Bytes) (base url : Option Url) (ov : Option State)
    (h0 : ∀ u, Same (url.getD {}) u → Safe base (start (ov.getD .schemeStart) u)) :
    ∀ n, (basicParser cfg I input base url ov).ret ≠ .panic n := by
  exact basicParser_of_inv (P := Safe base) (D := fun x => ∀ n, x.ret ≠ .panic n) cfg I input base url ov
    (fun _ u _ n => by simp) (fun _ _ _ h => h) (fun ps q r hI R => body_np _ q r hI rfl R.inside) (fun _ _ n => by simp) h0

end WhatwgUrl.Proofs.NoPanic
