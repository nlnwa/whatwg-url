import WhatwgUrl.Proofs.SimBase
import WhatwgUrl.Proofs.SimLoop
import WhatwgUrl.Proofs.SimYB
/-
  What the 21 per-state simulation lemmas share. `ShS K D a b` relates what `Impl.body` returns to what `Spec.run`
  returns: it is `Machine.Sh` (one run: what a state function returns) for a pair of runs, and `Go` plays the part that
  `Machine.Owes` plays there (what a continuing outcome owes the loop). `ShS_ite` splits it where both sides branch on
  the same test, so that one `simp only [stX, …, ShS_ite]` leaves one implication per pair of leaves. For that the two
  sides must test the same terms: `step_sim_open` states the iteration in terms of the standard's `c : Option Char`, and
  `getD_repl_beq` turns the Go tests on the rune into the standard's tests on `c`. `Loc` is the one side condition the
  lemmas assume besides `RPS`; `DD o` the one relation between the results.

  The lemma for a state `S` sets `case StateS:` in the `switch` of `(*parser).BasicParser` (`url/parser.go`, l. 157–720 of
  the Go library; transcribed as `Impl.stS` in `Impl/Parser.lean`, the arm of `Impl.body`) against the section "S state" of
  the standard's basic URL parser (the arm of `Spec.run`).
-/
namespace WhatwgUrl.Proofs.Sim
open WhatwgUrl WhatwgUrl.Impl
open WhatwgUrl.Proofs.Machine (next_fst next_snd)

/-- `RRes` with the two cases in which the Go code and the standard return differently under a state override:
    `return nil, nil` in the file host state (the standard returns), and the fatal `PortMissing` of the port state (the
    standard returns without failure; the url is unchanged on both sides). `o` = "a state override is given". -/
def RResB (o : Bool) (r : Res) (s : Spec.SUrl × Bool) : Prop :=
  match r.ret with
  | .url => s.2 = false ∧ RUrl r.url s.1
  | .err er _ => s.2 = true ∨ (o = true ∧ er = ⟨.PortMissing, true⟩ ∧ s.2 = false ∧ RUrl r.url s.1)
  | .nilNil => o = true ∧ s.2 = false ∧ RUrl r.url s.1
  | _ => False

theorem RResB_falseB {r : Res} {s : Spec.SUrl × Bool} : RResB false r s ↔ RRes r s := by
  unfold RResB RRes
  cases r.ret <;> simp

theorem RRes.toB {r : Res} {s : Spec.SUrl × Bool} (o : Bool) (h : RRes r s) : RResB o r s := by
  unfold RResB; unfold RRes at h
  cases hr : r.ret <;> rw [hr] at h <;> simp_all

/-- what every per-state lemma proves of two results: `o` says whether the two leaves in which the Go code and the
    standard return differently under a state override may occur -/
def DD (o : Bool) (r : Res) (s : Spec.SUrl × Bool) : Prop := RResB o r s ∧ RRes' (!o) r s

theorem DD_url {o : Bool} {u : Url} {us : Spec.SUrl} (h : RUrl u us) : DD o ⟨u, .url⟩ (us, false) := ⟨⟨rfl, h⟩, rfl, h⟩
theorem DD_fail {o : Bool} {u : Url} {er : VErr} {w : Bool} {us : Spec.SUrl} (h : RUrl u us) :
    DD o ⟨u, .err er w⟩ (us, true) := ⟨Or.inl rfl, fun _ => rfl, h⟩
/-- the fatal `PortMissing` of the Go code against a plain return of the standard -/
theorem DD_err_ret {u : Url} {w : Bool} {us : Spec.SUrl} (h : RUrl u us) :
    DD true ⟨u, .err ⟨.PortMissing, true⟩ w⟩ (us, false) := ⟨Or.inr ⟨rfl, rfl, rfl, h⟩, fun h' => (by cases h'), h⟩
/-- Go's `return nil, nil` against a plain return of the standard -/
theorem DD_nilNil {u : Url} {us : Spec.SUrl} (h : RUrl u us) : DD true ⟨u, .nilNil⟩ (us, false) := ⟨⟨rfl, rfl, h⟩, rfl, rfl, h⟩

section
variable {X : PS → Spec.PS → Prop} {o : Bool} {a : StepR} {b : SStep}

theorem RStepG.rstep'_any (h : RStepG X (DD false) a b) (noOv : Bool) : RStep' noOv a b :=
  h.imp (fun _ _ hp _ => hp) fun _ _ hd => RRes'.mono hd.2 noOv

theorem RStepG.toRStep (h : RStepG X (DD false) a b) : RStep a b :=
  h.imp (fun _ _ hp _ => hp) fun _ _ hd => RResB_falseB.mp hd.1

theorem RStepG.dd_mono (h : RStepG X (DD false) a b) : RStepG X (DD o) a b :=
  h.imp (fun _ _ hp hx => ⟨hp, hx⟩) fun _ _ hd => ⟨RRes.toB o (RResB_falseB.mp hd.1), RRes'.mono hd.2 _⟩

theorem RStepG.cont {D : Res → Spec.SUrl × Bool → Prop} (h : RStepG X D a b) :
    ∀ pi' ss', a = .cont pi' → b = .cont ss' → X pi' ss' := by
  intro pi' ss' ha hb; subst ha; subst hb; exact h.2

end

/-- both continue (`K`), or both stop (`D`; the standard's "return" / "return failure" as the flag) -/
def ShS (K : PS → Spec.PS → Prop) (D : Res → Spec.SUrl × Bool → Prop) : StepR → Spec.R → Prop
  | .cont p, .cont s => K p s
  | .done x, .ret u => D x (u, false)
  | .done x, .failure u => D x (u, true)
  | _, _ => False

/-- "the pair goes on" (the name does not mean the Go side): a continuing pair after `bottom` / `afterRun`. At the end of
    the input the urls are returned; before it the states correspond after the driver's `+ 1` and `X` holds. -/
def Go (input : Str) (X : PS → Spec.PS → Prop) (D : Res → Spec.SUrl × Bool → Prop) (p : PS) (s : Spec.PS) : Prop :=
  (p.eof = true → (input.length : Int) ≤ s.pointer ∧ D ⟨p.url, .url⟩ (s.url, false)) ∧
  (p.eof = false → s.pointer < (input.length : Int) ∧ RPS p { s with pointer := s.pointer + 1 } ∧
    X p { s with pointer := s.pointer + 1 })

section
variable {K : PS → Spec.PS → Prop} {D : Res → Spec.SUrl × Bool → Prop}

theorem ShS_cont (p : PS) (s : Spec.PS) : ShS K D (.cont p) (.cont s) ↔ K p s := Iff.rfl
theorem ShS_ret (x : Res) (u : Spec.SUrl) : ShS K D (.done x) (.ret u) ↔ D x (u, false) := Iff.rfl
theorem ShS_fail (x : Res) (u : Spec.SUrl) : ShS K D (.done x) (.failure u) ↔ D x (u, true) := Iff.rfl

theorem ShS_ite (c : Prop) {d₁ d₂ : Decidable c} (a₁ b₁ : StepR) (a₂ b₂ : Spec.R) :
    ShS K D (@ite _ c d₁ a₁ b₁) (@ite _ c d₂ a₂ b₂) ↔ (c → ShS K D a₁ a₂) ∧ (¬ c → ShS K D b₁ b₂) := by
  by_cases h : c <;> simp [h]

theorem ShS_ite_left (c : Prop) [Decidable c] (a b : StepR) (s : Spec.R) :
    ShS K D (if c then a else b) s ↔ (c → ShS K D a s) ∧ (¬ c → ShS K D b s) := by
  by_cases h : c <;> simp [h]

theorem ShS_ite_right (c : Prop) [Decidable c] (a : StepR) (s t : Spec.R) :
    ShS K D a (if c then s else t) ↔ (c → ShS K D a s) ∧ (¬ c → ShS K D a t) := by
  by_cases h : c <;> simp [h]

/-- `bottom` against `afterRun` -/
theorem RStepG_of_ShS {X : PS → Spec.PS → Prop} (input : Str) (a : StepR) (b : Spec.R) (h : ShS (Go input X D) D a b) :
    RStepG X D (bottom a) (afterRun input b) := by
  cases a with
  | done x => cases b <;> first | exact h | exact (h : False).elim
  | cont p =>
    cases b with
    | cont s =>
      obtain ⟨h1, h2⟩ := (h : _ ∧ _)
      cases he : p.eof
      · obtain ⟨a, b⟩ := h2 he
        have hn : ¬ (s.pointer ≥ (input.length : Int)) := by omega
        simp only [bottom, afterRun, he, hn, Bool.false_eq_true, if_false]
        exact b
      · obtain ⟨a, b⟩ := h1 he
        have hn : s.pointer ≥ (input.length : Int) := a
        simp only [bottom, afterRun, he, hn, if_true]
        exact b
    | ret u => exact (h : False).elim
    | failure u => exact (h : False).elim

end

section
variable {input : Str} {X : PS → Spec.PS → Prop} {o : Bool}

theorem Go.eof {st : State} {sst : Spec.St} {p : Int} {buf : Bytes} {a b w a' b' w' : Bool} {u : Url} {sbuf : Str}
    {us : Spec.SUrl} (hp : (input.length : Int) ≤ p) (hu : RUrl u us) :
    Go input X (DD o) ⟨st, p, true, buf, a, b, w, u⟩ ⟨sst, p, sbuf, a', b', w', us⟩ :=
  ⟨fun _ => ⟨hp, DD_url hu⟩, fun h => (by cases h)⟩

/-- before the end of the input (no rewind before EOF, `rewindLast`, an extra `next`, `resetInput`, `rewind n`) -/
theorem Go.go {st : State} {sst : Spec.St} {p : Int} {ev : Bool} {buf : Bytes} {a b w a' b' w' : Bool} {u : Url}
    {sbuf : Str} {us : Spec.SUrl} (hev : ev = false) (hp : p < (input.length : Int))
    (hr : RPS ⟨st, p, false, buf, a, b, w, u⟩ ⟨sst, p + 1, sbuf, a', b', w', us⟩)
    (hx : X ⟨st, p, false, buf, a, b, w, u⟩ ⟨sst, p + 1, sbuf, a', b', w', us⟩) :
    Go input X (DD o) ⟨st, p, ev, buf, a, b, w, u⟩ ⟨sst, p, sbuf, a', b', w', us⟩ := by
  subst hev
  exact ⟨fun h => (by cases h), fun _ => ⟨hp, hr, hx⟩⟩

end

theorem cAt_isNone {input : Str} {p : Int} (h0 : 0 ≤ p) : (Spec.cAt input p).isNone = true ↔ (input.length : Int) ≤ p := by
  rw [cAt_eq_getElem? h0, Option.isNone_iff_eq_none, List.getElem?_eq_none_iff]; omega

/-- the Go tests on the rune are the standard's tests on `c` (U+FFFD is none of the characters tested for).
    Give the instances (`getD_repl_beq _ '/' rfl`) to `simp`: a discharger is tried on every failed match. -/
theorem getD_repl_beq (c : Option Char) (x : Char) (hx : (repl == x) = false) : (c.getD repl == x) = Spec.isC c x := by
  cases c with
  | none => exact hx
  | some ch => exact (isC_some ch x).symm

theorem getD_repl_bne (c : Option Char) (x : Char) (hx : (repl == x) = false) : (c.getD repl != x) = !Spec.isC c x := by
  rw [bne, getD_repl_beq c x hx]

theorem getD_repl_digit (c : Option Char) : isDigitN (c.getD repl).toNat = Spec.isDigitC c := by
  cases c <;> rfl

theorem optc_isSome (c : Option Char) : c.isSome = !c.isNone := by cases c <;> rfl

/-- past the tests for EOF the default does not matter: `Spec.run` writes `c.getD ' '` or `c.getD '0'` where the Go side,
    read through `cAt`, has `c.getD repl` -/
theorem getD_of_not_isNone {c : Option Char} (h : c.isNone = false) (d : Char) : c.getD d = c.getD repl := by
  cases c with
  | none => cases h
  | some ch => rfl

theorem isNone_of_isC {c : Option Char} {x : Char} (h : Spec.isC c x = true) : c.isNone = false := by
  cases c with
  | none => cases h
  | some ch => rfl

theorem isNone_of_isDigitC {c : Option Char} (h : Spec.isDigitC c = true) : c.isNone = false := by
  cases c with
  | none => cases h
  | some ch => rfl

/-- the standard's buffer at a loop top, as far as any per-state proof uses it -/
def BufL (st : State) (ss : Spec.PS) : Prop :=
  match st with
  | .authority => (ss.buffer.length : Int) ≤ ss.pointer
  | .port => ∀ c ∈ ss.buffer, c.toNat < 0x80
  | .scheme | .host | .hostname | .fileHost | .fileSlash | .path | .opaquePath | .query | .fragment => True
  | _ => ss.buffer = []

theorem BufL.of {st : State} {ss : Spec.PS} (h : BufInv st ss) : BufL st ss := by
  cases st <;> first | trivial | exact h | exact fun c hc => isDigitN_ascii (h c hc)

/-- What `RPS` does not say and one iteration of the two machines needs (counterexamples without it: end of
    `SimA.lean`, `SimB.lean`): the pointer is within `0 … |input|`; the buffer is empty where the Go code relies on it,
    short enough for the rewind of the authority state, ASCII in the port state (bytes against code points); the
    relative states have a base with a list path; the path is a list wherever segments are added.
    These are the Go-side invariants `XInv` (`SimDefs2.lean`: the clauses are explained at `XCore`) and `YInv`
    (`SimYB.lean`) read on the standard's side; only those two are carried along the loop, and `Loc.of_inv` derives `Loc`
    from them in each iteration. -/
structure Loc (input : Str) (base : Option Spec.SUrl) (ov : Option Spec.St) (pi : PS) (ss : Spec.PS) : Prop where
  lo : 0 ≤ ss.pointer
  hi : ss.pointer ≤ (input.length : Int)
  buf : BufL pi.state ss
  base : relSt pi.state = true → ∃ b, base = some b ∧ b.hasOpaquePath = false
  nopq : NoOpq ov pi.state ss

/-- One iteration of both machines from corresponding loop tops, with the code point of the iteration as the
    standard's `c = Spec.cAt input ss.pointer`: after `next` the Go cursor is the standard's pointer, `eof` is "`c` is
    EOF", the rune is `c` or U+FFFD; cursor and flags are the same terms on the two sides. The continuation is handed
    what every state uses: the default configuration, the bounds of the pointer (`Loc`), and what `c` says about it.
    A per-state proof goes on with `dsimp only [body, stateMap]; unfold Spec.run; dsimp only` (the arm of its state on
    either side) and `generalize Spec.cAt input ss.pointer = c at hlt hge ⊢`. -/
theorem step_sim_open {X : PS → Spec.PS → Prop} {D : Res → Spec.SUrl × Bool → Prop} {I : Idna} {e : Env} {input : Str}
    {base : Option Spec.SUrl} {ov : Option Spec.St} (hE : REnv e input base ov I) {pi : PS} {ss : Spec.PS} (h : RPS pi ss)
    (hx : Loc input base ov pi ss) {S : State} (hs : pi.state = S)
    (hk : e.cfg = {} → 0 ≤ ss.pointer → ss.pointer ≤ (input.length : Int) →
      ((Spec.cAt input ss.pointer).isNone = false → ss.pointer < (input.length : Int)) →
      ((Spec.cAt input ss.pointer).isNone = true → (input.length : Int) ≤ ss.pointer) →
      ShS (Go input X D) D
        (body e ⟨S, ss.pointer, (Spec.cAt input ss.pointer).isNone, pi.buffer, ss.atSignSeen, ss.insideBrackets,
          ss.passwordTokenSeen, pi.url⟩ ((Spec.cAt input ss.pointer).getD repl))
        (Spec.run (specIdna I) input base ov
          ⟨stateMap S, ss.pointer, ss.buffer, ss.atSignSeen, ss.insideBrackets, ss.passwordTokenSeen, ss.url⟩)) :
    RStepG X D (step e pi) (afterRun input (Spec.run (specIdna I) input base ov ss)) := by
  have hlo := hx.lo
  have hhi := hx.hi
  clear hx
  obtain ⟨st, ptr, eof, buf, gat, gbr, gpw, url⟩ := pi
  obtain ⟨sst, sptr, sbuf, atF, brF, pwS, surl⟩ := ss
  obtain ⟨hst, hptr, heof, hat, hbr, hpw, -⟩ := h
  dsimp only at hs hst hptr heof hat hbr hpw hlo hhi hk ⊢
  subst hs hst hptr heof hat hbr hpw
  unfold step
  rw [next_fst, next_snd, hE.runes]
  refine RStepG_of_ShS input _ _ (hk hE.cfg hlo hhi (fun h => Int.lt_of_not_ge fun hg => ?_) (cAt_isNone hlo).mp)
  rw [(cAt_isNone hlo).mpr hg] at h; cases h

section
variable {pi : PS} {ss : Spec.PS}

theorem RPS.ord (h : RPS pi ss) (hs : opqSt pi.state = false) : pi.buffer = utf8 ss.buffer ∧ RUrl pi.url ss.url := by
  have hb := h.buf
  have hu := h.url
  obtain ⟨st, ptr, eof, buf, gat, gbr, gpw, url⟩ := pi
  cases st <;> first | exact ⟨hb, hu⟩ | cases hs

theorem RPS.atQuery (h : RPS pi ss) (hs : pi.state = .query) :
    (pi.buffer = utf8 (Spec.utf8PercentEncode
        (if Spec.isSpecialScheme ss.url.scheme then Spec.specialQuerySet else Spec.querySet) ss.buffer) ∧
      ss.url.query = some []) ∧ RUrl { pi.url with query := some [] } ss.url ∧ pi.url.query ≠ none := by
  have hb := h.buf
  have hu := h.url
  have hq := h.qry hs
  obtain ⟨st, ptr, eof, buf, gat, gbr, gpw, url⟩ := pi
  subst hs
  exact ⟨hb, hu, hq⟩

theorem RPS.atFragment (h : RPS pi ss) (hs : pi.state = .fragment) :
    RUrl { pi.url with fragment := some pi.buffer } ss.url ∧ pi.url.fragment ≠ none := by
  have hu := h.url
  have hq := h.frag hs
  obtain ⟨st, ptr, eof, buf, gat, gbr, gpw, url⟩ := pi
  subst hs
  exact ⟨hu, hq⟩

theorem RPS.atOpaque (h : RPS pi ss) (hs : pi.state = .opaquePath) :
    ss.buffer = [] ∧ RUrl pi.url ss.url ∧ pi.url.path = ⟨[pi.buffer], true⟩ := by
  have hb := h.buf
  have hu := h.url
  have hq := h.opq hs
  obtain ⟨st, ptr, eof, buf, gat, gbr, gpw, url⟩ := pi
  subst hs
  exact ⟨hb, hu, hq⟩

end

section
variable {input : Str} {base : Option Spec.SUrl} {ov : Option Spec.St} {pi : PS} {ss : Spec.PS} {S : State}

theorem Loc.buf_at (h : Loc input base ov pi ss) (hs : pi.state = S) : BufL S ss := hs ▸ h.buf
theorem Loc.nopq_at (h : Loc input base ov pi ss) (hs : pi.state = S) : NoOpq ov S ss := hs ▸ h.nopq
theorem Loc.base_at (h : Loc input base ov pi ss) (hs : pi.state = S) (hn : relSt S = true) :
    ∃ b, base = some b ∧ b.hasOpaquePath = false := h.base (hs ▸ hn)

end

theorem ascii_of_utf8_ascii (s : Str) (h : ∀ b ∈ utf8 s, b.toNat < 0x80) : ∀ c ∈ s, c.toNat < 0x80 := by
  intro c hc
  apply Classical.byContradiction
  intro hge
  have hhigh := Utf8.utf8Char_high c (by omega)
  have hpos := (Utf8.utf8Char_length_bounds c).1
  cases hb : utf8Char c with
  | nil => rw [hb] at hpos; simp at hpos
  | cons b t =>
    have hb1 : b ∈ utf8Char c := by rw [hb]; simp
    have hb2 : b ∈ utf8 s := by
      unfold utf8
      exact List.mem_flatMap.mpr ⟨c, hc, hb1⟩
    have := h b hb2
    have := hhigh b hb1
    omega

theorem Loc.of_inv {e : Env} {input : Str} {base : Option Spec.SUrl} {ov : Option Spec.St} {I : Idna}
    (hE : REnv e input base ov I) {pi : PS} {ss : Spec.PS} (h : RPS pi ss) (hx : XInv e pi) (hy : YInv e pi) :
    Loc input base ov pi ss := by
  have hptr := h.pointer
  have hlt := hx.lt
  have hp0 := hx.core.ptr
  rw [hE.runes] at hlt
  refine ⟨by omega, by omega, ?_, ?_, ?_⟩
  · -- buffer clauses: `XCore.buf` / `XCore.auth` / `YInv` through `RBuf`
    have hb := h.buf
    have hc := hx.core.buf
    have ha := hx.core.auth
    obtain ⟨st, ptr, eof, buf, gat, gbr, gpw, url⟩ := pi
    dsimp only at hb hc ha hptr hy ⊢
    cases st <;> simp only [BufL, RBuf, bufEmptySt, forall_const, reduceCtorEq, false_implies] at hb hc ha ⊢
    all_goals first
      | (rw [hc] at hb; exact Utf8.utf8_eq_nil.mp hb.symm)
      | (rw [hb, WhatwgUrl.Proofs.Utf8.goRunes_utf8] at ha; omega)
      | (apply ascii_of_utf8_ascii; intro b hbm; rw [← hb] at hbm; exact isDigitN_ascii (hy rfl b hbm))
  · -- the relative states have a base with a list path
    intro hrel
    obtain ⟨b, hb, hbo⟩ := hx.core.rel hrel
    rcases hE.base_cases with ⟨hb1, _⟩ | ⟨bi, bs, hb1, hb2, hr⟩
    · rw [hb1] at hb; cases hb
    · rw [hb1] at hb; injection hb with hb; subst hb
      exact ⟨bs, hb2, by rw [← hr.opqB]; exact hbo⟩
  · -- no opaque path: `XCore.opq` through `RUrl`
    have hu := h.url
    have ho := hx.core.opq
    have hov := hE.ov
    obtain ⟨st, ptr, eof, buf, gat, gbr, gpw, url⟩ := pi
    dsimp only at hu ho ⊢
    have key : (opqSt st = false) → (e.ov.isSome = true → ovOpqSt st = false) →
        viewUrl ⟨st, ptr, eof, buf, gat, gbr, gpw, url⟩ = url → ss.url.hasOpaquePath = false := by
      intro h1 h2 h3
      rw [h3] at hu
      rw [← hu.opqB]
      cases hq : url.path.opq with
      | false => rfl
      | true =>
        rcases ho hq with h4 | ⟨h4, h5⟩
        · rw [h1] at h4; cases h4
        · rw [h2 h4] at h5; cases h5
    cases st <;> simp only [NoOpq]
    all_goals first
      | trivial
      | exact key rfl (fun _ => rfl) rfl
      | (intro hnone
         refine key rfl (fun hsome => ?_) rfl
         rw [hov] at hnone
         cases hq : e.ov with
         | none => rw [hq] at hsome; cases hsome
         | some o => rw [hq] at hnone; cases hnone)

/-- a url record that differs in the diagnostic fields only (`HostWF.Same`) corresponds to the same record of the standard -/
theorem RUrl.of_same {a b : Url} {us : Spec.SUrl} (h : HostWF.Same b a) (hu : RUrl b us) : RUrl a us := by
  obtain ⟨h1, h2, h3, h4, h5, h6, h7, h8, h9⟩ := h
  exact ⟨h1 ▸ hu.scheme, h2 ▸ hu.username, h3 ▸ hu.password, h4 ▸ hu.host, by rw [h5, h6]; exact hu.port, h7 ▸ hu.path,
    h8 ▸ hu.query, h9 ▸ hu.fragment⟩

/-- the standard's "let host be the result of host parsing …; if host is failure, return failure" -/
def hostMatchB (r : Option Str) (us : Spec.SUrl) (k : Str → Spec.R) : Spec.R :=
  match r with
  | none => .failure us
  | some h => k h

/-- `afterHost (parseHost …)` against the standard's host parsing step, for a non-empty buffer; on failure the url the
    Go code returns is the host parser's, which is the loop-top url up to the diagnostic fields
    (`HostWF.parseHost_frame`, in every configuration); of `HostConforms` the first conjunct is used.
    (`refine ShS_afterHost …` also fits the `match Spec.parseHost … with` of the unfolded `Spec.run`.) -/
theorem ShS_afterHost {K : PS → Spec.PS → Prop} {o : Bool} {I : Idna} (hH : HostConforms I) {u : Url} {us : Spec.SUrl}
    (hu : RUrl u us) {sbuf : Str} (hne : sbuf ≠ []) {ns : Bool} {ps : PS} {k : PS → Bytes → StepR} {kS : Str → Spec.R}
    (hk : ∀ u' hs, RUrl u' us → ShS K (DD o) (k { ps with url := u' } (utf8 hs)) (kS hs)) :
    ShS K (DD o) (afterHost (parseHost {} I u (utf8 sbuf) ns) ps k)
      (hostMatchB (Spec.parseHost (specIdna I) sbuf ns) us kS) := by
  have h1 := (hH u sbuf ns hne).1
  have h2 := HostWF.parseHost_frame {} I u (utf8 sbuf) ns
  unfold afterHost hostMatchB
  cases hg : (parseHost {} I u (utf8 sbuf) ns).out <;> cases hsS : Spec.parseHost (specIdna I) sbuf ns <;>
    rw [hg, hsS] at h1 <;> first | exact h1.elim | skip
  · subst h1; exact hk _ _ (RUrl.of_same h2 hu)
  · exact DD_fail (RUrl.of_same h2 hu)

end WhatwgUrl.Proofs.Sim
