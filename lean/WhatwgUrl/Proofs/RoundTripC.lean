import WhatwgUrl.Proofs.RoundTripB
/-
  Round trip (C03b), stage C, first part: the byte classes of authority, host and port (`authB`, `hostB_spec`,
  `digit_spec`) and `run_pathStart`.
-/
namespace WhatwgUrl.Proofs.RoundTrip
open WhatwgUrl WhatwgUrl.Impl WhatwgUrl.Proofs.IPv4 WhatwgUrl.Proofs.Trim

/-- a byte that the authority state copies to its buffer -/
def authB (sp : Bool) (b : UInt8) : Bool :=
  decide (b.toNat < 0x80) && b != 0x40 && b != 0x2f && b != 0x3f && b != 0x23 && !(sp && b == 0x5c)

theorem authB_spec : ∀ b : UInt8, ∀ sp : Bool, authB sp b = true →
    utf8Char (bc b) = [b] ∧ bc b ≠ '@' ∧ bc b ≠ '/' ∧ bc b ≠ '?' ∧ bc b ≠ '#' ∧ (sp = true → bc b ≠ '\\') := by
  apply forall_uint8
  decide +kernel

theorem authB_mono : ∀ b : UInt8, ∀ sp : Bool, authB true b = true → authB sp b = true := by
  apply forall_uint8
  decide +kernel

theorem cred_byte : ∀ b : UInt8, userinfoSet.has b.toNat = false → 0x21 ≤ b.toNat ∧ b.toNat < 0x7f ∧ authB true b = true := by
  apply forall_uint8
  decide +kernel

theorem hostB_spec : ∀ b : UInt8, ∀ sp : Bool, hostB sp b = true →
    utf8Char (bc b) = [b] ∧ bc b ≠ '/' ∧ bc b ≠ '?' ∧ bc b ≠ '#' ∧ (sp = true → bc b ≠ '\\') ∧
    authB sp b = true ∧
    0x21 ≤ b.toNat ∧ b.toNat < 0x7f := by
  apply forall_uint8
  decide +kernel

export WhatwgUrl.Proofs.IPv6 (digitsVal_itoa itoa_digits itoa_ne)

theorem digit_spec : ∀ b : UInt8, isDigitN b.toNat = true → isDigitN (bc b).toNat = true ∧ utf8Char (bc b) = [b] ∧
    authB true b = true ∧ 0x21 ≤ b.toNat ∧ b.toNat < 0x7f := by
  apply forall_uint8
  decide +kernel

theorem cleanDefaultPort_keep (u : Url) (p : Bytes) (hp : u.port = some p) (hd : (Cfg.special? {} u.scheme != some p) = true) :
    cleanDefaultPort {} u = u := by
  unfold cleanDefaultPort
  split
  · rename_i dp hdp
    rw [hdp] at hd
    have : (u.port == none || u.port == some dp) = false := by
      rw [hp]
      simp only [bne_iff_ne, ne_eq, Option.some.injEq] at hd
      simp
      exact fun h => hd h.symm
    rw [if_neg (by rw [this]; simp)]
  · rfl

/-- `Run.run_pathStart` in the default configuration (a special url has at least one segment) -/
theorem run_pathStart (I : Idna) (src : Bytes) (rs : Str) (sp : Bool) (segs : List Bytes) (q f : Option Bytes)
    (hq : QOk sp q) (hf : FOk f) (hsegs : ∀ s ∈ segs, segOk sp s = true) (hne : sp = true → segs ≠ [])
    (ps : PS) (pre : Str) (hc : Run.Cur (mkE I src rs) ps pre (asStr (pathText segs) ++ asStr (qTail q ++ fTail f)))
    (hst : ps.state = .pathStart) (hsp : Cfg.isSpecial {} ps.url.scheme = sp)
    (hb : ps.buffer = []) (hp : ps.url.path = ⟨[], false⟩) (hdrv : ∀ s ∈ segs.head?, DriveOk ps.url s) :
    Resolve.Runs (mkE I src rs) ps ⟨setF (setQ { ps.url with path := ⟨segs, false⟩ } q) f, .url⟩ :=
  Run.run_pathStart rfl sp q f segs hc hst hb hp hsp
    (fun h => by
      cases sp
      · simp [isSp, hsp]
      · exact absurd h (hne rfl))
    (fun s hs => segCopied_of_segOk I src rs (hsegs s hs)) hdrv (fun _ _ _ _ => quietOn_mkE I src rs _ _) (Or.inl rfl)
    (qok_copied I src rs _ hsp hq) (fok_copied I src rs _ hf) (fun _ _ => quietOn_mkE I src rs _ _) (fun _ _ => quietOn_mkE I src rs _ _)

end WhatwgUrl.Proofs.RoundTrip
