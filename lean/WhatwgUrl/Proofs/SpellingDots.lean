import WhatwgUrl.Proofs.WebPort
/-
  Dot segments (C18c, C18f), any configuration (no base, no override).

  An insertion `M` at a segment start is NEUTRAL (`NeutralInsC`): followed by `/` the path state is back where it was;
  followed by `?`, `#` or the end it behaves like the empty segment.  Neutral: a single-dot segment (`.`, `%2e`, `%2E`),
  and `x/dd` for an ordinary segment `x` and a double-dot segment `dd` (`..`, `.%2e`, `%2E.`, `%2e%2E` …).
  Which texts the path state copies to its buffer without recording a validation error depends on the configuration;
  that it copies the texts in question is a hypothesis here (`CopiedSeg`).
-/
namespace WhatwgUrl.Proofs.Spelling
open WhatwgUrl WhatwgUrl.Impl WhatwgUrl.Proofs.IPv4 WhatwgUrl.Proofs.Trim WhatwgUrl.Proofs.RoundTrip
open WhatwgUrl.Proofs.Pipeline (singleDots doubleDots singleDot_mem doubleDot_mem)

/-- a byte of a dot segment in any spelling: `.`, `%`, `2`, `e`, `E` -/
def dotB (b : UInt8) : Bool := lowerB b == 0x2e || lowerB b == 0x25 || lowerB b == 0x32 || lowerB b == 0x65

theorem dotB_spec : ∀ b : UInt8, dotB b = true → segB true b = true ∧ segB false b = true ∧ 0x21 ≤ b.toNat ∧ b.toNat < 0x7f :=
  forall_uint8 (by decide +kernel)

theorem singleDot_spec {M : Bytes} (h : isSingleDot M = true) : (∀ b ∈ M, dotB b = true) ∧ M.length % 2 = 1 :=
  (by decide +kernel : ∀ x ∈ singleDots, (∀ b ∈ x, dotB b = true) ∧ x.length % 2 = 1) M (singleDot_mem h)

theorem doubleDot_spec {M : Bytes} (h : isDoubleDot M = true) : (∀ b ∈ M, dotB b = true) ∧ M.length % 2 = 0 :=
  (by decide +kernel : ∀ x ∈ doubleDots, (∀ b ∈ x, dotB b = true) ∧ x.length % 2 = 0) M (doubleDot_mem h)

theorem singleDot_not_double {M : Bytes} (h : isSingleDot M = true) : isDoubleDot M = false :=
  (by decide +kernel : ∀ x ∈ singleDots, isDoubleDot x = false) M (singleDot_mem h)

theorem dots_graphic {M : Bytes} (h : ∀ b ∈ M, dotB b = true) : Graphic M :=
  fun b hb => (dotB_spec b (h b hb)).2.2

theorem up_graphic {x dd : Bytes} (gx : Graphic x) (hdd : isDoubleDot dd = true) : Graphic (x ++ 0x2f :: dd) :=
  gx.append (Graphic.cons (by decide) (dots_graphic (doubleDot_spec hdd).1))

theorem norm_is_wdl (x : Bytes) (h : isNormalizedWindowsDriveLetter x = true) : isWindowsDriveLetter x = true := by
  obtain ⟨a, rfl⟩ := normalized_shape x h
  simp only [isNormalizedWindowsDriveLetter, isWindowsDriveLetter, Bool.and_eq_true] at h ⊢
  exact ⟨h.1, by simp⟩

theorem shorten_add (p : Path) (x scheme : Bytes) (ho : p.opq = false) (hx : isWindowsDriveLetter x = false) :
    (p.addSegment x).shorten scheme = p := by
  have hn : isNormalizedWindowsDriveLetter x = false := by
    cases h : isNormalizedWindowsDriveLetter x
    · rfl
    · rw [norm_is_wdl x h] at hx; cases hx
  obtain ⟨segs, opq⟩ := p
  simp only at ho
  subst ho
  unfold Path.addSegment Path.shorten
  simp only
  have h1 : (scheme == lit "file" && (segs ++ [x]).length == 1 && isNormalizedWindowsDriveLetter ((segs ++ [x]).headD [])) = false := by
    cases segs with
    | nil => simp [hn]
    | cons a t => simp
  rw [h1]
  simp

theorem driveOk_of_not_wdl (u : Url) (x : Bytes) (hx : isWindowsDriveLetter x = false) : DriveOk u x := by
  intro h; simp [hx] at h

/-- what may follow an insertion at the end of the path: nothing, a query, a fragment -/
def EndPost (post : Bytes) : Prop := post = [] ∨ ∃ c r, post = c :: r ∧ (c = 0x3f ∨ c = 0x23)

instance (post : Bytes) : Decidable (EndPost post) :=
  match post with
  | [] => isTrue (Or.inl rfl)
  | c :: r =>
    if h : c = 0x3f ∨ c = 0x23 then isTrue (Or.inr ⟨c, r, rfl, h⟩)
    else isFalse (by
      intro hh
      rcases hh with hh | ⟨c', r', e1, h'⟩
      · cases hh
      · cases e1; exact h h')

theorem restText_end (post : Bytes) (h : EndPost post) : EndPost (restText post) := by
  rcases h with h | ⟨c, r, rfl, hc⟩
  · subst h; left; rfl
  · right
    have hg : Graphic [c] := by
      intro b hb; simp at hb; subst hb
      rcases hc with h | h <;> subst h <;> decide
    exact ⟨c, _, restText_cons c r hg, hc⟩

/-- `a/b/` for `[a, b]` -/
def dirText (segs : List Bytes) : Bytes := segs.flatMap (fun x => x ++ [0x2f])

theorem dirText_graphic (segs : List Bytes) (h : ∀ x ∈ segs, Graphic x) : Graphic (dirText segs) := by
  intro b hb
  obtain ⟨x, hx, hbx⟩ := List.mem_flatMap.mp hb
  rcases List.mem_append.mp hbx with h1 | h1
  · exact h x hx b h1
  · simp at h1; subst h1; decide

theorem pathText_slash (segs : List Bytes) : pathText segs ++ [0x2f] = 0x2f :: dirText segs := by
  induction segs with
  | nil => rfl
  | cons x more ih =>
    have : pathText (x :: more) = 0x2f :: x ++ pathText more := by simp [pathText]
    rw [this, List.append_assoc, ih]
    simp [dirText]

end WhatwgUrl.Proofs.Spelling

namespace WhatwgUrl.Proofs.Web
open WhatwgUrl WhatwgUrl.Impl WhatwgUrl.Proofs.IPv4 WhatwgUrl.Proofs.Trim WhatwgUrl.Proofs.RoundTrip WhatwgUrl.Proofs.Spelling
open WhatwgUrl.Proofs.Run WhatwgUrl.Proofs.Resolve

/-- the hypotheses of `Run.scan_segment` under `cfg`, whatever follows the text (`sp`: the scheme is special): its bytes are
    such as the path state copies (outside the path set, no delimiter), and the code-point branch is quiet on it.  Which
    texts qualify depends on the configuration: `copiedSeg_default`, `Web.copiedSeg_web`. -/
structure CopiedSeg (cfg : Cfg) (sp : Bool) (w : Bytes) : Prop where
  copy : ∀ b ∈ w, cfg.pathSet.has b.toNat = false ∧ bc b ≠ '/' ∧ bc b ≠ '?' ∧ bc b ≠ '#' ∧ (sp = true → bc b ≠ '\\')
  quiet : ∀ (I : Idna) (src : Bytes) (rs tl : Str), QuietOn (mkEC cfg I src rs) (asStr w) tl

/-- the path state copies the text to its buffer -/
theorem CopiedSeg.copies {cfg : Cfg} {sp : Bool} {w : Bytes} (h : CopiedSeg cfg sp w) (I : Idna) (src : Bytes) (rs : Str)
    (ps : PS) (pre tl : Str) (hst : ps.state = .path) (hsp : cfg.isSpecial ps.url.scheme = sp)
    (hc : Cur (mkEC cfg I src rs) ps pre (asStr w ++ tl)) :
    ∃ p', Steps (mkEC cfg I src rs) ps { ps with pointer := p', buffer := ps.buffer ++ w } ∧
      Cur (mkEC cfg I src rs) { ps with pointer := p', buffer := ps.buffer ++ w } (pre ++ asStr w) tl :=
  ⟨_, scan_segment sp w tl hc hst hsp h.copy (h.quiet I src rs tl)⟩

/-- the state after an empty last segment and the delimiter `c` (`?`, otherwise `#`) -/
def afterEmpty (c : Char) (ps : PS) : PS :=
  { ps with state := if c = '?' then .query else .fragment,
            url := if c = '?' then { ps.url with path := ps.url.path.addSegment [], query := some [] }
                   else { ps.url with path := ps.url.path.addSegment [], fragment := some [] } }

/-- the path state at a segment start; the next segment will be ADDED (`AddsSeg`: if consecutive slashes are collapsed
    the path so far does not end with an empty segment) -/
def PathReadyC (cfg : Cfg) (sp : Bool) (ps : PS) : Prop :=
  ps.state = .path ∧ ps.eof = false ∧ ps.buffer = [] ∧ cfg.isSpecial ps.url.scheme = sp ∧ ps.url.path.opq = false ∧
  AddsSeg cfg ps.url

structure NeutralInsC (cfg : Cfg) (sp : Bool) (M : Bytes) : Prop where
  slash : ∀ (I : Idna) (src : Bytes) (rs : Str) (ps : PS) (pre tl : Str), PathReadyC cfg sp ps →
    Cur (mkEC cfg I src rs) ps pre (asStr M ++ '/' :: tl) →
    ∃ p', Steps (mkEC cfg I src rs) ps { ps with pointer := p' } ∧
      Cur (mkEC cfg I src rs) { ps with pointer := p' } (pre ++ asStr M ++ ['/']) tl
  tail : ∀ (c : Char), c = '?' ∨ c = '#' → ∀ (I : Idna) (src : Bytes) (rs : Str) (ps : PS) (pre tl : Str), PathReadyC cfg sp ps →
    Cur (mkEC cfg I src rs) ps pre (asStr M ++ c :: tl) →
    ∃ p', Steps (mkEC cfg I src rs) ps (afterEmpty c { ps with pointer := p' }) ∧
      Cur (mkEC cfg I src rs) (afterEmpty c { ps with pointer := p' }) (pre ++ asStr M ++ [c]) tl
  eof : ∀ (I : Idna) (src : Bytes) (rs : Str) (ps : PS) (pre : Str), PathReadyC cfg sp ps →
    Cur (mkEC cfg I src rs) ps pre (asStr M) →
    Runs (mkEC cfg I src rs) ps ⟨{ ps.url with path := ps.url.path.addSegment [] }, .url⟩

/-- a neutral insertion from how the path state reads it: `B` is the buffer after `M`, `P u` the path then -/
theorem NeutralInsC.of_read {cfg : Cfg} {sp : Bool} {M : Bytes} (B : Bytes) (P : Url → Path)
    (hread : ∀ (I : Idna) (src : Bytes) (rs : Str) (ptr : Int) (af bf pw : Bool) (u : Url) (pre l : Str),
      cfg.isSpecial u.scheme = sp → AddsSeg cfg u →
      Cur (mkEC cfg I src rs) ⟨.path, ptr, false, [], af, bf, pw, u⟩ pre (asStr M ++ l) →
      ∃ p', Steps (mkEC cfg I src rs) ⟨.path, ptr, false, [], af, bf, pw, u⟩
          ⟨.path, p', false, B, af, bf, pw, { u with path := P u }⟩ ∧
        Cur (mkEC cfg I src rs) ⟨.path, p', false, B, af, bf, pw, { u with path := P u }⟩ (pre ++ asStr M) l)
    (hpath : ∀ (e : Env) (q : PS) (u : Url) (c : Char), q.buffer = B → q.url = { u with path := P u } → u.path.opq = false →
      Machine.segPath e q c = if (c == '/' || spBackslash e q.url c) = true then u.path else u.path.addSegment []) :
    NeutralInsC cfg sp M := by
  refine ⟨?_, ?_, ?_⟩
  · intro I src rs ps pre tl hR hcur
    obtain ⟨st, ptr, eof, buf, af, bf, pw, u⟩ := ps
    obtain ⟨rfl, rfl, rfl, hsp, ho, hadd⟩ := hR
    obtain ⟨p1, S1, C1⟩ := hread I src rs ptr af bf pw u pre _ hsp hadd hcur
    have hp := hpath (mkEC cfg I src rs) ⟨.path, p1 + 1, false, B, af, bf, pw, { u with path := P u }⟩ u '/' rfl rfl ho
    obtain ⟨S2, C2⟩ := C1.one (ps' := ⟨.path, p1 + 1, false, [], af, bf, pw, u⟩)
      (by rw [step_segEnd C1 rfl (Or.inl rfl)]; simp [Machine.segEnd, hp]) rfl rfl
    exact ⟨_, S1.trans S2, C2⟩
  · intro c hd I src rs ps pre tl hR hcur
    obtain ⟨st, ptr, eof, buf, af, bf, pw, u⟩ := ps
    obtain ⟨rfl, rfl, rfl, hsp, ho, hadd⟩ := hR
    obtain ⟨p1, S1, C1⟩ := hread I src rs ptr af bf pw u pre _ hsp hadd hcur
    have hp := hpath (mkEC cfg I src rs) ⟨.path, p1 + 1, false, B, af, bf, pw, { u with path := P u }⟩ u c rfl rfl ho
    obtain ⟨S2, C2⟩ := C1.one (ps' := afterEmpty c ⟨.path, p1 + 1, false, [], af, bf, pw, u⟩)
      (by rw [step_segEnd C1 rfl (Or.inr ⟨rfl, hd⟩)]
          rcases hd with rfl | rfl <;> simp [Machine.segEnd, hp, spBackslash, afterEmpty]) rfl rfl
    exact ⟨_, S1.trans S2, C2⟩
  · intro I src rs ps pre hR hcur
    obtain ⟨st, ptr, eof, buf, af, bf, pw, u⟩ := ps
    obtain ⟨rfl, rfl, rfl, hsp, ho, hadd⟩ := hR
    obtain ⟨p1, S1, C1⟩ := hread I src rs ptr af bf pw u pre [] hsp hadd (by simpa using hcur)
    refine S1.done ?_
    rw [step_segEnd_eof C1 rfl, hpath (mkEC cfg I src rs) ⟨.path, p1, false, B, af, bf, pw, { u with path := P u }⟩ u repl rfl rfl ho]
    simp [spBackslash, repl]

theorem neutral_singleDot_c (cfg : Cfg) (sp : Bool) (M : Bytes) (hM : isSingleDot M = true) (hc : CopiedSeg cfg sp M) :
    NeutralInsC cfg sp M :=
  .of_read M (fun u => u.path) (fun I src rs ptr af bf pw u pre l hsp _ hcur => hc.copies I src rs _ pre l rfl hsp hcur)
    (fun e q u c hb hu _ => by
      rw [segPath_sdot e q c (by rw [hb]; exact hM) (by rw [hb]; exact singleDot_not_double hM), hu])

/-- `x` may be empty; it must not be a drive letter, which the path state of a `file` url would rewrite -/
theorem neutral_up_c (cfg : Cfg) (sp : Bool) (x dd : Bytes) (hx1 : isSingleDot x = false) (hx2 : isDoubleDot x = false)
    (hxd : isWindowsDriveLetter x = false) (hdd : isDoubleDot dd = true) (hcx : CopiedSeg cfg sp x) (hcd : CopiedSeg cfg sp dd) :
    NeutralInsC cfg sp (x ++ 0x2f :: dd) := by
  refine .of_read dd (fun u => u.path.addSegment x) ?_ (fun e q u c hb hu ho => by
    rw [segPath_ddot e q c (by rw [hb]; exact hdd), hu]
    simp only [shorten_add u.path x u.scheme ho hxd])
  -- up to the state holding the double-dot segment in the buffer, the segment `x` added to the path
  intro I src rs ptr af bf pw u pre l hsp hadd hcur
  rw [show asStr (x ++ 0x2f :: dd) ++ l = asStr x ++ ('/' :: (asStr dd ++ l)) by simp [bc_slash, asStr]] at hcur
  obtain ⟨p1, S1, C1⟩ := hcx.copies I src rs _ pre _ rfl hsp hcur
  obtain ⟨S2, C2⟩ := C1.one (step_path_slash C1 rfl (by simpa using hx1) (by simpa using hx2)
    (driveOk_of_not_wdl _ _ (by simpa using hxd)) hadd) rfl rfl
  obtain ⟨p2, S3, C3⟩ := hcd.copies I src rs _ _ l rfl hsp C2
  exact ⟨p2, (S1.trans S2).trans S3, by simpa [asStr_append, asStr, bc_slash] using C3⟩

/-- what the machine does on the prefix `A` (started with the record `u0`), whatever follows: it arrives in the path state
    at a segment start, having read `A` — or it has already returned.  The pointer of `Q` is of no account: every use
    sets it. -/
def PrefixRunC (cfg : Cfg) (I : Idna) (A : Bytes) (sp : Bool) (u0 : Url) : Prop :=
  (∃ Q : PS, PathReadyC cfg sp Q ∧ ∀ Z, ∃ p, Steps (envAC cfg I A Z) (ps0 .schemeStart u0) { Q with pointer := p } ∧
      Cur (envAC cfg I A Z) { Q with pointer := p } (asStr A) (goRunes Z)) ∨
  (∃ r : Res, ∀ Z, Runs (envAC cfg I A Z) (ps0 .schemeStart u0) r)

theorem ins_mid_loopEq_c (cfg : Cfg) (I : Idna) (sp : Bool) (A M Z : Bytes) (u0 : Url) (gA : Graphic A) (gM : Graphic M)
    (hP : PrefixRunC cfg I A sp u0) (hN : NeutralInsC cfg sp M) :
    LoopEq (envAC cfg I (A ++ (M ++ [0x2f])) Z) (ps0 .schemeStart u0) (envAC cfg I A Z) (ps0 .schemeStart u0) := by
  have gM1 : Graphic (M ++ [0x2f]) := gM.append (by unfold Graphic; decide)
  rcases hP with ⟨Q, hQ, hR⟩ | ⟨r, hr⟩
  · obtain ⟨p1, S1, C1⟩ := hR ((M ++ [0x2f]) ++ Z)
    obtain ⟨p2, S2, C2⟩ := hR Z
    rw [← envAC_assoc cfg I A _ Z gM1] at S1 C1
    have hg : goRunes ((M ++ [0x2f]) ++ Z) = asStr M ++ '/' :: goRunes Z := by
      rw [goRunes_clean _ _ (graphic_ascii gM1)]; simp [asStr, bc_slash]
    rw [hg] at C1
    obtain ⟨p3, S3, C3⟩ := hN.slash I ((A ++ (M ++ [0x2f])) ++ Z) (asStr (A ++ (M ++ [0x2f])) ++ goRunes Z) { Q with pointer := p1 }
      (asStr A) (goRunes Z) hQ C1
    have e3 : asStr (A ++ (M ++ [0x2f])) = asStr A ++ asStr M ++ ['/'] := by simp [asStr, bc_slash]
    have L := shift_tail_c cfg I (A ++ (M ++ [0x2f])) A Z (gA.append gM1) gA { Q with pointer := p3 } { Q with pointer := p2 }
      (by rw [e3]; exact C3) C2 rfl (show PastAuth Q.state from hQ.1.symm ▸ (by decide : PastAuth .path))
    exact LoopEq.steps_l (S1.trans S3) (LoopEq.steps_r S2 L)
  · have h1 := hr ((M ++ [0x2f]) ++ Z)
    rw [← envAC_assoc cfg I A _ Z gM1] at h1
    exact ⟨r, h1, hr Z⟩

theorem isDot_nil : isSingleDot [] = false ∧ isDoubleDot [] = false := by decide

/-- after `M` and the delimiter `c`, and after the bare `c`, both machines are in `afterEmpty c` (at the end of the input both
    have returned): the shift lemma takes over from there -/
theorem ins_end_loopEq_c (cfg : Cfg) (I : Idna) (sp : Bool) (A M R : Bytes) (u0 : Url) (gA : Graphic A) (gM : Graphic M)
    (hP : PrefixRunC cfg I A sp u0) (hN : NeutralInsC cfg sp M) (hRc : EndPost R) :
    LoopEq (envAC cfg I (A ++ M) R) (ps0 .schemeStart u0) (envAC cfg I A R) (ps0 .schemeStart u0) := by
  rcases hP with ⟨Q, hQ, hR⟩ | ⟨r, hr⟩
  · obtain ⟨p1, S1, C1⟩ := hR (M ++ R)
    obtain ⟨p2, S2, C2⟩ := hR R
    rw [← envAC_assoc cfg I A _ R gM] at S1 C1
    rw [goRunes_clean M R (graphic_ascii gM)] at C1
    obtain ⟨st, ptr, eof, buf, af, bf, pw, u⟩ := Q
    obtain ⟨rfl, rfl, rfl, hsp, ho, hadd⟩ := hQ
    have hdrv : DriveOk u ([] : Bytes) := driveOk_of_not_wdl _ _ rfl
    rcases hRc with rfl | ⟨c, R', rfl, hc⟩
    · have C1' : Cur (mkEC cfg I ((A ++ M) ++ []) (asStr (A ++ M) ++ goRunes [])) ⟨.path, p1, false, [], af, bf, pw, u⟩ (asStr A)
          (asStr M) := by have := C1; rwa [show goRunes ([] : Bytes) = [] from rfl, List.append_nil] at this
      have C2' : Cur (mkEC cfg I (A ++ []) (asStr A ++ goRunes [])) ⟨.path, p2, false, [], af, bf, pw, u⟩ (asStr A) [] := C2
      exact ⟨_, S1.runs (hN.eof I _ _ ⟨.path, p1, false, [], af, bf, pw, u⟩ _ ⟨rfl, rfl, rfl, hsp, ho, hadd⟩ C1'),
        S2.done (step_path_eof C2' rfl isDot_nil.1 isDot_nil.2 hdrv hadd)⟩
    · have hd : bc c = '?' ∨ bc c = '#' := hc.imp (congrArg bc) (congrArg bc)
      have g1 : Graphic ([c] : Bytes) := by rcases hc with rfl | rfl <;> (unfold Graphic; decide)
      have hg : goRunes (c :: R') = bc c :: goRunes R' := goRunes_clean [c] R' (graphic_ascii g1)
      have C1' : Cur (mkEC cfg I ((A ++ M) ++ c :: R') (asStr (A ++ M) ++ goRunes (c :: R'))) ⟨.path, p1, false, [], af, bf, pw, u⟩
          (asStr A) (asStr M ++ bc c :: goRunes R') := by have := C1; rwa [hg] at this
      have C2' : Cur (mkEC cfg I (A ++ c :: R') (asStr A ++ goRunes (c :: R'))) ⟨.path, p2, false, [], af, bf, pw, u⟩ (asStr A)
          (bc c :: goRunes R') := by have := C2; rwa [hg] at this
      obtain ⟨p3, S3, C3⟩ := hN.tail (bc c) hd I _ _ ⟨.path, p1, false, [], af, bf, pw, u⟩ _ _ ⟨rfl, rfl, rfl, hsp, ho, hadd⟩ C1'
      have h4 : step (mkEC cfg I (A ++ c :: R') (asStr A ++ goRunes (c :: R'))) ⟨.path, p2, false, [], af, bf, pw, u⟩ =
          .cont (afterEmpty (bc c) ⟨.path, p2 + 1, false, [], af, bf, pw, u⟩) := by
        rcases hc with rfl | rfl
        · exact step_path_qm C2' rfl rfl isDot_nil.1 isDot_nil.2 hdrv hadd
        · exact step_path_hash C2' rfl rfl isDot_nil.1 isDot_nil.2 hdrv hadd
      obtain ⟨S4, C4⟩ := C2'.one h4 rfl rfl
      have e3 : asStr ((A ++ M) ++ [c]) = asStr A ++ asStr M ++ [bc c] := by simp [asStr]
      have e4 : asStr (A ++ [c]) = asStr A ++ [bc c] := by simp [asStr]
      have a1 := envAC_assoc cfg I (A ++ M) [c] R' g1
      have a2 := envAC_assoc cfg I A [c] R' g1
      have L := shift_tail_c cfg I ((A ++ M) ++ [c]) (A ++ [c]) R' ((gA.append gM).append g1) (gA.append g1) _ _
        (by rw [a1, e3]; exact C3) (by rw [a2, e4]; exact C4) rfl
        (by show PastAuth (if bc c = '?' then State.query else State.fragment); split <;> decide)
      rw [a1, a2] at L
      exact LoopEq.steps_l (S1.trans S3) (LoopEq.steps_r (S2.trans S4) L)
  · have h1 := hr (M ++ R)
    rw [← envAC_assoc cfg I A _ R gM] at h1
    exact ⟨r, h1, hr R⟩

/-- a segment of the prefix: copied, not a dot segment, and not empty if consecutive slashes are collapsed -/
structure DirSeg (cfg : Cfg) (x : Bytes) : Prop extends CopiedSeg cfg true x where
  sdot : isSingleDot x = false
  ddot : isDoubleDot x = false
  nonempty : cfg.collapse = false ∨ x ≠ []

theorem dirText_cons (x : Bytes) (more : List Bytes) :
    dirText (x :: more) = x ++ more.flatMap (fun s => 0x2f :: s) ++ [0x2f] := by
  have := pathText_slash (x :: more)
  simpa [pathText] using this.symm

/-- `Run.steps_path` over the segments, then the `/` that closes the last of them -/
theorem steps_dirs (cfg : Cfg) (I : Idna) (src : Bytes) (rs : Str) (segs : List Bytes) (hsegs : ∀ x ∈ segs, DirSeg cfg x)
    (p : Int) (af bf pw : Bool) (u : Url) (pre tl : Str) (hsp : cfg.isSpecial u.scheme = true) (hnf : (u.scheme == lit "file") = false)
    (ho : u.path.opq = false) (hcol : cfg.collapse = false ∨ ∀ s ∈ u.path.segs, s ≠ [])
    (hc : Cur (mkEC cfg I src rs) ⟨.path, p, false, [], af, bf, pw, u⟩ pre (asStr (dirText segs) ++ tl)) :
    ∃ p', Steps (mkEC cfg I src rs) ⟨.path, p, false, [], af, bf, pw, u⟩
        ⟨.path, p', false, [], af, bf, pw, { u with path := ⟨u.path.segs ++ segs, false⟩ }⟩ ∧
      Cur (mkEC cfg I src rs) ⟨.path, p', false, [], af, bf, pw, { u with path := ⟨u.path.segs ++ segs, false⟩ }⟩
        (pre ++ asStr (dirText segs)) tl := by
  cases segs with
  | nil =>
    obtain ⟨sc, us, pw', h, po, dp, ⟨sg, oq⟩, q, f, ve, ql⟩ := u
    simp only at ho
    subst ho
    exact ⟨p, by simpa [dirText] using Steps.refl _, by simpa [dirText, asStr] using hc⟩
  | cons x more =>
    have hD : ∀ s ∈ x :: more, SegCopied (mkEC cfg I src rs) true s ∧ ∀ tl, QuietOn (mkEC cfg I src rs) (asStr s) tl :=
      fun s hs => ⟨⟨(hsegs s hs).copy, (hsegs s hs).sdot, (hsegs s hs).ddot⟩, (hsegs s hs).quiet I src rs⟩
    have e1 : asStr (dirText (x :: more)) ++ tl = asStr (x ++ more.flatMap (fun s => 0x2f :: s)) ++ '/' :: tl := by
      rw [dirText_cons]; simp [asStr, bc_slash]
    have hc0 := hc
    rw [e1] at hc
    have hne : cfg.collapse = false ∨ ((∀ s ∈ u.path.segs, s ≠ []) ∧ ∀ s ∈ (x :: more).dropLast, s ≠ []) := by
      by_cases hcl : cfg.collapse = false
      · exact Or.inl hcl
      · exact Or.inr ⟨hcol.resolve_left hcl, fun s hs => (hsegs s (List.dropLast_subset _ hs)).nonempty.resolve_left hcl⟩
    obtain ⟨ps', pre', S1, C1, hps', hdrv, hadd⟩ := steps_path true more x ('/' :: tl) _ pre hc rfl rfl hsp
      (fun s hs => (hD s hs).1) (DriveOk_notfile _ _ hnf) (fun a s b hs => (hD s (by rw [hs]; simp)).2 _) hne
    obtain ⟨p1, hp1⟩ : ∃ p1, ps'.pointer = p1 := ⟨_, rfl⟩
    rw [hp1] at hps'
    subst hps'
    have hlast := (hD _ (List.getLast_mem (l := x :: more) (by simp))).1
    obtain ⟨S2, C2⟩ := C1.one (step_path_slash C1 rfl hlast.sdot hlast.ddot hdrv hadd) rfl rfl
    have hpre : pre' ++ ['/'] = pre ++ asStr (dirText (x :: more)) :=
      List.append_cancel_right (by rw [← C2.runes, hc0.runes, List.append_assoc])
    rw [hpre] at C2
    exact ⟨p1 + 1, S1.trans (by simpa [Path.addSegment, ho, List.dropLast_concat_getLast] using S2),
      by simpa [Path.addSegment, ho, List.dropLast_concat_getLast] using C2⟩

/-- **the prefixes** `scheme://host/dir/…/dir/` (special scheme other than `file`, a host text, ordinary segments):
    the machine arrives at a segment start of the path state — or the host parser has failed -/
theorem prefixRunC_dirs (cfg : Cfg) (I : Idna) (s a : Bytes) (segs : List Bytes) (u0 : Url)
    (hu0 : u0.path = ⟨[], false⟩) (hs : SpecialSchemeC cfg s) (ha : hostText a = true) (hsegs : ∀ x ∈ segs, DirSeg cfg x) :
    PrefixRunC cfg I (s ++ lit "://" ++ a ++ 0x2f :: dirText segs) true u0 := by
  have hne : a ≠ [] := (hostText_spec ha).1
  generalize hA : s ++ lit "://" ++ a ++ 0x2f :: dirText segs = A
  have eA : asStr A = asStr s ++ [':', '/', '/'] ++ asStr a ++ ['/'] ++ asStr (dirText segs) := by
    rw [← hA, lit_css]; simp [asStr, bc_colon, bc_slash]
  have hT : ∀ Z : Bytes, Delim ('/' :: (asStr (dirText segs) ++ goRunes Z)) := fun Z => Or.inr ⟨'/', _, rfl, Or.inl rfl⟩
  generalize hU : ({ u0 with scheme := s } : Url) = U
  have hUs : U.scheme = s := by rw [← hU]
  have hUp : U.path = ⟨[], false⟩ := by rw [← hU]; exact hu0
  have hsp : cfg.isSpecial U.scheme = true := by rw [hUs]; exact hs.special
  have hH : ∀ Z : Bytes, ∃ p, Steps (envAC cfg I A Z) (ps0 .schemeStart u0) ⟨.host, p, false, a, false, false, false, U⟩ ∧
      Cur (envAC cfg I A Z) ⟨.host, p, false, a, false, false, false, U⟩ (asStr s ++ [':', '/', '/'] ++ asStr a)
        ('/' :: (asStr (dirText segs) ++ goRunes Z)) := by
    intro Z
    have := steps_host_state cfg I (A ++ Z) (asStr A ++ goRunes Z) s a [] _ hs ha (fun _ h => nomatch h) (hT Z) u0
      (by rw [eA]; simp [asStr])
    rw [hU] at this
    simpa [envAC, asStr] using this
  by_cases hok : ∃ h', (parseHost cfg I U a false).out = .ok h'
  · obtain ⟨h', hout⟩ := hok
    left
    have hF := hostRec_frame cfg I U a false h'
    generalize hV : ({ (parseHost cfg I U a false).url with host := some h' } : Url) = V at hF
    have hVs : V.scheme = s := hF.1.trans hUs
    have hVp : V.path = ⟨[], false⟩ := hF.2.1.trans hUp
    have hcol : cfg.collapse = false ∨ ∀ x ∈ V.path.segs ++ segs, x ≠ [] := by
      by_cases hc : cfg.collapse = false
      · exact Or.inl hc
      · right
        intro x hx
        rw [hVp] at hx
        simp only [List.nil_append] at hx
        rcases (hsegs x hx).nonempty with h | h
        · exact absurd h hc
        · exact h
    refine ⟨⟨.path, 0, false, [], false, false, false, { V with path := ⟨V.path.segs ++ segs, false⟩ }⟩,
      ⟨rfl, rfl, rfl, ?_, rfl, addsSeg_of cfg _ hcol⟩, fun Z => ?_⟩
    · show cfg.isSpecial V.scheme = true
      rw [hVs]; exact hs.special
    · obtain ⟨p, H1, K1⟩ := hH Z
      obtain ⟨S1, C1⟩ := K1.stay (step_host_end_special K1 (hT Z) rfl rfl hsp hne hout) rfl rfl
      simp only [envAC, mkEC_cfg, mkEC_I, hV] at S1 C1
      rw [← envAC] at S1 C1
      obtain ⟨S2, C2⟩ := C1.one (step_pathStart_slash C1 rfl) rfl rfl
      obtain ⟨p3, S3, C3⟩ := steps_dirs cfg I _ _ segs hsegs _ false false false V _ (goRunes Z) (by rw [hVs]; exact hs.special)
        (by rw [hVs]; exact hs.notFile) (by rw [hVp]) (by right; rw [hVp]; intro x hx; cases hx) C2
      exact ⟨p3, ((H1.trans S1).trans S2).trans S3, by rw [eA]; exact C3⟩
  · right
    refine ⟨hostFail (parseHost cfg I U a false), fun Z => ?_⟩
    obtain ⟨p, H1, K1⟩ := hH Z
    exact H1.done (step_host_end_fail K1 (hT Z) rfl rfl hsp hne (fun h hh => hok ⟨h, hh⟩))

theorem ins_mid_parse_c (cfg : Cfg) (I : Idna) (sp : Bool) (A M X : Bytes) (hA : A ≠ []) (gA : Graphic A) (gM : Graphic M)
    (hP : ∀ vs : List VErr, (cfg.report = false → vs = []) → PrefixRunC cfg I A sp { verrs := vs }) (hN : NeutralInsC cfg sp M) :
    parse cfg I (A ++ M ++ 0x2f :: X) = parse cfg I (A ++ X) := by
  have gM1 : Graphic (M ++ [0x2f]) := gM.append (by unfold Graphic; decide)
  have e1 : A ++ M ++ 0x2f :: X = (A ++ (M ++ [0x2f])) ++ X := by simp
  rw [e1]
  apply parse_congr_c cfg I _ _ X (by simp [hA]) (graphic_noWs (gA.append gM1)) hA (graphic_noWs gA)
  intro vs hq
  rw [envAC_eq cfg I _ _ (gA.append gM1), envAC_eq cfg I _ _ gA]
  exact ins_mid_loopEq_c cfg I sp A M (restText X) _ gA gM (hP vs hq) hN

theorem ins_end_parse_c (cfg : Cfg) (I : Idna) (sp : Bool) (A M post : Bytes) (hA : A ≠ []) (gA : Graphic A) (gM : Graphic M)
    (hP : ∀ vs : List VErr, (cfg.report = false → vs = []) → PrefixRunC cfg I A sp { verrs := vs }) (hN : NeutralInsC cfg sp M)
    (hpost : EndPost post) :
    parse cfg I (A ++ M ++ post) = parse cfg I (A ++ post) := by
  apply parse_congr_c cfg I _ _ post (by simp [hA]) (graphic_noWs (gA.append gM)) hA (graphic_noWs gA)
  intro vs hq
  rw [envAC_eq cfg I _ _ (gA.append gM), envAC_eq cfg I _ _ gA]
  exact ins_end_loopEq_c cfg I sp A M (restText post) _ gA gM (hP vs hq) hN (restText_end post hpost)

/-- what the insertion lemmas ask of a prefix `pre ++ "/"` -/
def SlashPrefix (cfg : Cfg) (I : Idna) (sp : Bool) (pre : Bytes) : Prop :=
  Graphic (pre ++ [0x2f]) ∧ ∀ vs : List VErr, PrefixRunC cfg I (pre ++ [0x2f]) sp { verrs := vs }

theorem slashPrefix_path (cfg : Cfg) (I : Idna) (s a : Bytes) (segs : List Bytes) (hs : SpecialSchemeC cfg s) (ha : hostText a = true)
    (hsegs : ∀ x ∈ segs, DirSeg cfg x ∧ Graphic x) : SlashPrefix cfg I true (s ++ lit "://" ++ a ++ pathText segs) := by
  unfold SlashPrefix
  have e : s ++ lit "://" ++ a ++ pathText segs ++ [0x2f] = s ++ lit "://" ++ a ++ 0x2f :: dirText segs := by
    rw [List.append_assoc _ (pathText segs), pathText_slash]
  rw [e]
  refine ⟨?_, fun vs => prefixRunC_dirs cfg I s a segs _ rfl hs ha (fun x hx => (hsegs x hx).1)⟩
  exact (prefix_graphic_c cfg s a hs ha).append (Graphic.cons (by decide) (dirText_graphic segs fun x hx => (hsegs x hx).2))

theorem ins_mid_slash {cfg : Cfg} {I : Idna} {sp : Bool} {pre : Bytes} (hR : SlashPrefix cfg I sp pre) (M X : Bytes) (gM : Graphic M)
    (hN : NeutralInsC cfg sp M) : parse cfg I (pre ++ 0x2f :: M ++ 0x2f :: X) = parse cfg I (pre ++ 0x2f :: X) := by
  simpa using ins_mid_parse_c cfg I sp (pre ++ [0x2f]) M X (by simp) hR.1 gM (fun vs _ => hR.2 vs) hN

theorem ins_end_slash {cfg : Cfg} {I : Idna} {sp : Bool} {pre : Bytes} (hR : SlashPrefix cfg I sp pre) (M post : Bytes) (gM : Graphic M)
    (hN : NeutralInsC cfg sp M) (hpost : EndPost post) : parse cfg I (pre ++ 0x2f :: M ++ post) = parse cfg I (pre ++ 0x2f :: post) := by
  simpa using ins_end_parse_c cfg I sp (pre ++ [0x2f]) M post (by simp) hR.1 gM (fun vs _ => hR.2 vs) hN hpost

end WhatwgUrl.Proofs.Web
#print axioms WhatwgUrl.Proofs.Web.ins_mid_parse_c
#print axioms WhatwgUrl.Proofs.Web.ins_end_parse_c
#print axioms WhatwgUrl.Proofs.Web.prefixRunC_dirs

namespace WhatwgUrl.Proofs.Spelling
open WhatwgUrl WhatwgUrl.Impl WhatwgUrl.Proofs.IPv4 WhatwgUrl.Proofs.RoundTrip WhatwgUrl.Proofs.Web WhatwgUrl.Proofs.Run

theorem copiedSeg_default (sp : Bool) (w : Bytes) (hw : ∀ b ∈ w, segB sp b = true) : CopiedSeg {} sp w :=
  ⟨fun b hb => segB_spec b sp (hw b hb), fun _ _ _ _ => QuietOn.of_mute Mute.default rfl _ _⟩

theorem copiedSeg_dots_default (sp : Bool) {M : Bytes} (h : ∀ b ∈ M, dotB b = true) : CopiedSeg {} sp M :=
  copiedSeg_default sp M fun b hb => by
    cases sp
    · exact (dotB_spec b (h b hb)).2.1
    · exact (dotB_spec b (h b hb)).1

theorem neutral_singleDot_default (sp : Bool) {M : Bytes} (hM : isSingleDot M = true) : NeutralInsC {} sp M :=
  neutral_singleDot_c {} sp M hM (copiedSeg_dots_default sp (singleDot_spec hM).1)

theorem segOk_graphic {sp : Bool} {x : Bytes} (h : segOk sp x = true) : Graphic x :=
  fun b hb => seg_print b sp ((segOk_spec h).1 b hb)

theorem neutral_up_default (sp : Bool) (x dd : Bytes) (hx : segOk sp x = true) (hxd : isWindowsDriveLetter x = false)
    (hdd : isDoubleDot dd = true) : NeutralInsC {} sp (x ++ 0x2f :: dd) :=
  neutral_up_c {} sp x dd (segOk_spec hx).2.1 (segOk_spec hx).2.2 hxd hdd (copiedSeg_default sp x (segOk_spec hx).1)
    (copiedSeg_dots_default sp (doubleDot_spec hdd).1)

theorem dirSeg_default {x : Bytes} (h : segOk true x = true) : DirSeg {} x :=
  ⟨copiedSeg_default true x (segOk_spec h).1, (segOk_spec h).2.1, (segOk_spec h).2.2, Or.inl rfl⟩

/-- `PrefixRunC` for the default configuration, which records nothing before the loop starts -/
def PrefixRun (I : Idna) (A : Bytes) (sp : Bool) : Prop := PrefixRunC {} I A sp {}

theorem PrefixRun.fresh {I : Idna} {A : Bytes} {sp : Bool} (h : PrefixRun I A sp) (vs : List VErr)
    (hq : ({} : Cfg).report = false → vs = []) : PrefixRunC {} I A sp { verrs := vs } := by
  rw [hq rfl]; exact h

end WhatwgUrl.Proofs.Spelling
