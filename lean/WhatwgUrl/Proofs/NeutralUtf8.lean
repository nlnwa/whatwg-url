import WhatwgUrl.Proofs.Trim
import WhatwgUrl.Proofs.IPv4
import WhatwgUrl.Proofs.CfgCongr
/-
  UTF-8 facts for C16b (accept-invalid-code-points): validity is preserved by the parser prologue, and on valid input
  `currentIsInvalid` is never true.  Both rest on `Utf8.decode1_shape`.
-/
namespace WhatwgUrl.Proofs.Neutral
open WhatwgUrl WhatwgUrl.Impl WhatwgUrl.Proofs.Trim
open WhatwgUrl.Proofs.Utf8 (goDecode_nil goDecode_cons validUtf8_cons decode1_size_pos decode1_shape goDecode_drop decode1_2 decode1_ascii)

theorem validUtf8_nil : validUtf8 [] = true := rfl

theorem valid_cons_ascii (b : UInt8) (rest : Bytes) (h : b.toNat < 0x80) : validUtf8 (b :: rest) = validUtf8 rest := by
  rw [validUtf8_cons, decode1_ascii b rest h]
  simp [IPv4.bc_ne_repl b]

theorem valid_multi (b0 : UInt8) (pre : Bytes) (ch : Char) (hd : ∀ t, decode1 b0 (pre ++ t) = (ch, pre.length + 1))
    (t : Bytes) : validUtf8 (b0 :: (pre ++ t)) = (!(ch == repl && pre.length + 1 == 1) && validUtf8 t) := by
  rw [validUtf8_cons, hd t]
  simp only [Nat.add_sub_cancel, List.drop_left]

theorem valid_not_repl1 (b0 : UInt8) (rest : Bytes) (hd : decode1 b0 rest = (repl, 1)) : validUtf8 (b0 :: rest) = false := by
  rw [validUtf8_cons, hd]; simp

-- by induction on a bound `n` of the length: after a multi-byte rune the recursion continues on a suffix that is not structural
theorem valid_filter (q : UInt8 → Bool) (hq : ∀ x : UInt8, 0x80 ≤ x.toNat → q x = true) :
    ∀ (n : Nat) (s : Bytes), s.length ≤ n → validUtf8 s = true → validUtf8 (s.filter q) = true := by
  intro n
  induction n with
  | zero =>
    intro s hn _
    have : s = [] := List.eq_nil_of_length_eq_zero (by omega)
    subst this; rfl
  | succ n ih =>
    intro s hn hv
    match s, hn, hv with
    | [], _, _ => rfl
    | b0 :: rest, hn, hv =>
      simp only [List.length_cons] at hn
      rcases decode1_shape b0 rest with ⟨h0, _⟩ | hr | ⟨h0, pre, rest', ch, hrest, hpre, hd⟩
      · rw [valid_cons_ascii _ _ h0] at hv
        have := ih rest (by omega) hv
        rw [List.filter_cons]
        split
        · rw [valid_cons_ascii _ _ h0]; exact this
        · exact this
      · rw [valid_not_repl1 _ _ hr] at hv; cases hv
      · subst hrest
        rw [valid_multi b0 pre ch hd] at hv
        simp only [Bool.and_eq_true] at hv
        have hl : rest'.length ≤ n := by simp only [List.length_append] at hn; omega
        have := ih rest' hl hv.2
        have hfp : pre.filter q = pre := List.filter_eq_self.mpr (fun x hx => hq x (hpre x hx))
        rw [List.filter_cons, if_pos (hq b0 h0), List.filter_append, hfp, valid_multi b0 pre ch hd]
        simp only [Bool.and_eq_true]
        exact ⟨hv.1, this⟩

theorem valid_dropWhile (q : UInt8 → Bool) (hq : ∀ x : UInt8, q x = true → x.toNat < 0x80) (s : Bytes)
    (hv : validUtf8 s = true) : validUtf8 (s.dropWhile q) = true := by
  induction s with
  | nil => rfl
  | cons b rest ih =>
    rw [List.dropWhile_cons]
    split
    · rename_i hb
      rw [valid_cons_ascii _ _ (hq b hb)] at hv
      exact ih hv
    · exact hv

theorem valid_append_ascii : ∀ (n : Nat) (s : Bytes), s.length ≤ n → ∀ t : Bytes, (∀ x ∈ t, x.toNat < 0x80) →
    validUtf8 (s ++ t) = true → validUtf8 s = true := by
  intro n
  induction n with
  | zero =>
    intro s hn _ _ _
    have : s = [] := List.eq_nil_of_length_eq_zero (by omega)
    subst this; rfl
  | succ n ih =>
    intro s hn t ht hv
    match s, hn, hv with
    | [], _, _ => rfl
    | b0 :: rest, hn, hv =>
      simp only [List.length_cons] at hn
      simp only [List.cons_append] at hv
      rcases decode1_shape b0 (rest ++ t) with ⟨h0, _⟩ | hr | ⟨h0, pre, rest', ch, hrest, hpre, hd⟩
      · rw [valid_cons_ascii _ _ h0] at hv ⊢
        exact ih rest (by omega) t ht hv
      · rw [valid_not_repl1 _ _ hr] at hv; cases hv
      · have hsplit : ∃ c', rest = pre ++ c' ∧ rest' = c' ++ t := by
          rcases List.append_eq_append_iff.mp hrest with ⟨a', h1, h2⟩ | ⟨c', h1, h2⟩
          · -- rest ++ a' = pre ; t = a' ++ rest'
            match a', h1, h2 with
            | [], h1, h2 => exact ⟨[], by simpa using h1.symm, by simpa using h2.symm⟩
            | x :: a'', h1, h2 =>
              have hx1 : 0x80 ≤ x.toNat := hpre x (by rw [h1]; simp)
              have hx2 : x.toNat < 0x80 := ht x (by rw [h2]; simp)
              omega
          · exact ⟨c', h1, h2⟩
        obtain ⟨c', h1, h2⟩ := hsplit
        subst h1; subst h2
        rw [List.append_assoc, valid_multi b0 pre ch hd] at hv
        simp only [Bool.and_eq_true] at hv
        have hl : c'.length ≤ n := by simp only [List.length_append] at hn; omega
        rw [valid_multi b0 pre ch hd]
        simp only [Bool.and_eq_true]
        exact ⟨hv.1, ih c' hl t ht hv.2⟩

theorem valid_dropWsR (s : Bytes) (hv : validUtf8 s = true) : validUtf8 (dropWsR s) = true := by
  have hs : s = dropWsR s ++ (s.reverse.takeWhile isWs).reverse := by
    have := List.takeWhile_append_dropWhile (p := isWs) (l := s.reverse)
    have h2 := congrArg List.reverse this
    simp only [List.reverse_append, List.reverse_reverse] at h2
    exact h2.symm
  rw [hs] at hv
  refine valid_append_ascii _ _ (Nat.le_refl _) _ ?_ hv
  intro x hx
  have hx' : x ∈ s.reverse.takeWhile isWs := by simpa using hx
  exact isWs_lt (Utf8.mem_takeWhile_imp hx')

theorem valid_prologue (url : Option Url) (input : Bytes) (hv : validUtf8 input = true) :
    validUtf8 (prologueText url input) = true := by
  unfold prologueText removeTabNl
  apply valid_filter _ _ _ _ (Nat.le_refl _)
  · split
    · rw [trim_fst]; exact valid_dropWsR _ (valid_dropWhile _ (fun _ => isWs_lt) _ hv)
    · exact hv
  · intro x hx
    simp only [isTabNl, Bool.not_eq_true', Bool.or_eq_false_iff, beq_eq_false_iff_ne, ne_eq]
    refine ⟨⟨?_, ?_⟩, ?_⟩ <;> intro he <;> subst he <;> simp at hx

theorem ciI_false (src : Bytes) (hv : validUtf8 src = true) (k : Int) : ciI src (goRunes src) k = false := by
  unfold ciI
  by_cases hcur : cur (goRunes src) k = some repl
  · unfold cur at hcur
    split at hcur
    · rename_i hk
      unfold byteOffset
      have hd := goDecode_drop k.toNat src
      generalize (List.map (fun x => x.2) (List.take k.toNat (goDecode src))).sum = off at hd ⊢
      simp only [goRunes, List.getElem?_map, Option.map_eq_some_iff] at hcur
      obtain ⟨d, hd1, hd2⟩ := hcur
      have hlt : k.toNat < (goDecode src).length := (List.getElem?_eq_some_iff.mp hd1).1
      have hd3 : (goDecode src)[k.toNat] = d := (List.getElem?_eq_some_iff.mp hd1).2
      rw [List.drop_eq_getElem_cons hlt, hd3] at hd
      have hmem : d ∈ goDecode src := List.mem_of_getElem? hd1
      have hvd : (!(d.1 == repl && d.2 == 1)) = true := by
        simp only [validUtf8, List.all_eq_true] at hv
        exact hv d hmem
      match hsd : src.drop off, hd with
      | [], hd => rw [goDecode_nil] at hd; cases hd
      | b0 :: rest, hd =>
        rw [goDecode_cons] at hd
        have : d = decode1 b0 rest := (List.cons.inj hd).1
        subst this
        simp only [hd2, beq_self_eq_true, Bool.true_and, Bool.not_eq_true'] at hvd
        simp [hvd]
    · cases hcur
  · have : (cur (goRunes src) k == some repl) = false := by
      apply beq_false_of_ne; exact hcur
    rw [this]; rfl

end WhatwgUrl.Proofs.Neutral
