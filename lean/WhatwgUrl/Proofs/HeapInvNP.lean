import WhatwgUrl.Proofs.NoPanic
import WhatwgUrl.Proofs.Setters
/-
  For C02b and C02c, at the level of url records: a fresh parse and a run under a state override start in a state with
  `NoPanic.Safe`, so neither panics; hence the nine setters do not panic on any url whose opaque path has its element
  (`PathOk`), whatever the configuration.
-/
namespace WhatwgUrl.Proofs.HeapInvNP
open WhatwgUrl WhatwgUrl.Impl WhatwgUrl.Proofs.NoPanic

theorem parse_np (cfg : Cfg) (I : Idna) (input : Bytes) (base : Option Url) :
    ∀ n, (basicParser cfg I input base none none).ret ≠ .panic n :=
  basicParser_safe cfg I input base none none fun u _ => by simp [relSt]

/-- an opaque path has its element (what `stripTrailingSpacesIfOpaque` indexes) -/
def PathOk (u : Url) : Prop := u.path.opq = true → u.path.segs ≠ []

instance (u : Url) : Decidable (PathOk u) := by unfold PathOk; infer_instance

/-- a run under a state override does not panic: the start state is outside `relSt`, and the query state starts with a
    query -/
theorem ov_np (cfg : Cfg) (I : Idna) (input : Bytes) (u : Url) (s : State) (hs : relSt s = false)
    (hq : s = .query → u.query.isSome = true) :
    ∀ n, (basicParser cfg I input none (some u) (some s)).ret ≠ .panic n := by
  refine basicParser_safe cfg I input none (some u) (some s) fun u' hu => ?_
  have hq' : u'.query = u.query := hu.query
  simp_all

/-- sites 20, 21: `stripTrailingSpacesIfOpaque` finds its element -/
theorem strip_ne_none {u : Url} (hp : PathOk u) : stripTrailingSpacesIfOpaque u.path ≠ none := by
  unfold stripTrailingSpacesIfOpaque
  split
  · rename_i hopq
    split
    · simp
    · rename_i hsegs; exact absurd hsegs (hp hopq)
  · simp

theorem setU_np (cfg : Cfg) (I : Idna) (s : Setter) (u : Url) (v : Bytes) (hp : PathOk u) :
    ∀ n, (setU cfg I s u v).ret ≠ .panic n := by
  refine Setters.setU_cases cfg I s u v (R := fun r => ∀ n, r.ret ≠ .panic n) (fun r h => ?_) (fun st u' input h => ?_)
  · cases h
    case searchNone ret h _ | hashNone ret h _ => exact fun n (hn : ret = .panic n) => strip_ne_none hp (h (by rw [hn]; nofun))
    all_goals simp
  · refine ov_np _ _ _ _ _ (by cases h <;> rfl) fun hq => ?_
    cases h <;> simp at hq ⊢

end WhatwgUrl.Proofs.HeapInvNP
