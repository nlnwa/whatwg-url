import WhatwgUrl.Proofs.RoundTripA
/-
  Round trip (C03b), stage B: the path state along a list path (`run_path`) and host-less list paths.
-/
namespace WhatwgUrl.Proofs.RoundTrip
open WhatwgUrl WhatwgUrl.Impl WhatwgUrl.Proofs.IPv4 WhatwgUrl.Proofs.Trim
open WhatwgUrl.Props.C04b (WFs)
open WhatwgUrl.Proofs.HostWF (Same)

theorem segB_spec : ∀ b : UInt8, ∀ sp : Bool, segB sp b = true →
    pathSet.has b.toNat = false ∧ bc b ≠ '/' ∧ bc b ≠ '?' ∧ bc b ≠ '#' ∧ (sp = true → bc b ≠ '\\') := by
  apply forall_uint8
  decide +kernel

theorem segOk_spec {sp : Bool} {s : Bytes} (h : segOk sp s = true) :
    (∀ b ∈ s, segB sp b = true) ∧ isSingleDot s = false ∧ isDoubleDot s = false := by
  simp only [segOk, Bool.and_eq_true, Bool.not_eq_true', List.all_eq_true] at h
  exact ⟨h.1.1, h.1.2, h.2⟩

theorem seg_print : ∀ b : UInt8, ∀ sp : Bool, segB sp b = true → 0x21 ≤ b.toNat ∧ b.toNat < 0x7f := by
  apply forall_uint8
  decide +kernel

theorem path_graphic (sp : Bool) (segs : List Bytes) (h : ∀ s ∈ segs, segOk sp s = true) :
    Graphic (segs.flatMap (fun s => 0x2f :: s)) := by
  intro b hb
  obtain ⟨s, hs, hbs⟩ := List.mem_flatMap.mp hb
  rcases List.mem_cons.mp hbs with h1 | h1
  · subst h1; decide
  · exact seg_print b sp ((segOk_spec (h s hs)).1 b h1)

theorem _root_.WhatwgUrl.Proofs.Web.parse_graphic_c (cfg : Cfg) (I : Idna) (raw : Bytes) (hne : raw ≠ []) (hg : Graphic raw) :
    parse cfg I raw = loop (Web.mkEC cfg I raw (asStr raw)) (fuelFor (asStr raw)) ⟨.schemeStart, -1, false, [], false, false, false, {}⟩ := by
  refine Web.parse_clean_c cfg I raw hne hg.printable ?_ hg.endsOk
  intro x hx
  have := hg x (List.mem_of_mem_head? hx)
  simp [isWs]; omega

theorem DriveOk_notfile (u : Url) (buf : Bytes) (h : (u.scheme == lit "file") = false) : DriveOk u buf := by
  intro hc; simp [h] at hc

theorem segCopied_of_segOk (I : Idna) (src : Bytes) (rs : Str) {sp : Bool} {s : Bytes} (h : segOk sp s = true) :
    Run.SegCopied (mkE I src rs) sp s :=
  ⟨fun b hb => segB_spec b sp ((segOk_spec h).1 b hb), (segOk_spec h).2.1, (segOk_spec h).2.2⟩

/-- `Run.run_path` in the default configuration, for the segments, query and fragment of the round trip -/
theorem run_path (I : Idna) (src : Bytes) (rs : Str) (sp : Bool) (q f : Option Bytes) (hq : QOk sp q) (hf : FOk f)
    (more : List Bytes) (seg : Bytes) (hseg : ∀ s ∈ seg :: more, segOk sp s = true) (ps : PS) (pre : Str)
    (hc : Run.Cur (mkE I src rs) ps pre (asStr (seg ++ pathText more) ++ asStr (qTail q ++ fTail f)))
    (hst : ps.state = .path) (hsp : Cfg.isSpecial {} ps.url.scheme = sp) (hb : ps.buffer = []) (hdrv : DriveOk ps.url seg) :
    Resolve.Runs (mkE I src rs) ps ⟨setF (setQ { ps.url with path := ⟨ps.url.path.segs ++ seg :: more, false⟩ } q) f, .url⟩ :=
  Run.run_path rfl sp q f more seg hc hst hb hsp (fun s hs => segCopied_of_segOk I src rs (hseg s hs)) hdrv
    (fun _ _ _ _ => quietOn_mkE I src rs _ _) (Or.inl rfl) (qok_copied I src rs _ hsp hq) (fok_copied I src rs _ hf)
    (fun _ _ => quietOn_mkE I src rs _ _) (fun _ _ => quietOn_mkE I src rs _ _)

theorem roundtrip_nohost (I : Idna) (u : Url) (hwf : WFs {} u) (hc : RTc u) (hhost : u.host = none) (ho : u.path.opq = false) :
    ∃ u', parse {} I (href u false) = ⟨u', .url⟩ ∧ Same u' u := by
  obtain ⟨huser, hpass, hport⟩ := bare_of_WFs hwf (Or.inl hhost)
  obtain ⟨hq, hf⟩ := qf_of_RTc hc
  obtain ⟨hs, h2, h3, h4, h5, h6⟩ := hwf
  obtain ⟨c1, c2, c3, c4, c5, c6, c7, c8⟩ := hc
  have hsp : Cfg.isSpecial {} u.scheme = false := by
    cases h : Cfg.isSpecial {} u.scheme
    · rfl
    · exact absurd hhost (h2 h).1
  have hdp := c1 hport
  obtain ⟨l1, l2, l3⟩ := c5 ho
  rw [hsp] at l1 hq
  have hqfg : Graphic (qTail u.query ++ fTail u.fragment) := (qTail_graphic false _ hq).append (fTail_graphic _ hf)
  have hnf := not_file_of_nonspecial hsp
  cases hsegs : u.path.segs with
  | nil => exact absurd hsegs (l2 hhost)
  | cons s1 more =>
    rw [hsegs] at l1
    have hpg := path_graphic false _ l1
    have hsame : Same (setF (setQ { scheme := u.scheme, path := ⟨s1 :: more, false⟩ } u.query) u.fragment) u := by
      apply Same_setQF
      all_goals simp [huser, hpass, hhost, hport, hdp]
      rw [← hsegs, ← ho]
    by_cases hg : s1 = [] ∧ more ≠ []
    · -- the `/.` guard
      obtain ⟨hs1, hm⟩ := hg
      subst hs1
      have hhref : href u false = u.scheme ++ 0x3a :: 0x2f :: 0x2e :: 0x2f :: ([] ++ (more.flatMap (fun s => 0x2f :: s) ++ (qTail u.query ++ fTail u.fragment))) := by
        unfold href
        cases more with
        | nil => exact absurd rfl hm
        | cons x rest =>
          simp only [hhost, ho, Path.str, Path.str?, hsegs, qTail, fTail]
          simp
          rfl
      have hmg : Graphic (more.flatMap (fun s => 0x2f :: s)) := path_graphic false more (fun s hs => l1 s (by simp [hs]))
      refine roundtrip_of_run_graphic I u hs _ hhref
        (Graphic.cons (by decide) (Graphic.cons (by decide) (Graphic.cons (by decide) (by simpa using hmg.append hqfg))))
        (fun src rs p0 hc1 => ⟨_, ?_, hsame⟩)
      have hc1 := hc1.cast (show _ = ':' :: '/' :: '.' :: '/' ::
          (asStr ([] ++ pathText more) ++ asStr (qTail u.query ++ fTail u.fragment)) by simp [asStr, pathText]; exact ⟨rfl, rfl, rfl⟩)
      obtain ⟨t2, hc2⟩ := Run.steps_colon_path hc1 rfl rfl hnf hsp (by simp)
      -- the path state reads `.`, then `/` drops the dot segment
      have hdot : percentEncodeRune (mkE I src rs).cfg (mkE I src rs).cfg.pathSet '.' = [0x2e] :=
        Run.pe_copy {} pathSet 0x2e (by decide)
      obtain ⟨t3, hc3⟩ := hc2.one (Run.step_path_cp hc2 rfl (by decide) (by decide) (by decide)
        (Run.spBackslash_ne _ _ _ (by decide)) (quietOn_mkE I _ _ ['.'] _ [] ['.'] rfl (by simp))) rfl rfl
      dsimp only at t3 hc3
      rw [hdot] at t3 hc3
      obtain ⟨t4, hc4⟩ := hc3.one (Run.step_path_sdot_slash hc3 rfl rfl rfl) rfl rfl
      exact ((t2.trans t3).trans t4).runs (run_path I _ _ false u.query u.fragment hq hf more []
        (fun s hs => l1 s (by simpa using hs)) _ _ hc4 rfl hsp rfl (DriveOk_notfile _ _ hnf))
    · have hhref : href u false = u.scheme ++ 0x3a :: 0x2f :: (s1 ++ (more.flatMap (fun s => 0x2f :: s) ++ (qTail u.query ++ fTail u.fragment))) := by
        unfold href
        have hcond : (decide ((s1 :: more).length > 1) && ((s1 :: more).head? == some [])) = false := by
          cases hc : (decide ((s1 :: more).length > 1) && ((s1 :: more).head? == some []))
          · rfl
          · exfalso
            simp only [List.length_cons, List.head?_cons, Bool.and_eq_true, decide_eq_true_eq, beq_iff_eq, Option.some.injEq] at hc
            exact hg ⟨hc.2, by intro hm; subst hm; simp at hc⟩
        simp only [hhost, ho, Path.str, Path.str?, hsegs, qTail, fTail]
        simp only [beq_self_eq_true, Bool.not_false, Bool.true_and, hcond]
        simp
        rfl
      refine roundtrip_of_run_graphic I u hs _ hhref (by simpa using hpg.append hqfg)
        (fun src rs p0 hc1 => ⟨_, ?_, hsame⟩)
      have hc1 := hc1.cast (show _ = ':' :: '/' ::
          (asStr (s1 ++ pathText more) ++ asStr (qTail u.query ++ fTail u.fragment)) by simp [asStr, pathText]; rfl)
      have hns : (asStr (s1 ++ pathText more) ++ asStr (qTail u.query ++ fTail u.fragment)).head? ≠ some '/' := by
        cases s1 with
        | cons b t =>
          have := (segB_spec b false ((segOk_spec (l1 (b :: t) (by simp))).1 b (by simp))).2.1
          intro h
          simp at h
          exact this h
        | nil =>
          have hm : more = [] := Decidable.byContradiction fun h => hg ⟨rfl, h⟩
          subst hm
          cases u.query <;> cases u.fragment <;> simp [qTail, fTail, asStr, pathText] <;> decide
      obtain ⟨t2, hc2⟩ := Run.steps_colon_path hc1 rfl rfl hnf hsp hns
      exact t2.runs (run_path I _ _ false u.query u.fragment hq hf more s1 l1 _ _ hc2 rfl hsp rfl (DriveOk_notfile _ _ hnf))

end WhatwgUrl.Proofs.RoundTrip
