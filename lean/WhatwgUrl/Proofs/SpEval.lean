import WhatwgUrl.Impl.Heap
/-
  Kernel-evaluable (fuelled, structural) twins of the percent-decoder of a configuration — with an encoding override — and
  of `SearchParams.init`, so that closed examples can be checked by `decide +kernel`.  Suffixes: `F` takes fuel, `E` is `F`
  at fuel `s.length`, `C` is `spInit` written with `decodePercentE`.  The namespace is `Proofs.Idem` (not the file's name):
  the closed `spInit` examples of C11, C11b, C17c, C18e rewrite with `Proofs.Idem.spInit_funC`.
-/
namespace WhatwgUrl.Proofs.Idem
open WhatwgUrl WhatwgUrl.Impl

def decodePercentF (cfg : Cfg) : Nat → Bytes → Bytes
  | 0, _ => []
  | _ + 1, [] => []
  | f + 1, x :: rest =>
    match rest with
    | h1 :: h2 :: rest' =>
      if x == 0x25 && isHexN h1.toNat && isHexN h2.toNat then
        (match cfg.encOverride with
         | some cm => utf8Char (cm.dec (hexVal h1.toNat * 16 + hexVal h2.toNat).toUInt8)
         | none => [(hexVal h1.toNat * 16 + hexVal h2.toNat).toUInt8]) ++ decodePercentF cfg f rest'
      else x :: decodePercentF cfg f rest
    | _ => x :: decodePercentF cfg f rest

theorem decodePercentF_eq (cfg : Cfg) : ∀ (f : Nat) (s : Bytes), s.length ≤ f → decodePercentF cfg f s = decodePercent cfg s := by
  intro f
  induction f with
  | zero =>
    intro s h
    have : s = [] := List.eq_nil_of_length_eq_zero (by omega)
    subst this; simp [decodePercentF, decodePercent]
  | succ n ih =>
    intro s h
    match s, h with
    | [], _ => simp [decodePercentF, decodePercent]
    | [x], _ => simp [decodePercentF, decodePercent, ih]
    | [x, y], h =>
      simp only [decodePercentF]
      rw [ih _ (by simp only [List.length_cons, List.length_nil] at h ⊢; omega), decodePercent.eq_3 cfg x [y] (by intro _ _ _ h; cases h)]
    | x :: h1 :: h2 :: r, h =>
      simp only [decodePercentF, List.length_cons] at h ⊢
      rw [decodePercent.eq_2, ih r (by omega), ih (h1 :: h2 :: r) (by simp only [List.length_cons]; omega)]
      rfl

def decodePercentE (cfg : Cfg) (s : Bytes) : Bytes := decodePercentF cfg s.length s

def spInitC (cfg : Cfg) (query : Bytes) : Pairs :=
  (splitOn 0x26 query).filterMap fun q =>
    if q.isEmpty then none
    else
      some (decodePercentE cfg (replaceByte 0x2b 0x20 (splitFirst 0x3d q).1),
            match (splitFirst 0x3d q).2 with
            | some v => decodePercentE cfg (replaceByte 0x2b 0x20 v)
            | none => [])

theorem spInit_funC (cfg : Cfg) : spInit cfg = spInitC cfg := by
  funext q
  have he : ∀ s, decodePercent cfg s = decodePercentE cfg s := fun s => (decodePercentF_eq cfg _ s (Nat.le_refl _)).symm
  unfold spInit spInitC
  simp only [he]
  rfl

end WhatwgUrl.Proofs.Idem
