import WhatwgUrl.Proofs.SpellingScheme
import WhatwgUrl.Proofs.RoundTripC
/-
  The texts of `scheme "://" host [":" port] rest` (C18c; the web grammar of C17c–f, C18d–f is built from the same host
  texts) — host texts, port texts that mean "no port", what may follow — and what the callers of the host parser return
  when it fails.
-/
namespace WhatwgUrl.Proofs.Spelling
open WhatwgUrl WhatwgUrl.Impl WhatwgUrl.Proofs.IPv4 WhatwgUrl.Proofs.Trim WhatwgUrl.Proofs.RoundTrip

/-- the text of a host as the host state reads it: not empty, printable ASCII without `/ ? # @ \\` and blanks,
    `:` only inside brackets, brackets closed -/
def hostText (a : Bytes) : Bool := !a.isEmpty && a.all (hostB true) && (hostScan a false == some false)

/-- what may follow: nothing, or something starting with `/`, `?` or `#` -/
def DelimB (rest : Bytes) : Prop := rest = [] ∨ ∃ c r, rest = c :: r ∧ (c = 0x2f ∨ c = 0x3f ∨ c = 0x23)

instance (rest : Bytes) : Decidable (DelimB rest) :=
  match rest with
  | [] => isTrue (Or.inl rfl)
  | c :: r =>
    if h : c = 0x2f ∨ c = 0x3f ∨ c = 0x23 then isTrue (Or.inr ⟨c, r, rfl, h⟩)
    else isFalse (by
      intro hh
      rcases hh with hh | ⟨c', r', e1, h'⟩
      · cases hh
      · cases e1; exact h h')

theorem graphic_noWs {A : Bytes} (h : Graphic A) : NoWs A := by
  intro b hb
  have := h b hb
  simp [isWs]; omega

theorem graphic_ascii {A : Bytes} (h : Graphic A) : Ascii A := fun b hb => by have := h b hb; omega

/-- the prologue leaves a graphic first byte where it is -/
theorem restText_cons (c : UInt8) (r : Bytes) (hg : Graphic [c]) : restText (c :: r) = [c] ++ (removeTabNl (dropWsR r)).1 := by
  unfold restText
  show (removeTabNl (dropWsR ([c] ++ r))).1 = _
  rw [dropWsR_clean [c] r (fun a ha => graphic_noWs hg a (List.mem_of_getLast? ha)), removeTabNl_clean [c] _ (graphic_noWs hg)]

/-- the text after the prologue still starts with the delimiter -/
theorem restText_delim (rest : Bytes) (h : DelimB rest) : Delim (goRunes (restText rest)) := by
  rcases h with h | ⟨c, r, rfl, hc⟩
  · subst h; left; rfl
  · right
    have hg : Graphic [c] := by
      intro b hb; simp at hb; subst hb
      rcases hc with h | h | h <;> subst h <;> decide
    rw [restText_cons c r hg, goRunes_clean [c] _ (graphic_ascii hg)]
    refine ⟨bc c, _, rfl, ?_⟩
    rcases hc with h | h | h <;> subst h
    · left; rfl
    · right; left; rfl
    · right; right; rfl

theorem hostText_spec {a : Bytes} (h : hostText a = true) :
    a ≠ [] ∧ (∀ b ∈ a, hostB true b = true) ∧ hostScan a false = some false := by
  simp only [hostText, Bool.and_eq_true, Bool.not_eq_true', List.all_eq_true, beq_iff_eq] at h
  refine ⟨?_, h.1.2, h.2⟩
  intro he; rw [he] at h; simp at h

theorem hostText_graphic {a : Bytes} (h : hostText a = true) : Graphic a :=
  fun b hb => (hostB_spec b true ((hostText_spec h).2.1 b hb)).2.2.2.2.2.2

/-- what the callers of `parseHost` return when it fails (the `.ok` branch is never reached: every use has
    `∀ h, hr.out ≠ .ok h`) -/
def hostFail (hr : HR) : Res :=
  match hr.out with
  | .ok _ => ⟨hr.url, .url⟩
  | .err er => ⟨hr.url, .err er true⟩
  | .panic n => ⟨hr.url, .panic n⟩

theorem afterHost_fail (hr : HR) (hno : ∀ h, hr.out ≠ .ok h) (q : PS) (K : PS → Bytes → StepR) :
    afterHost hr q K = .done (hostFail hr) := by
  unfold afterHost hostFail
  split
  · rename_i h heq; exact absurd heq (hno h)
  · rename_i er heq; simp [heq]
  · rename_i n heq; simp [heq]

/-- a port text that the port state turns into "no port" when the default port of the scheme is `dp`:
    digits only, and empty or (leading zeros allowed) the number `dp` -/
def PortNeutral (dp p : Bytes) : Prop := (∀ b ∈ p, isDigitN b.toNat = true) ∧ (p = [] ∨ itoa (digitsVal 10 p) = dp)

instance (dp p : Bytes) : Decidable (PortNeutral dp p) := by unfold PortNeutral; infer_instance

theorem lit_css : lit "://" = [0x3a, 0x2f, 0x2f] := by decide

theorem digitsVal_zeros (n : Nat) (p : Bytes) : digitsVal 10 (List.replicate n 0x30 ++ p) = digitsVal 10 p := by
  unfold digitsVal
  rw [List.foldl_append]
  congr 1
  induction n with
  | zero => rfl
  | succ n ih => rw [List.replicate_succ, List.foldl_cons]; exact ih

end WhatwgUrl.Proofs.Spelling
