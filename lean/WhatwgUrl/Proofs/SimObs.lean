import WhatwgUrl.Proofs.SimDefs
import WhatwgUrl.Proofs.IPv6
/-
  Conformance simulation: observation transport. If a Go url record corresponds to a url record of the
  standard (`RUrl`), the serializer and every getter agree (bytes = UTF-8 of the standard's scalar value string).
-/
namespace WhatwgUrl.Props.C01
open WhatwgUrl WhatwgUrl.Impl

/-- observation of a Go-side result: failure or the serialization plus the nine getters -/
def obsImpl (r : Res) : Option (List Bytes) :=
  match r.ret with
  | .url => some [href r.url false, protocol r.url, r.url.username, r.url.password, hostG r.url, hostname r.url, portG r.url,
                  pathname r.url, search r.url, hashG r.url]
  | _ => none

def obsSpec (r : Option Spec.SUrl) : Option (List Bytes) :=
  r.map fun u => [utf8 (Spec.serialize u false), utf8 (Spec.getProtocol u), utf8 u.username, utf8 u.password, utf8 (Spec.getHost u),
                  utf8 (Spec.getHostname u), utf8 (Spec.getPort u), utf8 (Spec.pathSerialize u), utf8 (Spec.getSearch u), utf8 (Spec.getHash u)]

/-- how the Spec-side IDNA oracle is derived from the library's answers ("taken as given") -/
def specIdna (I : Idna) : Spec.SIdna := fun d =>
  if (I (utf8 d)).2 && !asciiOrMiscNoPuny d 0 then none
  else if (I (utf8 d)).1.isEmpty then none else some (goRunes (I (utf8 d)).1)

end WhatwgUrl.Props.C01

namespace WhatwgUrl.Proofs.Sim
open WhatwgUrl WhatwgUrl.Impl

theorem utf8_nil' : utf8 [] = [] := rfl

/-- the oracle in the statements of `Props/C01.lean` is the simulation's `specIdna` (`SimDefs.lean`) written out again -/
theorem C01_specIdna (I : Idna) : Props.C01.specIdna I = specIdna I := rfl

theorem utf8_isEmpty (s : Str) : (utf8 s).isEmpty = s.isEmpty := by
  rw [Bool.eq_iff_iff, List.isEmpty_iff, List.isEmpty_iff, Utf8.utf8_eq_nil]

theorem utf8_bne_nil (s : Str) : (utf8 s != []) = !s.isEmpty := by
  rw [← utf8_isEmpty]; cases utf8 s <;> rfl

theorem utf8_colon : utf8 [':'] = [0x3a] := by decide
theorem utf8Char_colon : utf8Char ':' = [0x3a] := by decide
theorem utf8Char_slash : utf8Char '/' = [0x2f] := by decide
theorem utf8Char_qm : utf8Char '?' = [0x3f] := by decide
theorem utf8Char_hash : utf8Char '#' = [0x23] := by decide
theorem utf8_at : utf8 ['@'] = [0x40] := by decide
theorem utf8_slashslash : utf8 ['/', '/'] = [0x2f, 0x2f] := by decide
theorem utf8_slashdot : utf8 ['/', '.'] = [0x2f, 0x2e] := by decide

theorem flatMap_slash (l : List Str) : (l.map utf8).flatMap (fun s => 0x2f :: s) = utf8 (l.flatMap fun s => '/' :: s) := by
  induction l with
  | nil => rfl
  | cons s l ih =>
    rw [List.map_cons, List.flatMap_cons, List.flatMap_cons, Percent.utf8_append, Utf8.utf8_cons, utf8Char_slash, ih]
    rfl

theorem RPath.str {p : Path} {us : Spec.SUrl} (h : RPath p us.path) : p.str = utf8 (Spec.pathSerialize us) := by
  unfold Spec.pathSerialize Path.str Path.str?
  rcases hp : us.path with s | l
  · obtain ⟨h1, h2⟩ := hp ▸ h
    simp [h1, h2]
  · obtain ⟨h1, h2⟩ := hp ▸ h
    simp only [h1, h2, Bool.false_eq_true, if_false, Option.getD_some]
    exact flatMap_slash l

/-- the condition under which the serializer emits `/.` in front of the path -/
theorem RPath.guard {p : Path} {us : Spec.SUrl} (h : RPath p us.path) :
    (!p.opq && decide (p.segs.length > 1) && p.segs.head? == some []) =
    (!us.hasOpaquePath && decide ((Spec.pathList us).length > 1) && (Spec.pathList us).head? == some []) := by
  unfold Spec.SUrl.hasOpaquePath Spec.pathList
  rcases hp : us.path with s | l
  · rw [hp] at h
    obtain ⟨h1, _⟩ := h
    simp [h1]
  · rw [hp] at h
    obtain ⟨h1, h2⟩ := h
    simp only [h1, h2, Bool.not_false, Bool.true_and, List.length_map]
    congr 1
    cases l with
    | nil => rfl
    | cons s l =>
      simp only [List.map_cons, List.head?_cons]
      simp [utf8_isEmpty]

section
variable {ui : Url} {us : Spec.SUrl} (h : RUrl ui us)
include h

theorem RUrl.includesCredentials : (ui.username != [] || ui.password != []) = us.includesCredentials := by
  rw [h.username, h.password, utf8_bne_nil, utf8_bne_nil]; rfl

theorem RUrl.obs_protocol : protocol ui = utf8 (Spec.getProtocol us) := by
  unfold protocol Spec.getProtocol
  rw [Percent.utf8_append, utf8_colon, h.scheme]

theorem RUrl.obs_username : ui.username = utf8 us.username := h.username
theorem RUrl.obs_password : ui.password = utf8 us.password := h.password

theorem RUrl.obs_hostname : hostname ui = utf8 (Spec.getHostname us) := by
  unfold hostname Spec.getHostname
  rw [h.host]
  cases us.host <;> rfl

theorem RUrl.port_eq : ui.port = us.port.map fun n => utf8 (Spec.portStr n) := by
  have hp := h.port
  unfold RPort at hp
  cases hq : us.port with
  | none => rw [hq] at hp; exact hp
  | some n => rw [hq] at hp; rw [hp.1, IPv6.itoa_eq]; rfl

theorem RUrl.obs_port : portG ui = utf8 (Spec.getPort us) := by
  unfold portG Spec.getPort
  rw [h.port_eq]
  cases us.port <;> rfl

theorem RUrl.obs_host : hostG ui = utf8 (Spec.getHost us) := by
  unfold hostG Spec.getHost
  rw [h.port_eq, h.host]
  cases us.host with
  | none => rfl
  | some hs =>
    cases us.port with
    | none => rfl
    | some n => simp only [Option.map_some, Percent.utf8_append, utf8_colon]

theorem RUrl.obs_pathname : pathname ui = utf8 (Spec.pathSerialize us) := h.path.str

theorem RUrl.obs_search : search ui = utf8 (Spec.getSearch us) := by
  unfold search Spec.getSearch
  rw [h.query]
  cases us.query with
  | none => rfl
  | some q =>
    simp only [Option.map_some, utf8_isEmpty]
    split
    · rfl
    · rw [Utf8.utf8_cons, utf8Char_qm]; rfl

theorem RUrl.obs_hash : hashG ui = utf8 (Spec.getHash us) := by
  unfold hashG Spec.getHash
  rw [h.fragment]
  cases us.fragment with
  | none => rfl
  | some q =>
    simp only [Option.map_some, utf8_isEmpty]
    split
    · rfl
    · rw [Utf8.utf8_cons, utf8Char_hash]; rfl

theorem RUrl.obs_href (ex : Bool) : href ui ex = utf8 (Spec.serialize us ex) := by
  unfold href Spec.serialize
  simp only [Percent.utf8_append, utf8_colon]
  rw [← h.scheme, ← h.obs_pathname]
  show _ ++ _ ++ _ ++ ui.path.str ++ _ ++ _ = _
  congr 1
  · congr 1
    · congr 1
      rw [List.append_assoc]
      congr 1
      have hg := h.path.guard
      have hcred := h.includesCredentials
      have hhost := h.host
      have hport := h.port_eq
      cases hh : us.host with
      | none =>
        rw [hh] at hhost
        simp only [hhost, Option.map_none, List.nil_append, BEq.rfl, Bool.true_and]
        rw [hg]
        split
        · exact utf8_slashdot.symm
        · rfl
      | some hs =>
        rw [hh] at hhost
        simp only [hhost, Option.map_some]
        have hne : (some (utf8 hs) == (none : Option Bytes)) = false := rfl
        simp only [hne, Bool.false_and, Bool.false_eq_true, if_false, List.append_nil, Percent.utf8_append, utf8_slashslash]
        rw [hcred, hport]
        congr 1
        · congr 1
          congr 1
          split
          · simp only [Percent.utf8_append, utf8_at, h.username, h.password, utf8_bne_nil]
            congr 2
            split
            · rw [Utf8.utf8_cons, utf8Char_colon]; rfl
            · rfl
          · rfl
        · cases us.port with
          | none => rfl
          | some n => simp only [Option.map_some, Utf8.utf8_cons, utf8Char_colon]; rfl
    · rw [h.query]
      cases us.query with
      | none => rfl
      | some q => simp only [Option.map_some, Utf8.utf8_cons, utf8Char_qm]; rfl
  · rw [h.fragment]
    cases ex
    · cases us.fragment with
      | none => rfl
      | some q => simp only [Option.map_some]; rfl
    · rfl

end

/-! ### non-vacuity: a concrete corresponding pair of records, and the observations really computed -/

private def exI : Url :=
  { scheme := lit "http", username := lit "u", password := lit "p", host := some (lit "h"), port := some (lit "8080"),
    decodedPort := 8080, path := ⟨[lit "a", lit "b"], false⟩, query := some (lit "q"), fragment := some (lit "f") }
private def exS : Spec.SUrl :=
  { scheme := "http".toList, username := "u".toList, password := "p".toList, host := some "h".toList, port := some 8080,
    path := .list ["a".toList, "b".toList], query := some "q".toList, fragment := some "f".toList }

example : RUrl exI exS := by
  refine ⟨?_, ?_, ?_, ?_, ⟨?_, ?_⟩, ⟨?_, ?_⟩, ?_, ?_⟩ <;> decide +kernel

example : href exI false = lit "http://u:p@h:8080/a/b?q#f" := by decide +kernel

end WhatwgUrl.Proofs.Sim
