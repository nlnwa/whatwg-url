import WhatwgUrl.Impl.Profiles
import WhatwgUrl.Proofs.Domain
import WhatwgUrl.Proofs.AsciiCase
/-
  C18e: the ASCII letter case of a DOMAIN host text does not matter, for configurations with a pre-parse-host hook and / or
  an encoding override (`Props/C09b.lean: C09_case_independent_literal` is about configurations without either): the hook
  commutes with lower-casing (`HookCase`; `gsbPre`, `semanticPre` do), the override leaves ASCII alone (`EncAscii`; Latin-1
  does), and what the host parser gets to see is an input on which law L1 pins the oracle down (`DomainInput`).
-/
namespace WhatwgUrl.Proofs.Web
open WhatwgUrl WhatwgUrl.Impl WhatwgUrl.Proofs.IPv4 WhatwgUrl.Proofs.Domain

theorem asciiLower_trimLeft (s : Bytes) : asciiLower (trimLeftByte 0x2e s) = trimLeftByte 0x2e (asciiLower s) := by
  unfold asciiLower trimLeftByte
  rw [List.dropWhile_map, show ((· == 0x2e) ∘ lowerB) = (· == 0x2e) from funext (AsciiCase.lowerB_beq_of_not_alpha (by decide))]

theorem asciiLower_trimRight (s : Bytes) : asciiLower (trimRightByte 0x2e s) = trimRightByte 0x2e (asciiLower s) := by
  unfold asciiLower trimRightByte
  rw [List.map_reverse, ← List.map_reverse (f := lowerB) (l := s), List.dropWhile_map,
    show ((· == 0x2e) ∘ lowerB) = (· == 0x2e) from funext (AsciiCase.lowerB_beq_of_not_alpha (by decide))]

theorem asciiLower_collapseAux : ∀ (fl : Bool) (s : Bytes),
    asciiLower (collapseDotsAux fl s) = collapseDotsAux fl (asciiLower s)
  | _, [] => rfl
  | fl, x :: s => by
    have hx : (lowerB x == 0x2e) = (x == 0x2e) := AsciiCase.lowerB_beq_of_not_alpha (by decide) x
    simp only [asciiLower, List.map_cons, collapseDotsAux, hx]
    by_cases h : (x == 0x2e) = true
    · simp only [h, if_true]
      cases fl
      · simp only [Bool.false_eq_true, if_false, List.map_cons]
        exact congrArg _ (asciiLower_collapseAux true s)
      · simp only [if_true]
        exact asciiLower_collapseAux true s
    · simp only [h]
      exact congrArg _ (asciiLower_collapseAux false s)

theorem asciiLower_collapse (s : Bytes) : asciiLower (collapseDots s) = collapseDots (asciiLower s) :=
  asciiLower_collapseAux false s

theorem gsbPre_lower (u : Url) (a : Bytes) : asciiLower (gsbPre u a) = gsbPre u (asciiLower a) := by
  unfold gsbPre
  rw [asciiLower_collapse, asciiLower_trimRight, asciiLower_trimLeft]

theorem semanticPre_lower (u : Url) (a : Bytes) : asciiLower (semanticPre u a) = semanticPre u (asciiLower a) := by
  have asciiLower_isEmpty : ∀ s : Bytes, (asciiLower s).isEmpty = s.isEmpty := fun _ => List.isEmpty_map
  unfold semanticPre
  simp only [asciiLower_isEmpty]
  split
  · rfl
  · simp only [← asciiLower_trimLeft, ← asciiLower_trimRight, ← asciiLower_collapse, asciiLower_isEmpty]
    split
    · decide
    · rfl

/-- the pre-parse-host hook commutes with ASCII lower-casing (`gsbPre`, `semanticPre` do) -/
def HookCase (cfg : Cfg) : Prop := ∀ f, cfg.preHost = some f → ∀ u a, asciiLower (f u a) = f u (asciiLower a)

theorem hookCase_default : HookCase {} := fun f hf => by cases hf
theorem hookCase_gsb : HookCase gsbCfg := fun f hf u a => by cases hf; exact gsbPre_lower u a
theorem hookCase_semantic : HookCase semanticCfg := fun f hf u a => by cases hf; exact semanticPre_lower u a

theorem preIn_lower (cfg : Cfg) (h : HookCase cfg) (u : Url) (a₁ a₂ : Bytes) (hl : asciiLower a₁ = asciiLower a₂) :
    asciiLower (preIn cfg u a₁) = asciiLower (preIn cfg u a₂) := by
  unfold preIn
  cases hp : cfg.preHost with
  | none => exact hl
  | some f => simp only; rw [h f hp, h f hp, hl]

/-- where the override encodes an ASCII code point to a byte above 31 (the test of `stringToUnicode`, which fails on
    anything else), it encodes it to itself -/
def EncAscii (cfg : Cfg) : Prop :=
  ∀ cm, cfg.encOverride = some cm → ∀ b : UInt8, b.toNat < 0x80 → (cm.enc (bc b)).2 = true → (cm.enc (bc b)).1.toNat > 31 →
    (cm.enc (bc b)).1 = b

theorem encAscii_none (cfg : Cfg) (h : cfg.encOverride = none) : EncAscii cfg := fun cm hcm => by rw [h] at hcm; cases hcm

theorem latin1_ascii : ∀ b : UInt8, b.toNat < 0x80 → (latin1.enc (bc b)).1 = b := forall_uint8 (by decide +kernel)

theorem encAscii_semantic : EncAscii semanticCfg := fun cm hcm b hb _ _ => by cases hcm; exact latin1_ascii b hb

theorem stringToUnicode_ascii (cm : Charmap)
    (h : ∀ b : UInt8, b.toNat < 0x80 → (cm.enc (bc b)).2 = true → (cm.enc (bc b)).1.toNat > 31 → (cm.enc (bc b)).1 = b) :
    ∀ (d : Bytes), Ascii d → ∀ s, stringToUnicode cm (asStr d) = some s → s = d
  | [], _, s, hs => by simp [stringToUnicode] at hs; exact hs
  | b :: d, hd, s, hs => by
    simp only [asStr_cons, stringToUnicode] at hs
    split at hs
    · rename_i hc
      simp only [Bool.and_eq_true, decide_eq_true_eq] at hc
      cases hr : stringToUnicode cm (asStr d) with
      | none => rw [hr] at hs; cases hs
      | some s' =>
        rw [hr] at hs
        simp only [Option.map_some, Option.some.injEq] at hs
        rw [← hs, h b (hd b (by simp)) hc.1 hc.2, stringToUnicode_ascii cm h d (fun x hx => hd x (by simp [hx])) s' hr]
    · cases hs

/-- `ToASCII` on an ASCII domain that the oracle lower-cases (`hL`: an instance of law L1), also under an encoding override
    that leaves ASCII alone -/
theorem toASCII_lower (cfg : Cfg) (henc : EncAscii cfg) (I : Idna) (u : Url) (d : Bytes) (hasc : Ascii d)
    (haut : asciiOrMiscNoPuny (goRunes d) 0 = true) (hL : (I d).1 = asciiLower d) (hne : d ≠ []) :
    toASCII cfg I u d = (.ok (asciiLower d), { u with qlog := u.qlog ++ [d] }) := by
  have he : d.isEmpty = false := by cases d <;> simp_all
  have hae : (asciiLower d).isEmpty = false := by
    have := mt AsciiCase.asciiLower_eq_nil.mp hne
    cases hh : asciiLower d <;> simp_all
  cases hcm : cfg.encOverride with
  | none =>
    unfold toASCII
    simp only [he, hcm, Bool.false_eq_true, if_false, hL, haut, Bool.and_true, hae]
    cases (I d).2 <;> simp
  | some cm =>
    have hg := goRunes_ascii d hasc
    unfold toASCII
    simp only [he, hcm, Bool.false_eq_true, if_false]
    cases hr : stringToUnicode cm (goRunes d) with
    | none =>
      simp only [hL, haut, Bool.and_true, hae]
      cases (I d).2 <;> simp
    | some s =>
      have : s = d := stringToUnicode_ascii cm (henc cm hcm) d hasc s (by rw [← hg]; exact hr)
      subst this
      simp only [hL, haut, Bool.and_true, hae]
      cases (I s).2 <;> simp

theorem parseHost_pre_nil (cfg : Cfg) (I : Idna) (u : Url) (a : Bytes) (ns : Bool) (hin : preIn cfg u a = []) :
    parseHost cfg I u a ns = ⟨u, .ok []⟩ := by
  rw [HostWF.parseHost_eq, hin]; rfl

theorem parseHost_pre_cons (cfg : Cfg) (I : Idna) (u : Url) (a : Bytes) (b0 : UInt8) (tl : Bytes)
    (hin : preIn cfg u a = b0 :: tl) (hb : b0 ≠ 0x5b) :
    parseHost cfg I u a false = HostWF.domainHost cfg I u (b0 :: tl) := by
  rw [HostWF.parseHost_eq, hin, HostWF.hostOf_domain cfg I u b0 tl hb]

/-- the input of the host parser (after the hook) on which law L1 pins the oracle down -/
def DomainInput (i : Bytes) : Prop :=
  i = [] ∨ (i.head? ≠ some 0x5b ∧ (0x25 : UInt8) ∉ i ∧ PureAsciiNoAce i)

instance (i : Bytes) : Decidable (DomainInput i) := by unfold DomainInput; infer_instance

theorem parseHost_domain (cfg : Cfg) (hpost : cfg.postHost = none) (henc : EncAscii cfg) (I : Idna)
    (u : Url) (a i : Bytes) (hin : preIn cfg u a = i) (hne : i ≠ []) (hb : i.head? ≠ some 0x5b) (hp : (0x25 : UInt8) ∉ i)
    (hasc : Ascii i) (haut : asciiOrMiscNoPuny (goRunes i) 0 = true) (hL : (I i).1 = asciiLower i) :
    (parseHost cfg I u a false).out = (finishDomain cfg u (asciiLower i)).out := by
  match i, hne, hb with
  | b0 :: tl, _, hb =>
    have hb0 : b0 ≠ 0x5b := by intro e; apply hb; simp [e]
    rw [parseHost_pre_cons cfg I u a b0 tl hin hb0, HostWF.domainHost, decodePercent_no_pct cfg _ hp]
    have hv := validUtf8_ascii _ hasc
    rw [toASCII_lower cfg henc I u _ hasc haut hL (by simp)]
    simp only [hv, Bool.not_true, Bool.false_and, Bool.false_eq_true, if_false]
    exact finishDomain_out_withQ cfg hpost _ u _

theorem host_case_domain (cfg : Cfg) (hpost : cfg.postHost = none) (hcase : HookCase cfg) (henc : EncAscii cfg) (I : Idna) (hI : L1 I)
    (u : Url) (a₁ a₂ : Bytes) (hl : asciiLower a₁ = asciiLower a₂) (hD : DomainInput (preIn cfg u a₁)) :
    (parseHost cfg I u a₁ false).out = (parseHost cfg I u a₂ false).out := by
  have hli := preIn_lower cfg hcase u a₁ a₂ hl
  generalize h1 : preIn cfg u a₁ = i₁ at hD hli
  generalize h2 : preIn cfg u a₂ = i₂ at hli
  by_cases hne : i₁ = []
  · subst hne
    have : i₂ = [] := by
      cases i₂ with
      | nil => rfl
      | cons _ _ => simp [asciiLower] at hli
    subst this
    rw [parseHost_pre_nil cfg I u a₁ false h1, parseHost_pre_nil cfg I u a₂ false h2]
  · obtain ⟨hb, hp, hd⟩ := hD.resolve_left hne
    have hd2 : PureAsciiNoAce i₂ := Domain.pureAsciiNoAce_congr hli hd
    have hne2 : i₂ ≠ [] := by
      intro e; subst e
      cases i₁ with
      | nil => exact hne rfl
      | cons x xs => simp [asciiLower] at hli
    have hp2 : (0x25 : UInt8) ∉ i₂ := by
      intro hm
      have : lowerB 0x25 ∈ asciiLower i₁ := by rw [hli]; exact List.mem_map_of_mem hm
      obtain ⟨x, hx, hx2⟩ := List.mem_map.mp this
      have := (AsciiCase.lowerB_eq_iff_of_not_alpha (by decide) x).mp hx2
      subst this
      exact hp hx
    have hb2 : i₂.head? ≠ some 0x5b := by
      cases i₁ with
      | nil => exact absurd rfl hne
      | cons x xs =>
        cases i₂ with
        | nil => exact absurd rfl hne2
        | cons y ys =>
          simp only [asciiLower, List.map_cons, List.cons.injEq] at hli
          simp only [List.head?_cons, ne_eq, Option.some.injEq] at hb ⊢
          intro e; subst e
          exact hb (AsciiCase.eq_of_lowerB_eq_of_not_alpha (by decide) hli.1)
    rw [parseHost_domain cfg hpost henc I u a₁ i₁ h1 hne hb hp hd.1 (asciiOrMisc_pure _ hd) (hI _ hd),
      parseHost_domain cfg hpost henc I u a₂ i₂ h2 hne2 hb2 hp2 hd2.1 (asciiOrMisc_pure _ hd2) (hI _ hd2), hli]

end WhatwgUrl.Proofs.Web
