import WhatwgUrl.Proofs.Heap
/-
  The footprint of a heap operation on a target object `a`.
  `Frame H H' a`: only `a`'s object, `a`'s list and fresh slots differ (enough for `Clone` and resolution, which allocate).
  `Local H H' a`: in addition no url object is allocated, `a` keeps its list handle, and a new list is `a`'s — what the
  setters, `SearchParams()` and the list mutations do.  Independence of another object (`local_obs`, C13) and the pointer
  structure of C12c are consequences of `Local` alone.
-/
namespace WhatwgUrl.Proofs.IndepHist
open WhatwgUrl WhatwgUrl.Impl WhatwgUrl.Impl.Heap WhatwgUrl.Proofs

structure Frame (H H' : Heap) (a : Nat) : Prop where
  ulen : H.urls.length ≤ H'.urls.length
  slen : H.sps.length ≤ H'.sps.length
  urls : ∀ j, j < H.urls.length → j ≠ a → H'.urls[j]? = H.urls[j]?
  sps : ∀ t, t < H.sps.length → (∀ oa, H.urls[a]? = some oa → oa.sp ≠ some t) → H'.sps[t]? = H.sps[t]?
  fresh : ∀ oa', H'.urls[a]? = some oa' → ∀ s', oa'.sp = some s' →
    (∃ oa, H.urls[a]? = some oa ∧ oa.sp = some s') ∨ H.sps.length ≤ s'

theorem Frame.refl (H : Heap) (a : Nat) : Frame H H a :=
  ⟨Nat.le_refl _, Nat.le_refl _, fun _ _ _ => rfl, fun _ _ _ => rfl, fun oa' h _ hs' => Or.inl ⟨oa', h, hs'⟩⟩

theorem Frame.trans {H H1 H2 : Heap} {a : Nat} (h1 : Frame H H1 a) (h2 : Frame H1 H2 a) : Frame H H2 a where
  ulen := Nat.le_trans h1.ulen h2.ulen
  slen := Nat.le_trans h1.slen h2.slen
  urls := fun j hj hja => by
    rw [h2.urls j (Nat.lt_of_lt_of_le hj h1.ulen) hja, h1.urls j hj hja]
  sps := fun t ht hne => by
    rw [h2.sps t (Nat.lt_of_lt_of_le ht h1.slen) ?_, h1.sps t ht hne]
    intro oa1 hoa1 hs1
    rcases h1.fresh oa1 hoa1 t hs1 with ⟨oa, hoa, hs⟩ | hle
    · exact hne oa hoa hs
    · exact Nat.lt_irrefl _ (Nat.lt_of_lt_of_le ht hle)
  fresh := fun oa2 hoa2 s2 hs2 => by
    rcases h2.fresh oa2 hoa2 s2 hs2 with ⟨oa1, hoa1, hs1⟩ | hle
    · exact h1.fresh oa1 hoa1 s2 hs1
    · exact Or.inr (Nat.le_trans h1.slen hle)

theorem length_le_of_getElem?_eq {α} {l l' : List α} (h : ∀ j, j < l.length → l'[j]? = l[j]?) : l.length ≤ l'.length := by
  rcases Nat.lt_or_ge l'.length l.length with hlt | hge
  · have := h l'.length hlt
    rw [List.getElem?_eq_none (Nat.le_refl _), List.getElem?_eq_getElem hlt] at this
    cases this
  · exact hge

theorem frame_of_alloc {H H' : Heap} {a : Nat} (hu : ∀ j, j < H.urls.length → H'.urls[j]? = H.urls[j]?)
    (hs : ∀ t, t < H.sps.length → H'.sps[t]? = H.sps[t]?) (ha : a < H.urls.length) : Frame H H' a where
  ulen := length_le_of_getElem?_eq hu
  slen := length_le_of_getElem?_eq hs
  urls := fun j hj _ => hu j hj
  sps := fun t ht _ => hs t ht
  fresh := by
    intro oa' h s' hs'
    rw [hu a ha] at h
    exact Or.inl ⟨oa', h, hs'⟩

structure Local (H H' : Heap) (a : Nat) : Prop extends Frame H H' a where
  ulen_eq : H'.urls.length = H.urls.length
  keep : ∀ oa s, H.urls[a]? = some oa → oa.sp = some s → ∃ oa', H'.urls[a]? = some oa' ∧ oa'.sp = some s
  newsp : ∀ t, H.sps.length ≤ t → t < H'.sps.length → ∃ oa', H'.urls[a]? = some oa' ∧ oa'.sp = some t

theorem Local.refl (H : Heap) (a : Nat) : Local H H a :=
  ⟨Frame.refl H a, rfl, fun oa _ h hs => ⟨oa, h, hs⟩, fun _ h1 h2 => absurd h2 (Nat.not_lt.2 h1)⟩

theorem Local.trans {H H1 H2 : Heap} {a : Nat} (h1 : Local H H1 a) (h2 : Local H1 H2 a) : Local H H2 a where
  toFrame := h1.toFrame.trans h2.toFrame
  ulen_eq := h2.ulen_eq.trans h1.ulen_eq
  keep := fun oa s h hs => by
    obtain ⟨oa1, ho1, hs1⟩ := h1.keep oa s h hs
    exact h2.keep oa1 s ho1 hs1
  newsp := fun t ht ht2 => by
    rcases Nat.lt_or_ge t H1.sps.length with hlt | hge
    · obtain ⟨oa1, ho1, hs1⟩ := h1.newsp t ht hlt
      exact h2.keep oa1 t ho1 hs1
    · exact h2.newsp t hge ht2

theorem local_setValue (H : Heap) (a : Nat) (r : Res) : Local H (H.setValue a r) a where
  ulen := by unfold setValue; simp
  slen := by simp
  urls := fun j _ hj => setValue_urls_ne _ _ _ hj
  sps := fun t _ _ => by rw [setValue_sps]
  fresh := by
    intro oa' h s' hs'
    rw [setValue_urls_self] at h
    cases ho : H.urls[a]? with
    | none => rw [ho] at h; cases h
    | some o => rw [ho] at h; cases h; exact Or.inl ⟨o, rfl, hs'⟩
  ulen_eq := by unfold setValue; simp
  keep := fun oa s h hs => ⟨{ oa with u := r.url }, by rw [setValue_urls_self, h]; rfl, hs⟩
  newsp := fun t h1 h2 => by rw [setValue_sps] at h2; exact absurd h2 (Nat.not_lt.2 h1)

theorem local_setSp (H : Heap) (a s : Nat) (f : SpObj → SpObj) (o : UrlObj) (ho : H.urls[a]? = some o)
    (hs : o.sp = some s) : Local H (H.setSp s f) a where
  ulen := by simp
  slen := by simp
  urls := fun j _ _ => by rw [setSp_urls]
  sps := fun t _ hne => setSp_sps_ne _ _ _ (fun e => hne o ho (by rw [hs, e]))
  fresh := by
    intro oa' h s' hs'
    rw [setSp_urls] at h
    exact Or.inl ⟨oa', h, hs'⟩
  ulen_eq := by simp
  keep := fun oa s' h hs' => ⟨oa, by rw [setSp_urls]; exact h, hs'⟩
  newsp := fun t h1 h2 => by rw [setSp_sps_length] at h2; exact absurd h2 (Nat.not_lt.2 h1)

theorem local_attach (H : Heap) (a : Nat) (p : Pairs) (o : UrlObj) (ho : H.urls[a]? = some o) (hn : o.sp = none) :
    Local H (H.attach a p) a := by
  have hU := attach_urls H a p o ho
  refine ⟨⟨by simp, by simp, fun j _ hj => by rw [hU, if_neg hj], fun t ht _ => ?_, fun oa' h s' hs' => ?_⟩, by simp, ?_, ?_⟩
  · rw [attach_sps]; exact List.getElem?_append_left ht
  · rw [hU, if_pos rfl] at h; cases h; cases hs'; exact Or.inr (Nat.le_refl _)
  · intro oa s h hs; rw [ho] at h; cases h; rw [hn] at hs; cases hs
  · intro t h1 h2
    rw [attach_sps, List.length_append] at h2
    have : t = H.sps.length := by simp at h2; omega
    subst this
    exact ⟨_, by rw [hU, if_pos rfl], rfl⟩

theorem local_newUSP (H : Heap) (a : Nat) (hn : ∀ o, H.urls[a]? = some o → o.sp = none) :
    Local H (H.newUrlSearchParams a) a := by
  cases ho : H.urls[a]? with
  | none => rw [newUrlSearchParams_invalid H a ho]; exact Local.refl _ _
  | some o => rw [newUrlSearchParams_eq H a o ho]; exact local_attach H a _ o ho (hn o ho)

theorem local_spUpdate (H : Heap) (a s : Nat) (o : UrlObj) (so : SpObj) (ho : H.urls[a]? = some o)
    (hso : H.sps[s]? = some so) (hu : so.url = some a) : Local H (H.spUpdate s) a where
  ulen := by simp
  slen := by simp
  urls := fun j _ hj => spUpdate_urls_ne H s j (fun so' hso' => by
    rw [hso] at hso'; cases hso'; rw [hu]; intro e; cases e; exact hj rfl)
  sps := fun t _ _ => by simp
  fresh := by
    intro oa' h s' hs'
    rw [spUpdate_owner H s a so o hso hu ho] at h; cases h
    exact Or.inl ⟨o, ho, hs'⟩
  ulen_eq := spUpdate_urls_length H s
  keep := fun oa s' h hs' => by
    rw [ho] at h; cases h
    exact ⟨_, spUpdate_owner H s a so o hso hu ho, hs'⟩
  newsp := fun t h1 h2 => by rw [spUpdate_sps] at h2; exact absurd h2 (Nat.not_lt.2 h1)

/-! ### the transformers: only a mutation has to go through `a`'s own list -/

theorem local_set (I : Idna) (H : Heap) (a : Nat) (st : Setter) (v : Bytes) : Local H (H.set I a st v).1 a := by
  refine set_fst_cases (P := fun H' => Local H H' a) I H a st v (fun _ => Local.refl _ _) (fun o ho => ?_)
  have l1 := local_setValue H a (setU o.cfg I st o.u v)
  have ho1 : (H.setValue a (setU o.cfg I st o.u v)).urls[a]? = some { o with u := (setU o.cfg I st o.u v).url } := by
    rw [setValue_urls_self, ho]; rfl
  refine ⟨l1, fun _ => ⟨fun s p hs => l1.trans (local_setSp _ a s _ _ ho1 hs), fun hn => l1.trans (local_newUSP _ a ?_)⟩⟩
  intro o' ho'; rw [ho1] at ho'; cases ho'; exact hn

theorem local_searchParams (H : Heap) (a : Nat) : Local H (H.searchParams a).1 a := by
  rcases searchParams_fst H a with e | ⟨hn, e⟩ <;> rw [e]
  · exact Local.refl _ _
  · exact local_newUSP H a hn

theorem local_spMutate (H : Heap) (a s : Nat) (m : SpMut) (o : UrlObj) (so : SpObj) (ho : H.urls[a]? = some o)
    (hs : o.sp = some s) (hso : H.sps[s]? = some so) (hb : so.url = some a) : Local H (H.spMutate s m) a := by
  unfold spMutate
  refine (local_setSp H a s _ o ho hs).trans (local_spUpdate _ a s o { so with params := applyMut m so.params } ?_ ?_ hb)
  · rw [setSp_urls]; exact ho
  · rw [setSp_sps_self, hso]; rfl

/-- a step with footprint `a` leaves everything observable of a separated object `b` as it was.  `hlive`: `b`'s list handle is
    not one of the lists the step may have allocated (a dangling handle would be: `C13.exBad`) -/
theorem local_obs {H H' : Heap} {a b : Nat} (hf : Local H H' a) (hsep : Separated H a b)
    (hlive : ∀ ob sb, H.urls[b]? = some ob → ob.sp = some sb → sb < H.sps.length ∨ H'.sps.length ≤ sb) :
    obsAll H' b = obsAll H b := by
  apply obsAll_congr
  · rcases Nat.lt_or_ge b H.urls.length with h | h
    · exact hf.urls b h (fun e => hsep.1 e.symm)
    · rw [List.getElem?_eq_none h, List.getElem?_eq_none (by rw [hf.ulen_eq]; exact h)]
  · intro ob sb hob hsb
    rcases hlive ob sb hob hsb with h | h
    · exact hf.sps sb h (fun oa hoa hsa => hsep.2 oa ob hoa hob sb sb hsa hsb rfl)
    · rw [List.getElem?_eq_none h, List.getElem?_eq_none (Nat.le_trans hf.slen h)]

theorem frame_inv {H H' : Heap} {a b : Nat} (hf : Frame H H' a) (hsep : Separated H a b) (hownb : OwnSp H b)
    (hb : b < H.urls.length) : obsAll H' b = obsAll H b ∧ Separated H' a b ∧ OwnSp H' b ∧ b < H'.urls.length := by
  have hub : H'.urls[b]? = H.urls[b]? := hf.urls b hb (fun e => hsep.1 e.symm)
  have hlist : ∀ ob sb so, H.urls[b]? = some ob → ob.sp = some sb → H.sps[sb]? = some so → H'.sps[sb]? = H.sps[sb]? :=
    fun ob sb so hob hsb hso =>
      hf.sps sb (lt_of_getElem?_eq_some hso) (fun oa hoa hsa => hsep.2 oa ob hoa hob sb sb hsa hsb rfl)
  refine ⟨obsAll_congr hub fun ob sb hob hsb => ?_, ⟨hsep.1, ?_⟩, ?_, Nat.lt_of_lt_of_le hb hf.ulen⟩
  · obtain ⟨so, hso, _⟩ := hownb ob hob sb hsb
    exact hlist ob sb so hob hsb hso
  · intro oa' ob hoa' hob sa sb hsa hsb e
    rw [hub] at hob
    obtain ⟨so, hso, _⟩ := hownb ob hob sb hsb
    rcases hf.fresh oa' hoa' sa hsa with ⟨oa, hoa, hsa0⟩ | hle
    · exact hsep.2 oa ob hoa hob sa sb hsa0 hsb e
    · have := lt_of_getElem?_eq_some hso
      omega
  · intro ob hob sb hsb
    rw [hub] at hob
    obtain ⟨so, hso, hu⟩ := hownb ob hob sb hsb
    exact ⟨so, by rw [hlist ob sb so hob hsb hso]; exact hso, hu⟩

end WhatwgUrl.Proofs.IndepHist
