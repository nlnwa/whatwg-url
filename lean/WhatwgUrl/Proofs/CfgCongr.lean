import WhatwgUrl.Proofs.Machine2
import WhatwgUrl.Proofs.HostTr
/-
  What one step of the state machine consults of the configuration.  `Agree c₁ c₂ … ps r` lists every read that `body` makes
  of it: `record`, `stops`, the rune encoder and `skipTrailingSlash` unconditionally, every other one with the guard under
  which it happens at `(ps, r)`; under two configurations that agree in that sense `body` is the same function
  (`body_agree`).  Hence an option that is not consulted on a run is neutral (`basicParser_agree` with an invariant of the
  reference run, `basicParser_agree_visits` with the instrumented run `parserVisits`).
-/
namespace WhatwgUrl.Proofs.Neutral
open WhatwgUrl WhatwgUrl.Impl WhatwgUrl.Proofs.Machine WhatwgUrl.Proofs.HostTr

section
variable {c₁ c₂ : Cfg}

/-- `pctSingle` is read by the fallback encoder of lax host parsing only (`hp`); a hypothesis that is not given holds by
    `rfl` -/
theorem parseHost_agree (I : Idna) (hp : c₁.pctSingle = c₂.pctSingle ∨ c₂.laxHost = false := by exact Or.inl rfl)
    (hr : record c₁ = record c₂ := by rfl) (hs : stops c₁ = stops c₂ := by rfl) (hl : c₁.laxHost = c₂.laxHost := by rfl)
    (he : c₁.encOverride = c₂.encOverride := by rfl) (hpre : c₁.preHost = c₂.preHost := by rfl)
    (hpost : c₁.postHost = c₂.postHost := by rfl) : parseHost c₁ I = parseHost c₂ I :=
  parseHost_congr
    { rcd := fun _ _ _ => by rw [hr]; rfl, stops := fun _ => by rw [hs], lax := hl, enc := he,
      pct := fun h => hp.resolve_right (by rw [h]; exact Bool.noConfusion),
      preH := hpre, postH := hpost, qlog := fun _ _ => rfl, pre := fun _ _ _ _ => rfl, post := fun _ _ _ _ => rfl } I

end

/-- `currentIsInvalid` without the environment -/
def ciI (src : Bytes) (rs : Str) (k : Int) : Bool :=
  cur rs k == some repl &&
    (match src.drop (byteOffset src k) with
     | b0 :: rest => (decode1 b0 rest).2 == 1
     | [] => false)

/-- the (over-approximated) trigger of the collapse option at a parser state: the path state holds a special url whose
    path is non-empty and ends in an empty segment.  It does not read the cursor (`collapseTrig_next`; `schemeTrig`, which
    peeks at the next code point, is tested before `next`). -/
def collapseTrig (cfg : Cfg) (ps : PS) : Bool :=
  decide (ps.state = .path) && cfg.isSpecial ps.url.scheme && !ps.url.path.isEmpty &&
    (ps.url.path.segs.getLast?.getD []).length == 0

theorem collapseTrig_next (cfg : Cfg) (rs : Str) (ps : PS) : collapseTrig cfg (next rs ps).1 = collapseTrig cfg ps := by
  rw [collapseTrig, next_state, next_url]; rfl

def readsUrlScheme : State → Bool
  | .authority | .host | .hostname | .fileHost | .port | .path | .pathStart | .query | .fragment | .relativeSlash => true
  | _ => false

theorem driveBuf_eq (x y : Bool) (buf : Bytes) (h : (0x7c : UInt8) ∉ buf) :
    (if (x && isWindowsDriveLetter buf && y) = true then buf.take 1 ++ [0x3a] ++ buf.drop 2 else buf) = buf := by
  split
  · rename_i hc
    simp only [Bool.and_eq_true] at hc
    have hw := hc.1.2
    unfold isWindowsDriveLetter at hw
    split at hw
    · rename_i x1 x2
      simp only [Bool.and_eq_true, Bool.or_eq_true, beq_iff_eq] at hw
      rcases hw.2 with h2 | h2
      · subst h2; rfl
      · subst h2; simp at h
    · cases hw
  · rfl

theorem collapseGuard_true (y B C D : Bool) (h : (B || C || D) = true) : (!y || B || C || D) = true := by
  cases y <;> simp_all

/-- the schemes that the step from `ps` on the code point `r` looks up in the table of special schemes -/
def looksUp (base : Option Url) (ov : Option State) (ps : PS) (r : Char) (x : Bytes) : Prop :=
  match ps.state with
  | .scheme => r = ':' ∧ (x = ps.buffer ∨ (ov.isSome = true ∧ x = ps.url.scheme))
  | .relative => ∃ b, base = some b ∧ x = b.scheme
  | st => readsUrlScheme st = true ∧ x = ps.url.scheme

/-- `c₁` and `c₂` answer alike wherever the step from `ps` on `r` consults the configuration.  A field that is not given
    holds by `rfl` (its default), so an instance names only the reads in which the two configurations differ.  Where an
    instance is written before its expected type is known, name `c₁` and `c₂`: otherwise `rfl` unifies them. -/
structure Agree (c₁ c₂ : Cfg) (I : Idna) (src : Bytes) (rs : Str) (base : Option Url) (ov : Option State) (ps : PS)
    (r : Char) : Prop where
  record : record c₁ = record c₂ := by rfl
  stops : stops c₁ = stops c₂ := by rfl
  enc : percentEncodeRune c₁ = percentEncodeRune c₂ := by rfl
  sts : c₁.skipTrailingSlash = c₂.skipTrailingSlash := by rfl
  host : ps.state = .host ∨ ps.state = .hostname ∨ ps.state = .fileHost → parseHost c₁ I = parseHost c₂ I := by
    exact fun _ => parseHost_agree _
  ai : c₁.acceptInvalid = c₂.acceptInvalid ∨ ciI src rs ps.pointer = false := by exact Or.inl rfl
  pct : c₁.pctSingle = c₂.pctSingle ∨ remainingInvalidPct rs ps = false := by exact Or.inl rfl
  drive : c₁.skipDrive = c₂.skipDrive ∨ (0x7c : UInt8) ∉ ps.buffer := by exact Or.inl rfl
  collapse : c₁.collapse = c₂.collapse ∨ collapseTrig c₂ ps = false := by exact Or.inl rfl
  special : ∀ x, looksUp base ov ps r x → c₁.special? x = c₂.special? x := by intros; rfl
  pathSet : ps.state = .path → c₁.pathSet = c₂.pathSet := by intros; rfl
  spQuery : ps.state = .query → c₂.isSpecial ps.url.scheme = true → c₁.spQuerySet = c₂.spQuerySet := by intros; rfl
  query : ps.state = .query → c₂.isSpecial ps.url.scheme = false → c₁.querySet = c₂.querySet := by intros; rfl
  spFrag : ps.state = .fragment → c₂.isSpecial ps.url.scheme = true → c₁.spFragSet = c₂.spFragSet := by intros; rfl
  frag : ps.state = .fragment → c₂.isSpecial ps.url.scheme = false → c₁.fragSet = c₂.fragSet := by intros; rfl

theorem isSpecial_congr {c₁ c₂ : Cfg} {x : Bytes} (h : c₁.special? x = c₂.special? x) : c₁.isSpecial x = c₂.isSpecial x := by
  unfold Cfg.isSpecial; rw [h]

theorem cleanDefaultPort_congr {c₁ c₂ : Cfg} {u : Url} (h : c₁.special? u.scheme = c₂.special? u.scheme) :
    cleanDefaultPort c₁ u = cleanDefaultPort c₂ u := by
  unfold cleanDefaultPort; rw [h]

section
variable {c₁ c₂ : Cfg} {I : Idna} {src : Bytes} {rs : Str} {base : Option Url} {ov : Option State} {ps : PS} {r : Char}

theorem Agree.url (h : Agree c₁ c₂ I src rs base ov ps r) (hr : readsUrlScheme ps.state = true) :
    c₁.special? ps.url.scheme = c₂.special? ps.url.scheme := by
  apply h.special
  unfold looksUp
  split <;> simp_all [readsUrlScheme]

theorem body_agree (h : Agree c₁ c₂ I src rs base ov ps r) :
    body ⟨c₁, I, src, rs, base, ov⟩ ps r = body ⟨c₂, I, src, rs, base, ov⟩ ps r := by
  -- a hypothesis and not a `rfl` lemma: that one `simp` applies by `dsimp`, which leaves the `Decidable` instance of the
  -- rewritten condition behind, and the two sides no longer match
  have hci : ∀ (c : Cfg) (p : PS), currentIsInvalid ⟨c, I, src, rs, base, ov⟩ p = ciI src rs p.pointer := fun _ _ => rfl
  unfold body
  split <;> rename_i hst
  case h_1 => simp only [stSchemeStart, herr, h.record, h.stops]
  case h_2 =>
    by_cases hr : r = ':'
    · have hb := h.special ps.buffer (by simp [looksUp, hst, hr])
      have hB := isSpecial_congr hb
      have hB' : ∀ u : Url, cleanDefaultPort c₁ { u with scheme := ps.buffer } = cleanDefaultPort c₂ { u with scheme := ps.buffer } :=
        fun u => cleanDefaultPort_congr hb
      cases ov with
      | none =>
        simp only [stScheme, herr, isSp, Option.isSome_none, Bool.false_and, Bool.false_eq_true, ↓reduceIte, h.record, h.stops, hB]
      | some o =>
        have hU := isSpecial_congr (h.special ps.url.scheme (by simp [looksUp, hst, hr]))
        simp only [stScheme, herr, isSp, h.record, h.stops, hB, hB', hU]
    · have hr' : (r == ':') = false := by simpa using hr
      simp only [stScheme, hr', Bool.false_eq_true, ↓reduceIte, herr, h.record, h.stops]
  case h_3 => cases base <;> simp only [stNoScheme, herr, h.record, h.stops]
  case h_4 =>
    rcases h.pct with hp | hp
    · simp only [stOpaquePath, unitChecks, herr, percentEncodeInvalidRune, h.record, h.stops, h.enc, hp]
    · simp only [remainingInvalidPct] at hp
      simp only [stOpaquePath, unitChecks, herr, remainingInvalidPct, hp, Bool.false_eq_true, ↓reduceIte, h.record, h.stops, h.enc]
  case h_5 => simp only [stSpecialRelativeOrAuthority, herr, h.record, h.stops]
  case h_6 => simp only [stSpecialAuthoritySlashes, herr, h.record, h.stops]
  case h_7 => simp only [stSpecialAuthorityIgnoreSlashes, herr, h.record, h.stops]
  case h_8 => rfl
  case h_9 =>
    have hU := isSpecial_congr (h.url (by rw [hst]; rfl))
    simp only [stAuthority, herr, spBackslash, isSp, h.record, h.stops, credLoop_congr h.enc, hU]
  case h_10 | h_11 =>
    have hU := isSpecial_congr (h.url (by rw [hst]; rfl))
    have hH := h.host (by simp [hst])
    have hA : (ciI src rs ps.pointer && c₁.acceptInvalid) = (ciI src rs ps.pointer && c₂.acceptInvalid) := by
      rcases h.ai with ha | ha <;> simp [ha]
    simp only [stHost_eq, hostChar_eq, herr, spBackslash, isSp, rewindLast, hci, currentAsByte, record_scheme,
      h.record, h.stops, hU, hH, hA]
  case h_12 => cases base <;> simp only [stFile, herr, h.record, h.stops]
  case h_13 =>
    have hU := isSpecial_congr (h.url (by rw [hst]; rfl))
    have hH := h.host (by simp [hst])
    simp only [stFileHost, herr, isSp, rewindLast, h.record, h.stops, hU, hH]
  case h_14 => simp only [stFileSlash, herr, h.record, h.stops]
  case h_15 =>
    have hu := h.url (by rw [hst]; rfl)
    have hU := isSpecial_congr hu
    have hP : ∀ (n : Nat) (b : Option Bytes), cleanDefaultPort c₁ { ps.url with decodedPort := n, port := b } =
        cleanDefaultPort c₂ { ps.url with decodedPort := n, port := b } := fun _ _ => cleanDefaultPort_congr hu
    simp only [stPort, herr, spBackslash, isSp, h.record, h.stops, hU, hP]
  case h_16 =>
    have hU := isSpecial_congr (h.url (by rw [hst]; rfl))
    -- the collapse option is consulted only behind the three other tests of its `if`
    have hT : c₁.collapse = c₂.collapse ∨
        (!c₂.isSpecial ps.url.scheme || ps.url.path.isEmpty || decide ((ps.url.path.segs.getLast?.getD []).length > 0)) = true := by
      refine h.collapse.imp id fun ht => ?_
      simp only [collapseTrig, hst, decide_true, Bool.true_and] at ht
      revert ht
      cases c₂.isSpecial ps.url.scheme <;> cases ps.url.path.isEmpty <;> simp
      intro ht; exact List.length_pos_iff.mpr ht
    have hseg : ∀ u : Url, u.scheme = ps.url.scheme → u.path = ps.url.path →
        segPath ⟨c₁, I, src, rs, base, ov⟩ { ps with url := u } r = segPath ⟨c₂, I, src, rs, base, ov⟩ { ps with url := u } r := by
      intro u hs hp
      simp only [segPath, spBackslash, isSp, hs, hp, hU]
      rcases h.drive with hd | hd <;> rcases hT with hc | hc
      · rw [hd, hc]
      · simp only [hd, collapseGuard_true _ _ _ _ hc]
      · simp only [hc, driveBuf_eq _ _ _ hd]
      · simp only [collapseGuard_true _ _ _ _ hc, driveBuf_eq _ _ _ hd]
    have hend : ∀ u : Url, u.scheme = ps.url.scheme → u.path = ps.url.path →
        segEnd ⟨c₁, I, src, rs, base, ov⟩ r { ps with url := u } = segEnd ⟨c₂, I, src, rs, base, ov⟩ r { ps with url := u } := by
      intro u hs hp; simp only [segEnd, hseg u hs hp]
    rcases h.pct with hp | hp
    · simp only [stPath_eq, unitChecks, herr, spBackslash, isSp, percentEncodeInvalidRune, record_scheme, record_path, h.record, h.stops,
        h.enc, h.pathSet hst, hU, hend, hp]
    · simp only [remainingInvalidPct] at hp
      simp only [stPath_eq, unitChecks, herr, spBackslash, isSp, remainingInvalidPct, hp, Bool.false_eq_true, ↓reduceIte, record_scheme,
        record_path, h.record, h.stops, h.enc, h.pathSet hst, hU, hend]
  case h_17 =>
    have hU := isSpecial_congr (h.url (by rw [hst]; rfl))
    simp only [stPathStart, herr, isSp, h.record, h.stops, h.sts, hU]
  case h_18 =>
    have hU := isSpecial_congr (h.url (by rw [hst]; rfl))
    have hS : (if c₂.isSpecial ps.url.scheme = true then c₁.spQuerySet else c₁.querySet) =
        (if c₂.isSpecial ps.url.scheme = true then c₂.spQuerySet else c₂.querySet) := by
      cases hs : c₂.isSpecial ps.url.scheme
      · simp only [Bool.false_eq_true, ↓reduceIte, h.query hst hs]
      · simp only [↓reduceIte, h.spQuery hst hs]
    simp only [stQuery_eq, unitChecks, herr, isSp, record_scheme, h.record, h.stops, h.enc, hU, hS]
    rfl
  case h_19 =>
    have hU := isSpecial_congr (h.url (by rw [hst]; rfl))
    have hS : (if c₂.isSpecial ps.url.scheme = true then c₁.spFragSet else c₁.fragSet) =
        (if c₂.isSpecial ps.url.scheme = true then c₂.spFragSet else c₂.fragSet) := by
      cases hs : c₂.isSpecial ps.url.scheme
      · simp only [Bool.false_eq_true, ↓reduceIte, h.frag hst hs]
      · simp only [↓reduceIte, h.spFrag hst hs]
    simp only [stFragment, unitChecks, herr, isSp, record_scheme, h.record, h.stops, h.enc, hU, hS]
    rfl
  case h_20 =>
    cases hb : base with
    | none => rfl
    | some b =>
      have hU := isSpecial_congr (h.special b.scheme (by simp [looksUp, hst, hb]))
      simp only [stRelative, herr, spBackslash, isSp, h.record, h.stops, hU]
  case h_21 =>
    have hU := isSpecial_congr (h.url (by rw [hst]; rfl))
    cases base <;> simp only [stRelativeSlash, herr, isSp, h.record, h.stops, hU]

end

/-- does the loop ever visit a state satisfying `p`? (same fuel discipline as `loop`) -/
def visits (e : Env) (p : PS → Bool) : Nat → PS → Bool
  | 0, _ => false
  | fuel + 1, ps =>
    p ps || (match step e ps with
             | .cont ps' => visits e p fuel ps'
             | .done _ => false)

theorem loop_congr_visits (e1 e2 : Env) (p : PS → Bool) (hstep : ∀ ps, p ps = false → step e1 ps = step e2 ps) :
    ∀ (fuel : Nat) (ps : PS), visits e2 p fuel ps = false → loop e1 fuel ps = loop e2 fuel ps := by
  intro fuel
  induction fuel with
  | zero => intro ps _; rfl
  | succ n ih =>
    intro ps hv
    unfold visits at hv
    simp only [Bool.or_eq_false_iff] at hv
    unfold loop
    rw [hstep ps hv.1]
    cases hs : step e2 ps with
    | cont ps' =>
      have := hv.2; rw [hs] at this
      exact ih ps' this
    | done r => rfl

/-- `basicParser` instrumented: does the run ever visit a state satisfying `p`? (`false` when the prologue returns).
    Proofs read it as `match prologue … with | .done _ => false | .cont ps => visits …` (`parserVisits_eq`). -/
def parserVisits (cfg : Cfg) (I : Idna) (input : Bytes) (base : Option Url) (url : Option Url) (ov : Option State)
    (p : PS → Bool) : Bool :=
  let fresh : Url := {}
  let u0 := url.getD fresh
  let t := trim c0OrSpaceSet input
  let trimStops := url.isNone && t.2 && stops cfg false
  if trimStops then false
  else
    let u1 := if url.isNone && t.2 then record cfg u0 .InvalidURLUnit false else u0
    let in1 := if url.isNone then t.1 else input
    let rm := removeTabNl in1
    if rm.2 && stops cfg false then false
    else
      let u2 := if rm.2 then record cfg u1 .InvalidURLUnit false else u1
      let src := rm.1
      let rs := goRunes src
      let e : Env := { cfg := cfg, I := I, src := src, runes := rs, base := base, ov := ov }
      let ps0 : PS := { state := ov.getD .schemeStart, pointer := -1, eof := false, buffer := [],
                        atFlag := false, bracketFlag := false, pwSeen := false, url := u2 }
      visits e p (fuelFor rs) ps0

theorem parserVisits_eq (cfg : Cfg) (I : Idna) (input : Bytes) (base url : Option Url) (ov : Option State) (p : PS → Bool) :
    parserVisits cfg I input base url ov p =
      match prologue cfg input url ov with
      | .done _ => false
      | .cont ps => visits (loopEnv cfg I input base url ov) p (fuelFor (loopEnv cfg I input base url ov).runes) ps :=
  prologue_elim cfg input url ov (fun _ => false) _

theorem visits_of_inv (e : Env) (p : PS → Bool) (Inv : PS → Prop) (hp : ∀ ps, Inv ps → p ps = false)
    (hinv : ∀ ps, Inv ps → Sh Inv (fun _ => True) (step e ps)) :
    ∀ (fuel : Nat) (ps : PS), Inv ps → visits e p fuel ps = false := by
  intro fuel
  induction fuel with
  | zero => intro ps _; rfl
  | succ n ih =>
    intro ps hI
    have hs := hinv ps hI
    unfold visits
    rw [hp ps hI, Bool.false_or]
    cases h : step e ps with
    | cont ps' => rw [h] at hs; exact ih ps' hs
    | done r => rfl

theorem step_agree {c₁ c₂ : Cfg} {I : Idna} {src : Bytes} {rs : Str} {base : Option Url} {ov : Option State} {ps : PS}
    (h : Agree c₁ c₂ I src rs base ov (next rs ps).1 (next rs ps).2) :
    step ⟨c₁, I, src, rs, base, ov⟩ ps = step ⟨c₂, I, src, rs, base, ov⟩ ps :=
  congrArg bottom (body_agree h)

section
-- `hr`, `hs` once more, outside `Agree`: the prologue records and stops before there is a state to speak of
-- `hag` and `hinv` speak of the same environment: `loopEnv c I input base url ov` has the text `prologueText url input`
-- (`loopEnv_eq`, by `rfl`)
variable (c₁ c₂ : Cfg) (hr : record c₁ = record c₂) (hs : stops c₁ = stops c₂) (I : Idna) (input : Bytes)
  (base url : Option Url) (ov : Option State)
include hr hs

theorem basicParser_agree (Inv : PS → Prop) (h0 : ∀ ps, prologue c₂ input url ov = .cont ps → Inv ps)
    (hag : ∀ ps, Inv ps → Agree c₁ c₂ I (prologueText url input) (goRunes (prologueText url input)) base ov
      (next (goRunes (prologueText url input)) ps).1 (next (goRunes (prologueText url input)) ps).2)
    (hinv : ∀ ps, Inv ps → Sh Inv (fun _ => True) (step (loopEnv c₂ I input base url ov) ps)) :
    basicParser c₁ I input base url ov = basicParser c₂ I input base url ov := by
  refine basicParser_congr_loop c₁ c₂ hr hs I input base url ov fun ps hp => ?_
  refine loop_inv2 (P := fun p₁ p₂ => p₁ = p₂ ∧ Inv p₂) (A := fun _ _ => False) _ _ ?_ (fun _ _ _ h => h.elim)
    (fun _ _ h => by rw [h.1]) _ ps ps ⟨rfl, h0 ps hp⟩
  rintro p₁ p₂ ⟨rfl, hI⟩
  exact Sh2_of_eq (step_agree (hag p₁ hI)) ((hinv p₁ hI).mono (fun _ h => ⟨rfl, h⟩) (fun _ _ => rfl))

theorem basicParser_agree_all
    (hag : ∀ ps, Agree c₁ c₂ I (prologueText url input) (goRunes (prologueText url input)) base ov
      (next (goRunes (prologueText url input)) ps).1 (next (goRunes (prologueText url input)) ps).2) :
    basicParser c₁ I input base url ov = basicParser c₂ I input base url ov :=
  basicParser_agree c₁ c₂ hr hs I input base url ov (fun _ => True) (fun _ _ => trivial) (fun ps _ => hag ps)
    (fun _ _ => Sh_trivial (fun _ => trivial) (fun _ => trivial) _)

theorem basicParser_agree_visits (p : PS → Bool)
    (hag : ∀ ps, p ps = false → Agree c₁ c₂ I (prologueText url input) (goRunes (prologueText url input)) base ov
      (next (goRunes (prologueText url input)) ps).1 (next (goRunes (prologueText url input)) ps).2)
    (h : parserVisits c₂ I input base url ov p = false) :
    basicParser c₁ I input base url ov = basicParser c₂ I input base url ov := by
  refine basicParser_congr_loop c₁ c₂ hr hs I input base url ov fun ps hp => ?_
  rw [parserVisits_eq, hp] at h
  exact loop_congr_visits _ _ p (fun ps hp => step_agree (hag ps hp)) _ _ h

end

end WhatwgUrl.Proofs.Neutral
