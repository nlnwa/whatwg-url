import WhatwgUrl.Proofs.Lawful
import WhatwgUrl.Impl.Canon
import WhatwgUrl.Proofs.Percent
import WhatwgUrl.Proofs.SpEval
/-
  The canonicalizer's percent codec (`canonDecode`, `repeatedDecode`, `canonEncode`); at the end, in namespace `Pipeline`,
  the relations "same canonical form" (`PathEq`, `QueryEq`, `FragEq`) and when `canonParseBase` is the parser's own result.
-/
namespace WhatwgUrl.Proofs.Canon
open WhatwgUrl WhatwgUrl.Impl

def hex2 : Bytes → Bool
  | h1 :: h2 :: _ => isHexN h1.toNat && isHexN h2.toNat
  | _ => false

theorem hex2_eq : hex2 = Domain.hex2 := by
  funext s
  match s with
  | [] | [_] | _ :: _ :: _ => rfl

open Percent (hexByte)

/-- the canonicalizer's decoder is the standard's: the two definitions have the same text -/
theorem canonDecode_eq_percentDecode (s : Bytes) : canonDecode s = Spec.percentDecode s := by
  fun_induction canonDecode s with
  | case1 => rw [Spec.percentDecode]
  | case2 x h1 h2 r hc ih => rw [Spec.percentDecode.eq_2, if_pos hc, ih]
  | case3 x h1 h2 r hc ih => rw [Spec.percentDecode.eq_2, if_neg hc, ih]
  | case4 x r hr ih => rw [Spec.percentDecode.eq_3 _ _ hr, ih]

theorem canonDecode_nil : canonDecode [] = [] := by rw [canonDecode]

theorem canonDecode_esc (h1 h2 : UInt8) (r : Bytes) (a : isHexN h1.toNat = true) (b : isHexN h2.toNat = true) :
    canonDecode (0x25 :: h1 :: h2 :: r) = hexByte h1 h2 :: canonDecode r := by
  rw [canonDecode_eq_percentDecode, canonDecode_eq_percentDecode]; exact Percent.percentDecode_esc h1 h2 r a b

theorem canonDecode_cons_of_not (x : UInt8) (r : Bytes) (h : ¬(x = 0x25 ∧ hex2 r = true)) :
    canonDecode (x :: r) = x :: canonDecode r := by
  rw [canonDecode_eq_percentDecode, canonDecode_eq_percentDecode]
  exact Percent.percentDecode_cons_of_not x r (hex2_eq ▸ h)

theorem canonDecode_cons_ne (x : UInt8) (r : Bytes) (h : x ≠ 0x25) : canonDecode (x :: r) = x :: canonDecode r :=
  canonDecode_cons_of_not x r (fun hh => h hh.1)

theorem canonDecode_length_le (s : Bytes) : (canonDecode s).length ≤ s.length :=
  canonDecode_eq_percentDecode s ▸ Percent.percentDecode_length_le s

theorem canonDecode_shortens (s : Bytes) : canonDecode s ≠ s → (canonDecode s).length + 2 ≤ s.length :=
  canonDecode_eq_percentDecode s ▸ Percent.percentDecode_shortens s

theorem canonDecode_fix_cons (x : UInt8) (p : Bytes) (h : canonDecode (x :: p) = x :: p) :
    canonDecode p = p ∧ ¬(x = 0x25 ∧ hex2 p = true) := by
  rw [canonDecode_eq_percentDecode] at h ⊢; rw [hex2_eq]; exact Percent.percentDecode_fix_cons x p h

theorem repeatedDecodeAux_fix : ∀ (fuel : Nat) (s : Bytes), s.length < fuel →
    canonDecode (repeatedDecodeAux fuel s) = repeatedDecodeAux fuel s := by
  intro fuel
  induction fuel with
  | zero => intro s h; omega
  | succ n ih =>
    intro s h
    unfold repeatedDecodeAux
    split
    · rename_i hc; exact beq_iff_eq.mp hc
    · rename_i hc
      have hne : canonDecode s ≠ s := fun e => hc (beq_iff_eq.mpr e)
      have := canonDecode_shortens s hne
      exact ih _ (by omega)

theorem repeatedDecodeAux_fuel : ∀ (f1 f2 : Nat) (s : Bytes), s.length < f1 → s.length < f2 →
    repeatedDecodeAux f1 s = repeatedDecodeAux f2 s := by
  intro f1
  induction f1 with
  | zero => intro f2 s h; omega
  | succ n ih =>
    intro f2 s h1 h2
    cases f2 with
    | zero => omega
    | succ m =>
      unfold repeatedDecodeAux
      split
      · rfl
      · rename_i hc
        have hne : canonDecode s ≠ s := fun e => hc (beq_iff_eq.mpr e)
        have := canonDecode_shortens s hne
        exact ih m _ (by omega) (by omega)

theorem repeatedDecode_fix (s : Bytes) : canonDecode (repeatedDecode s) = repeatedDecode s :=
  repeatedDecodeAux_fix _ _ (Nat.lt_succ_self _)

theorem repeatedDecode_of_fix (t : Bytes) (h : canonDecode t = t) : repeatedDecode t = t := by
  simp [repeatedDecode, repeatedDecodeAux, h]

theorem repeatedDecode_step (x : Bytes) : repeatedDecode (canonDecode x) = repeatedDecode x := by
  by_cases h : canonDecode x = x
  · rw [h]
  · have hs := canonDecode_shortens x h
    show repeatedDecodeAux _ _ = repeatedDecodeAux (x.length + 1) x
    conv => rhs; unfold repeatedDecodeAux
    have hc : (canonDecode x == x) = false := by simpa using h
    simp only [hc, Bool.false_eq_true, if_false]
    exact repeatedDecodeAux_fuel _ _ _ (by omega) (by omega)

theorem repeatedDecode_idem (s : Bytes) : repeatedDecode (repeatedDecode s) = repeatedDecode s :=
  repeatedDecode_of_fix _ (repeatedDecode_fix s)

theorem canonDecode_of_no_pct (s : Bytes) (h : (0x25 : UInt8) ∉ s) : canonDecode s = s := by
  induction s with
  | nil => exact canonDecode_nil
  | cons x s ih =>
    have hx : x ≠ 0x25 := fun e => h (by simp [e])
    rw [canonDecode_cons_ne x s hx, ih (fun hm => h (by simp [hm]))]

/-- escape exactly the bytes that satisfy `p`; `canonEncode tr` is the instance `canonEncode_eq_encP` -/
def encP (p : UInt8 → Bool) (s : Bytes) : Bytes := s.flatMap fun x => if p x then pctByte x else [x]

theorem encP_cons (p : UInt8 → Bool) (x : UInt8) (s : Bytes) :
    encP p (x :: s) = (if p x then pctByte x else [x]) ++ encP p s := by
  simp [encP]

theorem encP_append (p : UInt8 → Bool) (a b : Bytes) : encP p (a ++ b) = encP p a ++ encP p b := by
  simp [encP]

theorem hexLower_roundtrip : ∀ x : UInt8,
    isHexN (hexLower (x.toNat / 16)).toNat = true ∧ isHexN (hexLower (x.toNat % 16)).toNat = true ∧
    hexByte (hexLower (x.toNat / 16)) (hexLower (x.toNat % 16)) = x := by
  apply forall_uint8; decide +kernel

theorem hexVal_hexUpper : ∀ d : Fin 16, hexVal (hexUpper d.val).toNat = d.val := by decide
theorem hexVal_hexLower : ∀ d : Fin 16, hexVal (hexLower d.val).toNat = d.val := by decide

theorem canonDecode_pctByte (x : UInt8) (r : Bytes) : canonDecode (pctByte x ++ r) = x :: canonDecode r := by
  rw [canonDecode_eq_percentDecode, canonDecode_eq_percentDecode]; exact Percent.pd_pctByte x r

theorem canonDecode_encP_append (p : UInt8 → Bool) (hp : p 0x25 = true) (s r : Bytes) :
    canonDecode (encP p s ++ r) = s ++ canonDecode r := by
  induction s with
  | nil => simp [encP]
  | cons x s ih =>
    rw [encP_cons]
    by_cases hx : p x = true
    · simp only [hx, if_true, List.append_assoc]
      rw [canonDecode_pctByte, ih]; rfl
    · have hne : x ≠ 0x25 := fun e => hx (e ▸ hp)
      rw [if_neg hx]
      simp only [List.cons_append, List.nil_append]
      rw [canonDecode_cons_ne _ _ hne, ih]

theorem canonDecode_encP (p : UInt8 → Bool) (hp : p 0x25 = true) (s : Bytes) : canonDecode (encP p s) = s := by
  have := canonDecode_encP_append p hp s []
  simpa [canonDecode] using this

theorem mem_encP (p : UInt8 → Bool) (s : Bytes) (y : UInt8) (h : y ∈ encP p s) :
    y = 0x25 ∨ (y ∈ s ∧ p y = false) ∨ (0x30 ≤ y.toNat ∧ y.toNat ≤ 0x39) ∨ (0x41 ≤ y.toNat ∧ y.toNat ≤ 0x46) := by
  simp only [encP, List.mem_flatMap] at h
  obtain ⟨x, hx, hy⟩ := h
  by_cases hpx : p x = true
  · simp only [hpx, if_true, pctByte, List.mem_cons, List.not_mem_nil, or_false] at hy
    have hu : ∀ d : Fin 16, (0x30 ≤ (hexUpper d.val).toNat ∧ (hexUpper d.val).toNat ≤ 0x39) ∨
        (0x41 ≤ (hexUpper d.val).toNat ∧ (hexUpper d.val).toNat ≤ 0x46) := by decide
    rcases hy with rfl | rfl | rfl
    · exact Or.inl rfl
    · exact Or.inr (Or.inr (hu ⟨x.toNat / 16, by have := x.toNat_lt; omega⟩))
    · exact Or.inr (Or.inr (hu ⟨x.toNat % 16, by omega⟩))
  · rw [if_neg hpx] at hy
    simp only [List.mem_cons, List.not_mem_nil, or_false] at hy
    subst hy
    exact Or.inr (Or.inl ⟨hx, by simpa using hpx⟩)

theorem encP_pct_wellformed (p : UInt8 → Bool) (hp : p 0x25 = true) (s : Bytes) :
    ∀ a b : Bytes, encP p s = a ++ 0x25 :: b → hex2 b = true := by
  induction s with
  | nil => intro a b h; simp [encP] at h
  | cons x s ih =>
    intro a b h
    rw [encP_cons] at h
    by_cases hx : p x = true
    · simp only [hx, if_true, pctByte, List.cons_append, List.nil_append] at h
      obtain ⟨ha, hb, _⟩ := Percent.hex_roundtrip x
      have hn : ∀ y : UInt8, isHexN y.toNat = true → y ≠ 0x25 := by
        apply forall_uint8; decide +kernel
      match a, h with
      | [], h =>
        simp only [List.nil_append, List.cons.injEq, true_and] at h
        subst h; simp [hex2, ha, hb]
      | [_], h =>
        simp only [List.cons_append, List.nil_append, List.cons.injEq] at h
        exact absurd h.2.1 (hn _ ha)
      | [_, _], h =>
        simp only [List.cons_append, List.nil_append, List.cons.injEq] at h
        exact absurd h.2.2.1 (hn _ hb)
      | _ :: _ :: _ :: a', h =>
        simp only [List.cons_append, List.cons.injEq] at h
        exact ih a' b h.2.2.2
    · have hne : x ≠ 0x25 := fun e => hx (e ▸ hp)
      rw [if_neg hx] at h
      match a, h with
      | [], h =>
        simp only [List.nil_append, List.cons_append, List.cons.injEq] at h
        exact absurd h.1 hne
      | _ :: a', h =>
        simp only [List.cons_append, List.nil_append, List.cons.injEq] at h
        exact ih a' b h.2

theorem has_set_pct (tr : PSet) : (tr.set 0x25).has 0x25 = true := by
  rw [Percent.set_has, beq_self_eq_true, Bool.or_true]

theorem canonEncode_eq_encP (tr : PSet) (s : Bytes) :
    canonEncode tr s = encP (fun x => (tr.set 0x25).has x.toNat) s := by
  unfold canonEncode percentEncodeBytes encP
  congr 1
  funext x
  cases h : (tr.set 0x25).has x.toNat <;> simp [h]

theorem canonDecode_canonEncode (tr : PSet) (s : Bytes) : canonDecode (canonEncode tr s) = s := by
  rw [canonEncode_eq_encP]
  exact canonDecode_encP _ (has_set_pct tr) s

/-! ### kernel-evaluable twins

`canonDecode` is compiled by well-founded recursion, so neither `decide` nor `decide +kernel` evaluates it.  The fuelled
twins are structural; `canonDecodeF` is `Idem.decodePercentF {}` (`Proofs/SpEval.lean`) and takes its equation from there. -/

def canonDecodeF : Nat → Bytes → Bytes
  | 0, _ => []
  | _ + 1, [] => []
  | f + 1, x :: rest =>
    match rest with
    | h1 :: h2 :: rest' =>
      if x == 0x25 && isHexN h1.toNat && isHexN h2.toNat then
        (hexVal h1.toNat * 16 + hexVal h2.toNat).toUInt8 :: canonDecodeF f rest'
      else x :: canonDecodeF f rest
    | _ => x :: canonDecodeF f rest

theorem canonDecodeF_eq_decodePercentF : ∀ (f : Nat) (s : Bytes), canonDecodeF f s = Idem.decodePercentF {} f s := by
  intro f
  induction f with
  | zero => intro s; rfl
  | succ n ih =>
    intro s
    match s with
    | [] => rfl
    | [x] | [x, y] => simp only [canonDecodeF, Idem.decodePercentF, ih]
    | x :: h1 :: h2 :: r => simp only [canonDecodeF, Idem.decodePercentF, ih]; rfl

theorem canonDecodeF_eq (f : Nat) (s : Bytes) (h : s.length ≤ f) : canonDecodeF f s = canonDecode s := by
  rw [canonDecodeF_eq_decodePercentF, Idem.decodePercentF_eq {} f s h, Percent.decodePercent_of_none rfl,
    canonDecode_eq_percentDecode]

def canonDecodeE (s : Bytes) : Bytes := canonDecodeF s.length s

theorem canonDecode_eq_E (s : Bytes) : canonDecode s = canonDecodeE s := (canonDecodeF_eq _ s (Nat.le_refl _)).symm

def repeatedDecodeAuxE : Nat → Bytes → Bytes
  | 0, s => s
  | fuel + 1, s => if canonDecodeE s == s then s else repeatedDecodeAuxE fuel (canonDecodeE s)

def repeatedDecodeE (s : Bytes) : Bytes := repeatedDecodeAuxE (s.length + 1) s

theorem repeatedDecodeAux_eq_E : ∀ (fuel : Nat) (s : Bytes), repeatedDecodeAux fuel s = repeatedDecodeAuxE fuel s := by
  intro fuel
  induction fuel with
  | zero => intro s; rfl
  | succ n ih => intro s; simp only [repeatedDecodeAux, repeatedDecodeAuxE, canonDecode_eq_E, ih]

theorem repeatedDecode_eq_E (s : Bytes) : repeatedDecode s = repeatedDecodeE s := repeatedDecodeAux_eq_E _ s

theorem decodeEncode_eq_E (tr : PSet) (s : Bytes) : decodeEncode tr s = canonEncode tr (repeatedDecodeE s) := by
  unfold decodeEncode; rw [repeatedDecode_eq_E]

end WhatwgUrl.Proofs.Canon

namespace WhatwgUrl.Proofs.Pipeline
open WhatwgUrl WhatwgUrl.Impl

/-! ### "same canonical form" on path texts, query pairs and fragments -/

def PathEq (a b : Path) : Prop :=
  a.opq = false ∧ b.opq = false ∧ decodeEncode laxPathSet a.str = decodeEncode laxPathSet b.str

/-- what the pipeline does to a name or a value of the query list -/
def dq (nv : Bytes × Bytes) : Bytes × Bytes := (decodeEncode repeatedQuerySet nv.1, decodeEncode repeatedQuerySet nv.2)

/-- equal, or both present and non-empty with the same canonical list of pairs: the pipeline's query step (and likewise its
    fragment step, `FragEq`) acts only when the getter is non-empty, so an absent or empty component has to agree as it is -/
def QueryEq (cfg : Cfg) (a b : Option Bytes) : Prop :=
  a = b ∨ ∃ x y, a = some x ∧ b = some y ∧ x ≠ [] ∧ y ≠ [] ∧ (spInit cfg x).map dq = (spInit cfg y).map dq

def FragEq (a b : Option Bytes) : Prop :=
  a = b ∨ ∃ x y, a = some x ∧ b = some y ∧ x ≠ [] ∧ y ≠ [] ∧ decodeEncode hostSet x = decodeEncode hostSet y

/-- `(*profile).Parse` retries with the default scheme only after the missing-scheme error, and only when a default scheme
    is set: otherwise its first step is the parser's result -/
theorem canonParseBase_eq_parse (I : Idna) (p : Profile) (raw : Bytes)
    (h : (parse p.cfg I raw).ret = .url ∨ p.defaultScheme = [] ∨
         (∀ er w, (parse p.cfg I raw).ret = .err er w → er.t ≠ .MissingSchemeNonRelativeURL)) :
    canonParseBase I p raw = parse p.cfg I raw := by
  simp only [canonParseBase]
  split
  · next er w heq =>
    rcases h with h | h | h
    · rw [heq] at h; cases h
    · simp [h]
    · have := h er w heq
      simp [this]
  · rfl

end WhatwgUrl.Proofs.Pipeline
