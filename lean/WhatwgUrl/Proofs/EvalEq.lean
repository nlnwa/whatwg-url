import WhatwgUrl.Impl.Types
/-
  Equality of two results field by field.  The derived `DecidableEq Res` decides `a = b` by nested casts through the
  eleven fields of `Url`, which makes the kernel compare unevaluated fields of the two sides with each other; in the form
  below `decide` evaluates every field of each side on its own.  For evaluated test vectors only:
  `attribute [local instance 2000] Res.decEqByFields` in front of the examples of a module.
-/
namespace WhatwgUrl.Impl

theorem Res.eq_iff_fields (a b : Res) : a = b ↔
    a.ret = b.ret ∧ a.url.scheme = b.url.scheme ∧ a.url.username = b.url.username ∧ a.url.password = b.url.password ∧
    a.url.host = b.url.host ∧ a.url.port = b.url.port ∧ a.url.decodedPort = b.url.decodedPort ∧
    a.url.path.segs = b.url.path.segs ∧ a.url.path.opq = b.url.path.opq ∧ a.url.query = b.url.query ∧
    a.url.fragment = b.url.fragment ∧ a.url.verrs = b.url.verrs ∧ a.url.qlog = b.url.qlog := by
  obtain ⟨⟨_, _, _, _, _, _, ⟨_, _⟩, _, _, _, _⟩, _⟩ := a
  obtain ⟨⟨_, _, _, _, _, _, ⟨_, _⟩, _, _, _, _⟩, _⟩ := b
  simp only [Res.mk.injEq, Url.mk.injEq, Path.mk.injEq]
  constructor <;> intro h <;> simp [h]

def Res.decEqByFields : DecidableEq Res := fun a b => decidable_of_iff _ (Res.eq_iff_fields a b).symm

end WhatwgUrl.Impl
