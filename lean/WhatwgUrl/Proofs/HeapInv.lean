import WhatwgUrl.Impl.Canon
import WhatwgUrl.Proofs.Heap
import WhatwgUrl.Proofs.HeapInvPath
import WhatwgUrl.Proofs.HeapInvQuery
/-
  C02c: the heap invariant, parametric in the predicate `R cfg u` required of every url object's record (`RecInv`: `R` is
  closed under the value-level operations).  A heap predicate kept by the five transformers of `Impl/Heap.lean` and by the
  allocation of a result the API can produce (`Stable`) is kept by the parse entry points, `Heap.urlParse`, the
  canonicalizer and every history, once for all such predicates (`Stable.reach`); no transformer panics on such heaps.
-/
namespace WhatwgUrl.Proofs.HeapInv
open WhatwgUrl WhatwgUrl.Impl WhatwgUrl.Impl.Heap
open WhatwgUrl.Proofs.HeapInvNP (PathOk setU_np parse_np)
open WhatwgUrl.Proofs.HeapInvPath (parse_pathOk setU_pathOk)
open WhatwgUrl.Proofs.HeapInvQuery (setSearchU_query_isSome)

/-- what the heap level needs of a record predicate `R` (`C` = the configurations with which new objects may be parsed) -/
structure RecInv (R : Cfg → Url → Prop) (C : Cfg → Prop) : Prop where
  pathOk : ∀ {cfg : Cfg} {u : Url}, R cfg u → PathOk u
  setter : ∀ {cfg : Cfg} {u : Url} (I : Idna) (s : Setter) (v : Bytes), R cfg u → R cfg (setU cfg I s u v).url
  query : ∀ {cfg : Cfg} {u : Url} (q : Option Bytes), R cfg u → R cfg { u with query := q }
  ghost : ∀ {cfg : Cfg} {u : Url}, R cfg u → R cfg { u with verrs := [], qlog := [] }
  resolve : ∀ {cfg : Cfg} {b : Url} (I : Idna) (ref : Bytes), R cfg b → (Impl.urlParse cfg I b ref).ret = .url →
    R cfg (Impl.urlParse cfg I b ref).url
  parse : ∀ {cfg : Cfg} (I : Idna) (raw : Bytes), C cfg → (Impl.parse cfg I raw).ret = .url → R cfg (Impl.parse cfg I raw).url

/-- the heap invariant (index form): every url object's record satisfies `R`; every list's back pointer designates an
    existing url object -/
def HInvR (R : Cfg → Url → Prop) (H : Heap) : Prop :=
  (∀ (i : Nat) (o : UrlObj), H.urls[i]? = some o → R o.cfg o.u) ∧
  (∀ (s : Nat) (so : SpObj), H.sps[s]? = some so → ∃ j, so.url = some j ∧ j < H.urls.length)

variable {R : Cfg → Url → Prop} {C : Cfg → Prop}

theorem setUrl_inv {H : Heap} (i : Nat) (f : UrlObj → UrlObj) (h : HInvR R H)
    (hf : ∀ o, H.urls[i]? = some o → R (f o).cfg (f o).u) : HInvR R (H.setUrl i f) := by
  refine ⟨fun j o ho => ?_, fun s so hso => ?_⟩
  · rcases setUrl_urls_some ho with ⟨oi, hi, rfl⟩ | ho
    · exact hf oi hi
    · exact h.1 j o ho
  · rw [setUrl_sps] at hso
    rw [setUrl_urls_length]
    exact h.2 s so hso

theorem setSp_inv {H : Heap} (s : Nat) (f : SpObj → SpObj) (h : HInvR R H) (hf : ∀ o, (f o).url = o.url) :
    HInvR R (H.setSp s f) := by
  refine ⟨fun j o ho => h.1 j o (by rw [setSp_urls] at ho; exact ho), fun t so hso => ?_⟩
  rw [setSp_urls]
  rcases setSp_sps_some hso with ⟨os, hs, rfl⟩ | hso
  · rw [hf]; exact h.2 s os hs
  · exact h.2 t so hso

theorem allocUrl_inv {H : Heap} (o : UrlObj) (h : HInvR R H) (ho : R o.cfg o.u) : HInvR R (H.allocUrl o).1 := by
  refine ⟨fun j o' ho' => ?_, fun s so hso => ?_⟩
  · rw [allocUrl_urls, getElem?_append_singleton_iff] at ho'
    rcases ho' with ho' | ⟨-, rfl⟩
    · exact h.1 j o' ho'
    · exact ho
  · rw [allocUrl_sps] at hso
    obtain ⟨j, hj, hlt⟩ := h.2 s so hso
    exact ⟨j, hj, by rw [allocUrl_urls, List.length_append]; exact Nat.lt_add_right _ hlt⟩

theorem allocSp_inv {H : Heap} (so : SpObj) (j : Nat) (h : HInvR R H) (hj : so.url = some j) (hlt : j < H.urls.length) :
    HInvR R (H.allocSp so).1 := by
  refine ⟨fun i o ho => h.1 i o ho, fun s so' hso' => ?_⟩
  rw [allocSp_sps, getElem?_append_singleton_iff] at hso'
  rw [allocSp_urls]
  rcases hso' with hso' | ⟨-, rfl⟩
  · exact h.2 s so' hso'
  · exact ⟨j, hj, hlt⟩

theorem spUpdate_inv (hR : RecInv R C) {H : Heap} (s : Nat) (h : HInvR R H) : HInvR R (H.spUpdate s) :=
  spUpdate_cases H s h (fun _ _ _ _ _ _ => setUrl_inv _ _ h (fun o ho => hR.query _ (h.1 _ o ho)))

theorem attach_inv {H : Heap} (i : Nat) (p : Pairs) (h : HInvR R H) (hi : i < H.urls.length) : HInvR R (H.attach i p) :=
  setUrl_inv i _ (allocSp_inv _ i h rfl hi) (fun o ho => h.1 i o ho)

theorem newUrlSearchParams_inv {H : Heap} (i : Nat) (h : HInvR R H) : HInvR R (H.newUrlSearchParams i) := by
  cases ho : H.urls[i]? with
  | none => rw [newUrlSearchParams_invalid H i ho]; exact h
  | some uo => rw [newUrlSearchParams_eq H i uo ho]; exact attach_inv i _ h (lt_of_getElem?_eq_some ho)

theorem set_inv (hR : RecInv R C) {H : Heap} (I : Idna) (i : Nat) (st : Setter) (v : Bytes) (h : HInvR R H) :
    HInvR R (H.set I i st v).1 := by
  refine set_fst_cases I H i st v (fun _ => h) (fun uo ho => ?_)
  have h1 : HInvR R (H.setValue i (setU uo.cfg I st uo.u v)) :=
    setUrl_inv i _ h (fun o ho' => by rw [ho] at ho'; cases ho'; exact hR.setter I st v (h.1 i _ ho))
  exact ⟨h1, fun _ => ⟨fun s _ _ => setSp_inv s _ h1 (fun _ => rfl), fun _ => newUrlSearchParams_inv i h1⟩⟩

theorem searchParams_inv {H : Heap} (i : Nat) (h : HInvR R H) : HInvR R (H.searchParams i).1 := by
  rcases searchParams_fst H i with e | ⟨_, e⟩ <;> rw [e]
  · exact h
  · exact newUrlSearchParams_inv i h

theorem spMutate_inv (hR : RecInv R C) {H : Heap} (s : Nat) (m : SpMut) (h : HInvR R H) : HInvR R (H.spMutate s m) :=
  spUpdate_inv hR s (setSp_inv s _ h (fun _ => rfl))

theorem setSearchParams_inv (hR : RecInv R C) {H : Heap} (i s : Nat) (h : HInvR R H) : HInvR R (H.setSearchParams i s) :=
  spUpdate_inv hR s (setUrl_inv i _ h (fun o ho => h.1 i o ho))

theorem clone_inv (hR : RecInv R C) {H : Heap} (i : Nat) (h : HInvR R H) : HInvR R (H.clone i).1 := by
  refine clone_cases (P := fun x => HInvR R x.1) H i (fun _ => h) (fun o ho => ?_)
  have ha := allocUrl_inv { u := { o.u with verrs := [], qlog := [] }, sp := none, cfg := o.cfg } h (hR.ghost (h.1 i o ho))
  exact ⟨fun _ => ha, fun s so _ _ => attach_inv _ _ ha (by rw [allocUrl_urls, List.length_append]; simp)⟩

/-- `allocRes` leaves the heap as it is, or allocates the url of a result that returned one -/
theorem allocRes_cases {P : Heap → Prop} {H : Heap} (cfg : Cfg) (r : Res) (h0 : P H)
    (h1 : r.ret = .url → P (H.allocUrl { u := r.url, sp := none, cfg := cfg }).1) : P (H.allocRes cfg r).1 := by
  unfold allocRes
  split
  · exact h1 ‹_›
  · exact h0

theorem allocRes_inv {H : Heap} (cfg : Cfg) (r : Res) (h : HInvR R H) (hr : r.ret = .url → R cfg r.url) :
    HInvR R (H.allocRes cfg r).1 :=
  allocRes_cases cfg r h (fun e => allocUrl_inv _ h (hr e))

/-- sites 30 and 31 are unreachable, and the inner parser call does not panic -/
theorem setSearch_np (hR : RecInv R C) {H : Heap} (I : Idna) (i : Nat) (v : Bytes) (h : HInvR R H) :
    ∀ n, (H.setSearch I i v).2 ≠ .panic n := by
  refine setSearch_cases (P := fun x => ∀ n, x.2 ≠ .panic n) I H i v (fun _ n hn => nomatch hn) (fun uo ho => ?_)
  have hnp : ∀ n, (setSearchU uo.cfg I uo.u v).ret ≠ .panic n := setU_np uo.cfg I .search uo.u v (hR.pathOk (h.1 i uo ho))
  refine ⟨fun _ => ⟨fun _ => hnp, fun _ _ => hnp⟩, fun hv => ⟨fun _ => hnp, fun _ _ _ => hnp, fun s so _ hso hb => ?_,
    fun _ _ _ _ _ _ => ⟨fun hq => ?_, fun _ _ => hnp⟩⟩⟩
  · -- site 30: the back pointer designates an existing url object
    exfalso
    rw [setValue_sps] at hso
    obtain ⟨j, hj, hlt⟩ := h.2 s so hso
    have hlt' : j < (H.setValue i (setSearchU uo.cfg I uo.u v)).urls.length := by
      unfold setValue; rw [setUrl_urls_length]; exact hlt
    rw [hj, Option.bind_some, List.getElem?_eq_getElem hlt'] at hb
    cases hb
  · -- site 31: the query state leaves a query
    have := setSearchU_query_isSome uo.cfg I uo.u v hv
    rw [hq] at this; cases this

theorem set_np (hR : RecInv R C) {H : Heap} (I : Idna) (i : Nat) (st : Setter) (v : Bytes) (h : HInvR R H) :
    ∀ n, (H.set I i st v).2 ≠ .panic n := by
  by_cases hst : st = .search
  · subst hst; exact setSearch_np hR I i v h
  · rw [set_eq_of_ne_search I H i st v hst]
    cases ho : H.urls[i]? with
    | none => intro n hn; cases hn
    | some uo => exact setU_np uo.cfg I st uo.u v (hR.pathOk (h.1 i uo ho))

theorem urlParse_np {H : Heap} (I : Idna) (i : Nat) (ref : Bytes) : ∀ n, (H.urlParse I i ref).2.2 ≠ .panic n := by
  unfold Heap.urlParse
  split
  · intro n hn; cases hn
  · exact parse_np _ _ _ _

/-! ### the canonicalizer

  One traversal of `canonicalize` / `canonParse` / `canonParseRef` serves every heap invariant: `P` is a heap predicate
  closed under the steps taken on object `i`, `Q` a class of return values that contains every value that is not a panic
  and what the setters return on `P`-heaps (`fun _ => True` when only the heap matters, "not a panic" for panic freedom). -/

section Canon
variable {P : Heap → Prop} {Q : Ret → Prop}

def Post (P : Heap → Prop) (Q : Ret → Prop) (x : Heap × Ret) : Prop := P x.1 ∧ Q x.2

theorem thenH_post {x : Heap × Ret} {k : Heap → Heap × Ret} (hx : Post P Q x) (hk : ∀ H', P H' → Post P Q (k H')) :
    Post P Q (thenH x k) := by
  unfold thenH
  split
  · rename_i n hn; exact ⟨hx.1, hn ▸ hx.2⟩
  · exact hk _ hx.1

theorem spStep_post (i : Nat) (hsp : ∀ H, P H → P (H.searchParams i).1) (hmut : ∀ H s m, P H → P (H.spMutate s m))
    {H : Heap} (m : SpMut) (h : P H) :
    Post P (· = .url)
      (match H.searchParams i with | (H', some s) => (H'.spMutate s m, Ret.url) | (H', none) => (H', Ret.url)) := by
  have hs := hsp H h
  split
  · rename_i H' s heq
    rw [heq] at hs
    exact ⟨hmut _ s m hs, rfl⟩
  · rename_i H' heq
    rw [heq] at hs
    exact ⟨hs, rfl⟩

theorem canonicalize_post (I : Idna) (p : Profile) (i : Nat) (hQ : ∀ r, (∀ n, r ≠ .panic n) → Q r)
    (hset : ∀ H st v, P H → Post P Q (H.set I i st v)) (hsp : ∀ H, P H → P (H.searchParams i).1)
    (hmut : ∀ H s m, P H → P (H.spMutate s m)) {H : Heap} (h : P H) : Post P Q (canonicalize I p H i) := by
  have hurl : ∀ {x : Heap × Ret}, Post P (· = .url) x → Post P Q x :=
    fun hx => ⟨hx.1, hQ _ (fun n hn => by rw [show _ = Ret.url from hx.2] at hn; cases hn)⟩
  unfold canonicalize
  dsimp only
  refine thenH_post ?_ (fun H1 h1 => thenH_post ?_ (fun H2 h2 => thenH_post ?_ (fun H3 h3 => thenH_post ?_ (fun H4 h4 =>
    thenH_post ?_ (fun H5 h5 => thenH_post ?_ (fun H6 h6 => thenH_post ?_ (fun H7 h7 => ?_)))))))
  · split
    · exact hset _ _ _ h
    · exact hurl ⟨h, rfl⟩
  · split
    · exact hset _ _ _ h1
    · exact hurl ⟨h1, rfl⟩
  · split
    · exact hurl (spStep_post i hsp hmut _ h2)
    · exact hurl ⟨h2, rfl⟩
  · split
    · exact hset _ _ _ h3
    · exact hurl ⟨h3, rfl⟩
  · split
    · exact hset _ _ _ h4
    · exact hurl ⟨h4, rfl⟩
  · split
    · exact thenH_post (hset _ _ _ h5) (fun H' h' => hset _ _ _ h')
    · exact hurl ⟨h5, rfl⟩
  · split
    · exact hset _ _ _ h6
    · exact hurl ⟨h6, rfl⟩
  · have h8 : Post P (· = .url) (match p.sortQuery with
        | .noSort => (H7, Ret.url)
        | .sortKeys => (match H7.searchParams i with | (H', some s) => (H'.spMutate s .sort, Ret.url) | (H', none) => (H', Ret.url))
        | .sortParameter => (match H7.searchParams i with | (H', some s) => (H'.spMutate s .sortAbs, Ret.url) | (H', none) => (H', Ret.url))) := by
      split
      · exact ⟨h7, rfl⟩
      · exact spStep_post i hsp hmut _ h7
      · exact spStep_post i hsp hmut _ h7
    split
    · rename_i H' n heq
      have h8' : Post P (· = .url) (H', Ret.panic n) := by rw [← heq]; exact h8
      cases h8'.2
    · rename_i H' r _ heq
      have h8' : Post P (· = .url) (H', r) := by rw [← heq]; exact h8
      exact hurl ⟨h8'.1, rfl⟩

theorem canonParseBase_np (I : Idna) (p : Profile) (raw : Bytes) : ∀ n, (canonParseBase I p raw).ret ≠ .panic n := by
  unfold canonParseBase
  dsimp only
  split
  · split
    · exact parse_np _ _ _ _
    · exact parse_np _ _ _ _
  · exact parse_np _ _ _ _

theorem err_strip_np (r : Ret) (h : ∀ n, r ≠ .panic n) :
    ∀ n, (match r with | .err er _ => Ret.err er false | x => x) ≠ .panic n := by
  intro n
  split
  · intro hn; cases hn
  · exact h n

/-- what `(*profile).Parse` and `(*profile).ParseRef` do with a parse result: allocate the object (if any) and
    canonicalize it -/
def _root_.WhatwgUrl.Props.C18d.canonAfter (I : Idna) (p : Profile) (H : Heap) (r : Res) : Heap × Option Nat × Ret :=
  match H.allocRes p.cfg r with
  | (H', some i) => let c := canonicalize I p H' i; (c.1, some i, c.2)
  | (H', none) => (H', none, match r.ret with | .err er _ => .err er false | x => x)

open WhatwgUrl.Props.C18d (canonAfter)

theorem _root_.WhatwgUrl.Props.C18d.canonParse_eq (I : Idna) (p : Profile) (H : Heap) (raw : Bytes) :
    canonParse I p H raw = canonAfter I p H (canonParseBase I p raw) := rfl

theorem _root_.WhatwgUrl.Props.C18d.canonParseRef_eq (I : Idna) (p : Profile) (H : Heap) (raw ref : Bytes) :
    canonParseRef I p H raw ref =
      match (canonParseBase I p raw).ret with
      | .url => canonAfter I p H (Impl.urlParse p.cfg I (canonParseBase I p raw).url ref)
      | .err er _ => (H, none, .err er false)
      | x => (H, none, x) := rfl

theorem canonAfter_post (I : Idna) (p : Profile) (r : Res) (hr : ∀ n, r.ret ≠ .panic n) (hQ : ∀ r, (∀ n, r ≠ .panic n) → Q r)
    (hc : ∀ H' i, P H' → Post P Q (canonicalize I p H' i)) {H : Heap} (ha : P (H.allocRes p.cfg r).1) :
    P (canonAfter I p H r).1 ∧ Q (canonAfter I p H r).2.2 := by
  unfold canonAfter
  split
  · rename_i H' i heq
    rw [heq] at ha
    exact hc H' i ha
  · rename_i H' heq
    rw [heq] at ha
    exact ⟨ha, hQ _ (err_strip_np _ hr)⟩

theorem canonParse_post (I : Idna) (p : Profile) (raw : Bytes) (hQ : ∀ r, (∀ n, r ≠ .panic n) → Q r)
    (hc : ∀ H' i, P H' → Post P Q (canonicalize I p H' i)) {H : Heap}
    (ha : P (H.allocRes p.cfg (canonParseBase I p raw)).1) :
    P (canonParse I p H raw).1 ∧ Q (canonParse I p H raw).2.2 :=
  canonAfter_post I p _ (canonParseBase_np I p raw) hQ hc ha

theorem canonParseRef_post (I : Idna) (p : Profile) (raw ref : Bytes) (hQ : ∀ r, (∀ n, r ≠ .panic n) → Q r)
    (hc : ∀ H' i, P H' → Post P Q (canonicalize I p H' i)) {H : Heap} (h : P H)
    (ha : (canonParseBase I p raw).ret = .url →
      P (H.allocRes p.cfg (Impl.urlParse p.cfg I (canonParseBase I p raw).url ref)).1) :
    P (canonParseRef I p H raw ref).1 ∧ Q (canonParseRef I p H raw ref).2.2 := by
  rw [WhatwgUrl.Props.C18d.canonParseRef_eq]
  split
  · rename_i hb
    exact canonAfter_post I p _ (parse_np _ _ _ _) hQ hc (ha hb)
  · exact ⟨h, hQ _ (fun n hn => by cases hn)⟩
  · exact ⟨h, hQ _ (canonParseBase_np I p raw)⟩

end Canon

theorem parseRef_np (cfg : Cfg) (I : Idna) (raw ref : Bytes) : ∀ n, (Impl.parseRef cfg I raw ref).ret ≠ .panic n := by
  unfold Impl.parseRef
  split
  · exact parse_np _ _ _ _
  · dsimp only
    split
    · exact parse_np _ _ _ _
    · intro n hn; cases hn
    · rename_i other h1 h2
      intro n hn
      exact parse_np cfg I raw none n hn

/-- the heaps that the API can build from the empty heap, with arbitrary arguments (handles included); new objects are
    parsed with configurations satisfying `C`; `SetSearchParams(i, s)` is called on heaps/handles satisfying `V` -/
inductive HReachC (C : Cfg → Prop) (V : Heap → Nat → Nat → Prop) : Heap → Prop
  | empty : HReachC C V {}
  | parse {H : Heap} (cfg : Cfg) (I : Idna) (raw : Bytes) : C cfg → HReachC C V H →
      HReachC C V (H.allocRes cfg (Impl.parse cfg I raw)).1
  | parseRef {H : Heap} (cfg : Cfg) (I : Idna) (raw ref : Bytes) : C cfg → HReachC C V H →
      HReachC C V (H.allocRes cfg (Impl.parseRef cfg I raw ref)).1
  | set {H : Heap} (I : Idna) (i : Nat) (st : Setter) (v : Bytes) : HReachC C V H → HReachC C V (H.set I i st v).1
  | searchParams {H : Heap} (i : Nat) : HReachC C V H → HReachC C V (H.searchParams i).1
  | spMutate {H : Heap} (s : Nat) (m : SpMut) : HReachC C V H → HReachC C V (H.spMutate s m)
  | setSearchParams {H : Heap} (i s : Nat) : V H i s → HReachC C V H → HReachC C V (H.setSearchParams i s)
  | clone {H : Heap} (i : Nat) : HReachC C V H → HReachC C V (H.clone i).1
  | urlParse {H : Heap} (I : Idna) (i : Nat) (ref : Bytes) : HReachC C V H → HReachC C V (H.urlParse I i ref).1
  | canonicalize {H : Heap} (I : Idna) (p : Profile) (i : Nat) : HReachC C V H → HReachC C V (canonicalize I p H i).1
  | canonParse {H : Heap} (I : Idna) (p : Profile) (raw : Bytes) : C p.cfg → HReachC C V H →
      HReachC C V (canonParse I p H raw).1
  | canonParseRef {H : Heap} (I : Idna) (p : Profile) (raw ref : Bytes) : C p.cfg → HReachC C V H →
      HReachC C V (canonParseRef I p H raw ref).1

theorem HReachC.mono {C : Cfg → Prop} {V V' : Heap → Nat → Nat → Prop} (hV : ∀ H i s, V H i s → V' H i s) {H : Heap}
    (h : HReachC C V H) : HReachC C V' H := by
  induction h with
  | empty => exact .empty
  | parse cfg I raw hc _ ih => exact .parse cfg I raw hc ih
  | parseRef cfg I raw ref hc _ ih => exact .parseRef cfg I raw ref hc ih
  | set I i st v _ ih => exact .set I i st v ih
  | searchParams i _ ih => exact .searchParams i ih
  | spMutate s m _ ih => exact .spMutate s m ih
  | setSearchParams i s hv _ ih => exact .setSearchParams i s (hV _ _ _ hv) ih
  | clone i _ ih => exact .clone i ih
  | urlParse I i ref _ ih => exact .urlParse I i ref ih
  | canonicalize I p i _ ih => exact .canonicalize I p i ih
  | canonParse I p raw hc _ ih => exact .canonParse I p raw hc ih
  | canonParseRef I p raw ref hc _ ih => exact .canonParseRef I p raw ref hc ih

/-- the results the API hands to `allocRes` with options `cfg` on heap `H`: a fresh parse (options in `C`), a resolution
    against an object of the heap or against such a result, or anything that is not a url (nothing is allocated) -/
inductive Fresh (C : Cfg → Prop) (H : Heap) (cfg : Cfg) : Res → Prop
  | parse (I : Idna) (raw : Bytes) : C cfg → Fresh C H cfg (Impl.parse cfg I raw)
  | ofObj (I : Idna) (i : Nat) (uo : UrlObj) (ref : Bytes) : H.urls[i]? = some uo → uo.cfg = cfg →
      Fresh C H cfg (Impl.urlParse cfg I uo.u ref)
  | resolve (I : Idna) (ref : Bytes) {b : Res} : Fresh C H cfg b → b.ret = .url → Fresh C H cfg (Impl.urlParse cfg I b.url ref)
  | fail (r : Res) : r.ret ≠ .url → Fresh C H cfg r

theorem parseRef_fresh (H : Heap) (cfg : Cfg) (I : Idna) (raw ref : Bytes) (hC : C cfg) :
    Fresh C H cfg (Impl.parseRef cfg I raw ref) := by
  unfold Impl.parseRef
  split
  · exact .parse I ref hC
  · dsimp only
    split
    · next hb => exact .resolve I ref (.parse I raw hC) hb
    · exact .fail _ (by simp)
    · next other h1 h2 => exact .fail _ h1

theorem canonParseBase_fresh (H : Heap) (I : Idna) (p : Profile) (raw : Bytes) (hC : C p.cfg) :
    Fresh C H p.cfg (canonParseBase I p raw) := by
  unfold canonParseBase
  dsimp only
  split
  · split
    · exact .parse I _ hC
    · exact .parse I raw hC
  · exact .parse I raw hC

structure Stable (C : Cfg → Prop) (V : Heap → Nat → Nat → Prop) (P : Heap → Prop) : Prop where
  empty : P {}
  alloc : ∀ {H : Heap} {cfg : Cfg} {r : Res}, P H → Fresh C H cfg r → P (H.allocRes cfg r).1
  set : ∀ {H : Heap} (I : Idna) (i : Nat) (st : Setter) (v : Bytes), P H → P (H.set I i st v).1
  searchParams : ∀ {H : Heap} (i : Nat), P H → P (H.searchParams i).1
  spMutate : ∀ {H : Heap} (s : Nat) (m : SpMut), P H → P (H.spMutate s m)
  setSearchParams : ∀ {H : Heap} (i s : Nat), V H i s → P H → P (H.setSearchParams i s)
  clone : ∀ {H : Heap} (i : Nat), P H → P (H.clone i).1

namespace Stable
variable {V : Heap → Nat → Nat → Prop} {P : Heap → Prop}

theorem urlParse (hP : Stable C V P) {H : Heap} (I : Idna) (i : Nat) (ref : Bytes) (h : P H) : P (H.urlParse I i ref).1 := by
  unfold Heap.urlParse
  split
  · exact h
  · next uo ho => exact hP.alloc h (.ofObj I i uo ref ho rfl)

theorem canonicalize (hP : Stable C V P) {H : Heap} (I : Idna) (p : Profile) (i : Nat) (h : P H) : P (canonicalize I p H i).1 :=
  (canonicalize_post (Q := fun _ => True) I p i (fun _ _ => trivial) (fun _ st v h => ⟨hP.set I i st v h, trivial⟩)
    (fun _ h => hP.searchParams i h) (fun _ s m h => hP.spMutate s m h) h).1

theorem canonParse (hP : Stable C V P) {H : Heap} (I : Idna) (p : Profile) (raw : Bytes) (hC : C p.cfg) (h : P H) :
    P (canonParse I p H raw).1 :=
  (canonParse_post (Q := fun _ => True) I p raw (fun _ _ => trivial) (fun _ i h => ⟨hP.canonicalize I p i h, trivial⟩)
    (hP.alloc h (canonParseBase_fresh H I p raw hC))).1

theorem canonParseRef (hP : Stable C V P) {H : Heap} (I : Idna) (p : Profile) (raw ref : Bytes) (hC : C p.cfg) (h : P H) :
    P (canonParseRef I p H raw ref).1 :=
  (canonParseRef_post (Q := fun _ => True) I p raw ref (fun _ _ => trivial)
    (fun _ i h => ⟨hP.canonicalize I p i h, trivial⟩) h
    (fun hb => hP.alloc h (.resolve I ref (canonParseBase_fresh H I p raw hC) hb))).1

theorem reach (hP : Stable C V P) {H : Heap} (h : HReachC C V H) : P H := by
  induction h with
  | empty => exact hP.empty
  | parse cfg I raw hC _ ih => exact hP.alloc ih (.parse I raw hC)
  | parseRef cfg I raw ref hC _ ih => exact hP.alloc ih (parseRef_fresh _ cfg I raw ref hC)
  | set I i st v _ ih => exact hP.set I i st v ih
  | searchParams i _ ih => exact hP.searchParams i ih
  | spMutate s m _ ih => exact hP.spMutate s m ih
  | setSearchParams i s hv _ ih => exact hP.setSearchParams i s hv ih
  | clone i _ ih => exact hP.clone i ih
  | urlParse I i ref _ ih => exact hP.urlParse I i ref ih
  | canonicalize I p i _ ih => exact hP.canonicalize I p i ih
  | canonParse I p raw hC _ ih => exact hP.canonParse I p raw hC ih
  | canonParseRef I p raw ref hC _ ih => exact hP.canonParseRef I p raw ref hC ih

theorem steps (hP : Stable C V P) {H : Heap} (h : P H) :
    (∀ I i st v, P (H.set I i st v).1) ∧ (∀ i, P (H.searchParams i).1) ∧ (∀ s m, P (H.spMutate s m)) ∧
    (∀ i s, V H i s → P (H.setSearchParams i s)) ∧ (∀ i, P (H.clone i).1) ∧ (∀ I i ref, P (H.urlParse I i ref).1) ∧
    (∀ cfg I raw, C cfg → P (H.allocRes cfg (Impl.parse cfg I raw)).1) ∧
    (∀ cfg I raw ref, C cfg → P (H.allocRes cfg (Impl.parseRef cfg I raw ref)).1) ∧
    (∀ I p i, P (Impl.canonicalize I p H i).1) ∧
    (∀ I p raw, C p.cfg → P (Impl.canonParse I p H raw).1) ∧
    (∀ I p raw ref, C p.cfg → P (Impl.canonParseRef I p H raw ref).1) :=
  ⟨fun I i st v => hP.set I i st v h, fun i => hP.searchParams i h, fun s m => hP.spMutate s m h,
   fun i s hv => hP.setSearchParams i s hv h, fun i => hP.clone i h, fun I i ref => hP.urlParse I i ref h,
   fun _ I raw hC => hP.alloc h (.parse I raw hC), fun cfg I raw ref hC => hP.alloc h (parseRef_fresh _ cfg I raw ref hC),
   fun I p i => hP.canonicalize I p i h, fun I p raw hC => hP.canonParse I p raw hC h,
   fun I p raw ref hC => hP.canonParseRef I p raw ref hC h⟩

theorem and {P' : Heap → Prop} (h1 : Stable C V P) (h2 : Stable C V P') : Stable C V (fun H => P H ∧ P' H) where
  empty := ⟨h1.empty, h2.empty⟩
  alloc h f := ⟨h1.alloc h.1 f, h2.alloc h.2 f⟩
  set I i st v h := ⟨h1.set I i st v h.1, h2.set I i st v h.2⟩
  searchParams i h := ⟨h1.searchParams i h.1, h2.searchParams i h.2⟩
  spMutate s m h := ⟨h1.spMutate s m h.1, h2.spMutate s m h.2⟩
  setSearchParams i s hv h := ⟨h1.setSearchParams i s hv h.1, h2.setSearchParams i s hv h.2⟩
  clone i h := ⟨h1.clone i h.1, h2.clone i h.2⟩

theorem mono {V' : Heap → Nat → Nat → Prop} (hP : Stable C V P) (hV : ∀ H i s, V' H i s → V H i s) : Stable C V' P :=
  { hP with setSearchParams := fun i s hv h => hP.setSearchParams i s (hV _ i s hv) h }

theorem of_iff {P' : Heap → Prop} (hP : Stable C V P) (h : ∀ H, P' H ↔ P H) : Stable C V P' where
  empty := (h _).2 hP.empty
  alloc p f := (h _).2 (hP.alloc ((h _).1 p) f)
  set I i st v p := (h _).2 (hP.set I i st v ((h _).1 p))
  searchParams i p := (h _).2 (hP.searchParams i ((h _).1 p))
  spMutate s m p := (h _).2 (hP.spMutate s m ((h _).1 p))
  setSearchParams i s hv p := (h _).2 (hP.setSearchParams i s hv ((h _).1 p))
  clone i p := (h _).2 (hP.clone i ((h _).1 p))

end Stable

theorem fresh_rec (hR : RecInv R C) {H : Heap} (h : HInvR R H) {cfg : Cfg} {r : Res} (f : Fresh C H cfg r)
    (hr : r.ret = .url) : R cfg r.url := by
  induction f with
  | parse I raw hC => exact hR.parse I raw hC hr
  | ofObj I i uo ref ho hc => subst hc; exact hR.resolve I ref (h.1 i uo ho) hr
  | resolve I ref _ hb ih => exact hR.resolve I ref (ih hb) hr
  | fail r hne => exact absurd hr hne

theorem stable_inv (hR : RecInv R C) {V : Heap → Nat → Nat → Prop} : Stable C V (HInvR R) where
  empty := ⟨fun i o h => by simp at h, fun s so h => by simp at h⟩
  alloc h f := allocRes_inv _ _ h (fresh_rec hR h f)
  set I i st v h := set_inv hR I i st v h
  searchParams i h := searchParams_inv i h
  spMutate s m h := spMutate_inv hR s m h
  setSearchParams i s _ h := setSearchParams_inv hR i s h
  clone i h := clone_inv hR i h

theorem canonicalize_np (hR : RecInv R C) {H : Heap} (I : Idna) (p : Profile) (i : Nat) (h : HInvR R H) :
    ∀ n, (canonicalize I p H i).2 ≠ .panic n :=
  (canonicalize_post I p i (fun _ hr => hr) (fun _ st v h' => ⟨set_inv hR I i st v h', set_np hR I i st v h'⟩)
    (fun _ h' => searchParams_inv i h') (fun _ s m h' => spMutate_inv hR s m h') h).2

theorem canonParse_np (hR : RecInv R C) {H : Heap} (I : Idna) (p : Profile) (raw : Bytes) (hC : C p.cfg) (h : HInvR R H) :
    ∀ n, (canonParse I p H raw).2.2 ≠ .panic n :=
  (canonParse_post I p raw (fun _ hr => hr)
    (fun _ i h' => ⟨(stable_inv hR (V := fun _ _ _ => True)).canonicalize I p i h', canonicalize_np hR I p i h'⟩)
    ((stable_inv hR (V := fun _ _ _ => True)).alloc h (canonParseBase_fresh H I p raw hC))).2

theorem canonParseRef_np (hR : RecInv R C) {H : Heap} (I : Idna) (p : Profile) (raw ref : Bytes) (hC : C p.cfg)
    (h : HInvR R H) : ∀ n, (canonParseRef I p H raw ref).2.2 ≠ .panic n :=
  (canonParseRef_post I p raw ref (fun _ hr => hr)
    (fun _ i h' => ⟨(stable_inv hR (V := fun _ _ _ => True)).canonicalize I p i h', canonicalize_np hR I p i h'⟩) h
    (fun hb => (stable_inv hR (V := fun _ _ _ => True)).alloc h (.resolve I ref (canonParseBase_fresh H I p raw hC) hb))).2

theorem recInv_pathOk : RecInv (fun _ u => PathOk u) (fun _ => True) where
  pathOk h := h
  setter I s v h := setU_pathOk _ I s _ v h
  query q h := h
  ghost h := h
  resolve I ref h hr := parse_pathOk _ I ref (some _) (by intro b hb; cases hb; exact h) hr
  parse I raw _ hr := parse_pathOk _ I raw none (by intro b hb; cases hb) hr

end WhatwgUrl.Proofs.HeapInv
