import WhatwgUrl.Proofs.ReportingBase
import WhatwgUrl.Proofs.HostWF
/-
  C15: an invariant `IV` of the recorded list that is preserved by appending a NON-fatal entry is
  preserved along every run that does not return an error; and with `failOnVErr = false` every returned error is fatal.
  (`IV := all entries non-fatal` gives "recorded entries on success are non-fatal"; `IV := True` gives the second
  statement for an arbitrary initial url.)
-/
namespace WhatwgUrl.Proofs.Reporting
open WhatwgUrl WhatwgUrl.Impl WhatwgUrl.Proofs.Machine
open WhatwgUrl.Proofs.HostWF (ipv4AfterCount)

/-- `IV` need only survive appending a NON-fatal entry: after recording a fatal one the parser always returns -/
structure UH (c : Cfg) (IV : List VErr → Prop) : Prop where
  /-- only needed when fail mode is off: in fail mode no `handleError` call ever continues -/
  app : c.failOnVErr = false → ∀ v t, IV v → IV (v ++ [⟨t, false⟩])

/-- an `IV` that every recording establishes survives in particular the non-fatal appends -/
theorem UH.of_rec {c : Cfg} {IV : List VErr → Prop} (hrec : ∀ u t f, IV (record c u t f).verrs) : UH c IV :=
  ⟨fun _ v t _ => by
    cases hr : c.report
    · simpa [record, hr] using hrec { verrs := v ++ [⟨t, false⟩] } t false
    · simpa [record, hr] using hrec { verrs := v } t false⟩

/-- the two claims of C15 about one run, for a host-level result (`GoodH`) and a returned result (`GoodR`): on success the
    recorded list satisfies `IV`; out of fail mode a returned error is marked as a failure -/
def GoodH (c : Cfg) (IV : List VErr → Prop) (hr : HR) : Prop :=
  (∀ h, hr.out = .ok h → IV hr.url.verrs) ∧ (c.failOnVErr = false → ∀ e, hr.out = .err e → e.failure = true)

/-- the same two claims of a returned result -/
def GoodR (c : Cfg) (IV : List VErr → Prop) (x : Res) : Prop :=
  (x.ret = .url → IV x.url.verrs) ∧ (c.failOnVErr = false → ∀ e w, x.ret = .err e w → e.failure = true)

section
variable {c : Cfg} {IV : List VErr → Prop} (U : UH c IV)
include U

theorem UH.rcd (hs : stops c false = false) (u : Url) (t : ErrT) (h : IV u.verrs) : IV (record c u t false).verrs := by
  unfold record; split
  · exact U.app ((stops_false_iff c).1 hs) _ _ h
  · exact h

omit U in
theorem stops_fo (f : Bool) (h : stops c f = true) (hfo : c.failOnVErr = false) : f = true := by
  cases f <;> simp_all [stops]

omit U in
theorem GoodH_err (u : Url) (e : VErr) (h : c.failOnVErr = false → e.failure = true) : GoodH c IV ⟨u, .err e⟩ :=
  ⟨nofun, (by intro hfo e' h'; cases h'; exact h hfo)⟩

omit U in
theorem GoodH_ok (u : Url) (b : Bytes) (h : IV u.verrs) : GoodH c IV ⟨u, .ok b⟩ := ⟨fun _ _ => h, fun _ _ => nofun⟩

omit U in
theorem GoodH_panic (u : Url) (n : Nat) : GoodH c IV ⟨u, .panic n⟩ := ⟨nofun, fun _ _ => nofun⟩

omit U in
theorem GoodH_fatal (u : Url) (t : ErrT) : GoodH c IV ⟨u, .err ⟨t, true⟩⟩ := GoodH_err _ _ fun _ => rfl

theorem GoodH_hErr (u : Url) (t : ErrT) (f : Bool) (k : Url → HR) (hu : IV u.verrs)
    (hk : ∀ u', IV u'.verrs → GoodH c IV (k u')) : GoodH c IV (hErr c u t f k) := by
  unfold hErr
  split
  · rename_i hs
    exact GoodH_err _ _ (fun hfo => stops_fo f hs hfo)
  · rename_i hs
    obtain rfl : f = false := by cases f <;> simp_all [stops]
    exact hk _ (U.rcd (Bool.eq_false_iff.2 hs) _ _ hu)

theorem went_iv {u0 u : Url} (h : HostWF.Went c u0 u) (h0 : IV u0.verrs) : IV u.verrs := by
  induction h with
  | refl => exact h0
  | note t _ hs ih => exact U.rcd hs _ _ ih
  | log x _ ih => exact ih

theorem good_of_ends {Q : Bytes → Prop} {u0 : Url} {r : HR} (h : HostWF.Ends c Q u0 r) (h0 : IV u0.verrs) : GoodH c IV r := by
  unfold HostWF.Ends at h
  refine ⟨fun b hb => ?_, fun hfo e he => ?_⟩
  · rw [hb] at h; exact went_iv U h.1 h0
  · rw [he] at h; exact stops_fo _ h.2.2 hfo

/-! #### IPv4: the pieces the fail-mode comparison (`ReportingX`) speaks of -/

/-- the same two claims of the result of `parseIPv4Parts` -/
def PartsGood (c : Cfg) (IV : List VErr → Prop) (r : NumsR) : Prop :=
  (r.err = none → IV r.url.verrs) ∧ (c.failOnVErr = false → ∀ e, r.err = some e → e.failure = true)

theorem parseIPv4Parts_U (parts : List Bytes) (u : Url) (acc : List Nat) (h : IV u.verrs) :
    PartsGood c IV (parseIPv4Parts c u parts acc) := by
  have hp := HostWF.parseIPv4Parts_ends (cfg := c) (u0 := u) parts u acc .refl
  exact ⟨fun he => went_iv U (hp.1 he) h, fun hfo e he => stops_fo _ (hp.2 e he).2.2 hfo⟩

/-- what is claimed about the range warnings: the flag says that the non-fatal error was returned -/
def WarnGood (c : Cfg) (IV : List VErr → Prop) (w : Url × Bool) : Prop :=
  (w.2 = false → IV w.1.verrs) ∧ (c.failOnVErr = false → w.2 = false)

theorem ipv4RangeWarn_U (ns : List Nat) (u : Url) (h : IV u.verrs) : WarnGood c IV (ipv4RangeWarn c u ns) := by
  have hw := HostWF.ipv4RangeWarn_ends (cfg := c) (u0 := u) ns u .refl
  refine ⟨fun he => went_iv U (hw.2 he) h, fun hfo => ?_⟩
  cases hb : (ipv4RangeWarn c u ns).2 with
  | false => rfl
  | true => exact nomatch stops_fo _ (hw.1 hb).2 hfo

omit U in
theorem afterWarn_good (nums : List Nat) (w : Url × Bool) (hw : WarnGood c IV w) :
    GoodH c IV (HostWF.ipv4AfterWarn c nums w) := by
  unfold HostWF.ipv4AfterWarn
  split
  · rename_i h2
    exact GoodH_err _ _ fun hfo => by rw [hw.2 hfo] at h2; cases h2
  · rename_i h2
    split
    · exact GoodH_fatal _ _
    · split
      · exact GoodH_panic _ _
      · split
        · exact GoodH_fatal _ _
        · exact GoodH_ok _ _ (hw.1 (by simpa using h2))

theorem ipv4AfterCount_good (parts : List Bytes) (u : Url) (hp : PartsGood c IV (parseIPv4Parts c u parts [])) :
    GoodH c IV (ipv4AfterCount c parts u) := by
  unfold ipv4AfterCount
  dsimp only
  split
  · rename_i e he
    exact GoodH_err _ _ fun hfo => hp.2 hfo e he
  · rename_i he
    exact afterWarn_good _ _ (ipv4RangeWarn_U U _ _ (hp.1 he))

theorem ipv4AfterCount_U (parts : List Bytes) (u : Url) (hu : IV u.verrs) : GoodH c IV (ipv4AfterCount c parts u) :=
  ipv4AfterCount_good U parts u (parseIPv4Parts_U U parts u [] hu)

theorem opaqueLoop_U (i : Bytes) (rs : Str) (u : Url) (out : Bytes) (h : IV u.verrs) : GoodH c IV (opaqueLoop c i rs u out) :=
  good_of_ends U (HostWF.opaqueLoop_ends (Q := fun _ => True) i (fun _ => trivial) rs u out .refl fun _ => trivial) h

omit U in
theorem GoodR_url (u : Url) (h : IV u.verrs) : GoodR c IV ⟨u, .url⟩ :=
  ⟨(fun _ => h), (by intro _ e w h'; cases h')⟩

end

section
variable {c : Cfg} {IV : List VErr → Prop} (U : UH c IV) (I : Idna) (src : Bytes) (rs : Str) (base : Option Url)
  (ov : Option State)
include U

theorem body_U (ps : PS) (r : Char) (h : IV ps.url.verrs) :
    Sh (fun p => IV p.url.verrs) (GoodR c IV) (body ⟨c, I, src, rs, base, ov⟩ ps r) := by
  have hrec : ∀ u t, c.failOnVErr = false → IV u.verrs → IV (record c u t false).verrs :=
    fun u t hfo hu => U.rcd ((stops_false_iff c).2 hfo) u t hu
  have hph := fun u i ns hu => good_of_ends U (HostWF.parseHost_ends c I u i ns) hu
  unfold body
  split
  case' h_2 => cases base
  case' h_3 => cases base
  case' h_12 => cases base
  case' h_14 => cases base
  case' h_20 => cases base
  case' h_21 => cases base
  all_goals
    simp [stSchemeStart, stScheme, stNoScheme, stOpaquePath, stSpecialRelativeOrAuthority, stSpecialAuthoritySlashes,
      stSpecialAuthorityIgnoreSlashes, stPathOrAuthority, stAuthority, stFile, stFileHost, stFileSlash, stPort, stPathStart,
      stHost_eq, hostChar, stPath_eq, segEnd, stQuery_eq, stFragment, stRelative, stRelativeSlash, stops, Sh_unitChecks,
      Sh_afterHost, Sh_ite, Sh_herr, Sh_cont, Sh_done, Sh_retUrl, Sh_elim, GoodR, rewindLast, resetInput, rewind, writeRune,
      ite_url, next_fst, cleanDefaultPort_verrs, apply_ite Url.verrs, h]
  -- what is left: a `herr` that goes on has recorded a non-fatal entry with fail mode off (`hrec`); the three states
  -- that call the host parser go on from its url (`hph`)
  all_goals
    simp only [GoodH] at hph
    clear U
    grind

theorem step_U (ps : PS) (h : IV ps.url.verrs) :
    Sh (fun p => IV p.url.verrs) (GoodR c IV) (step ⟨c, I, src, rs, base, ov⟩ ps) := by
  refine (Sh_step _ ps).2 ((body_U U I src rs base ov _ _ (by rwa [next_fst])).mono (fun p hp => ?_) (fun _ hx => hx))
  exact (Owes_iff _).2 ⟨fun _ => GoodR_url _ hp, fun _ => hp⟩

theorem loop_U (fuel : Nat) (ps : PS) (h : IV ps.url.verrs) : GoodR c IV (loop ⟨c, I, src, rs, base, ov⟩ fuel ps) :=
  (loop_inv _ (step_U U I src rs base ov) fuel ps h).elim id fun ⟨_, _, he⟩ => he ▸ ⟨nofun, fun _ _ _ => nofun⟩

end

section
variable {c : Cfg} {IV : List VErr → Prop} (U : UH c IV) (I : Idna) (input : Bytes) (base url : Option Url) (ov : Option State)
include U

theorem basicParser_U (h : IV (url.getD {}).verrs) : GoodR c IV (basicParser c I input base url ov) := by
  rw [basicParser_eq]
  rcases prologue_cases_of c input url ov (fun u => IV u.verrs) h
    (fun u hu hs => U.rcd hs _ _ hu) with ⟨hs, u, -, hd⟩ | ⟨u, hu, hc⟩
  · rw [hd]
    exact ⟨nofun, fun hfo => nomatch stops_fo _ hs hfo⟩
  · rw [hc]
    exact loop_U U I _ _ base ov _ _ hu

end

end WhatwgUrl.Proofs.Reporting
