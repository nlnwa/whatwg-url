import WhatwgUrl.Proofs.IndepHist
/-
  C13b: histories on invalid handles, interleaved histories on two objects, and the heap that contains only the target.
-/
namespace WhatwgUrl.Proofs.IndepHist
open WhatwgUrl WhatwgUrl.Impl WhatwgUrl.Impl.Heap WhatwgUrl.Proofs

theorem applyOps_invalid (I : Idna) (H : Heap) (a : Nat) (ops : List Op) (ha : H.urls[a]? = none) :
    applyOps I H a ops = H := by
  induction ops with
  | nil => rfl
  | cons op ops ih => rw [applyOps_cons, applyOp_invalid I H a op ha]; exact ih

theorem applyOps_append (I : Idna) (H : Heap) (a : Nat) (l1 l2 : List Op) :
    applyOps I H a (l1 ++ l2) = applyOps I (applyOps I H a l1) a l2 := by
  unfold applyOps; rw [List.foldl_append]

theorem runV_append (I : Idna) (cfg : Cfg) (x : Url × Option Pairs) (l1 l2 : List Op) :
    runV I cfg x (l1 ++ l2) = runV I cfg (runV I cfg x l1) l2 := by
  unfold runV; rw [List.foldl_append]

/-- operations applied alternately to two objects: `(true, op)` goes to `a`, `(false, op)` to `b` -/
def applyBoth (I : Idna) (H : Heap) (a b : Nat) (l : List (Bool × Op)) : Heap :=
  l.foldl (fun H' so => applyOp I H' (if so.1 then a else b) so.2) H

def proj (side : Bool) (l : List (Bool × Op)) : List Op := (l.filter (·.1 == side)).map (·.2)

@[simp] theorem applyBoth_nil (I : Idna) (H : Heap) (a b : Nat) : applyBoth I H a b [] = H := rfl
@[simp] theorem applyBoth_cons (I : Idna) (H : Heap) (a b : Nat) (so : Bool × Op) (l : List (Bool × Op)) :
    applyBoth I H a b (so :: l) = applyBoth I (applyOp I H (if so.1 then a else b) so.2) a b l := rfl

theorem proj_cons_same (side : Bool) (op : Op) (l : List (Bool × Op)) : proj side ((side, op) :: l) = op :: proj side l := by
  simp [proj]

theorem proj_cons_other (side : Bool) (op : Op) (l : List (Bool × Op)) : proj side ((!side, op) :: l) = proj side l := by
  cases side <;> simp [proj]

theorem both (I : Idna) (l : List (Bool × Op)) : ∀ {H : Heap} {a b : Nat} {ca cb : Cfg} {xa xb : Url × Option Pairs},
    Separated H a b → Loc H a ca xa → Loc H b cb xb →
    Separated (applyBoth I H a b l) a b ∧ Loc (applyBoth I H a b l) a ca (runV I ca xa (proj true l)) ∧
      Loc (applyBoth I H a b l) b cb (runV I cb xb (proj false l)) := by
  induction l with
  | nil => intro H a b ca cb xa xb hsep ha hb; exact ⟨hsep, ha, hb⟩
  | cons so l ih =>
    intro H a b ca cb xa xb hsep ha hb
    obtain ⟨side, op⟩ := so
    cases side with
    | true =>
      obtain ⟨f1, l1⟩ := step_op I op ha
      have hb1 := frame_loc f1 hsep hb
      have hsep1 := (frame_inv f1 hsep hb.ownSp hb.lt).2.1
      have := ih hsep1 l1 hb1
      rw [applyBoth_cons]
      simp only [if_true]
      rw [proj_cons_same true, show proj false ((true, op) :: l) = proj false l from proj_cons_other false op l]
      exact this
    | false =>
      obtain ⟨f1, l1⟩ := step_op I op hb
      have ha1 := frame_loc f1 hsep.symm ha
      have hsep1 := (frame_inv f1 hsep.symm ha.ownSp ha.lt).2.1.symm
      have := ih hsep1 ha1 l1
      rw [applyBoth_cons]
      simp only [Bool.false_eq_true, if_false]
      rw [proj_cons_same false, show proj true ((false, op) :: l) = proj true l from proj_cons_other true op l]
      exact this

/-- a heap with one object (value `x.1`, options `cfg`) and, if `x.2 = some l`, its own list `l` -/
def solo (cfg : Cfg) (x : Url × Option Pairs) : Heap :=
  match x.2 with
  | none => { urls := [{ u := x.1, sp := none, cfg := cfg }], sps := [] }
  | some l => { urls := [{ u := x.1, sp := some 0, cfg := cfg }], sps := [{ url := some 0, params := l }] }

theorem solo_loc (cfg : Cfg) (x : Url × Option Pairs) : Loc (solo cfg x) 0 cfg x := by
  obtain ⟨u, p⟩ := x
  cases p with
  | none => exact ⟨_, rfl, rfl, rfl, Or.inl ⟨rfl, rfl⟩⟩
  | some l => exact ⟨_, rfl, rfl, rfl, Or.inr ⟨0, _, rfl, rfl, rfl, rfl⟩⟩

end WhatwgUrl.Proofs.IndepHist
