import WhatwgUrl.Proofs.Lifting
import WhatwgUrl.Proofs.WellFormed
/-
  C03c: host provenance.  Whatever the machine stores in `url.host` is the empty host, a host of
  the base url, or a successful output of the host parser (in the file host state: with `localhost` mapped to the empty
  host).  So a predicate `V` that holds for `[]` and for every successful output of `parseHost` holds for the host of every
  url the parser leaves behind — any configuration, any oracle, any state override (setters), any way of returning.
-/
namespace WhatwgUrl.Proofs.RTcInv
open WhatwgUrl WhatwgUrl.Impl WhatwgUrl.Proofs.HostWF WhatwgUrl.Proofs.Machine

/-- the host, if any, satisfies `V`; a predicate of the field, so that in `body_h` a leaf that leaves the host alone is the
    hypothesis word for word and `simp` closes it (written out as `∀ h, … → V h` it would not) -/
def HV (V : Bytes → Prop) (o : Option Bytes) : Prop := ∀ h, o = some h → V h

def HostAll (V : Bytes → Prop) (u : Url) : Prop := HV V u.host

theorem HostAll_of_host {V : Bytes → Prop} {u u' : Url} (h : u'.host = u.host) (hu : HostAll V u) : HostAll V u' := by
  unfold HostAll at *; rw [h]; exact hu

theorem HostAll_iff (V : Bytes → Prop) (u : Url) : HostAll V u ↔ HV V u.host := Iff.rfl
theorem HV_some (V : Bytes → Prop) (h : Bytes) : HV V (some h) ↔ V h := by simp [HV]

/-- `HostAll V` of a machine state's url and of a result's url: the two predicates of `Sh` -/
def PH (V : Bytes → Prop) (ps : PS) : Prop := HostAll V ps.url
def DH (V : Bytes → Prop) (x : Res) : Prop := HostAll V x.url

/-- the states whose row of `Machine.writes` (Effect.lean) contains `.host` (`hostW_of_writes`) -/
def hostW : State → Bool
  | .host | .hostname | .fileHost | .file | .fileSlash | .relative | .relativeSlash => true
  | _ => false

theorem hostW_of_writes (ov : Bool) (s : State) : Field.host ∈ writes ov s → hostW s = true := by
  cases ov <;> cases s <;> decide

theorem body_h (V : Bytes → Prop) (e : Env) (h0 : V [])
    (hV : ∀ (u : Url) (buf : Bytes) (ns : Bool) (b : Bytes), (parseHost e.cfg e.I u buf ns).out = .ok b → V b)
    (hbV : ∀ b, e.base = some b → HostAll V b) (q : PS) (r : Char) (hrepl : q.eof = true → r = repl) (hP : HostAll V q.url) :
    Sh (PH V) (DH V) (body e q r) := by
  by_cases hw : Field.host ∈ writes e.ov.isSome q.state
  case neg =>
    exact (body_eff e q r fun _ => hrepl).mono (fun _ h' => HostAll_of_host (h'.2.2.2 .host hw) hP)
      (fun _ h' => HostAll_of_host (h'.2.2 .host hw) hP)
  replace hw := hostW_of_writes _ _ hw
  rw [HostAll_iff] at hP
  unfold body
  split <;> rename_i hst <;> simp [hst, hostW] at hw
  case h_10 | h_11 =>
    simp [stHost_eq, hostChar, Sh_elim, Sh_afterHost, Sh_ite, Sh_herr, Sh_cont, Sh_done, Sh_retUrl, PH, DH, HostAll_iff,
      rewindLast, writeRune, ite_url, record_eq, parseHost_host, hP, HV_some]
    all_goals grind
  all_goals
    cases hb : e.base
  all_goals
    try simp only [hb, reduceCtorEq, false_implies, implies_true, Option.some.injEq, forall_eq', HostAll_iff] at hbV
    simp [stFile, stFileHost, stFileSlash, stRelative, stRelativeSlash, Sh_afterHost, Sh_ite, Sh_herr, Sh_cont, Sh_done, Sh_retUrl,
      PH, DH, HostAll_iff, rewindLast, writeRune, ite_url, record_eq,
      parseHost_host, HV_some, hb, hP, hbV, h0]
    try grind

theorem basicParser_hostAll (V : Bytes → Prop) (cfg : Cfg) (I : Idna) (input : Bytes) (base url : Option Url) (ov : Option State)
    (h0 : V []) (hV : ∀ (u : Url) (buf : Bytes) (ns : Bool) (b : Bytes), (parseHost cfg I u buf ns).out = .ok b → V b)
    (hbV : ∀ b, base = some b → HostAll V b) (hu : HostAll V (url.getD {})) :
    HostAll V (basicParser cfg I input base url ov).url := by
  have hr : ∀ u, Same (url.getD {}) u → HostAll V u := fun u h => HostAll_of_host h.host hu
  exact basicParser_of_inv (P := PH V) (D := DH V) cfg I input base url ov (fun _ u h => hr _ h.record)
    (fun _ _ _ h => h) (fun ps q r hp R => body_h V _ h0 hV hbV q r R.repl hp) (fun _ h => h) hr

/-! ### two tactics that nothing calls

The `ShF_*` names they mention are not declared; they cannot be invoked. -/

theorem cdp_host' (cfg : Cfg) (u : Url) : (cleanDefaultPort cfg u).host = u.host := cleanDefaultPort_host cfg u

macro "ha_leaf" : tactic => `(tactic|
  (simp_all [PH, DH, HostAll, rewindLast, resetInput, rewind, writeRune, next_state, WhatwgUrl.Proofs.Frame.next_url,
     record_host', cdp_host', parseHost_host, Path.setOpaque, Path.addSegment, Path.init]))

macro "ha_step" hV:ident : tactic => `(tactic| first
  | dsimp only
  | ((with_reducible apply ShF_done); ha_leaf; done)
  | ((with_reducible apply ShF_retUrl); ha_leaf; done)
  | ((with_reducible apply ShF_herr_true); ha_leaf; done)
  | ((with_reducible apply ShF_ite) <;> intro _)
  | (with_reducible refine ShF_herr _ _ _ _ _ _ _ (by ha_leaf) ?_)
  | ((with_reducible refine ShF_afterHost_ok _ _ _ _ _ (by intro _; ha_leaf) ?_); intro b hb; have hvb := $hV _ _ _ b hb)
  | split
  | ((with_reducible apply ShF_cont); ha_leaf; done))

end WhatwgUrl.Proofs.RTcInv
