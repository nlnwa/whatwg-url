import WhatwgUrl.Impl.Percent
import WhatwgUrl.Spec.Basic
import WhatwgUrl.Proofs.Utf8
/-
  The percent codec: bit-level facts for `PSet.set` / `PSet.clear`; tables decided on the ASCII code points; the percent
  decoders by their three equations; the standard's encoder against its decoder (C10).
-/
namespace WhatwgUrl

/-- membership in a list of inclusive ranges (the form in which tables are regenerated from the Go code) -/
def inRanges (rs : List (Nat × Nat)) (c : Nat) : Bool := rs.any fun r => r.1 ≤ c && c ≤ r.2

end WhatwgUrl

namespace WhatwgUrl.Proofs.Percent
open WhatwgUrl WhatwgUrl.Impl

theorem set_has (p : PSet) (b c : Nat) : (p.set b).has c = (p.has c || c == b) := by
  simp only [PSet.has, PSet.set, Nat.testBit_or, Nat.one_shiftLeft, Nat.testBit_two_pow]
  simp only [Bool.or_assoc]
  congr 3
  by_cases h : c = b
  · simp [h]
  · have : ¬ b = c := fun e => h e.symm
    simp [h, this]

theorem odd_pred_testBit (a k : Nat) (ha : a % 2 = 1) : (a - 1).testBit k = (a.testBit k && k != 0) := by
  cases k with
  | zero => simp [Nat.testBit_zero]; omega
  | succ k =>
    simp only [Nat.testBit_succ]
    have : (a - 1) / 2 = a / 2 := by omega
    simp [this]

theorem testBit_sub_two_pow (x b c : Nat) (h : x.testBit b = true) :
    (x - 2 ^ b).testBit c = (x.testBit c && c != b) := by
  have hx : x = 2 ^ b * (x / 2 ^ b) + x % 2 ^ b := (Nat.div_add_mod x (2 ^ b)).symm
  have hr : x % 2 ^ b < 2 ^ b := Nat.mod_lt _ (Nat.two_pow_pos b)
  have hodd : (x / 2 ^ b) % 2 = 1 := by
    have := Nat.testBit_eq_decide_div_mod_eq (x := x) (i := b)
    rw [h] at this; simpa using this.symm
  have hsub : x - 2 ^ b = 2 ^ b * (x / 2 ^ b - 1) + x % 2 ^ b := by
    rw [Nat.mul_sub_one]
    generalize x / 2 ^ b = a at *
    have h1 : 1 ≤ a := by omega
    have h2 : 2 ^ b * 1 ≤ 2 ^ b * a := Nat.mul_le_mul_left _ h1
    generalize 2 ^ b * a = m at *
    generalize x % 2 ^ b = r at *
    omega
  rw [hsub]
  conv => rhs; rw [hx]
  rw [Nat.testBit_two_pow_mul_add _ hr, Nat.testBit_two_pow_mul_add _ hr]
  by_cases hcb : c < b
  · have : c ≠ b := by omega
    simp [hcb, this]
  · simp only [hcb, ↓reduceIte]
    rw [odd_pred_testBit _ _ hodd]
    congr 1
    by_cases h2 : c = b
    · simp [h2]
    · have : c - b ≠ 0 := by omega
      rw [bne_iff_ne.mpr this, bne_iff_ne.mpr h2]

@[simp] theorem set_allBelow (p : PSet) (b : Nat) : (p.set b).allBelow = p.allBelow := rfl
@[simp] theorem clear_allBelow (p : PSet) (b : Nat) : (p.clear b).allBelow = p.allBelow := rfl

theorem clear_testBit (p : PSet) (b c : Nat) : (p.clear b).bits.testBit c = (p.bits.testBit c && c != b) := by
  simp only [PSet.clear]
  by_cases h : p.bits.testBit b = true
  · simp only [h, ↓reduceIte, Nat.one_shiftLeft, testBit_sub_two_pow _ _ _ h]
  · simp only [h]
    by_cases e : c = b
    · subst e; simp [h]
    · rw [bne_iff_ne.mpr e, Bool.and_true]; rfl

theorem clear_has (p : PSet) (b c : Nat) :
    (p.clear b).has c = (c < p.allBelow || c > 0x7E || (p.bits.testBit c && c != b)) := by
  rw [PSet.has, clear_testBit]; rfl

theorem hexDigit16 : ∀ d : Fin 16,
    isHexN (hexUpper d.val).toNat = true ∧ hexVal (hexUpper d.val).toNat = d.val ∧
    utf8Char (bc (hexUpper d.val)) = [hexUpper d.val] ∧ isLowerN (bc (hexUpper d.val)).toNat = false ∧
    isHexN (bc (hexUpper d.val)).toNat = true := by
  decide

/-- the byte an escape `%h1h2` stands for -/
def hexByte (h1 h2 : UInt8) : UInt8 := (hexVal h1.toNat * 16 + hexVal h2.toNat).toUInt8

theorem hex_roundtrip (x : UInt8) :
    isHexN (hexUpper (x.toNat / 16)).toNat = true ∧ isHexN (hexUpper (x.toNat % 16)).toNat = true ∧
    hexByte (hexUpper (x.toNat / 16)) (hexUpper (x.toNat % 16)) = x := by
  have hx := x.toNat_lt
  have a := hexDigit16 ⟨x.toNat / 16, by omega⟩
  have b := hexDigit16 ⟨x.toNat % 16, by omega⟩
  refine ⟨a.1, b.1, ?_⟩
  rw [hexByte, a.2.1, b.2.1]
  apply UInt8.toNat_inj.mp
  simp
  omega

theorem isHexN_lt {c : Nat} (h : isHexN c = true) : c < 0x80 := by
  simp [isHexN, isDigitN] at h
  omega

/-! ### a table that is full above 0x7E is decided on the 128 ASCII code points -/

theorem has_lift (p : PSet) (f : Nat → Bool)
    (hf : ∀ c, c > 0x7E → f c = true)
    (h : ∀ i : Fin 128, p.has i.val = f i.val) : ∀ c, p.has c = f c := by
  intro c
  by_cases hc : c < 128
  · exact h ⟨c, hc⟩
  · have : c > 0x7E := by omega
    rw [hf c this]
    simp [PSet.has, this]

/-- `hlast`: the last range the table generator emits for such a set covers everything above the ASCII code points -/
theorem inRanges_lift (rs : List (Nat × Nat)) (f : Nat → Bool)
    (hlast : (0x7f, 0x10ffff) ∈ rs) (hf : ∀ c, c > 0x7E → f c = true)
    (h : ∀ i : Fin 128, inRanges rs i.val = f i.val) : ∀ c, c ≤ 0x10ffff → inRanges rs c = f c := by
  intro c hc
  by_cases h128 : c < 128
  · exact h ⟨c, h128⟩
  · have hgt : c > 0x7E := by omega
    rw [hf c hgt]
    unfold inRanges
    rw [List.any_eq_true]
    exact ⟨(0x7f, 0x10ffff), hlast, by simp; omega⟩

open Utf8 (utf8_cons utf8Char_ascii utf8Char_high)
@[simp] theorem utf8_nil : utf8 [] = [] := rfl
theorem utf8_append (a b : Str) : utf8 (a ++ b) = utf8 a ++ utf8 b := by simp [utf8]
theorem utf8_snoc (s : Str) (c : Char) : utf8 s ++ utf8Char c = utf8 (s ++ [c]) := by simp [utf8]

theorem utf8Char_ne_nil (c : Char) : utf8Char c ≠ [] := String.utf8EncodeChar_ne_nil

theorem utf8Char_pct : utf8Char '%' = [0x25] := by decide

theorem char_ne_of_toNat {r c : Char} (h : r ≠ c) : r.toNat ≠ c.toNat :=
  fun e => h (by rw [← Char.ofNat_toNat r, e, Char.ofNat_toNat])

theorem utf8Char_ne_pct (c : Char) (h : c ≠ '%') : ∀ b ∈ utf8Char c, b ≠ 0x25 := by
  intro b hb e
  by_cases hc : c.toNat < 0x80
  · rw [utf8Char_ascii c hc] at hb
    simp at hb
    have h1 : c.toNat ≠ 0x25 := char_ne_of_toNat h
    have : b.toNat = c.toNat := by rw [hb]; simp; omega
    rw [e] at this
    simp at this
    omega
  · have := utf8Char_high c (by omega) b hb
    rw [e] at this
    simp at this

theorem utf8Char_hex (c : Char) (h : isHexN c.toNat = true) :
    utf8Char c = [c.toNat.toUInt8] ∧ isHexN (c.toNat.toUInt8).toNat = true := by
  have hlt := isHexN_lt h
  refine ⟨utf8Char_ascii c hlt, ?_⟩
  have : (c.toNat.toUInt8).toNat = c.toNat := by simp; omega
  rw [this]; exact h

theorem utf8Char_nonhex_head (c : Char) (h : isHexN c.toNat = false) :
    ∃ x t, utf8Char c = x :: t ∧ isHexN x.toNat = false := by
  by_cases hc : c.toNat < 0x80
  · refine ⟨c.toNat.toUInt8, [], utf8Char_ascii c hc, ?_⟩
    have : (c.toNat.toUInt8).toNat = c.toNat := by simp; omega
    rw [this]; exact h
  · match e : utf8Char c with
    | [] => exact absurd e (utf8Char_ne_nil c)
    | x :: t =>
      refine ⟨x, t, rfl, ?_⟩
      have := utf8Char_high c (by omega) x (by rw [e]; simp)
      exact Bool.eq_false_iff.mpr fun e => by have := isHexN_lt e; omega

/-- the standard's UTF-8 percent-encoding of one code point, as bytes -/
def encBytes (set : Nat → Bool) (c : Char) : Bytes :=
  if set c.toNat then (utf8Char c).flatMap pctByte else utf8Char c

theorem encBytes_of_mem (set : Nat → Bool) (c : Char) (h : set c.toNat = true) :
    encBytes set c = (utf8Char c).flatMap pctByte := by simp [encBytes, h]
theorem encBytes_of_not_mem (set : Nat → Bool) (c : Char) (h : set c.toNat = false) :
    encBytes set c = utf8Char c := by simp [encBytes, h]

theorem utf8_flatMap_pe (bs : Bytes) : utf8 (bs.flatMap Spec.percentEncodeByte) = bs.flatMap pctByte := by
  induction bs with
  | nil => rfl
  | cons x t ih =>
    have hx := x.toNat_lt
    have a := hexDigit16 ⟨x.toNat / 16, by omega⟩
    have b := hexDigit16 ⟨x.toNat % 16, by omega⟩
    have e : utf8 (Spec.percentEncodeByte x) = pctByte x := by
      simp [utf8, Spec.percentEncodeByte, pctByte, a.2.2.1, b.2.2.1, utf8Char_pct]
    simp only [List.flatMap_cons, utf8_append, e, ih]

theorem utf8_encodeCp (set : Nat → Bool) (c : Char) : utf8 (Spec.utf8PercentEncodeCp set c) = encBytes set c := by
  unfold Spec.utf8PercentEncodeCp encBytes
  cases set c.toNat
  · simp [utf8]
  · simp [utf8_flatMap_pe]

theorem utf8_encode (set : Nat → Bool) (s : Str) :
    utf8 (Spec.utf8PercentEncode set s) = s.flatMap (encBytes set) := by
  induction s with
  | nil => rfl
  | cons c t ih =>
    simp only [Spec.utf8PercentEncode, List.flatMap_cons, utf8_append, utf8_encodeCp] at ih ⊢
    rw [ih]

theorem encBytes_pct (set : Nat → Bool) (hp : set 0x25 = false) : encBytes set '%' = [0x25] := by
  have : ('%' : Char).toNat = 0x25 := rfl
  simp [encBytes, this, hp, utf8Char_pct]

theorem encBytes_nonhex_head (set : Nat → Bool) (c : Char) (h : isHexN c.toNat = false) :
    ∃ x t, encBytes set c = x :: t ∧ isHexN x.toNat = false := by
  obtain ⟨x, t, e, hx⟩ := utf8Char_nonhex_head c h
  unfold encBytes
  cases set c.toNat
  · exact ⟨x, t, by simpa using e, hx⟩
  · refine ⟨0x25, _, by simp [e, pctByte]; rfl, by decide⟩

end WhatwgUrl.Proofs.Percent

namespace WhatwgUrl.Proofs.Domain
open WhatwgUrl

/-- two hex digits follow: after a `%`, an escape.  The name belongs to the host-level vocabulary of `Domain.lean`; the
    definition stands here because the decoder equations below are stated with it. -/
def hex2 : Bytes → Bool
  | h1 :: h2 :: _ => isHexN h1.toNat && isHexN h2.toNat
  | _ => false

end WhatwgUrl.Proofs.Domain

namespace WhatwgUrl.Proofs.Percent
open WhatwgUrl WhatwgUrl.Impl
open WhatwgUrl.Proofs.Domain (hex2)
open WhatwgUrl.Proofs.Utf8 (utf8_cons)

/-! ### the percent decoders

  `Spec.percentDecode` and the Go decoder `decodePercent cfg` obey the same three equations — nothing, an escape, a byte
  that starts no escape — and `esc_induction` is the induction that goes with them; the canonicalizer's `canonDecode`
  (`Proofs/Canon.lean`) is `Spec.percentDecode`. -/

/-- a byte that is no hex digit, among the next two, rules an escape out -/
theorem hex2_append_nonhex (p : Bytes) {c : UInt8} (r : Bytes) (hc : isHexN c.toNat = false) :
    hex2 (p ++ c :: r) = hex2 p := by
  match p with
  | [] => cases r <;> simp [hex2, hc]
  | [a] => simp [hex2, hc]
  | _ :: _ :: _ => rfl

/-- what the Go decoder emits for the escape `%h1h2`: the byte, or under an encoding override the UTF-8 of the character
    it maps to -/
def escBytes (cfg : Cfg) (h1 h2 : UInt8) : Bytes :=
  match cfg.encOverride with
  | some cm => utf8Char (cm.dec (hexByte h1 h2))
  | none => [hexByte h1 h2]

theorem escBytes_none {cfg : Cfg} (h : cfg.encOverride = none) (h1 h2 : UInt8) : escBytes cfg h1 h2 = [hexByte h1 h2] := by
  unfold escBytes; rw [h]

theorem escBytes_ne_nil (cfg : Cfg) (h1 h2 : UInt8) : escBytes cfg h1 h2 ≠ [] := by
  unfold escBytes; split
  · exact utf8Char_ne_nil _
  · exact List.cons_ne_nil _ _

private theorem not_esc_cond {x a b : UInt8} {r : Bytes} (h : ¬(x = 0x25 ∧ hex2 (a :: b :: r) = true)) :
    (x == 0x25 && isHexN a.toNat && isHexN b.toNat) = false := by
  rw [Bool.eq_false_iff]; intro hc
  simp only [Bool.and_eq_true, beq_iff_eq] at hc
  exact h ⟨hc.1.1, by simp only [hex2, hc.1.2, hc.2, Bool.and_self]⟩

theorem esc_induction {P : Bytes → Prop} (nil : P [])
    (esc : ∀ h1 h2 r, isHexN h1.toNat = true → isHexN h2.toNat = true → P r → P (0x25 :: h1 :: h2 :: r))
    (plain : ∀ x r, ¬(x = 0x25 ∧ hex2 r = true) → P r → P (x :: r)) : ∀ s, P s := by
  have : ∀ n (s : Bytes), s.length ≤ n → P s := by
    intro n
    induction n with
    | zero => intro s h; rw [List.length_eq_zero_iff.mp (Nat.le_zero.mp h)]; exact nil
    | succ n ih =>
      intro s h
      match s, h with
      | [], _ => exact nil
      | x :: r, h =>
        by_cases hx : x = 0x25 ∧ hex2 r = true
        · match r, hx, h with
          | h1 :: h2 :: r', ⟨hx, h2'⟩, h =>
            subst hx
            simp only [hex2, Bool.and_eq_true] at h2'
            exact esc h1 h2 r' h2'.1 h2'.2 (ih r' (by simp only [List.length_cons] at h; omega))
        · exact plain x r hx (ih r (by simp only [List.length_cons] at h; omega))
  exact fun s => this s.length s (Nat.le_refl _)

@[simp] theorem decodePercent_nil (cfg : Cfg) : decodePercent cfg [] = [] := by rw [decodePercent]

theorem decodePercent_esc (cfg : Cfg) (h1 h2 : UInt8) (r : Bytes) (a : isHexN h1.toNat = true) (b : isHexN h2.toNat = true) :
    decodePercent cfg (0x25 :: h1 :: h2 :: r) = escBytes cfg h1 h2 ++ decodePercent cfg r := by
  rw [decodePercent.eq_2, a, b]; rfl

theorem decodePercent_cons_of_not (cfg : Cfg) (x : UInt8) (r : Bytes) (h : ¬(x = 0x25 ∧ hex2 r = true)) :
    decodePercent cfg (x :: r) = x :: decodePercent cfg r := by
  match r, h with
  | [], _ => rw [decodePercent.eq_3]; intro _ _ _ h; cases h
  | [a], _ => rw [decodePercent.eq_3]; intro _ _ _ h; cases h
  | a :: b :: r', h => rw [decodePercent.eq_2, not_esc_cond h]; rfl

theorem decodePercent_cons_ne (cfg : Cfg) (x : UInt8) (r : Bytes) (h : x ≠ 0x25) :
    decodePercent cfg (x :: r) = x :: decodePercent cfg r := decodePercent_cons_of_not cfg x r fun hh => h hh.1

theorem decodePercent_congr {c1 c2 : Cfg} (h : c1.encOverride = c2.encOverride) : decodePercent c1 = decodePercent c2 := by
  funext s
  induction s using esc_induction with
  | nil => rw [decodePercent_nil, decodePercent_nil]
  | esc h1 h2 r a b ih => rw [decodePercent_esc _ _ _ _ a b, decodePercent_esc _ _ _ _ a b, ih, escBytes, escBytes, h]
  | plain x r hx ih => rw [decodePercent_cons_of_not _ _ _ hx, decodePercent_cons_of_not _ _ _ hx, ih]

theorem percentEncodeRune_congr {c1 c2 : Cfg} (h : c1.encOverride = c2.encOverride) :
    percentEncodeRune c1 = percentEncodeRune c2 := by
  funext tr r; simp only [percentEncodeRune, runeBytes, h]

theorem percentEncodeString_congr {c1 c2 : Cfg} (h : c1.encOverride = c2.encOverride) (hp : c1.pctSingle = c2.pctSingle) :
    percentEncodeString c1 = percentEncodeString c2 := by
  funext tr s
  unfold percentEncodeString
  induction goRunes s with
  | nil => rfl
  | cons y rest ih => simp only [pesRunes, ih, hp, percentEncodeRune_congr h]

theorem decodePercent_ne_nil (cfg : Cfg) (s : Bytes) (h : s ≠ []) : decodePercent cfg s ≠ [] := by
  induction s using esc_induction with
  | nil => exact absurd rfl h
  | esc h1 h2 r a b _ =>
    rw [decodePercent_esc _ _ _ _ a b]; exact fun e => escBytes_ne_nil cfg h1 h2 (List.append_eq_nil_iff.mp e).1
  | plain x r hx _ => rw [decodePercent_cons_of_not _ _ _ hx]; exact List.cons_ne_nil _ _

theorem decodePercent_no_pct (cfg : Cfg) (s : Bytes) (h : (0x25 : UInt8) ∉ s) : decodePercent cfg s = s := by
  induction s with
  | nil => exact decodePercent_nil cfg
  | cons x xs ih =>
    rw [decodePercent_cons_ne cfg x xs (fun e => h (e ▸ List.mem_cons_self)), ih (fun hm => h (List.mem_cons_of_mem _ hm))]

@[simp] theorem percentDecode_nil : Spec.percentDecode [] = [] := by rw [Spec.percentDecode]

theorem percentDecode_esc (h1 h2 : UInt8) (r : Bytes) (a : isHexN h1.toNat = true) (b : isHexN h2.toNat = true) :
    Spec.percentDecode (0x25 :: h1 :: h2 :: r) = hexByte h1 h2 :: Spec.percentDecode r := by
  rw [Spec.percentDecode.eq_2, a, b]; rfl

theorem percentDecode_cons_of_not (x : UInt8) (r : Bytes) (h : ¬(x = 0x25 ∧ hex2 r = true)) :
    Spec.percentDecode (x :: r) = x :: Spec.percentDecode r := by
  match r, h with
  | [], _ => rw [Spec.percentDecode.eq_3]; intro _ _ _ h; cases h
  | [a], _ => rw [Spec.percentDecode.eq_3]; intro _ _ _ h; cases h
  | a :: b :: r', h => rw [Spec.percentDecode.eq_2, not_esc_cond h]; rfl

theorem percentDecode_length_le (s : Bytes) : (Spec.percentDecode s).length ≤ s.length := by
  induction s using esc_induction with
  | nil => simp
  | esc h1 h2 r a b ih => rw [percentDecode_esc _ _ _ a b]; simp only [List.length_cons]; omega
  | plain x r hx ih => rw [percentDecode_cons_of_not _ _ hx]; simp only [List.length_cons]; omega

/-- a text the decoder changes holds a complete escape, so it loses two bytes at least -/
theorem percentDecode_shortens (s : Bytes) (h : Spec.percentDecode s ≠ s) :
    (Spec.percentDecode s).length + 2 ≤ s.length := by
  induction s using esc_induction with
  | nil => exact absurd percentDecode_nil h
  | esc h1 h2 r a b _ =>
    have := percentDecode_length_le r
    rw [percentDecode_esc _ _ _ a b]; simp only [List.length_cons]; omega
  | plain x r hx ih =>
    rw [percentDecode_cons_of_not _ _ hx] at h ⊢
    have := ih fun e => h (by rw [e])
    simp only [List.length_cons]; omega

theorem percentDecode_fix_cons (x : UInt8) (p : Bytes) (h : Spec.percentDecode (x :: p) = x :: p) :
    Spec.percentDecode p = p ∧ ¬(x = 0x25 ∧ hex2 p = true) := by
  have hh : ¬(x = 0x25 ∧ hex2 p = true) := fun hh => by
    match p, hh with
    | h1 :: h2 :: r, ⟨hx, h2'⟩ =>
      simp only [hex2, Bool.and_eq_true] at h2'
      rw [hx, percentDecode_esc _ _ _ h2'.1 h2'.2] at h
      have hl := congrArg List.length h
      have := percentDecode_length_le r
      simp only [List.length_cons] at hl; omega
  rw [percentDecode_cons_of_not x p hh] at h
  exact ⟨List.tail_eq_of_cons_eq h, hh⟩

theorem decodePercent_eq_percentDecode (cfg : Cfg) (s : Bytes)
    (h : ∀ cm, cfg.encOverride = some cm → ∀ b ∈ Spec.percentDecode s, utf8Char (cm.dec b) = [b]) :
    decodePercent cfg s = Spec.percentDecode s := by
  induction s using esc_induction with
  | nil => rw [decodePercent_nil, percentDecode_nil]
  | esc h1 h2 r a b ih =>
    rw [percentDecode_esc _ _ _ a b] at h
    rw [decodePercent_esc _ _ _ _ a b, percentDecode_esc _ _ _ a b, ih fun cm he x hx => h cm he x (List.mem_cons_of_mem _ hx)]
    unfold escBytes
    cases he : cfg.encOverride with
    | none => rfl
    | some cm => simp only; rw [h cm he _ List.mem_cons_self]; rfl
  | plain x r hx ih =>
    rw [percentDecode_cons_of_not _ _ hx] at h
    rw [decodePercent_cons_of_not _ _ _ hx, percentDecode_cons_of_not _ _ hx,
      ih fun cm he y hy => h cm he y (List.mem_cons_of_mem _ hy)]

theorem decodePercent_of_none {cfg : Cfg} (h : cfg.encOverride = none) (s : Bytes) :
    decodePercent cfg s = Spec.percentDecode s :=
  decodePercent_eq_percentDecode cfg s fun cm he => by rw [h] at he; cases he

theorem pd_pctByte (x : UInt8) (rest : Bytes) :
    Spec.percentDecode (pctByte x ++ rest) = x :: Spec.percentDecode rest := by
  obtain ⟨h1, h2, h3⟩ := hex_roundtrip x
  show Spec.percentDecode (0x25 :: _ :: _ :: rest) = _
  rw [percentDecode_esc _ _ _ h1 h2, h3]

theorem pd_append_ne (bs rest : Bytes) (h : ∀ b ∈ bs, b ≠ 0x25) :
    Spec.percentDecode (bs ++ rest) = bs ++ Spec.percentDecode rest := by
  induction bs with
  | nil => rfl
  | cons x t ih =>
    rw [List.cons_append, percentDecode_cons_of_not _ _ (fun hh => h x (by simp) hh.1), ih (fun b hb => h b (by simp [hb]))]
    rfl

theorem pd_flatMap_pct (bs rest : Bytes) :
    Spec.percentDecode (bs.flatMap pctByte ++ rest) = bs ++ Spec.percentDecode rest := by
  induction bs with
  | nil => rfl
  | cons x t ih => rw [List.flatMap_cons, List.append_assoc, pd_pctByte, ih]; rfl

/-- decoding undoes the encoder when `%` is in the set (and hex digits need not be: they are only ever copied) -/
theorem decode_inverts (set : Nat → Bool) (hp : set 0x25 = true) (s : Str) :
    Spec.percentDecode (s.flatMap (encBytes set)) = utf8 s := by
  induction s with
  | nil => simp
  | cons c t ih =>
    rw [List.flatMap_cons, utf8_cons]
    cases hs : set c.toNat
    · have hc : c ≠ '%' := by
        intro e; subst e
        have : ('%' : Char).toNat = 0x25 := rfl
        rw [this, hp] at hs; cases hs
      rw [encBytes_of_not_mem set c hs, pd_append_ne _ _ (utf8Char_ne_pct c hc), ih]
    · rw [encBytes_of_mem set c hs, pd_flatMap_pct, ih]

/-- an escape spans three code points, so `esc_induction` does not apply: a `%` (outside the set) is copied and the next two
    code points decide — both hex: copied too, the same escape on both sides; else a non-hex head byte
    (`encBytes_nonhex_head`) rules the escape out on both -/
theorem decode_same (set : Nat → Bool) (hp : set 0x25 = false) (hh : ∀ c, isHexN c = true → set c = false) (s : Str) :
    Spec.percentDecode (s.flatMap (encBytes set)) = Spec.percentDecode (utf8 s) := by
  have E_hex : ∀ c : Char, isHexN c.toNat = true → encBytes set c = utf8Char c := by
    intro c h; simp [encBytes, hh _ h]
  have nx : ∀ (y : UInt8) (r : Bytes), isHexN y.toNat = false →
      ¬((0x25 : UInt8) = 0x25 ∧ hex2 (y :: r) = true) ∧ ∀ a, ¬((0x25 : UInt8) = 0x25 ∧ hex2 (a :: y :: r) = true) :=
    fun y r hy => ⟨fun hh => Bool.false_ne_true ((hex2_append_nonhex [] r hy).symm.trans hh.2),
      fun a hh => Bool.false_ne_true ((hex2_append_nonhex [a] r hy).symm.trans hh.2)⟩
  suffices ∀ n (s : Str), s.length ≤ n →
      Spec.percentDecode (s.flatMap (encBytes set)) = Spec.percentDecode (utf8 s) from this s.length s (Nat.le_refl _)
  intro n
  induction n with
  | zero =>
    intro s hs
    have : s = [] := List.eq_nil_of_length_eq_zero (by omega)
    subst this; rfl
  | succ n ih =>
    intro s hs
    match s, hs with
    | [], _ => rfl
    | c :: s', hs =>
      have hlen : s'.length ≤ n := by simp at hs; omega
      by_cases hc : c = '%'
      · subst hc
        rw [List.flatMap_cons, utf8_cons, encBytes_pct set hp, utf8Char_pct]
        match s', hlen with
        | [], _ => rfl
        | c1 :: s1, hlen =>
          cases h1 : isHexN c1.toNat
          · -- `%` followed by a non-hex code point: not an escape on either side
            obtain ⟨x, t, e, hx⟩ := encBytes_nonhex_head set c1 h1
            obtain ⟨x', t', e', hx'⟩ := utf8Char_nonhex_head c1 h1
            have := ih (c1 :: s1) hlen
            simp only [List.flatMap_cons, utf8_cons, e, e', List.cons_append, List.nil_append] at this ⊢
            rw [percentDecode_cons_of_not _ _ (nx _ _ hx).1, percentDecode_cons_of_not _ _ (nx _ _ hx').1, this]
          · obtain ⟨u1, hb1⟩ := utf8Char_hex c1 h1
            match s1, hlen with
            | [], _ =>
              simp only [List.flatMap_cons, utf8_cons, E_hex c1 h1, u1, List.flatMap_nil, utf8_nil]
            | c2 :: s2, hlen =>
              cases h2 : isHexN c2.toNat
              · obtain ⟨x, t, e, hx⟩ := encBytes_nonhex_head set c2 h2
                obtain ⟨x', t', e', hx'⟩ := utf8Char_nonhex_head c2 h2
                have := ih (c1 :: c2 :: s2) hlen
                simp only [List.flatMap_cons, utf8_cons, E_hex c1 h1, u1, e, e', List.cons_append,
                  List.nil_append] at this ⊢
                rw [percentDecode_cons_of_not _ _ ((nx _ _ hx).2 _), percentDecode_cons_of_not _ _ ((nx _ _ hx').2 _), this]
              · obtain ⟨u2, hb2⟩ := utf8Char_hex c2 h2
                have := ih s2 (by simp at hlen; omega)
                simp only [List.flatMap_cons, utf8_cons, E_hex c1 h1, E_hex c2 h2, u1, u2, List.cons_append,
                  List.nil_append]
                rw [percentDecode_esc _ _ _ hb1 hb2, percentDecode_esc _ _ _ hb1 hb2, this]
      · rw [List.flatMap_cons, utf8_cons, pd_append_ne _ (utf8 s') (utf8Char_ne_pct c hc)]
        cases hs : set c.toNat
        · rw [encBytes_of_not_mem set c hs, pd_append_ne _ _ (utf8Char_ne_pct c hc), ih s' hlen]
        · rw [encBytes_of_mem set c hs, pd_flatMap_pct, ih s' hlen]

theorem percentEncodeRune_default (tr : PSet) (r : Char) :
    percentEncodeRune Cfg.default tr r = utf8 (Spec.utf8PercentEncodeCp tr.has r) := by
  rw [utf8_encodeCp]
  unfold percentEncodeRune encBytes runeBytes
  have : Cfg.default.encOverride = none := rfl
  rw [this]
  cases tr.has r.toNat <;> rfl

theorem pesRunes_default (tr : PSet) (rs : Str) :
    pesRunes Cfg.default tr rs = utf8 (Spec.utf8PercentEncode tr.has rs) := by
  rw [utf8_encode]
  induction rs with
  | nil => rfl
  | cons r t ih =>
    have : Cfg.default.pctSingle = false := rfl
    simp only [pesRunes, this, Bool.and_false, Bool.false_eq_true, ↓reduceIte, List.flatMap_cons,
      percentEncodeRune_default, utf8_encodeCp, ih]

theorem decodePercent_default (s : Bytes) : decodePercent Cfg.default s = Spec.percentDecode s :=
  decodePercent_of_none rfl s

/-- every named set of the Go code contains exactly the code points the standard lists -/
theorem c0Set_has : c0Set.has = Spec.c0ControlSet :=
  funext <| has_lift _ _ (by intro c hc; simp [Spec.c0ControlSet, hc]) (by decide)
theorem fragmentSet_has : fragmentSet.has = Spec.fragmentSet :=
  funext <| has_lift _ _ (by intro c hc; simp [Spec.fragmentSet, Spec.c0ControlSet, hc]) (by decide)
theorem querySet_has : querySet.has = Spec.querySet :=
  funext <| has_lift _ _ (by intro c hc; simp [Spec.querySet, Spec.c0ControlSet, hc]) (by decide)
theorem specialQuerySet_has : specialQuerySet.has = Spec.specialQuerySet :=
  funext <| has_lift _ _ (by intro c hc; simp [Spec.specialQuerySet, Spec.querySet, Spec.c0ControlSet, hc]) (by decide)
theorem pathSet_has : pathSet.has = Spec.pathSet :=
  funext <| has_lift _ _ (by intro c hc; simp [Spec.pathSet, Spec.querySet, Spec.c0ControlSet, hc]) (by decide)
theorem userinfoSet_has : userinfoSet.has = Spec.userinfoSet :=
  funext <| has_lift _ _ (by intro c hc; simp [Spec.userinfoSet, Spec.pathSet, Spec.querySet, Spec.c0ControlSet, hc]) (by decide)

theorem sets_has :
    (∀ c, c0Set.has c = Spec.c0ControlSet c) ∧
    (∀ c, fragmentSet.has c = Spec.fragmentSet c) ∧
    (∀ c, querySet.has c = Spec.querySet c) ∧
    (∀ c, specialQuerySet.has c = Spec.specialQuerySet c) ∧
    (∀ c, pathSet.has c = Spec.pathSet c) ∧
    (∀ c, userinfoSet.has c = Spec.userinfoSet c) :=
  ⟨congrFun c0Set_has, congrFun fragmentSet_has, congrFun querySet_has, congrFun specialQuerySet_has,
    congrFun pathSet_has, congrFun userinfoSet_has⟩

theorem forbidden_has :
    (∀ c, forbiddenHost c = Spec.forbiddenHostCp c) ∧ (∀ c, forbiddenDomain c = Spec.forbiddenDomainCp c) := by
  constructor <;> intro c <;> simp [forbiddenHost, forbiddenDomain, Spec.forbiddenHostCp, Spec.forbiddenDomainCp]

theorem encode_fixed (set : Nat → Bool) (t : Str) (h : ∀ c ∈ t, set c.toNat = false) :
    Spec.utf8PercentEncode set t = t := by
  induction t with
  | nil => rfl
  | cons c t ih =>
    have hc := h c (by simp)
    have ht := ih (fun d hd => h d (by simp [hd]))
    simp only [Spec.utf8PercentEncode, List.flatMap_cons] at ht ⊢
    rw [ht]
    simp [Spec.utf8PercentEncodeCp, hc]

end WhatwgUrl.Proofs.Percent
