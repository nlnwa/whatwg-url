import WhatwgUrl.Proofs.IdemMachine
import WhatwgUrl.Proofs.IdemDecode
import WhatwgUrl.Proofs.PipelineWeb
import WhatwgUrl.Proofs.StableSort
/-
  C17c: the CLOSED FORM of the value-level pipeline `canonV` (repeated decoding) on the record of an ordinary web url.

  The record `u` (`WebRecX u s un pw h po dpo segs q f`: scheme `s`, credentials `un` / `pw`, host `h`, port `po`, list
  path `segs`, query `q`, fragment `f`; `WebRec` is the case without credentials and port) whose segments / query pairs /
  fragment SPELL the plain data `psegs` / `pq` / `pf` (`Spells`) goes through the eight steps (`stage1` … `stage8`): the host
  parser is run on `decodeEncode hostSet h` and its result stored; path, list and fragment become the plain ones; port,
  credentials and fragment are removed if the profile says so; the list is sorted and the query is its text.  The host
  parser's outcome in step 1 is a hypothesis about the record `u` itself.
-/
namespace WhatwgUrl.Proofs.Idem
open WhatwgUrl WhatwgUrl.Impl WhatwgUrl.Proofs.IPv4 WhatwgUrl.Proofs.RoundTrip WhatwgUrl.Proofs.Spelling
open WhatwgUrl.Proofs.Pipeline
open WhatwgUrl.Props.C18d (OptRel WebText render canonOut)
open WhatwgUrl.Props.C18 (Spelled)

/-- the hypothesis on the parser options FOR THE CLOSED FORM of the pipeline (`canonV_closed`): under it the setters store
    plain texts as they are and `SearchParams.String()` of plain pairs is their text.  (What is asked for the PARSE of a
    web text is `Web.WebParseCfg` / `Web.WebCfg`, `Proofs/WebDefs.lean`; `CfgWeb.of_webParseCfg` says what the two share.)
    The conditions: the scheme `file` has no default port (so a scheme with a default port is not
    `file`); the percent-encode sets of the path, the `SearchParams` serializer and the fragment of a special url leave the
    unreserved characters alone; the charmap of an encoding override decodes ASCII bytes to themselves (then the
    percent-decoder of the configuration acts on spellings of plain texts as the plain byte decoder does,
    `Proofs/IdemDecode.lean`) -/
structure CfgWeb (cfg : Cfg) : Prop where
  nofile : ∀ dp, cfg.special? (lit "file") = some dp → dp = []
  pathSet : ∀ b : UInt8, unres b = true → cfg.pathSet.has b.toNat = false
  querySet : ∀ b : UInt8, unres b = true → cfg.querySet.has b.toNat = false
  fragSet : ∀ b : UInt8, unres b = true → cfg.spFragSet.has b.toNat = false
  dec : DecAscii cfg

/-- the clauses on the path set and on the fragment set of special urls follow from `Web.WebParseCfg` (which asks them on the
    bytes of spellings, `%` included).  `CfgWeb` asks in addition: no default port for `file`; the SERIALIZER's query set
    `querySet` (`WebParseCfg` constrains the parser's `spQuerySet`); the charmap on every ASCII byte (`Web.WebCfg`: on the
    bytes of spellings) -/
theorem CfgWeb.of_webParseCfg {cfg : Cfg} (hW : Web.WebParseCfg cfg) (hn : ∀ dp, cfg.special? (lit "file") = some dp → dp = [])
    (hq : ∀ b : UInt8, unres b = true → cfg.querySet.has b.toNat = false) (hd : DecAscii cfg) : CfgWeb cfg :=
  ⟨hn, fun b h => hW.path_has b (by simp [spB, h]), hq, fun b h => hW.frag_has b (by simp [spB, h]), hd⟩

/-- the encode sets of the PARSER and the serializer have no unreserved byte (`sets_unres` below is about the canonicalizer's) -/
theorem unres_sets : ∀ b : UInt8, unres b = true →
    pathSet.has b.toNat = false ∧ laxPathSet.has b.toNat = false ∧ querySet.has b.toNat = false ∧
      laxQuerySet.has b.toNat = false ∧ fragmentSet.has b.toNat = false :=
  forall_uint8 (by decide +kernel)

theorem cfgWeb_default : CfgWeb {} where
  nofile := by decide
  pathSet := fun b h => (unres_sets b h).1
  querySet := fun b h => (unres_sets b h).2.2.1
  fragSet := fun b h => (unres_sets b h).2.2.2.2
  dec := decAscii_none {} rfl

/-- a special scheme with a non-empty default port (so not `file`, under `CfgWeb.nofile`) -/
def Sch (cfg : Cfg) (s : Bytes) : Prop := ∃ dp, cfg.special? s = some dp ∧ dp ≠ []

theorem Sch.special {cfg : Cfg} {s : Bytes} (h : Sch cfg s) : cfg.isSpecial s = true := by
  obtain ⟨dp, h1, _⟩ := h
  simp [Cfg.isSpecial, h1]

theorem Sch.notfile {cfg : Cfg} {s : Bytes} (hc : CfgWeb cfg) (h : Sch cfg s) : (s == lit "file") = false := by
  obtain ⟨dp, h1, h2⟩ := h
  cases hs : s == lit "file" with
  | false => rfl
  | true =>
    have : s = lit "file" := by simpa using hs
    subst this
    exact absurd (hc.nofile dp h1) h2

/-- `WebRecX` without credentials and port (`webRec_iff`) -/
structure WebRec (u : Url) (s h : Bytes) (segs : List Bytes) (q f : Option Bytes) : Prop where
  scheme : u.scheme = s
  username : u.username = []
  password : u.password = []
  host : u.host = some h
  port : u.port = none
  dport : u.decodedPort = 0
  path : u.path = ⟨segs, false⟩
  query : u.query = q
  fragment : u.fragment = f

/-- the record of a web url: scheme `s`, credentials `un` / `pw`, host `h`, port `po` (decoded: `dpo`), list path `segs`,
    query `q`, fragment `f` -/
structure WebRecX (u : Url) (s un pw h : Bytes) (po : Option Bytes) (dpo : Nat) (segs : List Bytes) (q f : Option Bytes) : Prop where
  scheme : u.scheme = s
  username : u.username = un
  password : u.password = pw
  host : u.host = some h
  port : u.port = po
  dport : u.decodedPort = dpo
  path : u.path = ⟨segs, false⟩
  query : u.query = q
  fragment : u.fragment = f

theorem webRec_iff {u : Url} {s h : Bytes} {segs : List Bytes} {q f : Option Bytes} :
    WebRec u s h segs q f ↔ WebRecX u s [] [] h none 0 segs q f :=
  ⟨fun ⟨a1, a2, a3, a4, a5, a6, a7, a8, a9⟩ => ⟨a1, a2, a3, a4, a5, a6, a7, a8, a9⟩,
   fun ⟨a1, a2, a3, a4, a5, a6, a7, a8, a9⟩ => ⟨a1, a2, a3, a4, a5, a6, a7, a8, a9⟩⟩

theorem WebRecX.cannot {u : Url} {s un pw h : Bytes} {po : Option Bytes} {dpo : Nat} {segs : List Bytes} {q f : Option Bytes}
    (w : WebRecX u s un pw h po dpo segs q f)
    (hne : h ≠ []) (hnf : (s == lit "file") = false) : cannotHaveUPP u = false := by
  unfold cannotHaveUPP
  rw [w.host, w.scheme, hnf]
  have : (some h == some ([] : Bytes)) = false := by simpa using hne
  rw [this]
  rfl

theorem WebRec.cannot {u : Url} {s h : Bytes} {segs : List Bytes} {q f : Option Bytes} (w : WebRec u s h segs q f)
    (hne : h ≠ []) (hnf : (s == lit "file") = false) : cannotHaveUPP u = false :=
  (webRec_iff.mp w).cannot hne hnf

/-- `user[:password]@`, or nothing -/
def credText (un pw : Bytes) : Bytes :=
  if (un != [] || pw != []) = true then un ++ (if (pw != []) = true then 0x3a :: pw else []) ++ [0x40] else []

theorem href_webRecX {u : Url} {s un pw h : Bytes} {po : Option Bytes} {dpo : Nat} {segs : List Bytes} {q f : Option Bytes}
    (w : WebRecX u s un pw h po dpo segs q f) :
    href u false = s ++ lit "://" ++ credText un pw ++ h ++ Web.portText po ++ (pathText segs ++ (qTail q ++ fTail f)) := by
  unfold href credText
  rw [w.scheme, w.username, w.password, w.host, w.port, w.path, w.query, w.fragment, lit_css]
  cases q <;> cases f <;> cases po <;> simp [qTail, fTail, Path.str, Path.str?, pathText, Web.portText]

/-! ### decoding and re-encoding a spelling gives the plain text -/

theorem canonEncode_id (tr : PSet) (s : Bytes) (h : ∀ b ∈ s, (tr.set 0x25).has b.toNat = false) : canonEncode tr s = s := by
  unfold canonEncode percentEncodeBytes
  induction s with
  | nil => rfl
  | cons x t ih =>
    rw [List.flatMap_cons, ih (fun b hb => h b (by simp [hb]))]
    simp [h x (by simp)]

/-- the encode sets of the CANONICALIZER, `%` added as `canonEncode` does, have no unreserved byte (the path set: nor `/`) -/
theorem sets_unres : ∀ b : UInt8, (unres b = true ∨ b = 0x2f) →
    (laxPathSet.set 0x25).has b.toNat = false ∧ (unres b = true → (repeatedQuerySet.set 0x25).has b.toNat = false ∧
      (hostSet.set 0x25).has b.toNat = false) :=
  forall_uint8 (by decide +kernel)

/-- names and values are re-encoded with `RepeatedQueryPercentDecodeSet`; the host AND THE FRAGMENT with
    `url.HostPercentEncodeSet` (`canonicalizer.go`, `SetHash(decodeEncode(…, url.HostPercentEncodeSet))`): `stage4` reads the second half -/
theorem dE_tok {p s : Bytes} (h : Tok p s) : decodeEncode repeatedQuerySet s = p ∧ decodeEncode hostSet s = p := by
  unfold decodeEncode
  rw [tok_decode h]
  exact ⟨canonEncode_id _ p fun b hb => ((sets_unres b (Or.inl (h.1.2 b hb))).2 (h.1.2 b hb)).1,
    canonEncode_id _ p fun b hb => ((sets_unres b (Or.inl (h.1.2 b hb))).2 (h.1.2 b hb)).2⟩

theorem dE_path {ps ss : List Bytes} (h : All2 Seg ps ss) : decodeEncode laxPathSet (pathText ss) = pathText ps := by
  have hp : ∀ p ∈ ps, ∀ b ∈ p, unres b = true := by
    intro p hp
    obtain ⟨x, _, hx⟩ := All2.mem_left h p hp
    exact hx.1.1.2
  unfold decodeEncode
  rw [Props.C18.C18_spelling_decode_no_pct (pathText ps) (pathText ss) (spelled_pathText (h.imp fun h => h.1.2))
    (pathText_no_pct ps hp)]
  apply canonEncode_id
  intro b hb
  obtain ⟨p, hpm, hb⟩ := List.mem_flatMap.mp hb
  rcases List.mem_cons.mp hb with rfl | hb
  · exact (sets_unres _ (Or.inr rfl)).1
  · exact (sets_unres b (Or.inl (hp p hpm b hb))).1

/-! ### the plain url behind a spelling -/

def PairTok (a b : Bytes × Bytes) : Prop := Tok a.1 b.1 ∧ Tok a.2 b.2

/-- (`segs`, `q`, `f`) spells the plain url (`psegs`, `pq`, `pf`): the plain data come first, the spelling second -/
structure Spells (psegs : List Bytes) (pq : Option Pairs) (pf : Option Bytes)
    (segs : List Bytes) (q : Option Pairs) (f : Option Bytes) : Prop where
  hsegs : All2 Seg psegs segs
  hne : segs ≠ []
  hquery : OptRel (All2 PairTok) pq q
  hfrag : OptRel Tok pf f

theorem webText_spells {segs : List Bytes} {q : Option Pairs} {f : Option Bytes} (h : WebText segs q f) :
    ∃ psegs pq pf, Spells psegs pq pf segs q f := by
  obtain ⟨psegs, h1⟩ := All2.exists_left (R := Seg) segs h.hsegs
  have h2 : ∃ pq, OptRel (All2 PairTok) pq q := by
    cases q with
    | none => exact ⟨none, trivial⟩
    | some l =>
      obtain ⟨pl, hpl⟩ := All2.exists_left (R := PairTok) l (fun nv hnv => by
        obtain ⟨⟨p1, t1⟩, ⟨p2, t2⟩⟩ := h.hquery l rfl nv hnv
        exact ⟨(p1, p2), t1, t2⟩)
      exact ⟨some pl, hpl⟩
  have h3 : ∃ pf, OptRel Tok pf f := by
    cases f with
    | none => exact ⟨none, trivial⟩
    | some y =>
      obtain ⟨p, hp⟩ := h.hfrag y rfl
      exact ⟨some p, hp⟩
  obtain ⟨pq, h2⟩ := h2
  obtain ⟨pf, h3⟩ := h3
  exact ⟨psegs, pq, pf, h1, h.hne, h2, h3⟩

theorem Spells.webText {psegs segs : List Bytes} {pq q : Option Pairs} {pf f : Option Bytes} (h : Spells psegs pq pf segs q f) :
    WebText segs q f := by
  refine ⟨fun x hx => ?_, h.hne, fun l hl nv hnv => ?_, fun x hx => ?_⟩
  · obtain ⟨p, _, hp⟩ := All2.mem_right h.hsegs x hx
    exact ⟨p, hp⟩
  · subst hl
    cases pq with
    | none => exact h.hquery.elim
    | some pl =>
      obtain ⟨y, _, hy⟩ := All2.mem_right (h.hquery : All2 PairTok pl l) nv hnv
      exact ⟨⟨y.1, hy.1⟩, ⟨y.2, hy.2⟩⟩
  · subst hx
    cases pf with
    | none => exact h.hfrag.elim
    | some y => exact ⟨y, h.hfrag⟩

theorem Spells.psegs_ne {psegs segs : List Bytes} {pq q : Option Pairs} {pf f : Option Bytes} (h : Spells psegs pq pf segs q f) :
    psegs ≠ [] := All2.ne_nil h.hsegs h.hne

theorem pseg_of_segs {psegs segs : List Bytes} (h : All2 Seg psegs segs) : ∀ p ∈ psegs, PSeg p := by
  intro p hp
  obtain ⟨x, _, hx⟩ := All2.mem_left h p hp
  exact ⟨hx.1.1, hx.2.1, hx.2.2⟩

def PlainPairs (l : Pairs) : Prop := ∀ nv ∈ l, Plain nv.1 ∧ Plain nv.2

theorem plainPairs_of_all2 {pl l : Pairs} (h : All2 PairTok pl l) : PlainPairs pl := by
  intro nv hnv
  obtain ⟨x, _, hx⟩ := All2.mem_left h nv hnv
  exact ⟨hx.1.1, hx.2.1⟩

theorem Spells.plainPairs {psegs segs : List Bytes} {pq q : Option Pairs} {pf f : Option Bytes} (h : Spells psegs pq pf segs q f) :
    ∀ l, pq = some l → PlainPairs l := by
  intro l hl
  subst hl
  cases q with
  | none => exact h.hquery.elim
  | some l' => exact plainPairs_of_all2 h.hquery

theorem Spells.plainFrag {psegs segs : List Bytes} {pq q : Option Pairs} {pf f : Option Bytes} (h : Spells psegs pq pf segs q f) :
    ∀ x, pf = some x → Plain x := by
  intro x hx
  subst hx
  cases f with
  | none => exact h.hfrag.elim
  | some y => exact (h.hfrag : Tok x y).1

theorem spells_self {psegs : List Bytes} {pq : Option Pairs} {pf : Option Bytes} (h1 : ∀ p ∈ psegs, PSeg p) (h0 : psegs ≠ [])
    (h2 : ∀ l, pq = some l → PlainPairs l) (h3 : ∀ x, pf = some x → Plain x) : Spells psegs pq pf psegs pq pf := by
  refine ⟨All2.refl psegs (fun p hp => (h1 p hp).seg), h0, ?_, ?_⟩
  · cases pq with
    | none => trivial
    | some l => exact All2.refl l (fun nv hnv => ⟨tok_refl (h2 l rfl nv hnv).1, tok_refl (h2 l rfl nv hnv).2⟩)
  · cases pf with
    | none => trivial
    | some x => exact tok_refl (h3 x rfl)

/-- the part of a plain url after the host has no `%` -/
theorem plain_tail_no_pct (psegs : List Bytes) (pq : Option Pairs) (pf : Option Bytes) (h1 : ∀ p ∈ psegs, PSeg p)
    (h2 : ∀ l, pq = some l → PlainPairs l) (h3 : ∀ x, pf = some x → Plain x) :
    (0x25 : UInt8) ∉ pathText psegs ++ (qTail (pq.map qText) ++ fTail pf) := by
  intro hm
  rcases List.mem_append.mp hm with hm | hm
  · exact pathText_no_pct psegs (fun p hp => (h1 p hp).1.2) hm
  · rcases List.mem_append.mp hm with hm | hm
    · cases pq with
      | none => cases hm
      | some l =>
        simp only [Option.map_some, qTail] at hm
        rcases List.mem_cons.mp hm with hm | hm
        · cases hm
        · rcases mem_intercalate _ _ _ hm with hm | ⟨x, hx, hb⟩
          · simp only [List.mem_cons, List.not_mem_nil, or_false] at hm; cases hm
          · obtain ⟨nv, hnv, rfl⟩ := List.mem_map.mp hx
            rcases List.mem_append.mp hb with hb | hb
            · exact unres_ne_pct _ ((h2 l rfl nv hnv).1.2 _ hb) rfl
            · rcases List.mem_cons.mp hb with hb | hb
              · cases hb
              · exact unres_ne_pct _ ((h2 l rfl nv hnv).2.2 _ hb) rfl
    · cases pf with
      | none => cases hm
      | some x =>
        simp only [fTail] at hm
        rcases List.mem_cons.mp hm with hm | hm
        · cases hm
        · exact unres_ne_pct _ ((h3 x rfl).2 _ hm) rfl

/-- the record the pipeline hands to the host parser, as far as the hooks may read it -/
def hostRec (s : Bytes) (h : Option Bytes) : Url := { scheme := s, host := h }

theorem pathText_ne_nil {segs : List Bytes} (h : segs ≠ []) : pathText segs ≠ [] := by
  cases segs with
  | nil => exact absurd rfl h
  | cons a t => simp [pathText]

theorem queryEscape_plain (cfg : Cfg) (hq : ∀ b : UInt8, unres b = true → cfg.querySet.has b.toNat = false) (n : Bytes)
    (h : ∀ b ∈ n, unres b = true) : queryEscape cfg n = n := by
  unfold queryEscape
  rw [goRunes_ascii n (plain_graphic h).2]
  unfold asStr
  induction n with
  | nil => rfl
  | cons b t ih =>
    have hb := h b (by simp)
    have h20 : ((bc b).toNat == 0x20) = false := by
      rw [Utf8.bc_toNat]
      have := (unres_char b hb).2.2.2.2.2.2.2.1
      simp; omega
    rw [List.map_cons, List.flatMap_cons, ih (fun x hx => h x (by simp [hx]))]
    simp only [h20, Bool.false_eq_true, if_false, Run.pe_copy cfg _ b (hq b hb)]
    rfl

theorem spString_plain (cfg : Cfg) (hq : ∀ b : UInt8, unres b = true → cfg.querySet.has b.toNat = false) (pl : Pairs)
    (h : PlainPairs pl) : spString cfg pl = qText pl := by
  unfold spString qText
  congr 1
  apply List.map_congr_left
  intro nv hnv
  obtain ⟨h1, h2⟩ := h nv hnv
  unfold spPairString
  have hne : (nv.2 != []) = true := by simpa using h2.1
  rw [queryEscape_plain cfg hq nv.1 h1.2, queryEscape_plain cfg hq nv.2 h2.2, hne]
  simp

/-- the relation between the object's own list (if created) and the plain query -/
def SpInv (sp pq : Option Pairs) : Prop := (sp = none ∧ (pq = none ∨ pq = some [])) ∨ (∃ l, sp = some l ∧ pq = some l)

theorem vList_of_inv (cfg : Cfg) (x : VS) (pq : Option Pairs) (hi : SpInv x.sp pq) (hq : x.u.query = pq.map qText) :
    vList cfg x = pq.getD [] := by
  unfold vList IndepHist.initP
  rcases hi with ⟨h1, h2 | h2⟩ | ⟨l, h1, h2⟩
  · rw [h1, hq, h2]; rfl
  · rw [h1, hq, h2]; rfl
  · rw [h1, h2]; rfl

theorem map_dq_plain {pl l : Pairs} (h : All2 PairTok pl l) :
    (l.map fun nv => (canonDecode nv.1, canonDecode nv.2)).map
      (fun nv => (decodeEncode repeatedQuerySet nv.1, decodeEncode repeatedQuerySet nv.2)) = pl := by
  induction h with
  | nil => rfl
  | @cons a b t₁ t₂ hab _ ih =>
    rw [List.map_cons, List.map_cons, ih]
    congr 1
    simp only [decodeEncode_canonDecode]
    rw [(dE_tok hab.1).1, (dE_tok hab.2).1]

theorem pes_nil (cfg : Cfg) (tr : PSet) : percentEncodeString cfg tr [] = [] := by
  unfold percentEncodeString
  rw [goRunes_ascii [] nofun]
  rfl

/-- the example of the property files: `/%7Efoo/a?b=%41&a=1#y` spells the plain `/~foo/a?b=A&a=1#y` -/
theorem spells_tilde_foo :
    Spells [lit "~foo", lit "a"] (some [(lit "b", lit "A"), (lit "a", lit "1")]) (some (lit "y"))
      [lit "%7Efoo", lit "a"] (some [(lit "b", lit "%41"), (lit "a", lit "1")]) (some (lit "y")) where
  hsegs := .cons ⟨⟨plain_lit _ (by decide), spelled_tilde_foo⟩, by decide, by decide⟩
    (.cons ⟨⟨plain_lit _ (by decide), spelled_refl _⟩, by decide, by decide⟩ .nil)
  hne := by decide
  hquery := .cons ⟨⟨plain_lit _ (by decide), spelled_refl _⟩, ⟨plain_lit _ (by decide), spelled_A⟩⟩
    (.cons ⟨⟨plain_lit _ (by decide), spelled_refl _⟩, ⟨plain_lit _ (by decide), spelled_refl _⟩⟩ .nil)
  hfrag := ⟨plain_lit _ (by decide), spelled_refl _⟩

def sortOf (p : Profile) : Pairs → Pairs :=
  match p.sortQuery with
  | .noSort => id
  | .sortKeys => spSort
  | .sortParameter => spSortAbs

theorem sortStable_plain (key : Bytes × Bytes → Bytes) (l : Pairs) (h : PlainPairs l) : PlainPairs (sortStable key l) :=
  fun nv hnv => h nv ((SearchParams.sortStable_mem key l nv).mp hnv)

theorem sortOf_plain (p : Profile) (l : Pairs) (h : PlainPairs l) : PlainPairs (sortOf p l) := by
  unfold sortOf
  cases p.sortQuery with
  | noSort => exact h
  | sortKeys => exact sortStable_plain _ l h
  | sortParameter => exact sortStable_plain _ l h

theorem sortOf_idem (p : Profile) (l : Pairs) : sortOf p (sortOf p l) = sortOf p l := by
  unfold sortOf
  cases p.sortQuery with
  | noSort => rfl
  | sortKeys => exact WhatwgUrl.Proofs.SearchParams.sortStable_idem _ l
  | sortParameter => exact WhatwgUrl.Proofs.SearchParams.sortStable_idem _ l

theorem Spells.canonical {psegs segs : List Bytes} {pq q : Option Pairs} {pf f : Option Bytes} (p : Profile)
    (h : Spells psegs pq pf segs q f) :
    Spells psegs (pq.map (sortOf p)) (if p.removeFragment = true then none else pf)
      psegs (pq.map (sortOf p)) (if p.removeFragment = true then none else pf) ∧
    (pq.map (sortOf p)).map (sortOf p) = pq.map (sortOf p) ∧
    (if p.removeFragment = true then none else (if p.removeFragment = true then none else pf)) =
      (if p.removeFragment = true then none else pf) := by
  refine ⟨spells_self (pseg_of_segs h.hsegs) h.psegs_ne (fun l hl => ?_) (fun x hx => ?_), ?_, by split <;> rfl⟩
  · cases pq with
    | none => cases hl
    | some l0 =>
      simp only [Option.map_some, Option.some.injEq] at hl
      subst hl
      exact sortOf_plain p l0 (h.plainPairs l0 rfl)
  · split at hx
    · cases hx
    · exact h.plainFrag x hx
  · cases pq with
    | none => rfl
    | some l => simp only [Option.map_some, sortOf_idem]

/-! ### step 1: the host name -/

theorem stage1 (I : Idna) (p : Profile) (hp : p.repeatedPercentDecoding = true) (hc : CfgWeb p.cfg)
    (x : VS) {s un pw h hc' : Bytes} {po : Option Bytes} {dpo : Nat} {segs : List Bytes} {q f : Option Bytes} (hs : Sch p.cfg s)
    (w : WebRecX x.u s un pw h po dpo segs q f)
    (hv : hostText (decodeEncode hostSet h) = true)
    (hout : (parseHost p.cfg I x.u (decodeEncode hostSet h) false).out = .ok hc') :
    ∃ x1, step1 I p x = (x1, .url) ∧ WebRecX x1.u s un pw hc' po dpo segs q f ∧ x1.sp = x.sp := by
  unfold step1
  have hh : hostname x.u = h := by unfold hostname; rw [w.host]; rfl
  have hne : h ≠ [] := by
    intro he
    rw [he, decodeEncode_nil] at hv
    exact absurd hv (by decide)
  have hcond : (p.repeatedPercentDecoding && hostname x.u != []) = true := by
    rw [hp, hh]; simpa using hne
  rw [if_pos hcond, hh]
  have hset := setHostname_text p.cfg I x.u (decodeEncode hostSet h) hc' hv (by rw [w.path])
    (by rw [w.scheme]; exact hs.special) (by rw [w.scheme]; exact hs.notfile hc) hout
  refine ⟨⟨{ (parseHost p.cfg I x.u (decodeEncode hostSet h) false).url with host := some hc' }, x.sp⟩, ?_, ?_, rfl⟩
  · exact vSet_eq hset
  · obtain ⟨a1, a2, a3, _, a5, a6, a7, a8, a9⟩ := HostWF.parseHost_frame p.cfg I x.u (decodeEncode hostSet h) false
    exact ⟨a1.trans w.scheme, a2.trans w.username, a3.trans w.password, rfl, a5.trans w.port, a6.trans w.dport, a7.trans w.path,
      a8.trans w.query, a9.trans w.fragment⟩

/-! ### step 2: the path -/

theorem stage2 (I : Idna) (p : Profile) (hp : p.repeatedPercentDecoding = true) (hc : CfgWeb p.cfg)
    (x : VS) {s un pw h : Bytes} {po : Option Bytes} {dpo : Nat} {psegs segs : List Bytes} {q f : Option Bytes} (w : WebRecX x.u s un pw h po dpo segs q f)
    (hsegs : All2 Seg psegs segs) (hne : segs ≠ []) :
    ∃ x2, step2 I p x = (x2, .url) ∧ WebRecX x2.u s un pw h po dpo psegs q f ∧ x2.sp = x.sp := by
  unfold step2
  have hpn : pathname x.u = pathText segs := by unfold pathname; rw [w.path]; rfl
  have hcond : (p.repeatedPercentDecoding && pathname x.u != []) = true := by
    rw [hp, hpn]; simpa using pathText_ne_nil hne
  rw [if_pos hcond, hpn, dE_path hsegs]
  have hset := setPathname_plain p.cfg I x.u psegs hc.pathSet (by rw [w.path]) (All2.ne_nil hsegs hne) (pseg_of_segs hsegs)
  refine ⟨⟨{ x.u with path := ⟨psegs, false⟩ }, x.sp⟩, ?_, ?_, rfl⟩
  · exact vSet_eq hset
  · exact ⟨w.scheme, w.username, w.password, w.host, w.port, w.dport, rfl, w.query, w.fragment⟩

/-! ### step 3: the query -/

theorem stage3 (p : Profile) (hp : p.repeatedPercentDecoding = true) (hc : CfgWeb p.cfg)
    (x : VS) {s un pw h : Bytes} {po : Option Bytes} {dpo : Nat} {psegs : List Bytes} {pq q : Option Pairs} {f : Option Bytes}
    (hq : OptRel (All2 PairTok) pq q) (w : WebRecX x.u s un pw h po dpo psegs (q.map qText) f) (hsp : x.sp = none) :
    ∃ x3, step3 p x = (x3, .url) ∧ WebRecX x3.u s un pw h po dpo psegs (pq.map qText) f ∧ SpInv x3.sp pq := by
  unfold step3
  cases pq with
  | none =>
    cases q with
    | some l => exact hq.elim
    | none =>
      have hs : search x.u = [] := by unfold search; rw [w.query]; rfl
      rw [hs]
      simp only [bne_self_eq_false, Bool.and_false, Bool.false_eq_true, if_false]
      exact ⟨x, rfl, w, Or.inl ⟨hsp, Or.inl rfl⟩⟩
  | some pl =>
    cases q with
    | none => exact hq.elim
    | some l =>
      have hq' : All2 PairTok pl l := hq
      cases hq' with
      | nil =>
        have hs : search x.u = [] := by unfold search; rw [w.query]; rfl
        rw [hs]
        simp only [bne_self_eq_false, Bool.and_false, Bool.false_eq_true, if_false]
        exact ⟨x, rfl, w, Or.inl ⟨hsp, Or.inr rfl⟩⟩
      | @cons a b t₁ t₂ hab ht =>
        have hall : All2 PairTok (a :: t₁) (b :: t₂) := .cons hab ht
        have hqn : qText (b :: t₂) ≠ [] := qText_ne_nil _ (by simp)
        have hcond : (p.repeatedPercentDecoding && search x.u != []) = true := by
          rw [hp, search_ne_of_some x.u _ w.query hqn]; rfl
        rw [if_pos hcond]
        have hspl : SpPairs (b :: t₂) := by
          intro nv hnv
          obtain ⟨y, _, hy⟩ := All2.mem_right hall nv hnv
          exact ⟨tok_spB hy.1, tok_spB hy.2⟩
        have hdec : ∀ nv ∈ b :: t₂, decodePercent p.cfg nv.1 = canonDecode nv.1 ∧ decodePercent p.cfg nv.2 = canonDecode nv.2 := by
          intro nv hnv
          obtain ⟨y, _, hy⟩ := All2.mem_right hall nv hnv
          have hd := fun cm he b hb => hc.dec cm he b (spB_ascii b hb)
          exact ⟨decodePercent_tok p.cfg hd hy.1, decodePercent_tok p.cfg hd hy.2⟩
        have hvl : vList p.cfg x = (b :: t₂).map fun nv => (canonDecode nv.1, canonDecode nv.2) := by
          unfold vList IndepHist.initP
          rw [hsp, w.query]
          exact spInit_qText_g p.cfg _ hspl hdec
        have hpp : PlainPairs (a :: t₁) := plainPairs_of_all2 hall
        have hL : Heap.applyMut (.iterate fun nv => (decodeEncode repeatedQuerySet nv.1, decodeEncode repeatedQuerySet nv.2))
            (vList p.cfg x) = a :: t₁ := by
          rw [hvl]
          exact map_dq_plain hall
        have hS : spString p.cfg (a :: t₁) = qText (a :: t₁) := spString_plain p.cfg hc.querySet _ hpp
        refine ⟨vMut p.cfg _ x, rfl, ?_, Or.inr ⟨_, by rw [← hL]; rfl, rfl⟩⟩
        rw [vMut_u, hL, hS]
        exact ⟨w.scheme, w.username, w.password, w.host, w.port, w.dport, w.path,
          if_neg fun h => qText_ne_nil (a :: t₁) (by simp) h.1, w.fragment⟩

/-! ### step 4: the fragment -/

theorem stage4 (I : Idna) (p : Profile) (hp : p.repeatedPercentDecoding = true) (hc : CfgWeb p.cfg)
    (x : VS) {s un pw h : Bytes} {po : Option Bytes} {dpo : Nat} {psegs : List Bytes} {q pf f : Option Bytes} (hs : Sch p.cfg s)
    (hf : OptRel Tok pf f) (w : WebRecX x.u s un pw h po dpo psegs q f) :
    ∃ x4, step4 I p x = (x4, .url) ∧ WebRecX x4.u s un pw h po dpo psegs q pf ∧ x4.sp = x.sp := by
  unfold step4
  cases pf with
  | none =>
    cases f with
    | some y => exact hf.elim
    | none =>
      have hs' : hashG x.u = [] := by unfold hashG; rw [w.fragment]
      rw [hs']
      simp only [bne_self_eq_false, Bool.and_false, Bool.false_eq_true, if_false]
      exact ⟨x, rfl, w, rfl⟩
  | some pp =>
    cases f with
    | none => exact hf.elim
    | some y =>
      have ht : Tok pp y := hf
      obtain ⟨a1, a2⟩ := hashG_some x.u y w.fragment (tok_ne_nil ht)
      have hcond : (p.repeatedPercentDecoding && hashG x.u != []) = true := by rw [hp, a1]; rfl
      rw [if_pos hcond, a2, (dE_tok ht).2]
      have hset := setHash_plain p.cfg I x.u pp hc.fragSet (by rw [w.scheme]; exact hs.special) ht.1
      refine ⟨⟨{ x.u with fragment := some pp }, x.sp⟩, ?_, ?_, rfl⟩
      · exact vSet_eq hset
      · exact ⟨w.scheme, w.username, w.password, w.host, w.port, w.dport, w.path, w.query, rfl⟩

/-! ### steps 5 – 7: the removals -/

theorem stage5 (I : Idna) (p : Profile) (x : VS) {s un pw h : Bytes} {po : Option Bytes} {dpo : Nat} {segs : List Bytes}
    {q f : Option Bytes} (w : WebRecX x.u s un pw h po dpo segs q f) (hne : h ≠ []) (hnf : (s == lit "file") = false) :
    ∃ x5, step5 I p x = (x5, .url) ∧
      WebRecX x5.u s un pw h (if p.removePort = true then none else po) (if p.removePort = true then 0 else dpo) segs q f ∧
      x5.sp = x.sp := by
  unfold step5
  split
  · refine ⟨⟨{ x.u with port := none, decodedPort := 0 }, x.sp⟩, ?_, ?_, rfl⟩
    · refine vSet_eq (s := .port) ?_
      show setPort p.cfg I x.u [] = _
      unfold setPort keep
      rw [w.cannot hne hnf]
      simp
    · exact ⟨w.scheme, w.username, w.password, w.host, rfl, rfl, w.path, w.query, w.fragment⟩
  · exact ⟨x, rfl, w, rfl⟩

theorem stage6 (I : Idna) (p : Profile) (x : VS) {s un pw h : Bytes} {po : Option Bytes} {dpo : Nat} {segs : List Bytes}
    {q f : Option Bytes} (w : WebRecX x.u s un pw h po dpo segs q f) (hne : h ≠ []) (hnf : (s == lit "file") = false) :
    ∃ x6, step6 I p x = (x6, .url) ∧
      WebRecX x6.u s (if p.removeUserInfo = true then [] else un) (if p.removeUserInfo = true then [] else pw) h po dpo segs q f ∧
      x6.sp = x.sp := by
  unfold step6
  split
  · have h1 : setUsername p.cfg x.u [] = ⟨{ x.u with username := [] }, .url⟩ := by
      unfold setUsername keep
      rw [w.cannot hne hnf, pes_nil]
      simp
    have w1 : WebRecX { x.u with username := [] } s [] pw h po dpo segs q f :=
      ⟨w.scheme, rfl, w.password, w.host, w.port, w.dport, w.path, w.query, w.fragment⟩
    have h2 : setPassword p.cfg { x.u with username := [] } [] = ⟨{ { x.u with username := [] } with password := [] }, .url⟩ := by
      unfold setPassword keep
      rw [w1.cannot hne hnf, pes_nil]
      simp
    refine ⟨⟨{ { x.u with username := [] } with password := [] }, x.sp⟩, ?_, ?_, rfl⟩
    · rw [vSet_eq (s := .username) h1]
      exact vSet_eq (s := .password) (x := ⟨_, x.sp⟩) h2
    · exact ⟨w.scheme, rfl, rfl, w.host, w.port, w.dport, w.path, w.query, w.fragment⟩
  · exact ⟨x, rfl, w, rfl⟩

theorem stage7 (I : Idna) (p : Profile) (x : VS) {s un pw h : Bytes} {po : Option Bytes} {dpo : Nat} {segs : List Bytes} {q f : Option Bytes}
    (w : WebRecX x.u s un pw h po dpo segs q f) :
    ∃ x7, step7 I p x = (x7, .url) ∧
      WebRecX x7.u s un pw h po dpo segs q (if p.removeFragment = true then none else f) ∧ x7.sp = x.sp := by
  unfold step7
  split
  · have hset : ∃ u', setHash p.cfg I x.u [] = ⟨u', .url⟩ ∧ WebRecX u' s un pw h po dpo segs q none := by
      unfold setHash keep stripTrailingSpacesIfOpaque
      simp only [List.isEmpty_nil, if_true, w.path, Bool.false_eq_true, if_false]
      split <;> exact ⟨_, rfl, ⟨w.scheme, w.username, w.password, w.host, w.port, w.dport, rfl, w.query, rfl⟩⟩
    obtain ⟨u', h1, w'⟩ := hset
    refine ⟨⟨u', x.sp⟩, ?_, w', rfl⟩
    exact vSet_eq (s := .hash) h1
  · exact ⟨x, rfl, w, rfl⟩

/-! ### step 8: the sort -/

theorem vMut_sort (cfg : Cfg) (hc : CfgWeb cfg) (m : Heap.SpMut) (g : Pairs → Pairs) (hm : ∀ l, Heap.applyMut m l = g l)
    (hg : ∀ l, PlainPairs l → PlainPairs (g l)) (hnil : g [] = [])
    (x : VS) {s un pw h : Bytes} {po : Option Bytes} {dpo : Nat} {psegs : List Bytes} {pq : Option Pairs} {f : Option Bytes}
    (w : WebRecX x.u s un pw h po dpo psegs (pq.map qText) f) (hi : SpInv x.sp pq) (hpl : ∀ l, pq = some l → PlainPairs l) :
    WebRecX (vMut cfg m x).u s un pw h po dpo psegs ((pq.map g).map qText) f := by
  have hvl := vList_of_inv cfg x pq hi w.query
  rw [vMut_u, hvl, hm]
  refine ⟨w.scheme, w.username, w.password, w.host, w.port, w.dport, w.path, ?_, w.fragment⟩
  show Heap.updQuery x.u.query _ = _
  rw [w.query]
  cases pq with
  | none => rw [show g ((none : Option Pairs).getD []) = [] from hnil]; rfl
  | some l =>
    rw [show spString cfg (g ((some l : Option Pairs).getD [])) = qText (g l) from
      spString_plain cfg hc.querySet _ (hg l (hpl l rfl))]
    exact if_neg fun h => nomatch h.2

theorem stage8 (p : Profile) (hc : CfgWeb p.cfg) (x : VS) {s un pw h : Bytes} {po : Option Bytes} {dpo : Nat} {psegs : List Bytes} {pq : Option Pairs} {f : Option Bytes}
    (w : WebRecX x.u s un pw h po dpo psegs (pq.map qText) f) (hi : SpInv x.sp pq) (hpl : ∀ l, pq = some l → PlainPairs l) :
    ∃ x8, (match step8 p x with
        | (x', Ret.panic n) => (x', Ret.panic n)
        | (x', _) => (x', Ret.url)) = (x8, Ret.url) ∧
      WebRecX x8.u s un pw h po dpo psegs ((pq.map (sortOf p)).map qText) f := by
  unfold step8 sortOf
  cases p.sortQuery with
  | noSort =>
    refine ⟨x, rfl, ?_⟩
    have : pq.map id = pq := by cases pq <;> rfl
    dsimp only
    rw [this]; exact w
  | sortKeys =>
    exact ⟨_, rfl, vMut_sort p.cfg hc .sort spSort (fun _ => rfl) (fun l hl => sortStable_plain _ l hl) rfl x w hi hpl⟩
  | sortParameter =>
    exact ⟨_, rfl, vMut_sort p.cfg hc .sortAbs spSortAbs (fun _ => rfl) (fun l hl => sortStable_plain _ l hl) rfl x w hi hpl⟩

/-- **the closed form of the pipeline** on the record of a web url WITH credentials and port: the credentials are
    carried along unless the profile removes them, the port is kept unless the profile removes it -/
theorem canonV_closed (I : Idna) (p : Profile) (hp : p.repeatedPercentDecoding = true) (hc : CfgWeb p.cfg)
    (u : Url) {s un pw h hc' : Bytes} {po : Option Bytes} {dpo : Nat} {psegs segs : List Bytes} {pq q : Option Pairs}
    {pf f : Option Bytes}
    (hs : Sch p.cfg s) (w : WebRecX u s un pw h po dpo segs (q.map qText) f) (hsp : Spells psegs pq pf segs q f)
    (hv : hostText (decodeEncode hostSet h) = true)
    (hout : (parseHost p.cfg I u (decodeEncode hostSet h) false).out = .ok hc') (hcne : hc' ≠ []) :
    ∃ x8, canonV I p ⟨u, none⟩ = (x8, .url) ∧
      WebRecX x8.u s (if p.removeUserInfo = true then [] else un) (if p.removeUserInfo = true then [] else pw) hc'
        (if p.removePort = true then none else po) (if p.removePort = true then 0 else dpo)
        psegs ((pq.map (sortOf p)).map qText) (if p.removeFragment = true then none else pf) := by
  have hnf := hs.notfile hc
  obtain ⟨x1, e1, w1, s1⟩ := stage1 I p hp hc ⟨u, none⟩ hs w hv hout
  obtain ⟨x2, e2, w2, s2⟩ := stage2 I p hp hc x1 w1 hsp.hsegs hsp.hne
  obtain ⟨x3, e3, w3, s3⟩ := stage3 p hp hc x2 hsp.hquery w2 (by rw [s2, s1])
  obtain ⟨x4, e4, w4, s4⟩ := stage4 I p hp hc x3 hs hsp.hfrag w3
  obtain ⟨x5, e5, w5, s5⟩ := stage5 I p x4 w4 hcne hnf
  obtain ⟨x6, e6, w6, s6⟩ := stage6 I p x5 w5 hcne hnf
  obtain ⟨x7, e7, w7, s7⟩ := stage7 I p x6 w6
  obtain ⟨x8, e8, w8⟩ := stage8 p hc x7 w7 (by rw [s7, s6, s5, s4]; exact s3) hsp.plainPairs
  refine ⟨x8, ?_, w8⟩
  simp only [canonV, thenV, e1, e2, e3, e4, e5, e6, e7]
  exact e8

/-- **the closed form as its users read it**: the canonical text at value level -/
theorem canonOut_closed (I : Idna) (p : Profile) (hp : p.repeatedPercentDecoding = true) (hc : CfgWeb p.cfg)
    (u : Url) {s un pw h hc' : Bytes} {po : Option Bytes} {dpo : Nat} {psegs segs : List Bytes} {pq q : Option Pairs}
    {pf f : Option Bytes}
    (hs : Sch p.cfg s) (w : WebRecX u s un pw h po dpo segs (q.map qText) f) (hsp : Spells psegs pq pf segs q f)
    (hv : hostText (decodeEncode hostSet h) = true)
    (hout : (parseHost p.cfg I u (decodeEncode hostSet h) false).out = .ok hc') (hcne : hc' ≠ []) :
    canonOut I p ⟨u, .url⟩ =
      some (render (s ++ lit "://" ++
          credText (if p.removeUserInfo = true then [] else un) (if p.removeUserInfo = true then [] else pw) ++ hc' ++
          Web.portText (if p.removePort = true then none else po))
        psegs (pq.map (sortOf p)) (if p.removeFragment = true then none else pf)) := by
  obtain ⟨x8, e8, w8⟩ := canonV_closed I p hp hc u hs w hsp hv hout hcne
  unfold canonOut
  simp only [if_true, e8]
  rw [href_webRecX w8]
  rfl

end WhatwgUrl.Proofs.Idem
#print axioms WhatwgUrl.Proofs.Idem.href_webRecX
