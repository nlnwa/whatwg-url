import WhatwgUrl.Proofs.RoundTrip
import WhatwgUrl.Proofs.SimHost
import WhatwgUrl.Proofs.IPv6RT
/-
  Round trip (C03b): `HostStable` is provable, without any assumption on the IDNA oracle, for opaque hosts in stored form
  and for the serialization of every IPv6 address.  (For domains it is an assumption on the oracle: finding F6.)
-/
namespace WhatwgUrl.Proofs.RoundTrip
open WhatwgUrl WhatwgUrl.Impl WhatwgUrl.Proofs.IPv4 WhatwgUrl.Proofs.Trim WhatwgUrl.Proofs.Sim
open WhatwgUrl.Props

/-- a byte of a valid opaque host in stored form: printable ASCII, not a forbidden host code point -/
def opaqueHostB (b : UInt8) : Bool := decide (0x20 < b.toNat) && decide (b.toNat < 0x7f) && !forbiddenHost b.toNat

theorem opaqueHostB_spec : ∀ b : UInt8, opaqueHostB b = true →
    b.toNat < 0x80 ∧ Spec.forbiddenHostCp (bc b).toNat = false ∧ Spec.c0ControlSet (bc b).toNat = false ∧ (b == 0x5b) = false := by
  apply forall_uint8
  decide +kernel

/-- an opaque host (non-special scheme) without forbidden code points and without bytes that would be escaped is stable -/
theorem parseHost_opaque_fixed (I : Idna) (h : Bytes) (hok : ∀ b ∈ h, opaqueHostB b = true) :
    (parseHost {} I {} h true).out = .ok h := by
  show (parseHost Cfg.default I {} h true).out = .ok h
  cases h with
  | nil => rfl
  | cons b0 rest =>
    rw [parseHost_cons, (opaqueHostB_spec b0 (hok b0 (by simp))).2.2.2]
    simp only [Bool.false_eq_true, if_false, if_true]
    unfold parseOpaqueHost
    have hasc : Ascii (b0 :: rest) := fun b hb => (opaqueHostB_spec b (hok b hb)).1
    rw [opaqueLoop_default, goRunes_ascii _ hasc]
    have hnf : (asStr (b0 :: rest)).any (fun c => Spec.forbiddenHostCp c.toNat) = false := by
      rw [List.any_eq_false]
      intro c hc
      obtain ⟨b, hb, rfl⟩ := List.mem_map.mp hc
      simp [(opaqueHostB_spec b (hok b hb)).2.1]
    rw [hnf]
    simp only [Bool.false_eq_true, if_false, List.nil_append]
    rw [Percent.encode_fixed _ _ (by
      intro c hc
      obtain ⟨b, hb, rfl⟩ := List.mem_map.mp hc
      exact (opaqueHostB_spec b (hok b hb)).2.2.1), utf8_asStr _ hasc]

theorem HostStable_opaque (I : Idna) (u : Url) (hns : Cfg.isSpecial {} u.scheme = false)
    (hok : ∀ h ∈ u.host, ∀ b ∈ h, opaqueHostB b = true) : HostStable I u := by
  intro h hh
  rw [hns]
  exact parseHost_opaque_fixed I h (hok h hh)

/-- the serialization of any IPv6 address is stable (C08: serializer conforms, parser conforms, round trip) -/
theorem parseHost_ipv6_fixed (I : Idna) (a : List Nat) (ha : C08.Addr a) (ns : Bool) :
    (parseHost {} I {} ([0x5b] ++ ipv6String a ++ [0x5d]) ns).out = .ok ([0x5b] ++ ipv6String a ++ [0x5d]) := by
  have hcons : ([0x5b] ++ ipv6String a ++ [0x5d] : Bytes) = 0x5b :: (ipv6String a ++ [0x5d]) := by simp
  rw [HostWF.parseHost_eq, Web.preIn_none rfl, hcons, HostWF.hostOf_bracket, ← hcons, HostWF.bracketHost_wrap,
    IPv6.parseIPv6_ipv6String _ _ a ha]

theorem HostStable_ipv6 (I : Idna) (u : Url) (a : List Nat) (ha : C08.Addr a)
    (hh : u.host = some ([0x5b] ++ ipv6String a ++ [0x5d])) : HostStable I u := by
  intro h hm
  have : h = [0x5b] ++ ipv6String a ++ [0x5d] := by
    rw [hh] at hm; simpa using hm.symm
  subst this
  exact parseHost_ipv6_fixed I a ha _

end WhatwgUrl.Proofs.RoundTrip
