import WhatwgUrl.Impl.Api
import WhatwgUrl.Proofs.Termination
/-
  Running the `BasicParser` loop without fuel.  `Resolve.Runs e ps r`: the loop started in `ps` returns `r`;
  `Steps e ps ps'`: finitely many continuing iterations lead from `ps` to `ps'`.  Proofs along a text do not see fuel; it
  comes back through `Termination.loop_ok` in `Runs.exists`, `Runs.loop_fuelFor` (the fuel of `basicParser` never runs out) and
  `runs_basicParser`, and `Runs.loop_eq` / `of_loop` / `loop_add`, `Steps.loop_add` relate runs to the fuelled loop.
-/
namespace WhatwgUrl.Proofs.Resolve
open WhatwgUrl WhatwgUrl.Impl WhatwgUrl.Proofs.Termination

inductive Runs (e : Env) : PS → Res → Prop
  | done {ps : PS} {r : Res} : step e ps = .done r → Runs e ps r
  | cont {ps ps' : PS} {r : Res} : step e ps = .cont ps' → Runs e ps' r → Runs e ps r

theorem Runs.loop_eq {e : Env} {ps : PS} {r : Res} (h : Runs e ps r) : ∀ f, (loop e f ps).ret ≠ .outOfFuel → loop e f ps = r := by
  induction h with
  | done hs =>
    intro f hf
    cases f with
    | zero => exact absurd rfl hf
    | succ f => rw [loop, hs]
  | cont hs _ ih =>
    intro f hf
    cases f with
    | zero => exact absurd rfl hf
    | succ f =>
      rw [loop, hs] at hf ⊢
      exact ih f hf

theorem Runs.of_loop (e : Env) : ∀ (f : Nat) (ps : PS), (loop e f ps).ret ≠ .outOfFuel → Runs e ps (loop e f ps) := by
  intro f
  induction f with
  | zero => intro ps h; exact absurd rfl h
  | succ f ih =>
    intro ps h
    cases hs : step e ps with
    | cont ps' =>
      rw [loop, hs] at h ⊢
      exact .cont hs (ih ps' h)
    | done r =>
      rw [loop, hs]
      exact .done hs

theorem Runs.loop_add {e : Env} {ps : PS} {r : Res} (h : Runs e ps r) : ∃ n : Nat, ∀ m, loop e (n + m) ps = r := by
  induction h with
  | done hs => exact ⟨1, fun m => by rw [show 1 + m = m + 1 by omega, loop, hs]⟩
  | cont hs _ ih =>
    obtain ⟨n, hn⟩ := ih
    exact ⟨n + 1, fun m => by rw [show n + 1 + m = (n + m) + 1 by omega, loop, hs]; exact hn m⟩

theorem Runs.exists (e : Env) (ps : PS) (hI : Inv e.runes.length ps) : ∃ r, Runs e ps r ∧ r.ret ≠ .outOfFuel := by
  have hf : (loop e (fuelFor e.runes) ps).ret ≠ .outOfFuel := by
    refine loop_ok e _ ps hI ?_
    unfold mu fuelFor
    -- 17 is the highest rank of a state (`Termination.rank_le`), the factor in `fuelFor`
    have hm : rank ps.state * (e.runes.length + 2) ≤ 17 * (e.runes.length + 2) := Nat.mul_le_mul_right _ (rank_le _)
    generalize rank ps.state * (e.runes.length + 2) = A at hm ⊢
    have := hI.1
    omega
  exact ⟨_, Runs.of_loop e _ ps hf, hf⟩

theorem Runs.loop_fuelFor {e : Env} {ps : PS} {r : Res} (h : Runs e ps r) (hp : ps.pointer = -1) (he : ps.eof = false) :
    loop e (fuelFor e.runes) ps = r := by
  obtain ⟨hI, hm⟩ := mu_init e.runes.length ps hp he
  exact h.loop_eq _ (loop_ok e _ ps hI (by unfold fuelFor; exact hm))

theorem Runs.inv {e : Env} {P : PS → Prop} {D : Res → Prop} (hstep : ∀ ps, P ps → Machine.Sh P D (step e ps))
    {ps : PS} {r : Res} (h : Runs e ps r) : P ps → D r := by
  induction h with
  | done hs => intro hp; have := hstep _ hp; rwa [hs] at this
  | cont hs _ ih => intro hp; have := hstep _ hp; rw [hs] at this; exact ih this

end WhatwgUrl.Proofs.Resolve

namespace WhatwgUrl.Proofs.Spelling
open WhatwgUrl WhatwgUrl.Impl

/-- the state in which the loop is entered: state `st`, nothing read, record `u` -/
def ps0 (st : State) (u : Url) : PS := ⟨st, -1, false, [], false, false, false, u⟩

end WhatwgUrl.Proofs.Spelling

namespace WhatwgUrl.Proofs.Run
open WhatwgUrl WhatwgUrl.Impl WhatwgUrl.Proofs.Resolve WhatwgUrl.Proofs.Termination

inductive Steps (e : Env) : PS → PS → Prop
  | refl (ps : PS) : Steps e ps ps
  | head {ps ps' ps'' : PS} : step e ps = .cont ps' → Steps e ps' ps'' → Steps e ps ps''

theorem Steps.one {e : Env} {ps ps' : PS} (h : step e ps = .cont ps') : Steps e ps ps' := .head h (.refl _)

theorem Steps.trans {e : Env} {a b c : PS} (h₁ : Steps e a b) (h₂ : Steps e b c) : Steps e a c := by
  induction h₁ with
  | refl => exact h₂
  | head hs _ ih => exact .head hs (ih h₂)

theorem Steps.runs {e : Env} {a b : PS} {r : Res} (h₁ : Steps e a b) (h₂ : Runs e b r) : Runs e a r := by
  induction h₁ with
  | refl => exact h₂
  | head hs _ ih => exact .cont hs (ih h₂)

theorem Steps.done {e : Env} {a b : PS} {r : Res} (h₁ : Steps e a b) (h₂ : step e b = .done r) : Runs e a r := h₁.runs (.done h₂)

/-- in terms of the fuelled loop: this is `Spelling.Reach e a b` -/
theorem Steps.loop_add {e : Env} {a b : PS} (h : Steps e a b) : ∃ n : Nat, ∀ m, loop e (n + m) a = loop e m b := by
  induction h with
  | refl => exact ⟨0, fun m => by rw [Nat.zero_add]⟩
  | head hs _ ih =>
    obtain ⟨n, hn⟩ := ih
    refine ⟨n + 1, fun m => ?_⟩
    rw [show n + 1 + m = (n + m) + 1 by omega, loop, hs]
    exact hn m

/-- the configuration neither records validation errors nor stops at them (the default one, for instance) -/
def Mute (cfg : Cfg) : Prop := cfg.report = false ∧ cfg.failOnVErr = false

theorem Mute.default : Mute {} := ⟨rfl, rfl⟩

theorem herr_mute {e : Env} (hm : Mute e.cfg) (ps : PS) (t : ErrT) (k : PS → StepR) : herr e ps t false k = k ps := by
  simp [herr, stops, record, hm.1, hm.2]

theorem basicParser_mute {cfg : Cfg} (hm : Mute cfg) (I : Idna) (input : Bytes) (base url : Option Url) (ov : Option State) :
    basicParser cfg I input base url ov =
      loop (Machine.loopEnv cfg I input base url ov) (fuelFor (Machine.loopEnv cfg I input base url ov).runes)
        (Spelling.ps0 (ov.getD .schemeStart) (url.getD {})) := by
  unfold basicParser Machine.loopEnv Spelling.ps0
  simp only [stops, record, hm.1, hm.2, Bool.or_self, Bool.and_false, Bool.false_eq_true, if_false, ite_self]

theorem basicParser_of_runs {cfg : Cfg} (hm : Mute cfg) {I : Idna} {input : Bytes} {base url : Option Url} {ov : Option State}
    {r : Res} (h : Runs (Machine.loopEnv cfg I input base url ov) (Spelling.ps0 (ov.getD .schemeStart) (url.getD {})) r) :
    basicParser cfg I input base url ov = r := by
  rw [basicParser_mute hm]
  exact h.loop_fuelFor rfl rfl

theorem runs_basicParser {cfg : Cfg} (hm : Mute cfg) (I : Idna) (input : Bytes) (base url : Option Url) (ov : Option State) :
    Runs (Machine.loopEnv cfg I input base url ov) (Spelling.ps0 (ov.getD .schemeStart) (url.getD {})) (basicParser cfg I input base url ov) := by
  rw [basicParser_mute hm]
  obtain ⟨hI, hm'⟩ := mu_init (Machine.loopEnv cfg I input base url ov).runes.length (Spelling.ps0 (ov.getD .schemeStart) (url.getD {})) rfl rfl
  exact Runs.of_loop _ _ _ (loop_ok _ _ _ hI (by unfold fuelFor; exact hm'))

/-! ### `parseRef`: the base given as a string -/

/-- `Parser.ParseRef(base, ref)` with a non-empty base string resolves `ref` against the parsed base, and fails if the base
    does not parse (`Props/C06.lean` has the equation with all outcomes) -/
theorem parseRef_cases (cfg : Cfg) (I : Idna) (b r : Bytes) (hb : b ≠ []) :
    ((parse cfg I b).ret = .url ∧ parseRef cfg I b r = urlParse cfg I (parse cfg I b).url r) ∨
    ((parse cfg I b).ret ≠ .url ∧ (parseRef cfg I b r).ret ≠ .url) := by
  have he : b.isEmpty = false := by cases b with | nil => exact absurd rfl hb | cons _ _ => rfl
  unfold parseRef urlParse
  simp only [he, Bool.false_eq_true, if_false]
  cases h : (parse cfg I b).ret <;> first | exact Or.inl ⟨rfl, rfl⟩ | exact Or.inr ⟨by simp, by simp⟩

end WhatwgUrl.Proofs.Run
