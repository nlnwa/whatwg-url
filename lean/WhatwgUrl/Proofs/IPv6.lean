import WhatwgUrl.Impl.Host
import WhatwgUrl.Spec.Basic
import WhatwgUrl.Proofs.Percent
/-
  C08: the zero pattern and compress index of the IPv6 serializer, the digits of a number in a base, and the serializer's
  output.  The middle part is general: the decimal rendering (`toDigits_*`, `digitsVal_itoa`, `itoa_digits`, `itoa_eq`)
  serves the port proofs as well.
-/
namespace WhatwgUrl.Proofs.IPv6
open WhatwgUrl WhatwgUrl.Impl

/-- the zero pattern of an address.  The Go scan and the standard's compress index both look at a piece only through
    `== 0` (`compressScan_pat`, `compressIndex_pat`), so the 256 patterns of eight pieces decide `compressScan_eq`. -/
def pat (a : List Nat) : List Nat := a.map (fun x => if x = 0 then 0 else 1)

theorem pat_length (a : List Nat) : (pat a).length = a.length := by simp [pat]

theorem pat_getElem! (a : List Nat) (i : Nat) : ((pat a)[i]! == 0) = (a[i]! == 0) := by
  by_cases h : i < a.length
  · simp [pat, h]
    by_cases h0 : a[i] = 0 <;> simp [h0]
  · simp [pat, h]

theorem compressScan_pat (a : List Nat) : ipv6CompressScan (pat a) = ipv6CompressScan a := by
  have : scanStep6 (pat a) = scanStep6 a := by funext st i; simp only [scanStep6, pat_getElem!]
  simp only [ipv6CompressScan, this]

theorem zeroRunLen_pat (a : List Nat) (i : Nat) : Spec.zeroRunLen (pat a) i = Spec.zeroRunLen a i := by
  simp only [Spec.zeroRunLen, pat, ← List.map_drop, List.takeWhile_map, List.length_map]
  congr 2
  funext x
  by_cases h0 : x = 0 <;> simp [h0]

theorem compressIndex_pat (a : List Nat) : Spec.compressIndex (pat a) = Spec.compressIndex a := by
  simp only [Spec.compressIndex, zeroRunLen_pat]
  congr 1
  funext i
  have : ((pat a)[i - 1]! != 0) = (a[i - 1]! != 0) := by
    simp only [bne, pat_getElem!]
  rw [this]

/-- the Go code's spelling of an optional index: `-1` for none -/
def coInt (co : Option Nat) : Int := match co with | some i => (i : Int) | none => -1

/-- the standard's compress index as the Go code represents it -/
def ciInt (a : List Nat) : Int := coInt (Spec.compressIndex a)

def b2n (b : Bool) : Nat := if b then 0 else 1

/-- all 256 zero patterns -/
theorem compress_patterns : ∀ b0 b1 b2 b3 b4 b5 b6 b7 : Bool,
    ipv6CompressScan [b2n b0, b2n b1, b2n b2, b2n b3, b2n b4, b2n b5, b2n b6, b2n b7] =
    ciInt [b2n b0, b2n b1, b2n b2, b2n b3, b2n b4, b2n b5, b2n b6, b2n b7] := by
  decide +kernel

theorem compressScan_eq (a : List Nat) (h : a.length = 8) : ipv6CompressScan a = ciInt a := by
  match a, h with
  | [a0, a1, a2, a3, a4, a5, a6, a7], _ =>
    rw [← compressScan_pat, ciInt, ← compressIndex_pat]
    have : pat [a0, a1, a2, a3, a4, a5, a6, a7] =
        [b2n (a0 == 0), b2n (a1 == 0), b2n (a2 == 0), b2n (a3 == 0), b2n (a4 == 0), b2n (a5 == 0), b2n (a6 == 0), b2n (a7 == 0)] := by
      simp [pat, b2n]
    rw [this]
    exact compress_patterns _ _ _ _ _ _ _ _

theorem toDigitsAux_lt (b : Nat) (hb : 0 < b) : ∀ fuel n acc, (∀ d ∈ acc, d < b) → ∀ d ∈ toDigitsAux b fuel n acc, d < b := by
  intro fuel
  induction fuel with
  | zero =>
    intro n acc hacc d hd
    simp only [toDigitsAux, List.mem_cons] at hd
    rcases hd with rfl | hd
    · exact Nat.mod_lt _ hb
    · exact hacc d hd
  | succ fuel ih =>
    intro n acc hacc d hd
    simp only [toDigitsAux] at hd
    split at hd
    · simp only [List.mem_cons] at hd
      rcases hd with rfl | hd
      · assumption
      · exact hacc d hd
    · apply ih _ _ _ d hd
      intro e he
      simp only [List.mem_cons] at he
      rcases he with rfl | he
      · exact Nat.mod_lt _ hb
      · exact hacc e he

theorem toDigits_lt (b : Nat) (hb : 0 < b) (n : Nat) : ∀ d ∈ toDigits b n, d < b :=
  toDigitsAux_lt b hb n n [] (by simp)

theorem toDigitsAux_val (b : Nat) (hb : 2 ≤ b) : ∀ (fuel n : Nat) (acc : List Nat), n ≤ fuel →
    (toDigitsAux b fuel n acc).foldl (fun a d => a * b + d) 0 = acc.foldl (fun a d => a * b + d) n := by
  intro fuel
  induction fuel with
  | zero =>
    intro n acc h
    have : n = 0 := by omega
    subst this
    simp [toDigitsAux]
  | succ fuel ih =>
    intro n acc h
    simp only [toDigitsAux]
    split
    · simp
    · next hn =>
      have hlt : n / b < n := Nat.div_lt_self (by omega) hb
      rw [ih (n / b) (n % b :: acc) (by omega), List.foldl_cons, Nat.div_add_mod']

theorem toDigits_val (b : Nat) (hb : 2 ≤ b) (n : Nat) : (toDigits b n).foldl (fun a d => a * b + d) 0 = n :=
  toDigitsAux_val b hb n n [] (Nat.le_refl _)

theorem toDigitsAux_length (b : Nat) (hb : 2 ≤ b) : ∀ (fuel n : Nat) (acc : List Nat) (k : Nat), n ≤ fuel → n < b ^ (k + 1) →
    (toDigitsAux b fuel n acc).length ≤ k + 1 + acc.length := by
  intro fuel
  induction fuel with
  | zero => intro n acc k _ _; simp [toDigitsAux]; omega
  | succ fuel ih =>
    intro n acc k h hk
    simp only [toDigitsAux]
    split
    · simp; omega
    · next hn =>
      cases k with
      | zero => simp at hk; omega
      | succ k =>
        have hlt : n / b < n := Nat.div_lt_self (by omega) hb
        have hd : n / b < b ^ (k + 1) := Nat.div_lt_of_lt_mul (by rw [← Nat.pow_succ']; exact hk)
        have := ih (n / b) (n % b :: acc) k (by omega) hd
        simp at this ⊢; omega

theorem toDigits_length_le (b : Nat) (hb : 2 ≤ b) (n k : Nat) (h : n < b ^ (k + 1)) : (toDigits b n).length ≤ k + 1 := by
  simpa [toDigits] using toDigitsAux_length b hb n n [] k (Nat.le_refl _) h

theorem toDigitsAux_head (b : Nat) (hb : 2 ≤ b) : ∀ (fuel n : Nat) (acc : List Nat), n ≤ fuel →
    (toDigitsAux b fuel n acc).head? = some 0 → n = 0 := by
  intro fuel
  induction fuel with
  | zero => intro n acc h _; omega
  | succ fuel ih =>
    intro n acc h h0
    simp only [toDigitsAux] at h0
    split at h0
    · simpa using h0
    · next hn =>
      have hlt : n / b < n := Nat.div_lt_self (by omega) hb
      have := ih (n / b) (n % b :: acc) (by omega) h0
      have := (Nat.div_eq_zero_iff_lt (by omega)).mp this
      omega

theorem toDigits_head (b : Nat) (hb : 2 ≤ b) (n : Nat) (h : (toDigits b n).head? = some 0) : n = 0 :=
  toDigitsAux_head b hb n n [] (Nat.le_refl _) h

theorem toDigitsAux_ne (b : Nat) : ∀ (fuel n : Nat) (acc : List Nat), toDigitsAux b fuel n acc ≠ [] := by
  intro fuel
  induction fuel with
  | zero => intro n acc; simp [toDigitsAux]
  | succ fuel ih =>
    intro n acc
    simp only [toDigitsAux]
    split
    · simp
    · exact ih _ _

theorem toDigits_ne (b n : Nat) : toDigits b n ≠ [] := toDigitsAux_ne b n n []

theorem digit_byte : ∀ d : Fin 10, hexVal ((0x30 + d.val).toUInt8.toNat) = d.val ∧ isDigitN ((0x30 + d.val).toUInt8.toNat) = true := by
  decide

theorem foldl_congr_mem {α β : Type} (f g : β → α → β) : ∀ (l : List α) (b : β), (∀ x ∈ l, ∀ b, f b x = g b x) → l.foldl f b = l.foldl g b := by
  intro l
  induction l with
  | nil => intro b _; rfl
  | cons x l ih =>
    intro b h
    simp only [List.foldl_cons]
    rw [h x (by simp) b]
    exact ih _ (fun y hy => h y (by simp [hy]))

theorem digitsVal_itoa (n : Nat) : digitsVal 10 (itoa n) = n := by
  unfold digitsVal itoa
  rw [List.foldl_map]
  have hlt := toDigits_lt 10 (by omega) n
  rw [foldl_congr_mem _ (fun acc d => acc * 10 + d) (toDigits 10 n) 0
    (fun d hd b => by rw [(digit_byte ⟨d, hlt d hd⟩).1])]
  exact toDigits_val 10 (by omega) n

theorem itoa_digits (n : Nat) : ∀ b ∈ itoa n, isDigitN b.toNat = true := by
  intro b hb
  unfold itoa at hb
  obtain ⟨d, hd, rfl⟩ := List.mem_map.mp hb
  exact (digit_byte ⟨d, toDigits_lt 10 (by omega) n d hd⟩).2

theorem itoa_ne (n : Nat) : itoa n ≠ [] := by
  unfold itoa
  intro h
  exact toDigits_ne 10 n (List.map_eq_nil_iff.mp h)

theorem utf8Char_digit : ∀ d : Fin 10, utf8Char (Char.ofNat (0x30 + d.val)) = [(0x30 + d.val).toUInt8] := by
  decide +kernel

/-- characters that each encode to one byte -/
theorem utf8_map_single {α : Type} (l : List α) (f : α → Char) (g : α → UInt8) (h : ∀ d ∈ l, utf8Char (f d) = [g d]) :
    utf8 (l.map f) = l.map g := by
  induction l with
  | nil => rfl
  | cons d l ih =>
    rw [List.map_cons, List.map_cons, Utf8.utf8_cons, h d (by simp), ih fun e he => h e (by simp [he])]; rfl

/-- Go's `strconv.Itoa` is the UTF-8 of the standard's shortest decimal serialization -/
theorem itoa_eq (n : Nat) : itoa n = utf8 (Spec.natToStr n) :=
  (utf8_map_single _ _ _ fun d hd => utf8Char_digit ⟨d, toDigits_lt 10 (by decide) n d hd⟩).symm

theorem utf8_hexLower : ∀ d : Fin 16, utf8Char (bc (hexLower d.val)) = [hexLower d.val] := by
  decide +kernel

theorem utf8_hexDigits (l : List Nat) (h : ∀ d ∈ l, d < 16) :
    utf8 (l.map fun d => bc (hexLower d)) = l.map hexLower :=
  utf8_map_single l _ _ fun d hd => utf8_hexLower ⟨d, h d hd⟩

theorem utf8_hexLowerStr (n : Nat) : utf8 (Spec.hexLowerStr n) = hexStr n :=
  utf8_hexDigits _ (toDigits_lt 16 (by decide) n)

theorem ser_fold (a : List Nat) (co : Option Nat) : ∀ n i out ig, i + n ≤ 8 →
    ((List.range' i n).foldl (serStep6 a (coInt co)) (out, ig)).1 = out ++ utf8 (Spec.serializeIPv6Aux a co n i ig) := by
  intro n
  induction n with
  | zero => intro i out ig _; simp [Spec.serializeIPv6Aux, utf8]
  | succ n ih =>
    intro i out ig hi
    have hi8 : ¬ i ≥ 8 := by omega
    have hc : (coInt co == (i : Int)) = (co == some i) := by
      cases co with
      | none => simp [coInt]
      | some k =>
        by_cases hk : k = i
        · simp [coInt, hk]
        · have h1 : ((k : Int) == (i : Int)) = false := by
            apply beq_false_of_ne; omega
          have h2 : (some k == some i) = false := by simpa using hk
          simp only [coInt]
          rw [h1, h2]
    simp only [List.range'_succ, List.foldl_cons, Spec.serializeIPv6Aux, hi8, if_false]
    by_cases h1 : (ig && a[i]! == 0) = true
    · have : serStep6 a (coInt co) (out, ig) i = (out, true) := by
        simp only [serStep6, h1, if_true]
        simp at h1; simp [h1.1]
      rw [this, ih _ _ _ (by omega), if_pos h1]
    · by_cases h2 : (co == some i) = true
      · have : serStep6 a (coInt co) (out, ig) i = (out ++ (if i == 0 then [0x3a, 0x3a] else [0x3a]), true) := by
          simp only [serStep6, h1, hc, h2, if_true]; simp
        rw [this, ih _ _ _ (by omega), if_neg h1, if_pos h2]
        by_cases h0 : i = 0 <;> simp [h0] <;> rfl
      · have : serStep6 a (coInt co) (out, ig) i = (out ++ hexStr a[i]! ++ (if i != 7 then [0x3a] else []), false) := by
          simp only [serStep6, h1, hc, h2]; simp
        rw [this, ih _ _ _ (by omega), if_neg h1, if_neg h2]
        by_cases h7 : i = 7 <;> simp [h7, Percent.utf8_append, utf8_hexLowerStr] <;> rfl

theorem ipv6String_eq (a : List Nat) (h : a.length = 8) : ipv6String a = utf8 (Spec.serializeIPv6 a) := by
  have := ser_fold a (Spec.compressIndex a) 8 0 [] false (by omega)
  simp only [List.nil_append] at this
  rw [Spec.serializeIPv6, ← this, ipv6String, compressScan_eq a h, List.range_eq_range']
  rfl

theorem hexChar_facts : ∀ d : Fin 16,
    (isDigitN (bc (hexLower d.val)).toNat ∨ (0x61 ≤ (bc (hexLower d.val)).toNat ∧ (bc (hexLower d.val)).toNat ≤ 0x66)) ∧
    (bc (hexLower d.val) = '0' → d.val = 0) ∧ hexVal (bc (hexLower d.val)).toNat = d.val ∧
    isHexN (bc (hexLower d.val)).toNat = true ∧ bc (hexLower d.val) ≠ ':' := by
  decide +kernel

theorem strVal_digits (l : List Nat) (h : ∀ d ∈ l, d < 16) (v : Nat) :
    (l.map fun d => bc (hexLower d)).foldl (fun acc c => acc * 16 + hexVal c.toNat) v = l.foldl (fun acc d => acc * 16 + d) v := by
  rw [List.foldl_map]
  exact foldl_congr_mem _ _ l v fun d hd b => by rw [(hexChar_facts ⟨d, h d hd⟩).2.2.1]

end WhatwgUrl.Proofs.IPv6
