import WhatwgUrl.Proofs.RTcInv
import WhatwgUrl.Proofs.CharsetMachine
import WhatwgUrl.Proofs.SimPrologue
/-
  C03c: the clauses 1–6 of `RTx` are kept by the state machine — in a fresh parse (with or without a
  base) and under every state override (setters) other than the protocol setter's (`HypX.hnp`; the protocol setter is
  treated in `RTcInvSetters.lean`).  Same scheme as `Proofs/CharsetMachine.lean`: `body_x` is the fact about one pass
  through the `switch`, with the structural invariant `J` of C04b as a hypothesis, and `C04b.basicParser_withJ` lifts it.
  Clause 7 (`NoSl`) is `Proofs/OpaqueSlash.lean`.

  * `Xu` (clauses 1–4) holds at every loop top;
  * `Bx` is the state-indexed part: the opaque-path state is positional ("the buffer ends in a space only if the code
    point just read was a space", and the prologue of a fresh parse has stripped trailing spaces: `runes_last`); the
    path-start state of a fresh parse has a host; under an override the url is mutated in place, so the host / port /
    query / fragment states carry `Xe ∧ Xt` all the time, while the path states (pathname setter) establish them at the end;
  * `Px` / `Dx`: post-conditions of a continuing / returning step (`Dx`: under an override every way of returning counts).
-/
namespace WhatwgUrl.Proofs.RTcInv
open WhatwgUrl WhatwgUrl.Impl WhatwgUrl.Proofs.HostWF
open WhatwgUrl.Proofs.Machine
open WhatwgUrl.Props.C04b (WFs WFa J J_fresh Hyp CfgOk Blank PreAuth FileJ CanPort basicParser_withJ
  next_atFlag next_state' next_eof_of_rsw)

/-- the additional standing hypotheses (all hold in the default configuration; the state override is arbitrary except
    for the protocol setter's, which is treated separately: it is the documented exception) -/
structure HypX (e : Env) : Prop where
  hnp : e.ov ≠ some .schemeStart
  hstops : stops e.cfg false = false
  henc : e.cfg.encOverride = none
  hpct : e.cfg.pctSingle = false
  hcol : e.cfg.collapse = false
  hskip : e.cfg.skipDrive = false
  hfileSp : e.cfg.isSpecial (lit "file") = true
  hbx : ∀ b, e.base = some b → Xu b ∧ Xe b
  /-- the prologue of a fresh parse has stripped trailing spaces -/
  hlast : e.ov = none → e.runes.getLast? ≠ some ' '

/-- the state-indexed part; `p` = index of the next code point -/
def Bx (e : Env) (ps : PS) (p : Int) : Prop :=
  match ps.state with
  | .opaquePath =>
    ps.url.path = ⟨[ps.buffer], true⟩ ∧ (ps.buffer.getLast? = some 0x20 → cur e.runes (p - 1) = some ' ')
  | .query | .fragment => Xe ps.url ∧ (e.ov.isSome = true → Xt ps.url)
  | .pathStart => e.ov = none → ps.url.host ≠ none
  | .host | .hostname | .fileHost | .port => e.ov.isSome = true → Xe ps.url ∧ Xt ps.url
  | _ => True

/-- after a step that goes on: `Xu`; at the end of the input `Xe ∧ Xt`, before it `Bx` at the next code point -/
def Px (e : Env) (ps : PS) : Prop :=
  Xu ps.url ∧ (ps.eof = true → Xe ps.url ∧ Xt ps.url) ∧ (ps.eof = false → Bx e ps (ps.pointer + 1))
/-- under a state override the url is mutated in place, so every way of returning counts -/
def Dx (e : Env) (x : Res) : Prop := (x.ret = .url ∨ e.ov.isSome = true) → Xu x.url ∧ Xe x.url ∧ Xt x.url

theorem DriveOk_nil (p : Path) (h : p.segs = []) : DriveOk p := by
  intro s hs; rw [h] at hs; cases hs
theorem DriveOk_init : DriveOk ⟨[], false⟩ := DriveOk_nil _ rfl

theorem DriveOk_shorten (p : Path) (sc : Bytes) (h : DriveOk p) : DriveOk (p.shorten sc) := by
  unfold Path.shorten
  split
  · exact h
  · split
    · exact h
    · intro s hs
      exact h s (OpaqueSlash.head?_dropLast _ _ hs)

theorem DriveOk_add (p : Path) (s : Bytes) (h : DriveOk p) (hne : p.segs ≠ []) : DriveOk (p.addSegment s) := by
  intro x hx
  apply h x
  unfold Path.addSegment at hx
  dsimp only at hx
  cases hp : p.segs with
  | nil => exact absurd hp hne
  | cons a t => rw [hp] at hx; simpa using hx

theorem DriveOk_add_first (p : Path) (s : Bytes) (he : p.segs = [])
    (hs : isWindowsDriveLetter s = true → isNormalizedWindowsDriveLetter s = true) : DriveOk (p.addSegment s) := by
  intro x hx
  unfold Path.addSegment at hx
  dsimp only at hx
  rw [he] at hx
  simp only [List.nil_append, List.head?_cons, Option.mem_def, Option.some.injEq] at hx
  subst hx; exact hs

theorem DriveOk_add_nil (p : Path) (h : DriveOk p) : DriveOk (p.addSegment []) := by
  by_cases hne : p.segs = []
  · exact DriveOk_add_first p [] hne (by intro h; cases h)
  · exact DriveOk_add p [] h hne

@[simp] theorem addSegment_opq (p : Path) (s : Bytes) : (p.addSegment s).opq = false := rfl
theorem addSegment_ne (p : Path) (s : Bytes) : (p.addSegment s).segs ≠ [] := by simp [Path.addSegment]

theorem norm_of_drive (buf : Bytes) (h : isWindowsDriveLetter buf = true) :
    isNormalizedWindowsDriveLetter (buf.take 1 ++ [0x3a] ++ buf.drop 2) = true := by
  obtain ⟨a, b, rfl, ha, _⟩ := WhatwgUrl.Props.C04c.drive_shape buf h
  simp [isNormalizedWindowsDriveLetter, ha]

theorem isEmpty_segs (p : Path) : p.isEmpty = true ↔ p.segs = [] := by
  unfold Path.isEmpty; exact List.isEmpty_iff

theorem cdp_decodedPort_port (cfg : Cfg) (u : Url) (h : u.port = none → u.decodedPort = 0) :
    (cleanDefaultPort cfg u).port = none → (cleanDefaultPort cfg u).decodedPort = 0 := by
  unfold cleanDefaultPort
  split
  · split
    · intro _; rfl
    · exact h
  · exact h

theorem Xu_cdp (cfg : Cfg) (u : Url) (h : Xu u) : Xu (cleanDefaultPort cfg u) := by
  unfold Xu at h ⊢
  rw [cleanDefaultPort_scheme, cleanDefaultPort_host, cleanDefaultPort_path]
  exact ⟨cdp_decodedPort_port cfg u h.1, h.2⟩

@[simp] theorem noQH_nil : noQH [] = true := rfl
theorem noQH_append (a b : Bytes) : noQH (a ++ b) = (noQH a && noQH b) := by simp [noQH]

theorem WFs_file_list (cfg : Cfg) (b : Url) (h : WFs cfg b) (hf : cfg.isSpecial (lit "file") = true) (hs : b.scheme = lit "file") :
    b.path.opq = false := (h.2.1 (by rw [hs]; exact hf)).2.2.1

theorem localhost_ne_nil : ([] : Bytes) ≠ lit "localhost" := by decide

macro "x_fl" : tactic => `(tactic|
  simp only [Px, Dx, Bx, Xu, Xe, Xt, Same, Blank, PreAuth, FileJ, CanPort, writeRune, rewindLast, resetInput, rewind, isSp, spBackslash,
    Path.setOpaque, Path.init, shorten_opq, addSegment_opq, record_scheme, record_username,
    record_password, record_host, record_port, record_decodedPort, record_path, record_query, record_fragment,
    cleanDefaultPort_scheme, cleanDefaultPort_username, cleanDefaultPort_password, cleanDefaultPort_host, cleanDefaultPort_path, cleanDefaultPort_query, cleanDefaultPort_fragment,
    next_url, next_buffer, next_atFlag, next_state', next_pointer, List.all_cons, List.all_nil, noQH_nil, Bool.and_true, List.getLast?_nil,
    true_implies, false_implies, and_true, true_and, reduceCtorEq, implies_true, not_true_eq_false, not_false_eq_true,
    forall_const, Bool.false_eq_true, Bool.true_eq_false, ne_eq, or_true, true_or, and_false, and_self] at *)

attribute [local grind =] DriveOk_init cdp_decodedPort_port
attribute [local grind .] DriveOk_shorten DriveOk_add_nil DriveOk_add_first DriveOk_nil addSegment_ne localhost_ne_nil
  next_eof_of_rsw

/-- `grind` with the lemmas above; one leaf of `body_x` needs more case splits than the default bound allows -/
macro "x_grind" : tactic => `(tactic| grind (splits := 40))

macro "x_close" he:ident : tactic => `(tactic|
  (x_fl <;> (try simp only [$he:ident] at *) <;> x_grind))

theorem segPath_drive (e : Env) (ps : PS) (r : Char) (hcol : e.cfg.collapse = false) (hskip : e.cfg.skipDrive = false)
    (hf : ps.url.scheme = lit "file") (hd : DriveOk ps.url.path) : DriveOk (segPath e ps r) := by
  have h1 := DriveOk_shorten _ ps.url.scheme hd
  have h2 := norm_of_drive ps.buffer
  unfold segPath
  simp only [hcol, hskip, hf]
  grind [DriveOk_add_nil, DriveOk_add_first, DriveOk_add, isEmpty_segs]

/-- the end of a segment: the path stays a list, a drive letter in front is normalised, and without a (back)slash
    behind it — in particular at the end of the input — the path is not empty -/
theorem segEnd_x (e : Env) (X : HypX e) (r : Char) (p : PS) (hst : p.state = .path) (hU : Xu p.url)
    (ho : p.url.path.opq = false) (hne : p.eof = true → r ≠ '/' ∧ r ≠ '\\') : Sh (Px e) (Dx e) (segEnd e r p) := by
  have h1 := segPath_opq e p r ho
  have h2 := segPath_ne e p r
  have h3 := segPath_drive e p r X.hcol X.hskip
  simp [Xu, ho] at hU
  rcases Classical.em (r = '?') with rfl | hq
  · simp [segEnd, Sh_cont, Px, Bx, Xu, Xe, Xt, spBackslash, h1] at h2 ⊢
    grind
  rcases Classical.em (r = '#') with rfl | hh
  · simp [segEnd, Sh_cont, Px, Bx, Xu, Xe, Xt, spBackslash, h1] at h2 ⊢
    grind
  · simp [segEnd, Sh_cont, Px, Bx, Xu, Xe, Xt, spBackslash, hst, hq, hh, h1] at h2 ⊢
    grind

theorem stPath_x (e : Env) (X : HypX e) (q : PS) (r : Char) (hst : q.state = .path)
    (hJ : WFa e.cfg q.url ∧ q.url.path.opq = false ∧ (e.ov = none ∨ e.ov = some State.pathStart)) (hU : Xu q.url)
    (hne : q.eof = true → r ≠ '/' ∧ r ≠ '\\') : Sh (Px e) (Dx e) (stPath e q r) := by
  have hstops := X.hstops
  have hs : ∀ v, Sh (Px e) (Dx e) (segEnd e r { q with state := .path, url := { q.url with verrs := v } }) := fun v =>
    segEnd_x e X r _ rfl hU hJ.2.1 hne
  have hs0 := segEnd_x e X r q hst hU hJ.2.1 hne
  simp [Xu, hJ] at hU
  simp +contextual [stPath_eq, Sh_unitChecks, Sh_ite, Sh_herr, Sh_cont, hs, hs0, Px, Dx, Bx, Xu, record_eq, hst, hstops, hU, hJ]

theorem pct_noQH : ∀ b : UInt8, WhatwgUrl.Props.C04c.isPctByte b = true → (b != 0x3f && b != 0x23) = true ∧ b ≠ 0x20 :=
  forall_uint8 (by decide +kernel)

theorem toUInt8_eq_of (r : Char) (n : Nat) (hn : n < 256) (hle : r.toNat ≤ 0x7e) (h : r.toNat.toUInt8 = n.toUInt8) : r = Char.ofNat n := by
  have h1 : r.toNat.toUInt8.toNat = r.toNat := WhatwgUrl.Props.C04c.toUInt8_toNat_of_lt _ (by omega)
  have h2 : n.toUInt8.toNat = n := WhatwgUrl.Props.C04c.toUInt8_toNat_of_lt _ hn
  have : r.toNat = n := by rw [← h1, h, h2]
  rw [← this, Char.ofNat_toNat]

theorem pe_noQH (cfg : Cfg) (henc : cfg.encOverride = none) (tr : PSet) (r : Char) (h1 : r ≠ '?') (h2 : r ≠ '#') :
    noQH (percentEncodeRune cfg tr r) = true := by
  unfold noQH
  apply WhatwgUrl.Props.C04c.pe_all cfg henc
  · intro b hb; exact (pct_noQH b hb).1
  · intro _ hle
    simp only [Bool.and_eq_true, bne_iff_ne, ne_eq]
    constructor
    · intro e; exact h1 (toUInt8_eq_of r 0x3f (by omega) hle e)
    · intro e; exact h2 (toUInt8_eq_of r 0x23 (by omega) hle e)

theorem pe_last (cfg : Cfg) (henc : cfg.encOverride = none) (tr : PSet) (r : Char)
    (h : (percentEncodeRune cfg tr r).getLast? = some 0x20) : r = ' ' := by
  rcases WhatwgUrl.Props.C04c.pe_shape cfg henc tr r with ⟨_, h2, h3⟩ | hp
  · rw [h3] at h
    simp only [List.getLast?_singleton, Option.some.injEq] at h
    exact toUInt8_eq_of r 0x20 (by omega) h2 h
  · rw [List.all_eq_true] at hp
    exact absurd rfl (pct_noQH _ (hp _ (List.mem_of_getLast? h))).2

theorem append_pe_last (cfg : Cfg) (henc : cfg.encOverride = none) (tr : PSet) (b : Bytes) (r : Char)
    (h : (b ++ percentEncodeRune cfg tr r).getLast? = some 0x20) : r = ' ' := by
  rw [List.getLast?_append] at h
  cases hl : (percentEncodeRune cfg tr r).getLast? with
  | none => exact absurd (List.getLast?_eq_none_iff.mp hl) (percentEncodeRune_ne cfg tr r)
  | some x =>
    rw [hl] at h
    simp only [Option.some_or] at h
    cases h
    exact pe_last cfg henc tr r hl

theorem cur_before_end (rs : Str) (c : Char) (hl : rs.getLast? ≠ some c) (p : Int) (h1 : cur rs p = none) :
    cur rs (p - 1) ≠ some c := by
  intro h2
  apply hl
  unfold cur at h1 h2
  split at h2
  · rename_i h0
    have hp : 0 ≤ p := by omega
    rw [if_pos hp] at h1
    have hlen : rs.length ≤ p.toNat := by
      rcases Nat.lt_or_ge p.toNat rs.length with hlt | hge
      · rw [List.getElem?_eq_getElem hlt] at h1; cases h1
      · exact hge
    obtain ⟨hlt, hget⟩ := List.getElem?_eq_some_iff.mp h2
    have hidx : (p - 1).toNat = rs.length - 1 := by omega
    rw [List.getLast?_eq_getElem?, ← hidx]
    exact h2
  · cases h2

theorem stOpaquePath_x (e : Env) (X : HypX e) (q : PS) (r : Char) (hst : q.state = .opaquePath)
    (hJ : e.ov = none ∧ q.url.host = none ∧ q.url.port = none) (hU : Xu q.url)
    (hB : q.url.path = ⟨[q.buffer], true⟩ ∧ (q.buffer.getLast? = some 0x20 → cur e.runes (q.pointer - 1) = some ' '))
    (hcur : cur e.runes q.pointer = if q.eof then none else some r) : Sh (Px e) (Dx e) (stOpaquePath e q r) := by
  have hstops := X.hstops
  have hq1 := pe_noQH e.cfg X.henc c0Set r
  have hl1 := append_pe_last e.cfg X.henc c0Set q.buffer r
  have hend := cur_before_end e.runes ' ' (X.hlast hJ.1) q.pointer
  have hpm : q.pointer + 1 - 1 = q.pointer := by omega
  have hna := noQH_append q.buffer (percentEncodeRune e.cfg c0Set r)
  simp [stOpaquePath, Sh_unitChecks, Sh_ite, Sh_herr, Sh_cont, record_eq, hstops, X.hpct, percentEncodeInvalidRune]
  cases he : q.eof <;> x_close he

section
variable {e : Env} {ps : PS} {p : Int}

theorem Bx_host (h : ps.state = .host ∨ ps.state = .hostname) :
    Bx e ps p ↔ (e.ov.isSome = true → Xe ps.url ∧ Xt ps.url) := by
  rcases h with h | h <;> simp [Bx, h]
theorem Bx_fileHost (h : ps.state = .fileHost) : Bx e ps p ↔ (e.ov.isSome = true → Xe ps.url ∧ Xt ps.url) := by
  simp [Bx, h]
theorem Bx_port (h : ps.state = .port) : Bx e ps p ↔ (e.ov.isSome = true → Xe ps.url ∧ Xt ps.url) := by simp [Bx, h]
theorem Bx_pathStart (h : ps.state = .pathStart) : Bx e ps p ↔ (e.ov = none → ps.url.host ≠ none) := by simp [Bx, h]

end

/-- the two states run the same code and have the same clauses of `J` and `Bx`; the state is kept where the machine stays,
    so `Bx` of the outcome is read through `Bx_host` (a `match` on the state does not reduce under `hst`) -/
theorem stHost_x (e : Env) (X : HypX e) (q : PS) (r : Char) (hst : q.state = .host ∨ q.state = .hostname)
    (hJ : J e q q.pointer) (hU : Xu q.url) (hB : Bx e q q.pointer) (hrepl : q.eof = true → r = repl) :
    Sh (Px e) (Dx e) (stHost e q r) := by
  have hnp := X.hnp
  have hstops := X.hstops
  have hne := fun h => hrepl h ▸ repl_class
  replace hB := (Bx_host hst).1 hB
  replace hJ : (e.ov = none ∧ WhatwgUrl.Props.C04b.schemeOk q.url.scheme = true ∧ q.url.scheme ≠ lit "file" ∧ q.url.port = none ∧
        q.url.path = ⟨[], false⟩ ∧ WhatwgUrl.Props.C04b.HostZ e q q.pointer) ∨
      (e.ov.isSome = true ∧ WFs e.cfg q.url ∧ q.url.path.opq = false) := by
    rcases hst with h | h <;> simpa only [J, h] using hJ
  rcases hJ with hJ | hJ
  all_goals
    simp [Xu, Xe, Xt, hJ] at hU hB
    simp [stHost_eq, hostChar, Sh_ite, Sh_herr, Sh_elim, Sh_cont, Sh_done, Sh_afterHost, Sh_retUrl, Px, Dx, Bx_host, Bx_fileHost,
      Bx_port, Bx_pathStart, Xu, Xe, Xt, writeRune, rewindLast, record_scheme, record_username, record_password, record_host,
      record_port, record_decodedPort, record_path, record_query, record_fragment, stops_true, ite_url, ite_state, ite_eof,
      ite_buffer, ite_pointer, isSp, spBackslash, Option.isSome_iff_ne_none, parseHost_scheme, parseHost_username,
      parseHost_password, parseHost_host, parseHost_port, parseHost_decodedPort, parseHost_path, parseHost_query,
      parseHost_fragment, hst, hJ, hU, eq_true hU, eq_true hB]
    try x_grind

/-- after a state that writes nothing but credentials, in a fresh parse, `Bx` asks nothing -/
theorem Bx_after_plain {e : Env} {ps' : PS} {p : Int} {s : State} (hs : plainSt s = true) (hm : ps'.state ∈ succ false s)
    (ho : e.ov.isSome = false) : Bx e ps' p := by
  unfold Bx
  cases s <;> simp [plainSt] at hs <;> simp [succ] at hm <;> (try rcases hm with hm | hm) <;> simp [hm, ho]

/-- the states that write nothing `Xu` reads and do not continue at the end of the input: `Machine.body_plain` and the frame -/
theorem body_x_plain (e : Env) (X : HypX e) (q : PS) (r : Char) (hpl : plainSt q.state = true) (hJ : J e q q.pointer)
    (hU : Xu q.url) (hcur : cur e.runes q.pointer = if q.eof then none else some r) (hrepl : q.eof = true → r = repl) :
    Sh (Px e) (Dx e) (body e q r) := by
  have hp : q.eof = false → 0 ≤ q.pointer := fun he => by
    rw [he] at hcur
    unfold cur at hcur
    split at hcur
    · assumption
    · cases hcur
  have hov : e.ov = none := by
    have hnp := X.hnp
    unfold J at hJ
    split at hJ <;> simp_all [plainSt]
  have ho : e.ov.isSome = false := by rw [hov]; rfl
  have hw := fun f h1 h2 => plain_writes e.ov.isSome q.state hpl f h1 h2
  refine ((body_eff e q r (by rw [ho]; nofun)).and (body_plain e q r hpl hrepl hp)).mono (fun ps' h => ?_)
    (fun x h hx => absurd hx (by rw [ho]; simp [h.2]))
  obtain ⟨⟨hm, -, -, hf⟩, he⟩ := h
  have h5 := hf .port (hw _ nofun nofun)
  unfold Px
  refine ⟨?_, fun h => (by rw [he] at h; cases h), fun _ => Bx_after_plain hpl (ho ▸ hm) ho⟩
  unfold Xu at hU ⊢
  rw [hf .scheme (hw _ nofun nofun), hf .host (hw _ nofun nofun), h5.1, h5.2, hf .path (hw _ nofun nofun)]
  exact hU

theorem body_x (e : Env) (H : Hyp e) (X : HypX e) (q : PS) (r : Char) (hJ : J e q q.pointer) (hU : Xu q.url)
    (hB : Bx e q q.pointer) (hcur : cur e.runes q.pointer = if q.eof then none else some r) (hrepl : q.eof = true → r = repl) :
    Sh (Px e) (Dx e) (body e q r) := by
  have hbx := X.hbx
  have hbl := fun b hb' => WFs_file_list e.cfg b (H.hb b hb') X.hfileSp
  have hnp := X.hnp
  have hstops := X.hstops
  have hne := fun h => hrepl h ▸ repl_class
  by_cases hpl : plainSt q.state = true
  · exact body_x_plain e X q r hpl hJ hU hcur hrepl
  unfold body
  split <;> rename_i hst <;> simp [hst, plainSt] at hpl
  case h_10 => exact stHost_x e X q r (Or.inl hst) hJ hU hB hrepl
  case h_11 => exact stHost_x e X q r (Or.inr hst) hJ hU hB hrepl
  all_goals simp [J, Bx, hst, Blank, PreAuth, FileJ, CanPort, Option.isSome_iff_ne_none] at hJ hB
  case h_16 => exact stPath_x e X q r hst hJ hU fun h => ⟨(hne h).2.2.2.1, (hne h).2.2.2.2.1⟩
  case h_4 => exact stOpaquePath_x e X q r hst ⟨hJ.1, hJ.2.2.2.2.2.2.1, hJ.2.2.2.2.2.2.2.1⟩ hU hB hcur
  -- the query and fragment states write their own component, at the end of the input or at `#`
  case h_18 | h_19 =>
    simp [Xu, Xe, Xt] at hU hB
    simp [stQuery_eq, stFragment, Sh_ite, Sh_herr, Sh_unitChecks, Sh_cont, Sh_done, Px, Dx, Bx, Xu, Xe, Xt, record_scheme,
      record_host, record_port, record_decodedPort, record_path, record_query, record_fragment, isSp,
      Option.isSome_iff_ne_none, hst, eq_true hU, eq_true hB, hstops]
    try x_grind
  case' h_2 => obtain ⟨-, hJ | hJ⟩ := hJ
  -- the six states that read the base: scheme, no scheme, file, file slash, relative, relative slash
  case' h_2 | h_3 | h_12 | h_14 | h_20 | h_21 =>
    cases hb : e.base <;>
      simp only [stScheme, stNoScheme, stFile, stFileSlash_eq, stRelative, stRelativeSlash, hb] at hbx hbl hJ ⊢
  all_goals
    simp [Xu, Xe, Xt, hJ] at hbx hbl hU hB
    -- `eq_true hU`: where the url is unchanged the leaf repeats `hU` (an implication, which `simp` does not close under
    -- the leaf's own premises) word for word
    simp [stScheme, stFileHost, stPort, stPathStart, Sh_ite, Sh_herr, Sh_cont, Sh_done, Sh_afterHost, Sh_retUrl, Px, Dx, Bx, Xu,
      Xe, Xt, writeRune, rewindLast, resetInput, record_scheme, record_username, record_password, record_host, record_port,
      record_decodedPort, record_path, record_query, record_fragment, stops_true, next_url, next_pointer, next_buffer, ite_url,
      ite_eof, ite_buffer, ite_pointer, cleanDefaultPort_scheme, cleanDefaultPort_host, cleanDefaultPort_path,
      cleanDefaultPort_query, cleanDefaultPort_fragment, isSp, spBackslash, Path.init, Path.setOpaque,
      Option.isSome_iff_ne_none, parseHost_scheme, parseHost_username, parseHost_password, parseHost_host, parseHost_port,
      parseHost_decodedPort, parseHost_path, parseHost_query, parseHost_fragment, hst, hJ, hU, eq_true hU, eq_true hB, hstops]
    try x_grind

/-! ### the prologue: the machine never sees a trailing space -/

open WhatwgUrl.Proofs.Trim in
theorem runes_last (input : Bytes) : (goRunes (removeTabNl (trim c0OrSpaceSet input).1).1).getLast? ≠ some ' ' := by
  rw [prologue_text]
  generalize input.filter notTabNl = s
  generalize hk : dropWsR (dropWs s) = k
  intro h
  have hkne : k ≠ [] := by
    intro e; rw [e] at h; simp at h
  obtain ⟨x, hx⟩ : ∃ x, k.getLast? = some x := by
    cases h' : k.getLast? with
    | none => exact absurd (List.getLast?_eq_none_iff.mp h') hkne
    | some x => exact ⟨x, rfl⟩
  have hx21 : 0x21 ≤ x.toNat := by
    rw [← hk, dropWsR, List.getLast?_reverse] at hx
    have := List.head?_dropWhile_not isWs (dropWs s).reverse
    rw [hx] at this
    simp only [isWs, decide_eq_false_iff_not] at this
    omega
  have := WhatwgUrl.Proofs.Sim.goRunes_getLast_notws k x hx hx21 ' ' h
  revert this; decide

/-- clauses 1–6 (`X` in names: `Xu ∧ Xe ∧ Xt`) after a run from any start: a fresh parse, or a state override other than the
    protocol setter's on a url that satisfies `Xu`, `J` and `Bx` at the override's state (`hJ0`, `hB0`: of every url that is
    `Same` as the given one, since the prologue may have recorded a validation error) -/
theorem basicParser_Xg (I : Idna) (hI : IdnaNonEmpty I) (input : Bytes) (base url : Option Url) (ov : Option State)
    (hnp : ov ≠ some .schemeStart) (hfresh : ov = none → url = none)
    (hb : ∀ b, base = some b → WFs {} b) (hbx : ∀ b, base = some b → Xu b ∧ Xe b)
    (hu : Xu (url.getD {}))
    (hJ0 : ∀ u2, Same (url.getD {}) u2 → J (loopEnv {} I input base url ov) (start (ov.getD .schemeStart) u2) 0)
    (hB0 : ∀ u2, Same (url.getD {}) u2 → Bx (loopEnv {} I input base url ov) (start (ov.getD .schemeStart) u2) 0) :
    ((basicParser {} I input base url ov).ret = .url ∨ ov.isSome = true) →
      Xu (basicParser {} I input base url ov).url ∧ Xe (basicParser {} I input base url ov).url ∧
      Xt (basicParser {} I input base url ov).url := by
  have hst : stops {} false = false := by decide
  have X : HypX (loopEnv {} I input base url ov) := by
    refine ⟨hnp, hst, rfl, rfl, rfl, rfl, (by show Cfg.isSpecial {} (lit "file") = true; decide), hbx, fun h => ?_⟩
    have := hfresh h
    subst this
    exact runes_last input
  refine basicParser_withJ (A := fun ps => Xu ps.url ∧ Bx (loopEnv {} I input base url ov) ps (ps.pointer + 1))
      (D := Dx (loopEnv {} I input base url ov)) {} I input base url ov ⟨rfl, rfl, rfl, hI⟩ hb
      (fun h => absurd h hnp) (fun _ => rfl) (fun h => by rw [hst] at h; cases h) (fun H ps q r h R hJ => ?_)
      hJ0 (fun u hs => ⟨Xu_same hs hu, by exact hB0 u hs⟩)
  refine (body_x _ H X q r hJ (by rw [R.eq]; exact h.1) (by rw [R.eq]; exact h.2) R.cur R.repl).mono (fun ps' h' => ?_)
    (fun _ h' => h')
  exact (Owes_iff _).2 ⟨fun he _ => ⟨h'.1, h'.2.1 he⟩, fun he => ⟨h'.1, h'.2.2 he⟩⟩

theorem basicParser_X (I : Idna) (hI : IdnaNonEmpty I) (input : Bytes) (base : Option Url)
    (hb : ∀ b, base = some b → WFs {} b) (hbx : ∀ b, base = some b → Xu b ∧ Xe b) :
    (basicParser {} I input base none none).ret = .url →
      Xu (basicParser {} I input base none none).url ∧ Xe (basicParser {} I input base none none).url ∧
      Xt (basicParser {} I input base none none).url := by
  intro hr
  apply basicParser_Xg I hI input base none none (by intro h; cases h) (fun _ => rfl) hb hbx (by unfold Xu; decide)
  · exact fun _ hs => J_fresh rfl hs
  · exact fun _ _ => True.intro
  · exact Or.inl hr

end WhatwgUrl.Proofs.RTcInv
