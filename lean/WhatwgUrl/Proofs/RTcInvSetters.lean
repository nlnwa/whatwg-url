import WhatwgUrl.Proofs.RTcInvMachine
/-
  C03c: every setter keeps `RTx`, except the protocol setter when it switches a non-`file` url to
  `file` (the url may then start with a non-normalised drive letter `C|` — the documented exception — or have the host
  `localhost`, which the file host state would have mapped to the empty host).

  The parser-calling setters other than `protocol` go through the machine invariant for an arbitrary state override but
  the protocol setter's (`basicParser_Xg` of `Proofs/RTcInvMachine.lean`; `X` in a name: `Xu ∧ Xe ∧ Xt`) + `setU_NoSl`;
  the protocol setter has its own two-state invariant here (the run only visits the scheme-start and scheme states).
-/
namespace WhatwgUrl.Proofs.RTcInv
open WhatwgUrl WhatwgUrl.Impl WhatwgUrl.Proofs.HostWF
open WhatwgUrl.Props.C04b hiding Sh Sh_retUrl
open WhatwgUrl.Proofs.OpaqueSlash (NoSl setU_NoSl)
open WhatwgUrl.Proofs.Machine (loopEnv Sh Sh_ite Sh_herr Sh_cont Sh_done Sh_retUrl basicParser_of_inv
  cleanDefaultPort_scheme cleanDefaultPort_host cleanDefaultPort_path cleanDefaultPort_query cleanDefaultPort_fragment)

theorem RTx_of_parts {u : Url} (h : Xu u ∧ Xe u ∧ Xt u) (hn : NoSl u) : RTx u := ⟨h.1, h.2.1, h.2.2, hn⟩

/-- the url on which a setter other than `protocol` runs the parser: clauses 1–4 hold of it, and `Bx` of the start state -/
theorem X_of_run {I : Idna} {u u' : Url} {s : Setter} {st : State} (h : Proofs.Setters.Run u s st u') (hnp : s ≠ .protocol)
    (hx : RTx u) :
    st ≠ .schemeStart ∧ Xu u' ∧ ∀ (src : Bytes) (runes : Str) (u2 : Url), Same u' u2 →
      Bx ⟨{}, I, src, runes, none, some st⟩ (Machine.start st u2) 0 := by
  obtain ⟨⟨x1, x2, x3, x4⟩, x5, x6, -⟩ := hx
  cases h
  case protocol => exact absurd rfl hnp
  case host | hostname | port => exact ⟨nofun, ⟨x1, x2, x3, x4⟩, fun _ _ _ h2 _ => ⟨Xe_same h2 x5, Xt_same h2 x6⟩⟩
  case pathname =>
    exact ⟨nofun, ⟨x1, x2, fun _ _ => DriveOk_init, fun h => nomatch h⟩, fun _ _ _ _ h' => nomatch h'⟩
  case search =>
    exact ⟨nofun, ⟨x1, x2, x3, x4⟩, fun _ _ _ h2 => ⟨Xe_same h2 x5, fun _ => Xt_same h2 fun _ hq => nomatch hq⟩⟩
  case hash =>
    exact ⟨nofun, ⟨x1, x2, x3, x4⟩, fun _ _ _ h2 => ⟨Xe_same h2 x5, fun _ => Xt_same h2 fun _ _ hf => nomatch hf⟩⟩

theorem setU_X (I : Idna) (hI : IdnaNonEmpty I) (s : Setter) (u : Url) (v : Bytes) (hnp : s ≠ .protocol) (hs : WFs {} u)
    (hx : RTx u) : Xu (setU {} I s u v).url ∧ Xe (setU {} I s u v).url ∧ Xt (setU {} I s u v).url := by
  have parts : ∀ {w : Url}, RTx w → Xu w ∧ Xe w ∧ Xt w := fun h => ⟨h.1, h.2.1, h.2.2.1⟩
  have hw : u.path.opq = true → u.path.segs.length = 1 := fun ho => (hs.2.2.1 ho).2
  refine Proofs.Setters.setU_cases {} I s u v (R := fun r => Xu r.url ∧ Xe r.url ∧ Xt r.url) (fun r h => ?_)
    (fun st u' input h => ?_)
  · cases h
    case keep | username | password => exact parts hx
    case port => exact parts (RTx_clearPort u hx)
    case searchStrip p h => exact parts (RTx_strip u p hw hx h none u.fragment)
    case hashStrip p h => exact parts (RTx_strip u p hw hx h u.query none)
    -- a well-formed url has the element that `stripTrailingSpacesIfOpaque` looks for: the setter does not panic
    case searchNone ret h hf =>
      obtain ⟨p, hp⟩ := strip_some u.path hw
      have hr : ret = .url := Classical.byContradiction fun hr => by rw [h hr] at hp; cases hp
      exact parts (RTx_clearQuery u hx (hf hr))
    case hashNone ret h hq =>
      obtain ⟨p, hp⟩ := strip_some u.path hw
      have hr : ret = .url := Classical.byContradiction fun hr => by rw [h hr] at hp; cases hp
      exact parts (RTx_clearFragment u hx (hq hr))
  · obtain ⟨hst, hu', hB⟩ := X_of_run (I := I) h hnp hx
    exact basicParser_Xg I hI input none (some u') (some st) (fun h => hst (Option.some.inj h)) nofun nofun nofun hu'
      (fun u2 h2 => J_of_run h hs h2) (fun u2 h2 => hB _ _ u2 h2) (Or.inr rfl)

/-- the two states a run of the protocol setter visits -/
def SSt : State → Bool
  | .schemeStart | .scheme => true
  | _ => false

/-- invariant: still in one of the two states, the url is (up to diagnostics) the one the setter was called on -/
def InvS (u0 : Url) (ps : PS) : Prop := SSt ps.state = true ∧ Same u0 ps.url
/-- however the run returns: the url is the old one, or the old one with a new scheme and the default port cleaned -/
def DS (cfg : Cfg) (u0 : Url) (x : Res) : Prop :=
  Same u0 x.url ∨ ∃ b u', Same u0 u' ∧ x.url = cleanDefaultPort cfg { u' with scheme := b }

theorem body_s (e : Env) (u0 : Url) (q : PS) (r : Char) (hov : e.ov.isSome = true) (hI : InvS u0 q) :
    Sh (InvS u0) (DS e.cfg u0) (body e q r) := by
  have hrec : ∀ t f, Same u0 (record e.cfg q.url t f) := fun _ _ => hI.2.record
  have hd : ∀ b, DS e.cfg u0 ⟨cleanDefaultPort e.cfg { q.url with scheme := b }, .url⟩ := fun b => Or.inr ⟨b, q.url, hI.2, rfl⟩
  have hu : ∀ x, DS e.cfg u0 ⟨q.url, x⟩ := fun _ => Or.inl hI.2
  have hr : ∀ t f x, DS e.cfg u0 ⟨record e.cfg q.url t f, x⟩ := fun t f _ => Or.inl (hrec t f)
  have hn : e.ov ≠ none := by cases h : e.ov <;> simp_all
  unfold body
  split <;> rename_i hst <;> simp [InvS, hst, SSt] at hI
  · simp [stSchemeStart, Sh_ite, Sh_herr, Sh_cont, InvS, SSt, writeRune, hst, hI, hrec, hr, hn]
  · simp [stScheme, Sh_ite, Sh_herr, Sh_cont, Sh_done, Sh_retUrl, InvS, SSt, writeRune, hst, hI, hrec, hr, hu, hd, hov, hn]

theorem setProtocol_shape (cfg : Cfg) (I : Idna) (u : Url) (v : Bytes) : DS cfg u (setProtocol cfg I u v) := by
  unfold setProtocol
  exact basicParser_of_inv (P := InvS u) (D := DS cfg u) cfg I _ none (some u) (some .schemeStart)
    (fun _ w hw => Or.inl hw.record) (fun _ _ _ h => h) (fun ps q r h R => body_s _ u q r rfl h)
    (fun _ h => Or.inl h.2) (fun w hw => ⟨rfl, hw⟩)

theorem RTx_setScheme (cfg : Cfg) (u : Url) (b : Bytes) (hx : RTx u) (hb : b = lit "file" → u.scheme = lit "file") :
    RTx (cleanDefaultPort cfg { u with scheme := b }) := by
  obtain ⟨⟨x1, x2, x3, x4⟩, x5, x6, x7⟩ := hx
  refine ⟨Xu_cdp cfg _ ⟨x1, fun h => x2 (hb h), fun ho h => x3 ho (hb h), x4⟩, ?_⟩
  unfold Xe Xt NoSl
  rw [cleanDefaultPort_host, cleanDefaultPort_path, cleanDefaultPort_query, cleanDefaultPort_fragment]
  exact ⟨x5, x6, x7⟩

theorem setProtocol_RTx (cfg : Cfg) (I : Idna) (u : Url) (v : Bytes) (hx : RTx u)
    (hexc : (setProtocol cfg I u v).url.scheme = lit "file" → u.scheme = lit "file") :
    RTx (setProtocol cfg I u v).url := by
  rcases setProtocol_shape cfg I u v with h | ⟨b, u', hs, he⟩
  · exact (RTx_same h).mpr hx
  · rw [he] at hexc ⊢
    rw [cleanDefaultPort_scheme] at hexc
    apply RTx_setScheme cfg u' b ((RTx_same hs).mpr hx)
    intro hb
    rw [hs.1]; exact hexc hb

theorem setU_RTx (I : Idna) (hI : IdnaNonEmpty I) (s : Setter) (u : Url) (v : Bytes) (hs : WFs {} u) (hx : RTx u)
    (hexc : s = .protocol → (setU {} I s u v).url.scheme = lit "file" → u.scheme = lit "file") :
    RTx (setU {} I s u v).url := by
  by_cases hp : s = .protocol
  · subst hp
    exact setProtocol_RTx {} I u v hx (hexc rfl)
  · exact RTx_of_parts (setU_X I hI s u v hp hs hx) (setU_NoSl {} I s u v hx.2.2.2)

/-- the parse-level twin of `setU_RTx`: a parse result satisfies `RTx` when the base does -/
theorem basicParser_RTx (I : Idna) (hI : IdnaNonEmpty I) (input : Bytes) (base : Option Url)
    (hb : ∀ b, base = some b → WFs {} b ∧ RTx b) (hr : (basicParser {} I input base none none).ret = .url) :
    RTx (basicParser {} I input base none none).url :=
  RTx_of_parts (basicParser_X I hI input base (fun b h => (hb b h).1) (fun b h => ⟨(hb b h).2.1, (hb b h).2.2.1⟩) hr)
    (OpaqueSlash.basicParser_NoSl {} I input base (CfgOk_default I hI) (fun b h => (hb b h).1)
      (fun b h => (hb b h).2.2.2.2))

end WhatwgUrl.Proofs.RTcInv
