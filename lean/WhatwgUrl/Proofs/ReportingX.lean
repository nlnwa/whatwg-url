import WhatwgUrl.Proofs.ReportingU
import WhatwgUrl.Proofs.ReportingF
/-
  C15, fail mode is sound and exact: `c1` has `failOnVErr = true`, `c2` is the same configuration with
  `failOnVErr = false`.  The two runs are in lock-step and agree until the fail-mode run returns an error at a
  `handleError` call; from then on the other run is on its own, and what is known of it is an invariant `IV` of its
  recorded list that every recording establishes.  `IV := True` gives soundness; with reporting on, `IV := non-empty`
  gives exactness: the other run cannot end in success with an empty list.
-/
namespace WhatwgUrl.Proofs.Reporting
open WhatwgUrl WhatwgUrl.Impl WhatwgUrl.Proofs.Machine
open WhatwgUrl.Proofs.HostWF (ipv4AfterCount parseIPv4_eq)

/-- something has been recorded -/
def Dirty (v : List VErr) : Prop := v ≠ []

/-- host level: the two calls agree, or the fail-mode call (the first) returned an error and the other is `GoodH` -/
def HRelX (c2 : Cfg) (IV : List VErr → Prop) (hr1 hr2 : HR) : Prop := hr1 = hr2 ∨ ((∃ e, hr1.out = .err e) ∧ GoodH c2 IV hr2)

def isErr (x : Res) : Prop := ∃ e w, x.ret = .err e w
/-- result level; the first run is the one in fail mode -/
def DX (c2 : Cfg) (IV : List VErr → Prop) (x1 x2 : Res) : Prop := x1 = x2 ∨ (isErr x1 ∧ GoodR c2 IV x2)
/-- the fail-mode run has returned `x1`, the other run goes on from `p2` -/
def AX (IV : List VErr → Prop) (x1 : Res) (p2 : PS) : Prop := isErr x1 ∧ IV p2.url.verrs

section
-- `hrec`: every recording under `c2` establishes `IV` (see `basicParser_DX` for what that means with reporting off)
variable {c1 c2 : Cfg} {IV : List VErr → Prop} (F : FH c1 c2) (hrec : ∀ u t f, IV (record c2 u t f).verrs)
include F hrec

theorem hErr_X (u : Url) (t : ErrT) (f : Bool) (k1 k2 : Url → HR)
    (hk : ∀ u', IV u'.verrs → GoodH c2 IV (k2 u')) : HRelX c2 IV (hErr c1 u t f k1) (hErr c2 u t f k2) := by
  refine Or.inr ⟨?_, ?_⟩
  · unfold hErr
    rw [F.stops]
    exact ⟨_, rfl⟩
  · unfold hErr
    split
    · rename_i hs
      exact GoodH_err _ _ (fun hfo => stops_fo f hs hfo)
    · exact hk _ (hrec _ _ _)

theorem parseIPv4Parts_X (parts : List Bytes) : ∀ (u : Url) (acc : List Nat),
    parseIPv4Parts c1 u parts acc = parseIPv4Parts c2 u parts acc ∨
      ((∃ e, (parseIPv4Parts c1 u parts acc).err = some e) ∧ PartsGood c2 IV (parseIPv4Parts c2 u parts acc)) := by
  induction parts with
  | nil => intro u acc; exact Or.inl rfl
  | cons p rest ih =>
    intro u acc
    by_cases hne : ((parseIPv4Number c2 u p).err != .none) = true
    · left
      simp only [parseIPv4Parts, HostTr.parseIPv4Number_congr F.tr, F.rcd, if_pos hne]
    · by_cases hve : (parseIPv4Number c2 u p).ve = true
      · right
        constructor
        · simp only [parseIPv4Parts, HostTr.parseIPv4Number_congr F.tr, F.rcd, F.stops, if_neg hne, hve, Bool.and_self, if_true]
          exact ⟨_, rfl⟩
        · unfold parseIPv4Parts
          simp only [if_neg hne, hve, Bool.true_and, if_true]
          split
          · rename_i hs
            exact ⟨by simp, fun hfo => nomatch stops_fo _ hs hfo⟩
          · exact parseIPv4Parts_U (.of_rec hrec) rest _ _ (hrec _ _ _)
      · have hve' : (parseIPv4Number c2 u p).ve = false := by simpa using hve
        have h := ih (parseIPv4Number c2 u p).url (acc ++ [(parseIPv4Number c2 u p).n])
        simp only [parseIPv4Parts, HostTr.parseIPv4Number_congr F.tr, F.rcd, F.stops, if_neg hne, hve', Bool.false_and,
          Bool.false_eq_true, if_false]
        exact h

theorem ipv4RangeWarn_X (ns : List Nat) : ∀ (u : Url),
    ipv4RangeWarn c1 u ns = ipv4RangeWarn c2 u ns ∨
      ((ipv4RangeWarn c1 u ns).2 = true ∧ WarnGood c2 IV (ipv4RangeWarn c2 u ns)) := by
  induction ns with
  | nil => intro u; exact Or.inl rfl
  | cons n rest ih =>
    intro u
    by_cases hn : n > 255
    · right
      constructor
      · simp only [ipv4RangeWarn, F.stops, if_pos hn, if_true]
      · unfold ipv4RangeWarn
        simp only [if_pos hn]
        split
        · rename_i hs
          exact ⟨by simp, fun hfo => nomatch stops_fo _ hs hfo⟩
        · exact ipv4RangeWarn_U (.of_rec hrec) rest _ (hrec _ _ _)
    · simp only [ipv4RangeWarn, if_neg hn]
      exact ih u

theorem ipv4AfterCount_X (parts : List Bytes) (u : Url) :
    HRelX c2 IV (ipv4AfterCount c1 parts u) (ipv4AfterCount c2 parts u) := by
  rcases parseIPv4Parts_X F hrec parts u [] with heq | ⟨⟨e, he⟩, hg⟩
  · rcases hpe : (parseIPv4Parts c2 u parts []).err with _ | e
    · rcases ipv4RangeWarn_X F hrec (parseIPv4Parts c2 u parts []).nums (parseIPv4Parts c2 u parts []).url with hw | ⟨hw1, hw2⟩
      · left
        simp only [ipv4AfterCount, HostWF.ipv4AfterWarn, heq, hw, F.rcd]
      · right
        constructor
        · simp only [ipv4AfterCount, HostWF.ipv4AfterWarn, heq, hpe, hw1, if_true]
          exact ⟨_, rfl⟩
        · simp only [ipv4AfterCount, hpe]
          exact afterWarn_good _ _ hw2
    · left
      simp only [ipv4AfterCount, heq, hpe]
  · right
    constructor
    · simp only [ipv4AfterCount, he]
      exact ⟨_, rfl⟩
    · exact ipv4AfterCount_good (.of_rec hrec) parts u hg

theorem parseIPv4_X (u : Url) (i : Bytes) : HRelX c2 IV (parseIPv4 c1 u i) (parseIPv4 c2 u i) := by
  rw [parseIPv4_eq, parseIPv4_eq]
  dsimp only
  generalize splitOn 46 i = parts0
  generalize (if (parts0.getLast? == some [] && decide (parts0.length > 1)) = true then parts0.dropLast else parts0) = parts
  have h2 : ∀ u, IV u.verrs → GoodH c2 IV
      (if parts.length > 4 then hErr c2 u .IPv4TooManyParts true (ipv4AfterCount c2 parts) else ipv4AfterCount c2 parts u) := by
    intro u hu
    split
    · exact GoodH_hErr (.of_rec hrec) _ _ _ _ hu fun _ hu => ipv4AfterCount_U (.of_rec hrec) _ _ hu
    · exact ipv4AfterCount_U (.of_rec hrec) _ _ hu
  split
  · exact hErr_X F hrec _ _ _ _ _ h2
  · split
    · exact hErr_X F hrec _ _ _ _ _ fun _ hu => ipv4AfterCount_U (.of_rec hrec) _ _ hu
    · exact ipv4AfterCount_X F hrec _ _

theorem opaqueLoop_X (i : Bytes) (rs : Str) : ∀ (u : Url) (out : Bytes),
    HRelX c2 IV (opaqueLoop c1 i rs u out) (opaqueLoop c2 i rs u out) := by
  induction rs with
  | nil => intro u out; exact Or.inl rfl
  | cons ch rest ih =>
    intro u out
    by_cases hf : forbiddenHost ch.toNat = true
    · left
      simp only [opaqueLoop, F.rcd, F.rel.laxHost, if_pos hf]
    · by_cases h1 : (!isUrlCp ch.toNat && ch != '%') = true
      · right
        constructor
        · simp only [opaqueLoop, F.stops, if_neg hf, h1, Bool.true_and, if_true]
          exact ⟨_, rfl⟩
        · unfold opaqueLoop
          simp only [if_neg hf, h1, Bool.true_and, if_true]
          split
          · rename_i hs
            exact GoodH_err _ _ (stops_fo _ hs)
          · split
            · rename_i hs
              exact GoodH_err _ _ (stops_fo _ (Bool.and_eq_true_iff.1 hs).2)
            · apply opaqueLoop_U (.of_rec hrec)
              split
              · exact hrec _ _ _
              · exact hrec _ _ _
      · have h1' : (!isUrlCp ch.toNat && ch != '%') = false := by simpa using h1
        by_cases h2 : (ch == '%' && invalidPct (ch :: rest)) = true
        · right
          constructor
          · simp only [opaqueLoop, F.stops, if_neg hf, h1', h2, Bool.false_and, Bool.true_and, Bool.false_eq_true,
              if_false, if_true]
            exact ⟨_, rfl⟩
          · unfold opaqueLoop
            simp only [if_neg hf, h1', h2, Bool.false_and, Bool.true_and, Bool.false_eq_true, if_false, if_true]
            split
            · rename_i hs
              exact GoodH_err _ _ (stops_fo _ hs)
            · exact opaqueLoop_U (.of_rec hrec) _ _ _ _ (hrec _ _ _)
        · have h2' : (ch == '%' && invalidPct (ch :: rest)) = false := by simpa using h2
          have h := ih u (out ++ percentEncodeRune c2 c0Set ch)
          simp only [opaqueLoop, F.rel.percentEncodeRune, if_neg hf, h1', h2', Bool.false_and, Bool.false_eq_true, if_false]
          exact h

omit F hrec in
theorem HRelX_ite {p : Prop} [Decidable p] {a a' b b' : HR} (h1 : p → HRelX c2 IV a a') (h2 : ¬p → HRelX c2 IV b b') :
    HRelX c2 IV (if p then a else b) (if p then a' else b') := by
  split
  · exact h1 ‹_›
  · exact h2 ‹_›

theorem parseHost_X (I : Idna) (u : Url) (i : Bytes) (ns : Bool) :
    HRelX c2 IV (parseHost c1 I u i ns) (parseHost c2 I u i ns) := by
  unfold parseHost
  -- what is left of the difference between the two sides: the opaque-host loop and `parseIPv4`
  simp only [F.rel.preHost, F.rel.postHost, F.rel.laxHost, F.rel.decodePercent, HostTr.fail6_congr F.tr, HostTr.parseIPv6_congr F.tr, toASCII_F F,
    forbiddenLoop_F F, HostTr.endsInANumber_congr F.tr]
  cases c2.preHost <;> dsimp only
  all_goals
    split
    · exact Or.inl rfl
    · refine HRelX_ite (fun _ => Or.inl rfl) fun _ => HRelX_ite (fun _ => opaqueLoop_X F hrec _ _ _ _) fun _ =>
        HRelX_ite (fun _ => Or.inl rfl) fun _ => HRelX_ite (fun _ => Or.inl rfl) fun _ => ?_
      split
      · exact Or.inl rfl
      · split
        · exact Or.inl rfl
        · exact HRelX_ite (fun _ => parseIPv4_X F hrec _ _) fun _ => Or.inl rfl

omit F hrec in
theorem isErr_err (u : Url) (e : VErr) (w : Bool) : isErr ⟨u, .err e w⟩ := ⟨e, w, rfl⟩

omit hrec in
/-- every `handleError` call of the fail-mode run returns -/
theorem herr_F (I : Idna) (src : Bytes) (rs : Str) (base : Option Url) (ov : Option State) (ps : PS) (t : ErrT) (f : Bool)
    (k : PS → StepR) :
    herr ⟨c1, I, src, rs, base, ov⟩ ps t f k = .done ⟨record c2 ps.url t f, .err ⟨t, f⟩ false⟩ := by
  simp [herr, F.stops, F.rcd]

omit F hrec in
/-- The two host parser calls agree and the runs stay in lock-step, or the fail-mode run returns the host parser's error and
    the other run goes on by itself from a url that satisfies `IV`. -/
theorem Sh2_afterHost_X {hr₁ hr₂ : HR} (hx : HRelX c2 IV hr₁ hr₂) (ps : PS) (k₁ k₂ : PS → Bytes → StepR) :
    Sh2 Eq (DX c2 IV) (AX IV) (afterHost hr₁ ps k₁) (afterHost hr₂ ps k₂) ↔
      (hr₁ = hr₂ → ∀ h, hr₂.out = .ok h →
        Sh2 Eq (DX c2 IV) (AX IV) (k₁ { ps with url := hr₂.url } h) (k₂ { ps with url := hr₂.url } h)) ∧
      (∀ e h, hr₁.out = .err e → hr₂.out = .ok h → IV hr₂.url.verrs →
        Sh (AX IV ⟨hr₁.url, .err e true⟩) (DX c2 IV ⟨hr₁.url, .err e true⟩) (k₂ { ps with url := hr₂.url } h)) := by
  unfold afterHost
  constructor
  · intro h
    refine ⟨?_, ?_⟩
    · rintro rfl b hb
      simpa only [hb] using h
    · rintro e b he hb -
      rw [← Sh2_done_left]
      simpa only [he, hb] using h
  · rintro ⟨h1, h2⟩
    rcases hx with rfl | ⟨⟨e, he⟩, hg⟩
    · cases hb : hr₁.out with
      | ok b => exact h1 rfl b hb
      | err e => exact Or.inl rfl
      | panic n => exact Or.inl rfl
    · rw [he]
      cases hb : hr₂.out with
      | ok b => exact (Sh2_done_left _ _).2 (h2 e b he hb (hg.1 b hb))
      | err e₂ => exact Or.inr ⟨isErr_err .., nofun, fun hfo _ _ he => by cases he; exact hg.2 hfo _ hb⟩
      | panic n => exact Or.inr ⟨isErr_err .., nofun, fun _ _ _ => nofun⟩

end

section
variable {c1 c2 : Cfg} {IV : List VErr → Prop} (F : FH c1 c2) (hrec : ∀ u t f, IV (record c2 u t f).verrs)
  (I : Idna) (src : Bytes) (rs : Str) (base : Option Url) (ov : Option State)
include F hrec

attribute [local simp] Sh2_ite Sh2_elim Sh2_cont Sh2_done Sh2_retUrl Sh2_done_left Sh_ite Sh_herr Sh_cont Sh_done Sh_retUrl Sh_elim
  DX AX GoodR isErr_err segEnd stops ite_url next_fst cleanDefaultPort_verrs in
theorem body_X (ps : PS) (r : Char) :
    Sh2 Eq (DX c2 IV) (AX IV) (body ⟨c1, I, src, rs, base, ov⟩ ps r) (body ⟨c2, I, src, rs, base, ov⟩ ps r) := by
  have hfo := F.fo2
  have hah := fun u b ns => Sh2_afterHost_X (parseHost_X F hrec I u b ns)
  -- the host and hostname states run the same function
  have hH : Sh2 Eq (DX c2 IV) (AX IV) (stHost ⟨c1, I, src, rs, base, ov⟩ ps r) (stHost ⟨c2, I, src, rs, base, ov⟩ ps r) := by
    simp only [stHost_eq]
    dsimp +instances only [hostChar, isSp, spBackslash, currentIsInvalid, currentAsByte, rewindLast, writeRune]
    simp [hah, herr_F F, hfo, hrec, F.rel.isSpecial, F.rel.acceptInvalid]
    grind
  unfold body
  split
  case h_10 | h_11 => exact hH
  case' h_16 => simp only [stPath_eq]
  case' h_18 => simp only [stQuery_eq]
  case' h_3 => cases base
  case' h_12 => cases base
  case' h_14 => cases base
  case' h_20 => cases base
  case' h_21 => cases base
  all_goals
    -- with `+instances`, so that the `Decidable` instances follow the conditions and the two sides keep matching
    dsimp +instances only [segEnd, segPath, stSchemeStart, stScheme, stNoScheme, stOpaquePath,
      stSpecialRelativeOrAuthority, stSpecialAuthoritySlashes, stSpecialAuthorityIgnoreSlashes, stPathOrAuthority, stAuthority,
      stFile, stFileHost, stFileSlash, stPort, stPathStart, stFragment, stRelative, stRelativeSlash, unitChecks,
      isSp, spBackslash, remainingStartsWith, remainingFromPointer, remainingInvalidPct, rewindLast, resetInput, rewind,
      writeRune]
    -- both sides branch on the same conditions up to a `herr`; there run 1 returns (`herr_F`) and what is left of run 2
    -- is walked by the one-run rules (`Sh2_done_left`): it returns the same error, or records it and satisfies `IV` for good
    simp [hah, herr_F F, hfo, hrec, F.rcd, F.rel.isSpecial, F.rel.cleanDefaultPort, F.rel.credLoop, F.rel.percentEncodeRune, F.rel.percentEncodeInvalidRune,
      F.rel.skipTrailingSlash, F.rel.skipDrive, F.rel.collapse, F.rel.pathSet, F.rel.spQuerySet,
      F.rel.querySet, F.rel.spFragSet, F.rel.fragSet]
  -- what `simp` leaves (of the file-host state, which calls the host parser): the other run goes on from a url that
  -- satisfies `IV`
  all_goals grind

theorem step_X (ps : PS) :
    Sh2 Eq (DX c2 IV) (AX IV) (step ⟨c1, I, src, rs, base, ov⟩ ps) (step ⟨c2, I, src, rs, base, ov⟩ ps) := by
  refine Sh2_bottom _ _ (fun _ _ h => h ▸ rfl) ((body_X F hrec I src rs base ov _ _).mono ?_ (fun _ _ h => h) ?_)
  · rintro p _ rfl
    exact ⟨rfl, fun _ => Or.inl rfl⟩
  · rintro x p ⟨hx, hp⟩
    exact ⟨⟨hx, hp⟩, fun _ => Or.inr ⟨hx, GoodR_url _ hp⟩⟩

end

section
variable {c1 c2 : Cfg} {IV : List VErr → Prop} (F : FH c1 c2) (hrec : ∀ u t f, IV (record c2 u t f).verrs)
  (I : Idna) (input : Bytes) (base url : Option Url) (ov : Option State)
include F hrec

theorem prologue_X :
    Sh2 Eq (DX c2 IV) (AX IV) (prologue c1 input url ov) (prologue c2 input url ov) := by
  unfold prologue
  dsimp only
  simp only [F.stops, F.rcd, Bool.and_true]
  generalize (url.isNone && (trim c0OrSpaceSet input).2) = b1
  generalize removeTabNl _ = rm
  cases b1
  · cases hb2 : rm.2
    · simp only [Bool.false_and, Bool.false_eq_true, if_false]
      exact rfl
    · simp only [Bool.false_and, Bool.true_and, Bool.false_eq_true, if_false, if_true]
      split
      · exact Or.inl rfl
      · exact ⟨isErr_err .., hrec ..⟩
  · simp only [Bool.true_and, if_true]
    split
    · exact Or.inl rfl
    · rename_i hs
      rw [Bool.eq_false_iff.2 hs, Bool.and_false, if_neg Bool.false_ne_true]
      refine ⟨isErr_err .., ?_⟩
      dsimp only
      split <;> exact hrec ..

/-- Both runs agree, or the fail-mode run returned an error and the other run, if it ends in success, does so with a
    recorded list that satisfies `IV`.  `hrec` is what makes `IV` "established by every recording"; without reporting
    `record` is the identity and `hrec` says that `IV` holds of every list (hence `c2.report = true` in `basicParser_X`). -/
theorem basicParser_DX :
    DX c2 IV (basicParser c1 I input base url ov) (basicParser c2 I input base url ov) :=
  basicParser_rel (P := Eq) (A := AX IV) c1 c2 I input base url url ov rfl (prologue_X F hrec input url ov)
    (by rintro p _ rfl; exact step_X F hrec I _ _ base ov p)
    (fun x p fuel h => Or.inr ⟨h.1, loop_U (.of_rec hrec) I _ _ base ov fuel p h.2⟩) (by rintro p _ rfl; exact Or.inl rfl)

end

/-- fail mode is exact: with reporting on, the other run's list is non-empty once the fail-mode run has returned an error -/
theorem basicParser_X {c1 c2 : Cfg} (F : FH c1 c2) (hr : c2.report = true) (I : Idna) (input : Bytes)
    (base url : Option Url) (ov : Option State) :
    DX c2 Dirty (basicParser c1 I input base url ov) (basicParser c2 I input base url ov) :=
  basicParser_DX F (fun u t f => by simp [record, hr, Dirty]) I input base url ov

end WhatwgUrl.Proofs.Reporting
