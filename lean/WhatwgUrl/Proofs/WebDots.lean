import WhatwgUrl.Proofs.WebParse
import WhatwgUrl.Proofs.AsciiCase
import WhatwgUrl.Proofs.HostCase
/-
  C18f: dot segments under a configuration with `WebParseCfg` (no base, no override): the instances of
  `Proofs/SpellingDots.lean` for the ordinary segments of a web text (`segW`) — the path state copies spelling bytes with
  complete escapes whatever is reported (`copiedSeg_web`).
-/
namespace WhatwgUrl.Proofs.Web
open WhatwgUrl WhatwgUrl.Impl WhatwgUrl.Proofs.IPv4 WhatwgUrl.Proofs.Trim WhatwgUrl.Proofs.RoundTrip WhatwgUrl.Proofs.Spelling
open WhatwgUrl.Proofs.Pipeline
open WhatwgUrl.Proofs.Canon (hex2)

/-- an ordinary segment of a web text: bytes of a spelling (`A-Z a-z 0-9 - . _ ~ %`), every `%` followed by two hex digits,
    not a dot segment; it may be empty -/
def segW (x : Bytes) : Bool := x.all spB && pctOk x && !isSingleDot x && !isDoubleDot x

theorem segW_spec {x : Bytes} (h : segW x = true) : SegC x := by
  simp only [segW, Bool.and_eq_true, List.all_eq_true, Bool.not_eq_true'] at h
  exact ⟨h.1.1.1, h.1.1.2, h.1.2, h.2⟩

theorem spB_graphic {w : Bytes} (h : ∀ b ∈ w, spB b = true) : Graphic w := qB_graphic w (fun b hb => spB_qB b (h b hb))

theorem dotB_spB : ∀ b : UInt8, dotB b = true → spB b = true := forall_uint8 (by decide +kernel)

theorem spB_not_colon : ∀ b : UInt8, spB b = true → (b == 0x3a || b == 0x7c) = false := forall_uint8 (by decide +kernel)

theorem spB_not_wdl (x : Bytes) (h : ∀ b ∈ x, spB b = true) : isWindowsDriveLetter x = false := by
  match x, h with
  | [], _ => rfl
  | [_], _ => rfl
  | [a, b], h => simp [isWindowsDriveLetter, spB_not_colon b (h b (by simp))]
  | _ :: _ :: _ :: _, _ => rfl

theorem pctOk_lower : ∀ w : Bytes, pctOk (asciiLower w) = pctOk w
  | [] => rfl
  | b :: w => by
    have ih := pctOk_lower w
    have h2 : hex2 (asciiLower w) = hex2 w := by rw [Canon.hex2_eq]; exact HostCase.hex2_lower w
    simp only [asciiLower, List.map_cons] at ih h2 ⊢
    have h1 : (lowerB b != 0x25) = (b != 0x25) := congrArg (!·) (AsciiCase.lowerB_beq_of_not_alpha (d := 0x25) (by decide) b)
    simp only [pctOk, ih, h2, h1]

theorem singleDot_pctOk {M : Bytes} (h : isSingleDot M = true) : pctOk M = true :=
  (by decide +kernel : ∀ x ∈ singleDots, pctOk x = true) M (singleDot_mem h)

theorem doubleDot_pctOk {M : Bytes} (h : isDoubleDot M = true) : pctOk M = true :=
  (by decide +kernel : ∀ x ∈ doubleDots, pctOk x = true) M (doubleDot_mem h)

theorem copiedSeg_web {cfg : Cfg} (hW : WebParseCfg cfg) (sp : Bool) (w : Bytes) (hw : ∀ b ∈ w, spB b = true) (hp : pctOk w = true) :
    CopiedSeg cfg sp w :=
  ⟨spB_copy hW sp hw, fun _ _ _ tl => quietOn_pctOk _ w tl (fun b hb => spB_qB b (hw b hb)) hp⟩

theorem neutral_singleDot_web {cfg : Cfg} (hW : WebParseCfg cfg) (M : Bytes) (hM : isSingleDot M = true) : NeutralInsC cfg true M :=
  neutral_singleDot_c cfg true M hM
    (copiedSeg_web hW true M (fun b hb => dotB_spB b ((singleDot_spec hM).1 b hb)) (singleDot_pctOk hM))

theorem neutral_up_web {cfg : Cfg} (hW : WebParseCfg cfg) (x dd : Bytes) (hx : segW x = true) (hdd : isDoubleDot dd = true) :
    NeutralInsC cfg true (x ++ 0x2f :: dd) := by
  obtain ⟨hxB, hxp, hx1, hx2⟩ := segW_spec hx
  exact neutral_up_c cfg true x dd hx1 hx2 (spB_not_wdl x hxB) hdd (copiedSeg_web hW true x hxB hxp)
    (copiedSeg_web hW true dd (fun b hb => dotB_spB b ((doubleDot_spec hdd).1 b hb)) (doubleDot_pctOk hdd))

/-- a segment of the prefix: an ordinary segment of a web text, not empty if consecutive slashes are collapsed -/
def segWc (cfg : Cfg) (x : Bytes) : Bool := segW x && (!cfg.collapse || !x.isEmpty)

theorem segWc_spec {cfg : Cfg} {x : Bytes} (h : segWc cfg x = true) : segW x = true ∧ (cfg.collapse = false ∨ x ≠ []) := by
  simp only [segWc, Bool.and_eq_true, Bool.or_eq_true, Bool.not_eq_true'] at h
  refine ⟨h.1, ?_⟩
  rcases h.2 with h2 | h2
  · exact Or.inl h2
  · right; intro hx; rw [hx] at h2; cases h2

theorem dirSeg_web {cfg : Cfg} (hW : WebParseCfg cfg) {x : Bytes} (h : segWc cfg x = true) : DirSeg cfg x := by
  obtain ⟨hxw, hxne⟩ := segWc_spec h
  obtain ⟨hxB, hxp, hx1, hx2⟩ := segW_spec hxw
  exact ⟨copiedSeg_web hW true x hxB hxp, hx1, hx2, hxne⟩

end WhatwgUrl.Proofs.Web
