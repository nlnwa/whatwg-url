import WhatwgUrl.Proofs.Machine2
/-
  Common vocabulary for the C15 proofs (reporting is neutral / recorded entries are classified / fail mode is sound):

  * `erase` : forget the recorded validation errors of a url (and the liftings to the result types of the model);
  * `CfgRel c1 c2` : the two configurations agree on everything except `report` and `failOnVErr`, with one
    congruence lemma per model function that takes the whole configuration.
-/
namespace WhatwgUrl.Proofs.Reporting
open WhatwgUrl WhatwgUrl.Impl

/-- forget the recorded validation errors -/
def erase (u : Url) : Url := { u with verrs := [] }
def eraseR (r : Res) : Res := { r with url := erase r.url }
def erasePS (ps : PS) : PS := { ps with url := erase ps.url }
def eraseS : StepR → StepR
  | .cont ps => .cont (erasePS ps)
  | .done r => .done (eraseR r)
-- `eraseHR` is `HostTr.mapHR erase` (by `rfl`); `parseHost_N` is `HostTr.parseHost_tr` read with this name
def eraseHR (r : HR) : HR := { r with url := erase r.url }

@[simp] theorem erase_erase (u : Url) : erase (erase u) = erase u := rfl
@[simp] theorem erase_verrs (u : Url) : (erase u).verrs = [] := rfl
@[simp] theorem erase_default : erase ({} : Url) = {} := rfl
theorem eraseHR_mk (u : Url) (o : HOut) : eraseHR ⟨u, o⟩ = ⟨erase u, o⟩ := rfl

theorem erase_record (c : Cfg) (u : Url) (t : ErrT) (f : Bool) : erase (record c u t f) = erase u := by
  unfold record; split <;> rfl

theorem record_off (c : Cfg) (h : c.report = false) (u : Url) (t : ErrT) (f : Bool) : record c u t f = u := by
  simp [record, h]

theorem record_on (c : Cfg) (h : c.report = true) (u : Url) (t : ErrT) (f : Bool) :
    record c u t f = { u with verrs := u.verrs ++ [⟨t, f⟩] } := by
  simp [record, h]

theorem stops_true (c : Cfg) : stops c true = true := Machine.stops_true c

-- both switches may differ, so that `NH` (reporting differs, fail mode fixed by `NH.fo`) and `FH` (fail mode differs, reporting
-- fixed by `FH.rep`) share the congruence lemmas below
def CfgRel (c1 c2 : Cfg) : Prop := ∃ r f, c1 = { c2 with report := r, failOnVErr := f }

theorem CfgRel.refl (c : Cfg) : CfgRel c c := ⟨c.report, c.failOnVErr, rfl⟩
theorem CfgRel.report (c : Cfg) (a b : Bool) : CfgRel { c with report := a } { c with report := b } :=
  ⟨a, c.failOnVErr, rfl⟩
theorem CfgRel.failOnVErr (c : Cfg) (a b : Bool) : CfgRel { c with failOnVErr := a } { c with failOnVErr := b } :=
  ⟨c.report, a, rfl⟩

section
variable {c1 c2 : Cfg} (H : CfgRel c1 c2)
include H

theorem CfgRel.laxHost : c1.laxHost = c2.laxHost := by obtain ⟨r, f, rfl⟩ := H; rfl
theorem CfgRel.collapse : c1.collapse = c2.collapse := by obtain ⟨r, f, rfl⟩ := H; rfl
theorem CfgRel.acceptInvalid : c1.acceptInvalid = c2.acceptInvalid := by obtain ⟨r, f, rfl⟩ := H; rfl
theorem CfgRel.preHost : c1.preHost = c2.preHost := by obtain ⟨r, f, rfl⟩ := H; rfl
theorem CfgRel.postHost : c1.postHost = c2.postHost := by obtain ⟨r, f, rfl⟩ := H; rfl
theorem CfgRel.pctSingle : c1.pctSingle = c2.pctSingle := by obtain ⟨r, f, rfl⟩ := H; rfl
theorem CfgRel.skipDrive : c1.skipDrive = c2.skipDrive := by obtain ⟨r, f, rfl⟩ := H; rfl
theorem CfgRel.specialSchemes : c1.specialSchemes = c2.specialSchemes := by obtain ⟨r, f, rfl⟩ := H; rfl
theorem CfgRel.skipTrailingSlash : c1.skipTrailingSlash = c2.skipTrailingSlash := by obtain ⟨r, f, rfl⟩ := H; rfl
theorem CfgRel.encOverride : c1.encOverride = c2.encOverride := by obtain ⟨r, f, rfl⟩ := H; rfl
theorem CfgRel.pathSet : c1.pathSet = c2.pathSet := by obtain ⟨r, f, rfl⟩ := H; rfl
theorem CfgRel.spQuerySet : c1.spQuerySet = c2.spQuerySet := by obtain ⟨r, f, rfl⟩ := H; rfl
theorem CfgRel.querySet : c1.querySet = c2.querySet := by obtain ⟨r, f, rfl⟩ := H; rfl
theorem CfgRel.spFragSet : c1.spFragSet = c2.spFragSet := by obtain ⟨r, f, rfl⟩ := H; rfl
theorem CfgRel.fragSet : c1.fragSet = c2.fragSet := by obtain ⟨r, f, rfl⟩ := H; rfl

theorem CfgRel.special? : Cfg.special? c1 = Cfg.special? c2 := by obtain ⟨r, f, rfl⟩ := H; rfl
theorem CfgRel.isSpecial : Cfg.isSpecial c1 = Cfg.isSpecial c2 := by obtain ⟨r, f, rfl⟩ := H; rfl
theorem CfgRel.cleanDefaultPort : Impl.cleanDefaultPort c1 = Impl.cleanDefaultPort c2 := by obtain ⟨r, f, rfl⟩ := H; rfl
theorem CfgRel.runeBytes : Impl.runeBytes c1 = Impl.runeBytes c2 := by obtain ⟨r, f, rfl⟩ := H; rfl
theorem CfgRel.percentEncodeRune : Impl.percentEncodeRune c1 = Impl.percentEncodeRune c2 := by obtain ⟨r, f, rfl⟩ := H; rfl
theorem CfgRel.percentEncodeInvalidRune : Impl.percentEncodeInvalidRune c1 = Impl.percentEncodeInvalidRune c2 := by
  obtain ⟨r, f, rfl⟩ := H; rfl

theorem CfgRel.percentEncodeString : Impl.percentEncodeString c1 = Impl.percentEncodeString c2 :=
  Percent.percentEncodeString_congr H.encOverride H.pctSingle

theorem CfgRel.decodePercent : Impl.decodePercent c1 = Impl.decodePercent c2 :=
  Percent.decodePercent_congr H.encOverride

theorem CfgRel.credLoop (s : Str) (pw : Bool) (u p : Bytes) : Impl.credLoop c1 s pw u p = Impl.credLoop c2 s pw u p :=
  Machine.credLoop_congr H.percentEncodeRune s pw u p

end

theorem erasePS_state (ps : PS) : (erasePS ps).state = ps.state := rfl
theorem erasePS_pointer (ps : PS) : (erasePS ps).pointer = ps.pointer := rfl
theorem erasePS_eof (ps : PS) : (erasePS ps).eof = ps.eof := rfl
theorem erasePS_buffer (ps : PS) : (erasePS ps).buffer = ps.buffer := rfl
theorem erasePS_atFlag (ps : PS) : (erasePS ps).atFlag = ps.atFlag := rfl
theorem erasePS_bracketFlag (ps : PS) : (erasePS ps).bracketFlag = ps.bracketFlag := rfl
theorem erasePS_pwSeen (ps : PS) : (erasePS ps).pwSeen = ps.pwSeen := rfl
theorem erasePS_url (ps : PS) : (erasePS ps).url = erase ps.url := rfl
theorem erase_scheme (u : Url) : (erase u).scheme = u.scheme := rfl
theorem erase_username (u : Url) : (erase u).username = u.username := rfl
theorem erase_password (u : Url) : (erase u).password = u.password := rfl
theorem erase_host (u : Url) : (erase u).host = u.host := rfl
theorem erase_port (u : Url) : (erase u).port = u.port := rfl
theorem erase_decodedPort (u : Url) : (erase u).decodedPort = u.decodedPort := rfl
theorem erase_path (u : Url) : (erase u).path = u.path := rfl
theorem erase_query (u : Url) : (erase u).query = u.query := rfl
theorem erase_fragment (u : Url) : (erase u).fragment = u.fragment := rfl
theorem erase_qlog (u : Url) : (erase u).qlog = u.qlog := rfl

theorem erase_eq (u : Url) :
    erase u = ⟨u.scheme, u.username, u.password, u.host, u.port, u.decodedPort, u.path, u.query, u.fragment, [], u.qlog⟩ := rfl
theorem erase_mk (a b c : Bytes) (d e : Option Bytes) (f : Nat) (g : Path) (h i : Option Bytes) (v : List VErr) (q : List Bytes) :
    erase ⟨a, b, c, d, e, f, g, h, i, v, q⟩ = ⟨a, b, c, d, e, f, g, h, i, [], q⟩ := rfl

theorem next_snd (rs : Str) (ps : PS) : (next rs ps).2 = (cur rs (ps.pointer + 1)).getD repl :=
  Machine.next_snd rs ps

end WhatwgUrl.Proofs.Reporting
