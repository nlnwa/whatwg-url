import WhatwgUrl.Proofs.IdemGsb
import WhatwgUrl.Proofs.IdemHost
import WhatwgUrl.Proofs.RTcInvHost
import WhatwgUrl.Proofs.RTcInvV6
import WhatwgUrl.Proofs.SimHost
import WhatwgUrl.Proofs.IPv6RT
/-
  C17e: the host parser of a configuration whose pre-parse-host hook is the dot normalizer (`DotCfg`: `gsbCfg`,
  `semanticCfg`), on the easy hosts — domain inputs (pure ASCII, no forbidden domain code point, accepted by the `xn--`
  automaton; oracle laws assumed), serialized IPv4 addresses and bracketed IPv6 literals: the parsed host is a host text,
  free of `%` and of bytes of the host percent-encode set, and a fixed point of the host parser (hook included).
-/
namespace WhatwgUrl.Proofs.IdemGsb
open WhatwgUrl WhatwgUrl.Impl WhatwgUrl.Proofs.IPv4 WhatwgUrl.Proofs.Domain
open WhatwgUrl.Proofs.Web (preIn EncAscii parseHost_pre_cons parseHost_pre_bracket stringToUnicode_ascii)
open WhatwgUrl.Proofs.Spelling (hostText)
open WhatwgUrl.Proofs.RoundTrip (hostB hostScan)
open WhatwgUrl.Proofs.Sim (IdnaLaws)
open WhatwgUrl.Props.C04c (hostCharsOk)

/-- a configuration whose pre-parse-host hook is the dot normalizer (on the texts it does not normalize away), without
    post-parse-host hook, that does not fail on validation errors, with an ASCII-transparent encoding override -/
structure DotCfg (cfg : Cfg) : Prop where
  post : cfg.postHost = none
  fov : cfg.failOnVErr = false
  enc : EncAscii cfg
  pre : ∀ (u : Url) (a : Bytes), a ≠ [] → norm a ≠ [] → preIn cfg u a = norm a

theorem dotCfg_gsb : DotCfg gsbCfg :=
  ⟨rfl, rfl, WhatwgUrl.Proofs.Web.encAscii_none _ rfl, fun _ _ _ _ => rfl⟩

theorem dotCfg_semantic : DotCfg semanticCfg :=
  ⟨rfl, rfl, WhatwgUrl.Proofs.Web.encAscii_semantic, fun u a h1 h2 => semanticPre_eq u a h1 h2⟩

theorem parseHost_domain_closed (cfg : Cfg) (hpost : cfg.postHost = none) (henc : EncAscii cfg) (I : Idna) (hI : IdnaLaws I)
    (u : Url) (a i : Bytes) (hin : preIn cfg u a = i) (hne : i ≠ []) (hasc : Ascii i)
    (hnf : ∀ b ∈ i, forbiddenDomain b.toNat = false) (haut : autB (asciiLower i) 0 = true) :
    (parseHost cfg I u a false).out = (finishDomain cfg u (asciiLower i)).out := by
  obtain ⟨hp, hb⟩ := RTcInv.no_pct_no_bracket hnf
  have haut' : asciiOrMiscNoPuny (goRunes i) 0 = true := by
    rw [goRunes_ascii _ hasc, asciiOrMisc_eq_autB _ hasc]; exact haut
  exact WhatwgUrl.Proofs.Web.parseHost_domain cfg hpost henc I u a i hin hne hb hp hasc haut' (hI.ascii_lower _ hasc haut')

theorem finishDomain_good (cfg : Cfg) (hpost : cfg.postHost = none) (u : Url) (d : Bytes) (hasc : Ascii d)
    (hnf : ∀ b ∈ d, forbiddenDomain b.toNat = false) :
    finishDomain cfg u d = if endsInANumber cfg u d then parseIPv4 cfg u d else ⟨u, .ok d⟩ :=
  finishDomain_ascii cfg hpost u d hasc hnf

theorem good_text (h : Bytes) (hasc : Ascii h) (hnf : ∀ b ∈ h, forbiddenDomain b.toNat = false) :
    hostCharsOk true h = true := by
  have : h.all (WhatwgUrl.Props.C04c.hostByteOk true) = true :=
    List.all_eq_true.mpr (fun b hb => WhatwgUrl.Props.C04c.domain_byte b (hasc b hb) (hnf b hb))
  simp only [hostCharsOk, this, Bool.or_true]

theorem lower_forbidden : ∀ b : UInt8, forbiddenDomain (lowerB b).toNat = forbiddenDomain b.toNat :=
  forall_uint8 (by decide +kernel)

theorem itoa_no_dot (n : Nat) : (0x2e : UInt8) ∉ itoa n :=
  fun hm => absurd (WhatwgUrl.Proofs.IPv6.itoa_digits n _ hm) (by decide)

theorem clean_ipv4String (n : Nat) : clean true (ipv4String n) = true := by
  unfold ipv4String
  simp only [List.append_assoc, List.cons_append, List.nil_append]
  rw [clean_append_nodot _ _ _ (WhatwgUrl.Proofs.RoundTrip.itoa_ne _) (itoa_no_dot _)]
  simp only [clean, beq_self_eq_true, if_true, Bool.not_false, Bool.true_and]
  rw [clean_append_nodot _ _ _ (WhatwgUrl.Proofs.RoundTrip.itoa_ne _) (itoa_no_dot _)]
  simp only [clean, beq_self_eq_true, if_true, Bool.not_false, Bool.true_and]
  rw [clean_append_nodot _ _ _ (WhatwgUrl.Proofs.RoundTrip.itoa_ne _) (itoa_no_dot _)]
  simp only [clean, beq_self_eq_true, if_true, Bool.not_false, Bool.true_and]
  exact clean_of_no_dot _ true (WhatwgUrl.Proofs.RoundTrip.itoa_ne _) (itoa_no_dot _)

theorem parseIPv4_fixed (cfg : Cfg) (hf : cfg.failOnVErr = false) (u : Url) (n : Nat) (hn : n < 2 ^ 32) :
    endsInANumber cfg u (ipv4String n) = true ∧ (parseIPv4 cfg u (ipv4String n)).out = .ok (ipv4String n) := by
  constructor
  · rw [WhatwgUrl.Props.C07.C07_ends_in_number_conforms, WhatwgUrl.Proofs.RTcInv.asStr_ipv4String]
    exact (WhatwgUrl.Props.C07.C07_fixed_point n hn).1
  · exact WhatwgUrl.Proofs.RTcInv.parseIPv4_ipv4String cfg hf u n hn

theorem parseIPv4_ok (cfg : Cfg) (hf : cfg.failOnVErr = false) (u : Url) (d h : Bytes) (ho : (parseIPv4 cfg u d).out = .ok h) :
    ∃ n, n < 2 ^ 32 ∧ h = ipv4String n := by
  obtain ⟨n, -, h1, h2⟩ := WhatwgUrl.Props.C07.parseIPv4_ok_spec cfg u d h hf ho
  exact ⟨n, h1, h2⟩

theorem ipv4_stable (cfg : Cfg) (hc : DotCfg cfg) (I : Idna) (hI : IdnaLaws I) (u : Url) (n : Nat) (hn : n < 2 ^ 32) :
    Idem.StableHost cfg I u (ipv4String n) := by
  have hA := WhatwgUrl.Proofs.RTcInv.asciiDomain_ipv4 n hn
  have hasc : Ascii (ipv4String n) := fun b hb => (hA.1 b hb).1
  have hnf : ∀ b ∈ ipv4String n, forbiddenDomain b.toNat = false := fun b hb => (hA.1 b hb).2
  have hcl := clean_ipv4String n
  have hne := clean_ne_nil hcl
  refine .of_chars hne (good_text _ hasc hnf) ?_
  have hin : preIn cfg u (ipv4String n) = ipv4String n := by
    rw [hc.pre u _ hne (by rw [norm_of_clean _ hcl]; exact hne), norm_of_clean _ hcl]
  have haut : autB (asciiLower (ipv4String n)) 0 = true := by
    rw [← asciiOrMisc_eq_autB _ hasc, ← goRunes_ascii _ hasc]
    exact asciiOrMisc_pure _ ⟨hasc, by rw [hA.2.1]; exact hA.2.2.1⟩
  rw [parseHost_domain_closed cfg hc.post hc.enc I hI u _ _ hin hne hasc hnf haut, hA.2.1,
    finishDomain_ascii cfg hc.post u _ hasc hnf, (parseIPv4_fixed cfg hc.fov u n hn).1]
  exact (parseIPv4_fixed cfg hc.fov u n hn).2

/-- **the parsed host of a domain input is stable**: `i` is what the host parser gets to see after the hook -/
theorem domain_stable (cfg : Cfg) (hc : DotCfg cfg) (I : Idna) (hI : IdnaLaws I) (u : Url) (a i : Bytes)
    (hin : preIn cfg u a = i) (hcl : clean true i = true) (hasc : Ascii i)
    (hnf : ∀ b ∈ i, forbiddenDomain b.toNat = false) (haut : autB (asciiLower i) 0 = true) :
    ∀ h, (parseHost cfg I u a false).out = .ok h → Idem.StableHost cfg I u h := by
  intro h hout
  have hne := clean_ne_nil hcl
  have hdne : asciiLower i ≠ [] := mt AsciiCase.asciiLower_eq_nil.mp hne
  have hdasc : Ascii (asciiLower i) := asciiLower_ascii hasc
  have hdnf : ∀ b ∈ asciiLower i, forbiddenDomain b.toNat = false := by
    intro b hb
    obtain ⟨x, hx, rfl⟩ := List.mem_map.mp hb
    rw [lower_forbidden]; exact hnf x hx
  have hdcl : clean true (asciiLower i) = true := by rw [clean_lower]; exact hcl
  rw [parseHost_domain_closed cfg hc.post hc.enc I hI u a i hin hne hasc hnf haut,
    finishDomain_ascii cfg hc.post u _ hdasc hdnf] at hout
  by_cases he : endsInANumber cfg u (asciiLower i) = true
  · rw [if_pos he] at hout
    obtain ⟨n, hn, rfl⟩ := parseIPv4_ok cfg hc.fov u _ h hout
    exact ipv4_stable cfg hc I hI u n hn
  · rw [if_neg he] at hout
    have e : h = asciiLower i := by cases hout; rfl
    subst e
    refine .of_chars hdne (good_text _ hdasc hdnf) ?_
    have hin2 : preIn cfg u (asciiLower i) = asciiLower i := by
      rw [hc.pre u _ hdne (by rw [norm_of_clean _ hdcl]; exact hdne), norm_of_clean _ hdcl]
    rw [parseHost_domain_closed cfg hc.post hc.enc I hI u _ _ hin2 hdne hdasc hdnf (by rw [AsciiCase.asciiLower_idem]; exact haut),
      AsciiCase.asciiLower_idem, finishDomain_ascii cfg hc.post u _ hdasc hdnf, if_neg he]

theorem v6_byte : ∀ b : UInt8, (b = 0x5b ∨ b = 0x5d ∨ WhatwgUrl.Props.C04c.isV6Byte b = true) →
    hostB true b = true ∧ b ≠ 0x2e :=
  forall_uint8 (by decide +kernel)

theorem v6_stable (cfg : Cfg) (hc : DotCfg cfg) (I : Idna) (u : Url) (a : List Nat) (ha : WhatwgUrl.Props.C08.Addr a) :
    Idem.StableHost cfg I u ([0x5b] ++ ipv6String a ++ [0x5d]) := by
  have hlit := WhatwgUrl.Props.C04c.v6_literal _ (WhatwgUrl.Props.C04c.ipv6String_ok a)
  have hcons : ([0x5b] ++ ipv6String a ++ [0x5d] : Bytes) = 0x5b :: (ipv6String a ++ [0x5d]) := by simp
  refine .of_chars (by simp) (by simp only [hostCharsOk, hlit, Bool.true_or]) ?_
  · rw [hcons]
    have hnd : (0x2e : UInt8) ∉ (0x5b :: (ipv6String a ++ [0x5d]) : Bytes) := fun hmem =>
      (v6_byte _ (WhatwgUrl.Props.C04c.v6_mem _ hlit _ (hcons ▸ hmem))).2 rfl
    have hcl : clean true (0x5b :: (ipv6String a ++ [0x5d])) = true := clean_of_no_dot _ true (by simp) hnd
    have hin : preIn cfg u (0x5b :: (ipv6String a ++ [0x5d])) = 0x5b :: (ipv6String a ++ [0x5d]) := by
      rw [hc.pre u _ (by simp) (by rw [norm_of_clean _ hcl]; simp), norm_of_clean _ hcl]
    rw [parseHost_pre_bracket cfg I u _ false _ hin]
    rw [← hcons, HostWF.bracketHost_wrap, WhatwgUrl.Proofs.IPv6.parseIPv6_ipv6String cfg u a ha]

theorem bracket_stable (cfg : Cfg) (hc : DotCfg cfg) (I : Idna) (u : Url) (a : Bytes) (hb : a.head? = some 0x5b) :
    ∀ h, (parseHost cfg I u a false).out = .ok h → Idem.StableHost cfg I u h := by
  intro h hout
  cases a with
  | nil => simp at hb
  | cons x r =>
    simp only [List.head?_cons, Option.some.injEq] at hb
    subst hb
    obtain ⟨tl, htl⟩ := norm_head 0x5b r (by decide)
    have hin : preIn cfg u (0x5b :: r) = 0x5b :: tl := by
      rw [hc.pre u _ (by simp) (by rw [htl]; simp), htl]
    simp only [parseHost_pre_bracket cfg I u _ false tl hin, HostWF.bracketHost_cons] at hout
    split at hout
    · simp [fail6] at hout
    · cases hs : Spec.parseIPv6 (goRunes (trimSuffix1 tl [0x5d])) with
      | none =>
        obtain ⟨e, -, he⟩ := WhatwgUrl.Proofs.IPv6.parseIPv6_none cfg u _ hs
        simp [he, fail6] at hout
      | some ad =>
        rw [WhatwgUrl.Proofs.IPv6.parseIPv6_some cfg u _ ad hs] at hout
        cases hout
        exact v6_stable cfg hc I u ad (WhatwgUrl.Proofs.IPv6.spec_parseIPv6_addr _ ad hs)

end WhatwgUrl.Proofs.IdemGsb
