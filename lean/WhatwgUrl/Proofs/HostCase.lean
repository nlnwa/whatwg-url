import WhatwgUrl.Proofs.Domain
import WhatwgUrl.Proofs.Trim
import WhatwgUrl.Proofs.AsciiCase
/-
  C09d: the special-scheme branch of `parseHost` sees its input only up to ASCII case, under the oracle laws `L5` (the IDNA
  library is ASCII-case-insensitive) and `L6` (its output has no upper-case ASCII letter): `decode1`, `goDecode`, `validUtf8`,
  the `xn--` automaton and `decodePercent` factor through `asciiLower`.
-/
namespace WhatwgUrl.Proofs.HostCase
open WhatwgUrl WhatwgUrl.Impl WhatwgUrl.Proofs.IPv4 WhatwgUrl.Proofs.Domain
open WhatwgUrl.Proofs.AsciiCase (cons_of_asciiLower_cons nil_of_asciiLower_nil)

/-- L5: the library is ASCII-case-insensitive (output AND error flag) -/
def L5 (I : Idna) : Prop := ∀ s t : Bytes, asciiLower s = asciiLower t → I s = I t
/-- L6: the output of the library has no upper-case ASCII letter -/
def L6 (I : Idna) : Prop := ∀ s : Bytes, ∀ x ∈ (I s).1, ¬ (0x41 ≤ x.toNat ∧ x.toNat ≤ 0x5a)

theorem lowerB_eq_high {x y : UInt8} (h : lowerB x = lowerB y) (hx : 0x80 ≤ x.toNat) : x = y := by
  have hy : ¬ y.toNat < 0x80 := fun hy => by
    have := (AsciiCase.lowerB_lt_iff x).mp (h ▸ (AsciiCase.lowerB_lt_iff y).mpr hy)
    omega
  rw [← AsciiCase.lowerB_of_not_upper (x := x) (by omega), ← AsciiCase.lowerB_of_not_upper (x := y) (by omega)]; exact h

theorem lowerB_eq_cases {x y : UInt8} (h : lowerB x = lowerB y) :
    (x.toNat < 0x80 ∧ y.toNat < 0x80) ∨ x = y := by
  by_cases hx : x.toNat < 0x80
  · by_cases hy : y.toNat < 0x80
    · exact Or.inl ⟨hx, hy⟩
    · exact Or.inr (lowerB_eq_high h.symm (by omega)).symm
  · exact Or.inr (lowerB_eq_high h (by omega))

theorem isCont_ascii (x : UInt8) (h : x.toNat < 0x80) : isCont x = false := Utf8.isCont_ascii x h

theorem asciiLower_length (s : Bytes) : (asciiLower s).length = s.length := List.length_map _

/-! ### `decode1` sees its arguments only up to ASCII case -/

theorem ite_congr_of {α : Type} (P Q : Bool) (X Y Z : α) (h1 : P = true → Q = true ∧ X = Y) (h2 : Q = true → P = true) :
    (if P then X else Z) = (if Q then Y else Z) := by
  cases hP : P
  · cases hQ : Q
    · rfl
    · have := h2 hQ; rw [hP] at this; cases this
  · obtain ⟨hq, hxy⟩ := h1 hP
    rw [hq, hxy]

open WhatwgUrl.Proofs.Utf8 in
/-- a multi-byte (or ill-formed) lead byte: the result depends on the rest only up to ASCII case — it reads the rest only
    where the bytes are continuation bytes, and `lowerB` is injective from `0x80` on (`lowerB_eq_high`) -/
theorem decode1_high_congr (b0 : UInt8) (h0 : 0x80 ≤ b0.toNat) (r r' : Bytes) (h : asciiLower r = asciiLower r') :
    decode1 b0 r = decode1 b0 r' := by
  by_cases h1 : b0.toNat < 0xC2
  · rw [decode1_lt_C2 b0 r h0 h1, decode1_lt_C2 b0 r' h0 h1]
  by_cases h2 : b0.toNat < 0xE0
  · rw [Utf8.decode1_2 b0 r (by omega) h2, Utf8.decode1_2 b0 r' (by omega) h2]
    cases r with
    | nil => rw [nil_of_asciiLower_nil h]
    | cons b1 r1 =>
      obtain ⟨b1', r1', rfl, e1, -⟩ := cons_of_asciiLower_cons h
      simp only []
      apply ite_congr_of
      · intro hc
        cases lowerB_eq_high e1 (isCont_ge _ hc); exact ⟨hc, rfl⟩
      · intro hc
        cases lowerB_eq_high e1.symm (isCont_ge _ hc); exact hc
  by_cases h3 : b0.toNat < 0xF0
  · rw [decode1_3 b0 r (by omega) h3, decode1_3 b0 r' (by omega) h3]
    cases r with
    | nil => rw [nil_of_asciiLower_nil h]
    | cons b1 r1 =>
      obtain ⟨b1', r1', rfl, e1, h'⟩ := cons_of_asciiLower_cons h
      cases r1 with
      | nil => rw [nil_of_asciiLower_nil h']
      | cons b2 r2 =>
        obtain ⟨b2', r2', rfl, e2, -⟩ := cons_of_asciiLower_cons h'
        simp only []
        apply ite_congr_of
        · intro hc
          obtain ⟨g1, g2⟩ := ok3_ge _ _ _ hc
          cases lowerB_eq_high e1 g1; cases lowerB_eq_high e2 g2; exact ⟨hc, rfl⟩
        · intro hc
          obtain ⟨g1, g2⟩ := ok3_ge _ _ _ hc
          cases lowerB_eq_high e1.symm g1; cases lowerB_eq_high e2.symm g2; exact hc
  by_cases h4 : b0.toNat < 0xF5
  · rw [decode1_4 b0 r (by omega) h4, decode1_4 b0 r' (by omega) h4]
    cases r with
    | nil => rw [nil_of_asciiLower_nil h]
    | cons b1 r1 =>
      obtain ⟨b1', r1', rfl, e1, h'⟩ := cons_of_asciiLower_cons h
      cases r1 with
      | nil => rw [nil_of_asciiLower_nil h']
      | cons b2 r2 =>
        obtain ⟨b2', r2', rfl, e2, h''⟩ := cons_of_asciiLower_cons h'
        cases r2 with
        | nil => rw [nil_of_asciiLower_nil h'']
        | cons b3 r3 =>
          obtain ⟨b3', r3', rfl, e3, -⟩ := cons_of_asciiLower_cons h''
          simp only []
          apply ite_congr_of
          · intro hc
            obtain ⟨g1, g2, g3⟩ := ok4_ge _ _ _ _ hc
            cases lowerB_eq_high e1 g1; cases lowerB_eq_high e2 g2; cases lowerB_eq_high e3 g3; exact ⟨hc, rfl⟩
          · intro hc
            obtain ⟨g1, g2, g3⟩ := ok4_ge _ _ _ _ hc
            cases lowerB_eq_high e1.symm g1; cases lowerB_eq_high e2.symm g2; cases lowerB_eq_high e3.symm g3; exact hc
  · rw [decode1_ge_F5 b0 r (by omega), decode1_ge_F5 b0 r' (by omega)]

/-- `goDecode` up to ASCII case: any observation `f` of the runes that does not distinguish the two cases of an ASCII
    letter gives the same list of (observation, size) pairs -/
theorem goDecode_map_congr {α : Type} (f : Char → α)
    (hf : ∀ x y : UInt8, x.toNat < 0x80 → y.toNat < 0x80 → lowerB x = lowerB y → f (bc x) = f (bc y)) :
    ∀ (n : Nat) (s t : Bytes), s.length ≤ n → asciiLower s = asciiLower t →
      (goDecode s).map (fun p => (f p.1, p.2)) = (goDecode t).map (fun p => (f p.1, p.2)) := by
  intro n
  induction n with
  | zero =>
    intro s t hn h
    have : s = [] := List.eq_nil_of_length_eq_zero (by omega)
    subst this
    rw [nil_of_asciiLower_nil h]
  | succ n ih =>
    intro s t hn h
    cases s with
    | nil => rw [nil_of_asciiLower_nil h]
    | cons b0 r =>
      obtain ⟨b0', r', rfl, e0, hr⟩ := cons_of_asciiLower_cons h
      rw [Utf8.goDecode_cons, Utf8.goDecode_cons]
      simp only [List.map_cons]
      have key : (decode1 b0 r).2 = (decode1 b0' r').2 ∧ f (decode1 b0 r).1 = f (decode1 b0' r').1 := by
        rcases lowerB_eq_cases e0 with ⟨hx, hy⟩ | rfl
        · rw [Utf8.decode1_ascii b0 r hx, Utf8.decode1_ascii b0' r' hy]
          exact ⟨rfl, hf b0 b0' hx hy e0⟩
        · by_cases hx : b0.toNat < 0x80
          · rw [Utf8.decode1_ascii b0 r hx, Utf8.decode1_ascii b0 r' hx]
            exact ⟨rfl, rfl⟩
          · rw [decode1_high_congr b0 (by omega) r r' hr]
            exact ⟨rfl, rfl⟩
      rw [key.1, key.2]
      congr 1
      apply ih
      · simp only [List.length_cons] at hn
        simp only [List.length_drop]; omega
      · rw [asciiLower, asciiLower, List.map_drop, List.map_drop]; exact congrArg _ hr

theorem goRunes_map_congr {α : Type} (f : Char → α)
    (hf : ∀ x y : UInt8, x.toNat < 0x80 → y.toNat < 0x80 → lowerB x = lowerB y → f (bc x) = f (bc y))
    (s t : Bytes) (h : asciiLower s = asciiLower t) : (goRunes s).map f = (goRunes t).map f := by
  have := congrArg (List.map (fun q : α × Nat => q.1)) (goDecode_map_congr f hf s.length s t (Nat.le_refl _) h)
  simpa [goRunes, List.map_map, Function.comp_def] using this

theorem validUtf8_congr (s t : Bytes) (h : asciiLower s = asciiLower t) : validUtf8 s = validUtf8 t := by
  have := goDecode_map_congr (fun c => c == repl) (fun x y _ _ _ => by rw [bc_ne_repl, bc_ne_repl]) s.length s t
    (Nat.le_refl _) h
  have e : ∀ u : Bytes, validUtf8 u =
      ((goDecode u).map (fun p => (p.1 == repl, p.2))).all (fun q => !(q.1 && q.2 == 1)) := by
    intro u; simp [validUtf8, List.all_map, Function.comp_def]
  rw [e s, e t, this]

theorem lowerForCheck_bc_lower : ∀ x : UInt8, x.toNat < 0x80 → lowerForCheck (bc x) = bc (lowerB x) :=
  forall_uint8 (by decide +kernel)

theorem asciiOrMisc_map_congr : ∀ (rs rs' : Str) (p : Int), rs.map lowerForCheck = rs'.map lowerForCheck →
    asciiOrMiscNoPuny rs p = asciiOrMiscNoPuny rs' p := by
  intro rs
  induction rs with
  | nil =>
    intro rs' p h
    cases rs' with
    | nil => rfl
    | cons c cs => simp at h
  | cons c cs ih =>
    intro rs' p h
    cases rs' with
    | nil => simp at h
    | cons c' cs' =>
      simp only [List.map_cons, List.cons.injEq] at h
      have ih' := fun p => ih cs' p h.2
      simp only [asciiOrMiscNoPuny, h.1, ih']

theorem asciiOrMisc_congr (s t : Bytes) (h : asciiLower s = asciiLower t) (p : Int) :
    asciiOrMiscNoPuny (goRunes s) p = asciiOrMiscNoPuny (goRunes t) p :=
  asciiOrMisc_map_congr _ _ p
    (goRunes_map_congr lowerForCheck
      (fun x y hx hy e => by rw [lowerForCheck_bc_lower x hx, lowerForCheck_bc_lower y hy, e]) s t h)

/-! ### `decodePercent` up to ASCII case -/

theorem hex_case : ∀ x y : UInt8, lowerB x = lowerB y →
    isHexN x.toNat = isHexN y.toNat ∧ hexVal x.toNat = hexVal y.toNat := by
  intro x y h
  have key : ∀ x : UInt8, isHexN (lowerB x).toNat = isHexN x.toNat ∧ hexVal (lowerB x).toNat = hexVal x.toNat :=
    fun x => ⟨by rw [AsciiCase.lowerB_toNat, AsciiCase.isHexN_lowerN], by rw [AsciiCase.lowerB_toNat, AsciiCase.hexVal_lowerN]⟩
  rw [← (key x).1, ← (key x).2, ← (key y).1, ← (key y).2, h]
  exact ⟨rfl, rfl⟩

theorem hex2_lower (w : Bytes) : hex2 (asciiLower w) = hex2 w := by
  match w with
  | [] => rfl
  | [_] => rfl
  | a :: b :: r => simp only [asciiLower, List.map_cons, hex2, AsciiCase.lowerB_toNat, AsciiCase.isHexN_lowerN]

theorem hex2_congr (r r' : Bytes) (h : asciiLower r = asciiLower r') : hex2 r = hex2 r' := by
  rw [← hex2_lower r, h, hex2_lower]

/-- **`decodePercent` commutes with ASCII case up to `asciiLower`**: `%4a` and `%4A` decode to the same byte, and a
    decoded byte is never looked at again -/
theorem decodePercent_case (cfg : Cfg) :
    ∀ (n : Nat) (s t : Bytes), s.length ≤ n → asciiLower s = asciiLower t →
      asciiLower (decodePercent cfg s) = asciiLower (decodePercent cfg t) := by
  intro n
  induction n with
  | zero =>
    intro s t hn h
    have : s = [] := List.eq_nil_of_length_eq_zero (by omega)
    subst this
    rw [nil_of_asciiLower_nil h]
  | succ n ih =>
    intro s t hn h
    cases s with
    | nil => rw [nil_of_asciiLower_nil h]
    | cons x r =>
      obtain ⟨y, r', rfl, exy, hr⟩ := cons_of_asciiLower_cons h
      simp only [List.length_cons] at hn
      by_cases hesc : x = 0x25 ∧ hex2 r = true
      · obtain ⟨rfl, hh⟩ := hesc
        have hy : y = 0x25 := AsciiCase.eq_of_lowerB_eq_of_not_alpha (by decide) exy.symm
        subst hy
        match r, hh, hr, hn with
        | a :: b :: r2, hh, hr, hn =>
          obtain ⟨a', r1', rfl, ea, h'⟩ := cons_of_asciiLower_cons hr
          obtain ⟨b', r2', rfl, eb, h''⟩ := cons_of_asciiLower_cons h'
          simp only [hex2, Bool.and_eq_true] at hh
          have ha' : isHexN a'.toNat = true := by rw [← (hex_case a a' ea).1]; exact hh.1
          have hb' : isHexN b'.toNat = true := by rw [← (hex_case b b' eb).1]; exact hh.2
          rw [Percent.decodePercent_esc cfg a b r2 hh.1 hh.2, Percent.decodePercent_esc cfg a' b' r2' ha' hb']
          have he : Percent.escBytes cfg a b = Percent.escBytes cfg a' b' := by
            unfold Percent.escBytes Percent.hexByte
            rw [(hex_case a a' ea).2, (hex_case b b' eb).2]
          simp only [List.length_cons] at hn
          have := ih r2 r2' (by omega) h''
          simp only [asciiLower, List.map_append] at this ⊢
          rw [he, this]
      · have hesc' : ¬ (y = 0x25 ∧ hex2 r' = true) := by
          intro ⟨hy, hh⟩
          apply hesc
          subst hy
          exact ⟨AsciiCase.eq_of_lowerB_eq_of_not_alpha (by decide) exy, by rw [hex2_congr r r' hr]; exact hh⟩
        rw [decodePercent_cons_of_not cfg x r hesc, decodePercent_cons_of_not cfg y r' hesc']
        simp only [asciiLower, List.map_cons, List.cons.injEq]
        exact ⟨exy, ih r r' (by omega) hr⟩

theorem decodePercent_asciiLower (cfg : Cfg) (s t : Bytes)
    (h : asciiLower s = asciiLower t) : asciiLower (decodePercent cfg s) = asciiLower (decodePercent cfg t) :=
  decodePercent_case cfg s.length s t (Nat.le_refl _) h

/-! ### ToASCII and the host parser as functions of the decoded domain -/

theorem toAsciiOut_congr (cfg : Cfg) (I : Idna) (hI : L5 I) (d d' : Bytes) (h : asciiLower d = asciiLower d') :
    toAsciiOut cfg I d = toAsciiOut cfg I d' := by
  unfold toAsciiOut
  rw [hI d d' h, asciiOrMisc_congr d d' h]

/-- the special-scheme branch of the host parser after percent-decoding (`HostWF.domainHost` with the decoded domain, its
    validity and the outcome of ToASCII as arguments; `parseHost_core`), on a url whose `qlog` is not looked at:
    `v` = the decoded domain is well-formed UTF-8, `r` = outcome of ToASCII, `raw`/`d` = the raw and the decoded
    input (used in the lax branches only) -/
def hostCore (cfg : Cfg) (u : Url) (raw d : Bytes) (v : Bool) (r : ToAsciiR) : HR :=
  if !v && cfg.laxHost then ⟨u, .ok (percentEncodeBytes hostSet raw)⟩
  else if !v then fail6 cfg u .DomainToASCII
  else match r with
    | .err _ => if cfg.laxHost then ⟨u, .ok d⟩ else fail6 cfg u .DomainToASCII
    | .ok a => finishDomain cfg u a

theorem fail6_withQ (cfg : Cfg) (q : List Bytes) (u : Url) (t : ErrT) :
    fail6 cfg (withQ q u) t = HR.withQ q (fail6 cfg u t) :=
  (HostTr.fail6_tr (tr_withQ cfg q).toTrR u t).symm

theorem hostCore_withQ (cfg : Cfg) (hpost : cfg.postHost = none) (q : List Bytes) (u : Url) (raw d : Bytes)
    (v : Bool) (r : ToAsciiR) :
    hostCore cfg (withQ q u) raw d v r = HR.withQ q (hostCore cfg u raw d v r) := by
  unfold hostCore
  split
  · rfl
  · split
    · exact fail6_withQ cfg q u _
    · cases r with
      | err a =>
        simp only []
        split
        · rfl
        · exact fail6_withQ cfg q u _
      | ok a => exact finishDomain_withQ cfg hpost q u a

theorem parseHost_core (cfg : Cfg) (hpre : cfg.preHost = none) (hpost : cfg.postHost = none)
    (henc : cfg.encOverride = none) (I : Idna) (u : Url) (s : Bytes) (hne : s ≠ []) (hb : s.head? ≠ some 0x5b)
    (q : List Bytes) :
    HR.withQ q (parseHost cfg I u s false) =
      HR.withQ q (hostCore cfg u s (decodePercent cfg s) (validUtf8 (decodePercent cfg s))
        (toAsciiOut cfg I (decodePercent cfg s))) := by
  rw [parseHost_domain_eq cfg hpre I u s hne hb, HostWF.domainHost,
    HostWF.toASCII_eq cfg henc I u _ (decodePercent_ne_nil cfg s hne)]
  generalize decodePercent cfg s = d
  generalize toAsciiOut cfg I d = r
  have hq : ∀ x, HR.withQ q x = HR.withQ q (HR.withQ (u.qlog ++ [d]) x) := fun _ => rfl
  rw [hq (hostCore ..), ← hostCore_withQ cfg hpost]
  unfold hostCore
  split
  · rfl
  · split
    · rw [fail6_withQ]; rfl
    · cases r <;> rfl

/-- the core of the host parser looks at the raw and at the decoded text only in the two lax fallbacks: outside them
    (strict mode; or well-formed text on which ToASCII succeeds) it is a function of `v` and `r` -/
theorem hostCore_indep (cfg : Cfg) (u : Url) (raw raw' d d' : Bytes) (v : Bool) (r : ToAsciiR)
    (h : cfg.laxHost = false ∨ (v = true ∧ ∃ a, r = .ok a)) : hostCore cfg u raw d v r = hostCore cfg u raw' d' v r := by
  unfold hostCore
  rcases h with h | ⟨rfl, a, rfl⟩
  · simp only [h, Bool.and_false, Bool.false_eq_true, if_false]
  · rfl

end WhatwgUrl.Proofs.HostCase
