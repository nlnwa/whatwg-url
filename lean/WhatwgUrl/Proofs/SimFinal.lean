import WhatwgUrl.Proofs.SimSetters
import WhatwgUrl.Proofs.SimA2
import WhatwgUrl.Proofs.SimB2
import WhatwgUrl.Proofs.WellFormed2
/-
  Conformance simulation, final assembly: the per-state lemmas (`stepSim'_A`: twelve states, `stepSim'_B_all`: nine states)
  are put together into the one-iteration simulation for ALL 21 states (`stepSimG_all`), the invariants `XInv`
  (`SimInv.lean`) and `YInv` (`SimYB.lean`) are carried through the loop lifting once (`basicParser_conforms`, through
  `basicParser_sim_gen`); the API-level theorems and the setters are read off it (`api_conforms_of_parse`, `reenter`), and
  the hypothesis on the parsed base (`hwf`) is discharged by the structural well-formedness theorem `Props.C04b.parse_WFs`
  of `Proofs/WellFormed2.lean` (`parse_baseOk`).
-/
namespace WhatwgUrl.Proofs.Sim
open WhatwgUrl WhatwgUrl.Impl

/-- the two families of per-state lemmas cover the 21 states -/
theorem stA_or_stB : ∀ s : State, stA s = true ∨ stB s = true := by
  intro s; cases s <;> decide

theorem stepSim'_all (I : Idna) (hI : IdnaLaws I) (ov : Option Spec.St) (e : Env) (input : Str) (base : Option Spec.SUrl)
    (hE : REnv e input base ov I) (hOk : EnvOk e) (pi : PS) (ss : Spec.PS) (h : RPS pi ss) (hx : XInv e pi) (hy : YInv e pi) :
    RStep' ov.isNone (step e pi) (afterRun input (Spec.run (specIdna I) input base ov ss)) := by
  rcases stA_or_stB pi.state with hs | hs
  · exact stepSim'_A I hI ov e input base hE hOk pi ss h hx hs
  · exact stepSim'_B_all I hI ov e input base hE hOk pi ss h hx hy hs

/-- the general one-iteration simulation, with the invariants `XIY` (`SimParse.lean`) carried along -/
theorem stepSimG_all (I : Idna) (hI : IdnaLaws I) (ov : Option Spec.St) : StepSimG XIY (RRes' ov.isNone) I ov :=
  stepSimG_of_inv (stepSim'_all I hI ov)

/-- **The basic parser conforms under every state override** (default configuration), from any two corresponding
    initial states in which the Go-side invariants hold: both runs fail or both succeed (not compared under an override),
    and the url records correspond in either case. -/
theorem basicParser_conforms (I : Idna) (hI : IdnaLaws I) (ov : Option State) (input : Bytes) (base url : Option Url)
    (sbase surl : Option Spec.SUrl)
    (hb : match base, sbase with | none, none => True | some bi, some bs => RUrl bi bs | _, _ => False)
    (hn : url.isNone = surl.isNone) (hp : RPS (ps0Of url ov) (ss0Of surl (ov.map stateMap)))
    (hbok : BaseOk? base) (hrel : relSt (ov.getD .schemeStart) = false)
    (hopq : (url.getD {}).path.opq = true →
      opqSt (ov.getD .schemeStart) = true ∨ (ov.isSome = true ∧ ovOpqSt (ov.getD .schemeStart) = true))
    (ht : TabNlOk (if url.isNone then (trim c0OrSpaceSet input).1 else input)) :
    RRes' ov.isNone (basicParser {} I input base url ov)
      (Spec.basicParse (specIdna I) (goRunes input) sbase surl (ov.map stateMap)) := by
  have hS := stepSimG_all I hI (ov.map stateMap)
  rw [Option.isNone_map] at hS
  exact basicParser_sim_gen I ov hS input base url sbase surl hb hn hp hbok hrel hopq ht

/-- no state override, fresh url -/
theorem parse_conforms (I : Idna) (hI : IdnaLaws I) (input : Bytes) (base : Option Url) (sbase : Option Spec.SUrl)
    (hb : match base, sbase with | none, none => True | some bi, some bs => RUrl bi bs | _, _ => False)
    (hbok : BaseOk? base)
    (ht : TabNlOk (trim c0OrSpaceSet input).1) :
    RRes' true (basicParser {} I input base none none) (Spec.basicParse (specIdna I) (goRunes input) sbase none none) :=
  basicParser_conforms I hI none input base none sbase none hb rfl RPS_init_parse hbok rfl (fun h => by cases h) ht

/-- a successfully parsed url (no base) satisfies the condition on bases: the second clause of `WFs`
    (`Props.C04b.parse_WFs` of `Proofs/WellFormed2.lean`), whose third part under a special scheme is the list path -/
theorem parse_baseOk (I : Idna) (hI : IdnaLaws I) (b : Bytes) (hr : (parse {} I b).ret = .url) :
    BaseOk {} (parse {} I b).url :=
  (Props.C04b.parse_WFs {} I b none (fun _ h => by cases h) (Props.C04b.CfgOk_default I hI.nonempty) hr).2.1 |>
    fun h hs => (h hs).2.2.1

/-- **`parseRef` conforms** (the two-step parse with a base given as a string) against `Spec.apiParse` with a base string;
    `b ≠ []`: see `parseRef_conforms_of_parse` -/
theorem parseRef_conforms (I : Idna) (hI : IdnaLaws I) (b r : Bytes) (hne : b ≠ [])
    (htb : TabNlOk (trim c0OrSpaceSet b).1) (htr : TabNlOk (trim c0OrSpaceSet r).1) :
    RApi (parseRef {} I b r) (Spec.apiParse (specIdna I) (goRunes r) (some (goRunes b))) :=
  parseRef_conforms_of_parse BaseOk? I (parse_conforms I hI) .none b r hne
    (fun hr b' hb' => by cases hb'; exact parse_baseOk I hI b hr) htb htr

/-- **The API-level theorem**: `parse` / `parseRef` against `Spec.apiParse`, any optional (non-empty) base string — both
    fail, or both succeed with corresponding records. The observable form of C01 (below) and `C05_parse_conforms`, the
    parse clause of C05 (`Props/C05b.lean`), are read off it. -/
theorem api_conforms (I : Idna) (hI : IdnaLaws I) (input : Bytes) (base : Option Bytes) (hne : base ≠ some [])
    (ht : TabNlOk (trim c0OrSpaceSet input).1) (htb : ∀ b, base = some b → TabNlOk (trim c0OrSpaceSet b).1) :
    RApi (match (generalizing := false) base with | none => parse {} I input | some b => parseRef {} I b input)
      (Spec.apiParse (specIdna I) (goRunes input) (base.map goRunes)) :=
  api_conforms_of_parse BaseOk? I (parse_conforms I hI) .none input base hne
    (fun b _ hr b' hb' => by cases hb'; exact parse_baseOk I hI b hr) ht htb

/-- the observable form (failure, or the serialization plus the nine getters), any optional base string -/
theorem C01_parse_conforms_obs (I : Idna) (hI : IdnaLaws I) (input : Bytes) (base : Option Bytes)
    (hne : base ≠ some [])
    (ht : TabNlOk (trim c0OrSpaceSet input).1)
    (htb : ∀ b, base = some b → TabNlOk (trim c0OrSpaceSet b).1) :
    Props.C01.obsImpl (match (generalizing := false) base with | none => parse {} I input | some b => parseRef {} I b input) =
    Props.C01.obsSpec (Spec.apiParse (Props.C01.specIdna I) (goRunes input) (base.map goRunes)) :=
  C01_specIdna I ▸ obs_of_RApi (api_conforms I hI input base hne ht htb)

/-- re-entering the parser under a setter's override conforms: `basicParser_conforms` under that override -/
theorem reenter (I : Idna) (hI : IdnaLaws I) : Reenter I :=
  fun s v ui us hp hg ht =>
    (basicParser_conforms I hI (some (ovOf s)) v none (some ui) none (some us) trivial rfl hp .none
      (ovOf_init s ui hg).1 (ovOf_init s ui hg).2 ht).url

/-- **Every setter conforms**: on corresponding url records the Go setter and the standard's setter leave corresponding
    url records (whether or not the parser re-entry fails). -/
theorem set_conforms (I : Idna) (hI : IdnaLaws I) (s : Setter) (ui : Url) (us : Spec.SUrl) (hu : RUrl ui us) (v : Bytes)
    (ht : TabNlOk v) :
    RUrl (setU {} I s ui v).url (Spec.set (specIdna I) (mapSetter s) us (goRunes v)) :=
  set_conforms_of_sim_gen I (reenter I hI) s ui us hu v ht

end WhatwgUrl.Proofs.Sim

open WhatwgUrl.Proofs.Sim in
#print axioms stepSimG_all
open WhatwgUrl.Proofs.Sim in
#print axioms parse_conforms
open WhatwgUrl.Proofs.Sim in
#print axioms parseRef_conforms
open WhatwgUrl.Proofs.Sim in
#print axioms C01_parse_conforms_obs
open WhatwgUrl.Proofs.Sim in
#print axioms set_conforms
