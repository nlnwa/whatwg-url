import WhatwgUrl.Proofs.SpellingPort
/-
  Single steps of the state machine that the spellings need beyond `Proofs/RunScan.lean`: the host state's ways out for a
  special scheme (the host parser is called with `false`), a host that does not parse, a port out of range.
-/
namespace WhatwgUrl.Proofs.Web
open WhatwgUrl WhatwgUrl.Impl WhatwgUrl.Proofs.IPv4 WhatwgUrl.Proofs.RoundTrip WhatwgUrl.Proofs.Spelling

open WhatwgUrl.Proofs.Run

/-- the record with which the machine leaves the host state: the host parser's (which writes `verrs` and `qlog` only) with
    the host set -/
theorem hostRec_frame (cfg : Cfg) (I : Idna) (U : Url) (a : Bytes) (ns : Bool) (h : Bytes) :
    ({ (parseHost cfg I U a ns).url with host := some h } : Url).scheme = U.scheme ∧
    ({ (parseHost cfg I U a ns).url with host := some h } : Url).path = U.path ∧
    ({ (parseHost cfg I U a ns).url with host := some h } : Url).port = U.port ∧
    ({ (parseHost cfg I U a ns).url with host := some h } : Url).decodedPort = U.decodedPort :=
  ⟨Machine.parseHost_scheme .., Machine.parseHost_path .., Machine.parseHost_port .., Machine.parseHost_decodedPort ..⟩

variable {e : Env} {ps : PS} {pre : Str}

/-- end of the host (no port): the host is parsed, on to the path start state, the delimiter is read again -/
theorem step_host_end_special {rest : Str} {h' : Bytes} (hc : Cur e ps pre rest) (hd : Delim rest) (hst : ps.state = .host)
    (hov : e.ov = none) (hsp : e.cfg.isSpecial ps.url.scheme = true) (hne : ps.buffer ≠ [])
    (hout : (parseHost e.cfg e.I ps.url ps.buffer false).out = .ok h') :
    step e ps = .cont { ps with buffer := [], state := .pathStart,
                                url := { (parseHost e.cfg e.I ps.url ps.buffer false).url with host := some h' } } := by
  have h0 : (!isSp e ps.url) = false := by simp [isSp, hsp]
  have := step_host_end hc hd hst hov (fun _ => hne) (h0 ▸ hout)
  rwa [h0] at this

theorem step_host_end_fail {rest : Str} (hc : Cur e ps pre rest) (hd : Delim rest) (hst : ps.state = .host) (hov : e.ov = none)
    (hsp : e.cfg.isSpecial ps.url.scheme = true) (hne : ps.buffer ≠ [])
    (hno : ∀ h, (parseHost e.cfg e.I ps.url ps.buffer false).out ≠ .ok h) :
    step e ps = .done (hostFail (parseHost e.cfg e.I ps.url ps.buffer false)) := by
  have hem : ps.buffer.isEmpty = false := by simpa using hne
  rcases hd with hd | ⟨c, tl, hd, hc3⟩
  · subst hd
    rw [hc.step_nil]
    have h1 : (repl == ':') = false := by decide
    simp [body, hst, stHost, hov, h1, rewindLast, isSp, hsp, hem, afterHost_fail _ hno, bottom]
  · subst hd
    rw [hc.step_cons]
    obtain ⟨h2, _, h1, _⟩ := delim_char hc3
    simp [body, hst, stHost, hov, h1, h2, rewindLast, isSp, hsp, hem, afterHost_fail _ hno, bottom, hc.eof]

theorem step_host_colon_fail {tl : Str} (hc : Cur e ps pre (':' :: tl)) (hst : ps.state = .host) (hov : e.ov = none)
    (hsp : e.cfg.isSpecial ps.url.scheme = true) (hfl : ps.bracketFlag = false) (hne : ps.buffer ≠ [])
    (hno : ∀ h, (parseHost e.cfg e.I ps.url ps.buffer false).out ≠ .ok h) :
    step e ps = .done (hostFail (parseHost e.cfg e.I ps.url ps.buffer false)) := by
  rw [hc.step_cons]
  have hem : ps.buffer.isEmpty = false := by simpa using hne
  simp [body, hst, stHost, hov, hfl, hem, isSp, hsp, afterHost_fail _ hno, bottom, hc.eof]

/-- a port that is out of range: the fatal error, whatever the configuration (stated for its own sake, on a position `k`
    in the text; nothing uses it) -/
theorem stepc_port_end_range (cfg : Cfg) (I : Idna) (src : Bytes) (rs : Str) (ps : PS) (k : Nat)
    (hst : ps.state = .port) (he : ps.eof = false) (hk : ps.pointer + 1 = (k : Int)) (hd : Delim (rs.drop k))
    (hne : ps.buffer ≠ []) (hgt : digitsVal 10 ps.buffer > 65535) :
    step (mkEC cfg I src rs) ps = .done ⟨record cfg ps.url .PortOutOfRange true, .err ⟨.PortOutOfRange, true⟩ false⟩ := by
  have hem : ps.buffer.isEmpty = false := by simpa using hne
  have hcur : cur rs (ps.pointer + 1) = (rs.drop k).head? := by
    rw [hk]; unfold cur; simp [List.head?_drop]
  unfold step next
  rw [mkEC_runes, hcur]
  rcases hd with hd | ⟨c, tl, hd, hc3⟩
  · rw [hd]
    have h1 : isDigitN repl.toNat = false := by decide
    simp [body, hst, stPort, h1, hem, hgt, bottom]
  · rw [hd]
    obtain ⟨h2, _, _, h1⟩ := delim_char hc3
    simp [body, hst, stPort, h1, h2, hem, hgt, bottom, he]

end WhatwgUrl.Proofs.Web
