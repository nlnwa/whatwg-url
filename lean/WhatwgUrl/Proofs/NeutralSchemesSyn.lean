import WhatwgUrl.Proofs.NeutralSets
import WhatwgUrl.Proofs.RunScan
/-
  Helper lemmas for C16c (special-scheme table): a SYNTACTIC sufficient condition for "the run never looks the scheme `s`
  up" (`parserVisits … (schemeTrig s …) = false`).

  Run invariant `SchJ`:
   (A) `SchA`: the url's scheme is not `s` (it is written only by the scheme state — from the buffer —, the no-scheme and
       relative states — from the base — and the file state — the constant `file`);
   (B) `SchZ`: in the scheme-start and scheme states the buffer is the lower-cased text read so far and contains no `:`,
       so at the `:` the buffer is `schemeOf` the text.  No other state continues into one of these two.
  Both steps traverse only the states that matter (the four that write the scheme, the two that continue into the scheme
  state); for the others they are facts about the tables `writes` and `succ` of `Proofs/Effect.lean`.
-/
namespace WhatwgUrl.Proofs.Neutral
open WhatwgUrl WhatwgUrl.Impl WhatwgUrl.Proofs.Machine

/-- (A) the url's scheme is not `s`; and the file state (which writes the scheme `file`) is only entered when `s ≠ file` -/
def SchA (s : Bytes) (ps : PS) : Prop := ps.url.scheme ≠ s ∧ (ps.state = .file → s ≠ lit "file")

variable (s : Bytes)

theorem file_not_succ (ov : Bool) (st : State) (h : Field.scheme ∉ writes ov st) : State.file ∉ succ ov st := by
  cases ov <;> cases st <;> simp [writes, succ] at h ⊢

theorem body_A (e : Env) (q : PS) (r : Char) (hrepl : e.ov.isSome = true → q.eof = true → r = repl) (hI : SchA s q)
    (hb : ∀ b, e.base = some b → b.scheme ≠ s) (hbuf : q.state = .scheme → r = ':' → q.buffer ≠ s) :
    Sh (SchA s) (fun _ => True) (body e q r) := by
  by_cases hw : Field.scheme ∈ writes e.ov.isSome q.state
  · -- the scheme, no-scheme, file and relative states
    have h4 : q.state = .scheme ∨ q.state = .noScheme ∨ q.state = .file ∨ q.state = .relative := by
      revert hw; cases q.state <;> cases e.ov.isSome <;> simp [writes]
    obtain ⟨hI1, hI2⟩ := hI
    unfold body
    rcases h4 with hst | hst | hst | hst <;> simp only [hst] at hI2 hbuf ⊢
    all_goals
      simp at hI2 hbuf
      simp [stScheme, stNoScheme, stFile, stRelative, Sh_ite, Sh_herr, Sh_cont, Sh_done, Sh_retUrl, SchA, writeRune, rewindLast,
        resetInput, next_fst, record_eq, stops_true, hst, hI1, hI2]
    -- what is left reads the base (the scheme state compares it, the other three copy from it): with `hb` the scheme
    -- copied from it is not `s`; `grind` finishes the goals in which the state entered decides between the two clauses
    all_goals
      cases hbase : e.base
    all_goals
      simp only [hbase, reduceCtorEq, false_implies, implies_true, Option.some.injEq, forall_eq'] at hb
      simp [Sh_ite, Sh_herr, Sh_cont, Sh_done, SchA, record_eq, stops_true, hI1, hI2, hb]
      try grind
  · exact (body_eff e q r hrepl).mono
      (fun ps' h => ⟨by rw [show ps'.url.scheme = q.url.scheme from h.2.2.2 .scheme hw]; exact hI.1,
        fun hf => absurd (hf ▸ h.1) (file_not_succ _ _ hw)⟩) (fun _ _ => trivial)

theorem isSchemeChar_ne (r : Char) (h : Resolve.isSchemeChar r = true) : r ≠ ':' ∧ r ≠ repl := by
  constructor <;> (intro h'; subst h'; revert h; decide)

/-- (Z) in the scheme-start and scheme states the buffer is the text read so far, lower-cased, and that text holds no `:` -/
def SchZ (rs : Str) (ps : PS) : Prop :=
  (ps.state = .schemeStart ∨ ps.state = .scheme) →
    ∃ k : Nat, ps.pointer + 1 = (k : Int) ∧ ps.buffer = utf8 ((rs.take k).map lowerC) ∧ ∀ c ∈ rs.take k, c ≠ ':'

/-- a continuing outcome in one of the two states comes from one of the two, which appended the scheme character `r` -/
def PZ (q : PS) (r : Char) (ps' : PS) : Prop :=
  (ps'.state = .schemeStart ∨ ps'.state = .scheme) →
    (q.state = .schemeStart ∨ q.state = .scheme) ∧ ps'.pointer = q.pointer ∧
      ps'.buffer = q.buffer ++ utf8Char (lowerC r) ∧ Resolve.isSchemeChar r = true

theorem scheme_pred (ov : Bool) (st st' : State) (h : st' ∈ succ ov st) (h' : st' = .schemeStart ∨ st' = .scheme) :
    st = .schemeStart ∨ st = .scheme := by
  rcases h' with rfl | rfl <;> cases ov <;> cases st <;> simp [succ] at h ⊢

theorem body_Z (e : Env) (q : PS) (r : Char) (hrepl : e.ov.isSome = true → q.eof = true → r = repl) :
    Sh (PZ q r) (fun _ => True) (body e q r) := by
  by_cases hq : q.state = .schemeStart ∨ q.state = .scheme
  · unfold body
    rcases hq with hst | hst <;> simp only [hst]
    · simp [stSchemeStart, Sh_ite, Sh_herr, Sh_cont, PZ, Resolve.isSchemeChar, isAlnumN, writeRune, rewindLast, stops_true,
        hst]
      grind
    · simp [stScheme, Sh_ite, Sh_herr, Sh_cont, Sh_done, Sh_retUrl, PZ, Resolve.isSchemeChar, isAlnumN, writeRune, resetInput,
        next_fst, stops_true, hst]
  · exact (body_eff e q r hrepl).mono (fun ps' h h' => absurd (scheme_pred _ _ _ h.1 h') hq) (fun _ _ => trivial)

theorem cur_nat (rs : Str) (k : Nat) : cur rs (k : Int) = rs[k]? := by simp [cur]

theorem SchZ_of_PZ (rs : Str) (ps ps' : PS) (hZ : SchZ rs ps) (h : PZ (next rs ps).1 (next rs ps).2 ps') : SchZ rs ps' := by
  intro hst'
  obtain ⟨hst, hp, hbf, hch⟩ := h hst'
  rw [next_fst] at hst hp hbf
  obtain ⟨k, hk, hbuf, hnc⟩ := hZ hst
  obtain ⟨hne, hnr⟩ := isSchemeChar_ne _ hch
  rcases next_spec rs ps with hc | hc
  · rw [hk, cur_nat] at hc
    have htk : rs.take (k + 1) = rs.take k ++ [(next rs ps).2] := by
      rw [List.take_add_one, hc]; rfl
    refine ⟨k + 1, ?_, ?_, ?_⟩
    · rw [hp]; push_cast; omega
    · rw [hbf, hbuf, htk]
      simp [utf8]
    · intro c hc'
      rw [htk] at hc'
      rcases List.mem_append.mp hc' with h1 | h1
      · exact hnc c h1
      · simp at h1; rw [h1]; exact hne
  · exact absurd hc hnr

/-- the scheme a text announces: the lower-cased code points before the first `:` (`none` when there is no `:`) -/
def schemeOf (rs : Str) : Option Bytes :=
  if rs.contains ':' then some (utf8 ((rs.takeWhile (· != ':')).map lowerC)) else none

theorem takeWhile_take (rs : Str) (k : Nat) (h1 : ∀ c ∈ rs.take k, c ≠ ':') (h2 : rs[k]? = some ':') :
    rs.takeWhile (· != ':') = rs.take k := by
  induction rs generalizing k with
  | nil => simp at h2
  | cons a t ih =>
    cases k with
    | zero =>
      simp at h2; subst h2; simp [List.takeWhile]
    | succ k =>
      have ha : a ≠ ':' := h1 a (by simp)
      simp only [List.takeWhile_cons, List.take_succ_cons]
      have : (a != ':') = true := by simpa using ha
      rw [this]
      simp only [↓reduceIte, List.cons.injEq, true_and]
      exact ih k (fun c hc => h1 c (by simp [hc])) (by simpa using h2)

theorem SchZ_colon (rs : Str) (ps : PS) (hZ : SchZ rs ps) (hst : ps.state = .scheme)
    (hc : cur rs (ps.pointer + 1) = some ':') : schemeOf rs = some ps.buffer := by
  obtain ⟨k, hk, hbuf, hnc⟩ := hZ (Or.inr hst)
  rw [hk, cur_nat] at hc
  unfold schemeOf
  have hm : rs.contains ':' = true := by
    simp only [List.contains_eq_mem, decide_eq_true_eq]
    exact List.mem_of_getElem? hc
  rw [if_pos hm, takeWhile_take rs k hnc hc, hbuf]

/-- the invariant of the run: (A) and (Z) together, before the end of the input -/
def SchJ (rs : Str) (ps : PS) : Prop := ps.eof = false ∧ SchA s ps ∧ SchZ rs ps

theorem SchJ_trig (rs : Str) (base : Option Url) (ov : Option State) (ps : PS) (hJ : SchJ s rs ps)
    (hb : ∀ b, base = some b → b.scheme ≠ s) (hin : schemeOf rs ≠ some s) :
    schemeTrig s rs base ov ps = false := by
  obtain ⟨-, hA, hZ⟩ := hJ
  have hu : (ps.url.scheme == s) = false := by simpa using hA.1
  unfold schemeTrig
  split
  any_goals rfl
  · rename_i hst
    by_cases hc : cur rs (ps.pointer + 1) = some ':'
    · have := SchZ_colon rs ps hZ hst hc
      have hbs : (ps.buffer == s) = false := by
        simp only [beq_eq_false_iff_ne, ne_eq]
        intro h; rw [h] at this; exact hin this
      simp [hbs, hu]
    · have : (cur rs (ps.pointer + 1) == some ':') = false := by simpa using hc
      rw [this]; rfl
  · cases base with
    | none => rfl
    | some b => simpa using hb b rfl
  · exact hu

theorem SchJ_step (e : Env) (ps : PS) (hJ : SchJ s e.runes ps) (hb : ∀ b, e.base = some b → b.scheme ≠ s)
    (hin : schemeOf e.runes ≠ some s) : Sh (SchJ s e.runes) (fun _ => True) (step e ps) := by
  obtain ⟨he, hA, hZ⟩ := hJ
  have hrepl : e.ov.isSome = true → (next e.runes ps).1.eof = true → (next e.runes ps).2 = repl :=
    fun _ => next_repl e.runes ps he
  have hbuf : (next e.runes ps).1.state = .scheme → (next e.runes ps).2 = ':' → (next e.runes ps).1.buffer ≠ s := by
    intro hst hr hbs
    rw [next_state] at hst
    rw [next_buffer] at hbs
    exact hin ((SchZ_colon e.runes ps hZ hst (next_colon _ _ hr)).trans (congrArg some hbs))
  -- a continuing outcome of `step` is not at the end of the input (`Owes`)
  exact (Sh_step e ps).2 (((body_A s e _ _ hrepl (by simpa [SchA, next_fst] using hA) hb hbuf).and (body_Z e _ _ hrepl)).mono
    (fun ps' h => (Owes_iff _).2 ⟨fun _ => trivial, fun he' => ⟨he', h.1, SchZ_of_PZ e.runes ps ps' hZ h.2⟩⟩) fun _ _ => trivial)

theorem parserVisits_schemeTrig (cfg : Cfg) (I : Idna) (input : Bytes) (base url : Option Url) (ov : Option State)
    (hb : ∀ b, base = some b → b.scheme ≠ s) (hu : (url.getD {}).scheme ≠ s)
    (hin : schemeOf (goRunes (prologueText url input)) ≠ some s)
    (hfile : ov = some .file → s ≠ lit "file") :
    parserVisits cfg I input base url ov (schemeTrig s (goRunes (prologueText url input)) base ov) = false := by
  rw [parserVisits_eq]
  cases hp : prologue cfg input url ov with
  | done x => rfl
  | cont ps =>
    obtain ⟨u, hrec, rfl⟩ := prologue_cont cfg input url ov ps hp
    refine visits_of_inv (loopEnv cfg I input base url ov) _ (SchJ s (goRunes (prologueText url input)))
      (fun ps hJ => SchJ_trig s _ base ov ps hJ hb hin)
      (fun ps hJ => SchJ_step s _ ps hJ hb hin)
      _ _ ⟨rfl, ⟨by rw [← hrec.same.scheme] at hu; exact hu, ?_⟩, ?_⟩
    · intro h
      apply hfile
      cases ov with
      | none => cases h
      | some o => exact congrArg some h
    · intro _
      exact ⟨0, by simp, by simp [utf8], by simp⟩

end WhatwgUrl.Proofs.Neutral
