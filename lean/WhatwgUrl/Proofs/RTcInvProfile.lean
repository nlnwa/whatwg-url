import WhatwgUrl.Proofs.RTcInvSetters
import WhatwgUrl.Proofs.CanonText
/-
  C03c / C17b: the post-processing of the canonicalizer for the options remove-port / remove-user-info / remove-fragment at
  value level (`postU`: four setter calls with the empty value in three stages, each of which keeps the three invariants `Inv3` like every
  setter but `protocol`), which is what the pipeline `Pipeline.canonV` computes for such a profile (`canonV_plain`).
-/
namespace WhatwgUrl.Proofs.RTcInv
open WhatwgUrl WhatwgUrl.Impl WhatwgUrl.Proofs.HostWF
open WhatwgUrl.Props.C04b (WFs)
open WhatwgUrl.Proofs.OpaqueSlash (NoSl)

def rmPort (cfg : Cfg) (I : Idna) (u : Url) : Url := (setU cfg I .port u []).url
def rmUser (cfg : Cfg) (I : Idna) (u : Url) : Url := (setU cfg I .password (setU cfg I .username u []).url []).url
def rmFrag (cfg : Cfg) (I : Idna) (u : Url) : Url := (setU cfg I .hash u []).url

/-- what `canonicalize` does to the url for a profile without repeated decoding and query sorting, in three stages: after
    `Pipeline.step5` (port), after `Pipeline.step6` (credentials), and after `Pipeline.step7` (fragment), which is the last -/
def post5 (I : Idna) (p : Profile) (u : Url) : Url := if p.removePort then rmPort p.cfg I u else u
def post6 (I : Idna) (p : Profile) (u : Url) : Url := if p.removeUserInfo then rmUser p.cfg I (post5 I p u) else post5 I p u
def postU (I : Idna) (p : Profile) (u : Url) : Url := if p.removeFragment then rmFrag p.cfg I (post6 I p u) else post6 I p u

/-- … and what it returns (only `SetHash("")` can panic: an opaque path without element) -/
def postRet (I : Idna) (p : Profile) (u : Url) : Ret :=
  if p.removeFragment then (setU p.cfg I .hash (post6 I p u) []).ret else .url

theorem rmPort_eq (cfg : Cfg) (I : Idna) (u : Url) :
    rmPort cfg I u = if cannotHaveUPP u then u else { u with port := none, decodedPort := 0 } := by
  unfold rmPort setU setPort keep
  simp only [List.isEmpty_nil, if_true]
  split <;> rfl

theorem rmUser_eq (cfg : Cfg) (I : Idna) (u : Url) :
    rmUser cfg I u = if cannotHaveUPP u then u else { u with username := [], password := [] } := by
  unfold rmUser setU setUsername setPassword keep
  cases hc : cannotHaveUPP u
  · simp only [Bool.false_eq_true, if_false]
    have : cannotHaveUPP { u with username := percentEncodeString cfg userinfoSet [] } = false := hc
    rw [this]
    simp only [Bool.false_eq_true, if_false]
    rfl
  · simp only [if_true, hc]

/-- `stripTrailingSpacesIfOpaque`, the identity where that panics -/
def stripD (p : Path) : Path := (stripTrailingSpacesIfOpaque p).getD p

theorem rmFrag_eq (cfg : Cfg) (I : Idna) (u : Url) :
    rmFrag cfg I u = { u with fragment := none, path := if u.query == none then stripD u.path else u.path } := by
  unfold rmFrag setU setHash keep stripD
  simp only [List.isEmpty_nil, if_true]
  split
  · split
    · rename_i p hp; rw [hp]; rfl
    · rename_i hp; rw [hp]; rfl
  · rfl

theorem rmFrag_ret (cfg : Cfg) (I : Idna) (u : Url) (hw : u.path.opq = true → u.path.segs.length = 1) :
    (setU cfg I .hash u []).ret = .url := by
  unfold setU setHash keep
  simp only [List.isEmpty_nil, if_true]
  split
  · obtain ⟨p, hp⟩ := strip_some u.path hw
    rw [hp]
  · rfl

/-- the three invariants of a url the default configuration leaves behind -/
def Inv3 (u : Url) : Prop := WFs {} u ∧ WhatwgUrl.Props.C04c.WFc u ∧ RTx u

theorem Inv3_set (I : Idna) (hIa : WhatwgUrl.Props.C04c.IdnaAscii I) (hIne : IdnaNonEmpty I) (s : Setter) (u : Url) (v : Bytes)
    (h : Inv3 u) (hnp : s ≠ .protocol) : Inv3 (setU {} I s u v).url :=
  ⟨WhatwgUrl.Props.C04b.C04_setter_WFs_default I hIne s u v h.1, WhatwgUrl.Props.C04c.C04_setter_WFc I hIa hIne s u v h.1 h.2.1,
    setU_RTx I hIne s u v h.1 h.2.2 fun hp => absurd hp hnp⟩

theorem post_keeps (I : Idna) (p : Profile) {P : Url → Prop} (h5 : ∀ v, P v → P (rmPort p.cfg I v))
    (h6 : ∀ v, P v → P (rmUser p.cfg I v)) (h7 : ∀ v, P v → P (rmFrag p.cfg I v)) (u : Url) (h : P u) :
    P (post5 I p u) ∧ P (post6 I p u) ∧ P (postU I p u) := by
  have a5 : P (post5 I p u) := by
    unfold post5; split
    · exact h5 _ h
    · exact h
  have a6 : P (post6 I p u) := by
    unfold post6; split
    · exact h6 _ a5
    · exact a5
  have a7 : P (postU I p u) := by
    unfold postU; split
    · exact h7 _ a6
    · exact a6
  exact ⟨a5, a6, a7⟩

theorem Inv3_post (I : Idna) (hIa : WhatwgUrl.Props.C04c.IdnaAscii I) (hIne : IdnaNonEmpty I) (p : Profile) (hp : p.cfg = {})
    (u : Url) (h : Inv3 u) : Inv3 (post5 I p u) ∧ Inv3 (post6 I p u) ∧ Inv3 (postU I p u) := by
  refine post_keeps I p ?_ ?_ ?_ u h <;> rw [hp]
  · exact fun v h => Inv3_set I hIa hIne .port v [] h nofun
  · exact fun v h => Inv3_set I hIa hIne .password _ [] (Inv3_set I hIa hIne .username v [] h nofun) nofun
  · exact fun v h => Inv3_set I hIa hIne .hash v [] h nofun

theorem postRet_url (I : Idna) (hIa : WhatwgUrl.Props.C04c.IdnaAscii I) (hIne : IdnaNonEmpty I) (p : Profile) (hp : p.cfg = {})
    (u : Url) (h : Inv3 u) : postRet I p u = .url := by
  unfold postRet
  split
  · exact rmFrag_ret _ I _ (fun ho => ((Inv3_post I hIa hIne p hp u h).2.1.1.2.2.1 ho).2)
  · rfl

theorem cannot_congr {u u' : Url} (h1 : u'.scheme = u.scheme) (h2 : u'.host = u.host) : cannotHaveUPP u' = cannotHaveUPP u := by
  unfold cannotHaveUPP; rw [h1, h2]

section fields
variable (cfg : Cfg) (I : Idna) (u : Url)
theorem rmPort_scheme : (rmPort cfg I u).scheme = u.scheme := by rw [rmPort_eq]; split <;> rfl
theorem rmPort_host : (rmPort cfg I u).host = u.host := by rw [rmPort_eq]; split <;> rfl
theorem rmUser_scheme : (rmUser cfg I u).scheme = u.scheme := by rw [rmUser_eq]; split <;> rfl
theorem rmUser_host : (rmUser cfg I u).host = u.host := by rw [rmUser_eq]; split <;> rfl
theorem rmUser_port : (rmUser cfg I u).port = u.port := by rw [rmUser_eq]; split <;> rfl
theorem rmUser_decodedPort : (rmUser cfg I u).decodedPort = u.decodedPort := by rw [rmUser_eq]; split <;> rfl
theorem rmFrag_scheme : (rmFrag cfg I u).scheme = u.scheme := by rw [rmFrag_eq]
theorem rmFrag_host : (rmFrag cfg I u).host = u.host := by rw [rmFrag_eq]
theorem rmFrag_port : (rmFrag cfg I u).port = u.port := by rw [rmFrag_eq]
theorem rmFrag_decodedPort : (rmFrag cfg I u).decodedPort = u.decodedPort := by rw [rmFrag_eq]
theorem rmFrag_username : (rmFrag cfg I u).username = u.username := by rw [rmFrag_eq]
theorem rmFrag_password : (rmFrag cfg I u).password = u.password := by rw [rmFrag_eq]
theorem rmFrag_fragment : (rmFrag cfg I u).fragment = none := by rw [rmFrag_eq]
end fields

theorem postU_scheme_host (I : Idna) (p : Profile) (u : Url) :
    (postU I p u).scheme = u.scheme ∧ (postU I p u).host = u.host :=
  (post_keeps I p (P := fun v => v.scheme = u.scheme ∧ v.host = u.host)
    (fun _ h => ⟨(rmPort_scheme _ _ _).trans h.1, (rmPort_host _ _ _).trans h.2⟩)
    (fun _ h => ⟨(rmUser_scheme _ _ _).trans h.1, (rmUser_host _ _ _).trans h.2⟩)
    (fun _ h => ⟨(rmFrag_scheme _ _ _).trans h.1, (rmFrag_host _ _ _).trans h.2⟩) u ⟨rfl, rfl⟩).2.2

/-- the profile has nothing left to remove -/
def Done (p : Profile) (u : Url) : Prop :=
  (p.removePort = true → u.port = none ∧ u.decodedPort = 0) ∧
  (p.removeUserInfo = true → u.username = [] ∧ u.password = []) ∧
  (p.removeFragment = true → u.fragment = none)

theorem upp_of_cannot (u : Url) (hs : WFs {} u) (hc : cannotHaveUPP u = true) : u.username = [] ∧ u.password = [] ∧ u.port = none :=
  WhatwgUrl.Proofs.RoundTrip.bare_of_WFs hs (by simpa [cannotHaveUPP, or_assoc] using hc)

theorem rmPort_done (cfg : Cfg) (I : Idna) (u : Url) (hs : WFs {} u) (hx : RTx u) :
    (rmPort cfg I u).port = none ∧ (rmPort cfg I u).decodedPort = 0 := by
  rw [rmPort_eq]
  split
  · rename_i hc
    have := (upp_of_cannot u hs hc).2.2
    exact ⟨this, hx.1.1 this⟩
  · exact ⟨rfl, rfl⟩

theorem rmUser_done (cfg : Cfg) (I : Idna) (u : Url) (hs : WFs {} u) :
    (rmUser cfg I u).username = [] ∧ (rmUser cfg I u).password = [] := by
  rw [rmUser_eq]
  split
  · rename_i hc
    exact ⟨(upp_of_cannot u hs hc).1, (upp_of_cannot u hs hc).2.1⟩
  · exact ⟨rfl, rfl⟩

theorem post5_done (I : Idna) (p : Profile) (u : Url) (h : Inv3 u) (hr : p.removePort = true) :
    (post5 I p u).port = none ∧ (post5 I p u).decodedPort = 0 := by
  unfold post5
  rw [if_pos hr]
  exact rmPort_done _ I u h.1 h.2.2

theorem post6_done (I : Idna) (hIa : WhatwgUrl.Props.C04c.IdnaAscii I) (hIne : IdnaNonEmpty I) (p : Profile) (hp : p.cfg = {})
    (u : Url) (h : Inv3 u) :
    (p.removePort = true → (post6 I p u).port = none ∧ (post6 I p u).decodedPort = 0) ∧
    (p.removeUserInfo = true → (post6 I p u).username = [] ∧ (post6 I p u).password = []) := by
  unfold post6
  split
  · refine ⟨fun hh => ?_, fun _ => rmUser_done _ I _ (Inv3_post I hIa hIne p hp u h).1.1⟩
    rw [rmUser_port, rmUser_decodedPort]; exact post5_done I p u h hh
  · rename_i hn
    exact ⟨post5_done I p u h, fun hh => absurd hh hn⟩

theorem postU_done (I : Idna) (hIa : WhatwgUrl.Props.C04c.IdnaAscii I) (hIne : IdnaNonEmpty I) (p : Profile) (hp : p.cfg = {})
    (u : Url) (h : Inv3 u) : Done p (postU I p u) := by
  have h6 := post6_done I hIa hIne p hp u h
  unfold Done postU
  split
  · refine ⟨fun hh => ?_, fun hh => ?_, fun _ => rmFrag_fragment _ _ _⟩
    · rw [rmFrag_port, rmFrag_decodedPort]; exact h6.1 hh
    · rw [rmFrag_username, rmFrag_password]; exact h6.2 hh
  · rename_i hn; exact ⟨h6.1, h6.2, fun hh => absurd hh hn⟩

theorem Done_same {p : Profile} {u u' : Url} (hs : Same u u') (h : Done p u) : Done p u' := by
  obtain ⟨h1, h2, h3, h4, h5, h6, h7, h8, h9⟩ := hs
  unfold Done at h ⊢
  rw [h2, h3, h5, h6, h9]; exact h

/-- each of the three removals is the identity on a record whose component is gone already; for the fragment, `Xt` makes
    the strip of trailing spaces the identity (`trimRight_fix`) -/
theorem postU_fix (I : Idna) (p : Profile) (u : Url) (hd : Done p u) (hw : u.path.opq = true → u.path.segs.length = 1)
    (ht : Xt u) : postU I p u = u := by
  obtain ⟨d1, d2, d3⟩ := hd
  have e5 : (if p.removePort = true then rmPort p.cfg I u else u) = u := by
    split
    · rename_i h
      obtain ⟨a, b⟩ := d1 h
      rw [rmPort_eq]
      split
      · rfl
      · cases u; simp_all
    · rfl
  have e6 : (if p.removeUserInfo = true then rmUser p.cfg I u else u) = u := by
    split
    · rename_i h
      obtain ⟨a, b⟩ := d2 h
      rw [rmUser_eq]
      split
      · rfl
      · cases u; simp_all
    · rfl
  unfold postU post6 post5
  rw [e5, e6]
  split
  · rename_i h
    have hf := d3 h
    rw [rmFrag_eq]
    have hpath : (if (u.query == none) = true then stripD u.path else u.path) = u.path := by
      split
      · rename_i hq
        have hq' : u.query = none := by simpa using hq
        unfold stripD stripTrailingSpacesIfOpaque
        split
        · rename_i ho
          have hl := hw ho
          have hx := ht ho hq' hf
          match hseg : u.path.segs, hl with
          | [s0], _ =>
            rw [hseg] at hx
            have := trimRight_fix 0x20 s0 (hx s0 (by simp))
            simp only [this, Option.getD_some]
            cases hpp : u.path with
            | mk segs opq =>
              rw [hpp] at hseg ho
              simp only at hseg ho
              subst hseg
              rfl
        · rfl
      · rfl
    rw [hpath]
    cases u; simp_all
  · rfl

open WhatwgUrl.Proofs.Pipeline (VS vSet thenV canonV step1 step2 step3 step4 step5 step6 step7 step8)

theorem setPort_empty_ret (cfg : Cfg) (I : Idna) (u : Url) : (setU cfg I .port u []).ret = .url := by
  show (setPort cfg I u []).ret = .url
  unfold setPort keep
  simp only [List.isEmpty_nil, if_true]
  split <;> rfl
theorem setUsername_ret (cfg : Cfg) (I : Idna) (u : Url) (v : Bytes) : (setU cfg I .username u v).ret = .url := by
  show (setUsername cfg u v).ret = .url
  unfold setUsername keep
  split <;> rfl
theorem setPassword_ret (cfg : Cfg) (I : Idna) (u : Url) (v : Bytes) : (setU cfg I .password u v).ret = .url := by
  show (setPassword cfg u v).ret = .url
  unfold setPassword keep
  split <;> rfl

theorem canonV_plain (I : Idna) (p : Profile) (hrpd : p.repeatedPercentDecoding = false) (hsq : p.sortQuery = .noSort)
    (x : VS) (hr : postRet I p x.u = .url) : canonV I p x = (⟨postU I p x.u, x.sp⟩, .url) := by
  have e5 : step5 I p x = (⟨post5 I p x.u, x.sp⟩, .url) := by
    unfold step5 post5 rmPort vSet
    split
    · rw [setPort_empty_ret]
    · rfl
  have e6 : step6 I p ⟨post5 I p x.u, x.sp⟩ = (⟨post6 I p x.u, x.sp⟩, .url) := by
    unfold step6 post6 rmUser
    split
    · simp only [thenV, vSet, setUsername_ret, setPassword_ret]
    · rfl
  have e7 : step7 I p ⟨post6 I p x.u, x.sp⟩ = (⟨postU I p x.u, x.sp⟩, .url) := by
    unfold step7 postU rmFrag vSet
    unfold postRet at hr
    split
    · rename_i h7
      rw [if_pos h7] at hr
      rw [hr]
    · rfl
  have e1 : ∀ y, step1 I p y = (y, .url) := fun y => by simp only [step1, hrpd, Bool.false_and, Bool.false_eq_true, if_false]
  have e2 : ∀ y, step2 I p y = (y, .url) := fun y => by simp only [step2, hrpd, Bool.false_and, Bool.false_eq_true, if_false]
  have e3 : ∀ y, step3 p y = (y, .url) := fun y => by simp only [step3, hrpd, Bool.false_and, Bool.false_eq_true, if_false]
  have e4 : ∀ y, step4 I p y = (y, .url) := fun y => by simp only [step4, hrpd, Bool.false_and, Bool.false_eq_true, if_false]
  have e8 : ∀ y, step8 p y = (y, .url) := fun y => by simp only [step8, hsq]
  simp only [canonV, thenV, e1, e2, e3, e4, e5, e6, e7, e8]

end WhatwgUrl.Proofs.RTcInv
