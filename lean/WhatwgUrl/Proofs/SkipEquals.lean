import WhatwgUrl.Impl.Heap
import WhatwgUrl.Proofs.Percent
/-
  Go's `strings.Split` / `strings.SplitN` on separator-free pieces, the body of `SearchParams.init` on one `&`-separated
  sequence, and the urlencoded parser on a join and on one `name=value` piece without `+`, for every configuration (C11, C16c).
  Of the option `skipEquals`, after which the file is named, only `parseSeq_trailing_eq` speaks; `splitOn` on a
  separator-free prefix is `Utf8.splitOn_pre`.
-/
namespace WhatwgUrl.Proofs.SkipEquals
open WhatwgUrl WhatwgUrl.Impl

theorem splitOn_append_sep (sep : UInt8) (s t : Bytes) :
    splitOn sep (s ++ sep :: t) = splitOn sep s ++ splitOn sep t := by
  induction s with
  | nil => simp [splitOn]
  | cons x xs ih =>
    by_cases hx : (x == sep) = true
    · simp [splitOn, hx, ih]
    · simp only [List.cons_append, splitOn, hx, Bool.false_eq_true, ↓reduceIte, ih]
      cases h : splitOn sep xs with
      | nil => exact absurd h (Utf8.splitOn_ne_nil sep xs)
      | cons a as => simp

theorem splitOn_intercalate (sep : UInt8) (s : Bytes) (segs : List Bytes) :
    splitOn sep (intercalate [sep] (s :: segs)) = (s :: segs).flatMap (splitOn sep) := by
  induction segs generalizing s with
  | nil => simp [intercalate]
  | cons s' segs ih =>
    simp only [intercalate, List.append_assoc, List.singleton_append]
    rw [splitOn_append_sep, ih s']
    simp

theorem splitOn_no_sep (sep : UInt8) (s : Bytes) (hs : ∀ x ∈ s, x ≠ sep) : splitOn sep s = [s] := by
  simpa using Utf8.splitOn_pre sep s [] [] [] hs rfl

theorem splitFirst_pre (sep : UInt8) (pre r : Bytes) (hp : ∀ y ∈ pre, y ≠ sep) :
    splitFirst sep (pre ++ r) = (pre ++ (splitFirst sep r).1, (splitFirst sep r).2) := by
  induction pre with
  | nil => simp
  | cons y pre ih =>
    have hy : (y == sep) = false := beq_false_of_ne (hp y (by simp))
    have := ih (fun z hz => hp z (by simp [hz]))
    simp [splitFirst, hy, this]

theorem splitFirst_append_sep (sep : UInt8) (s t : Bytes) (hs : ∀ x ∈ s, x ≠ sep) :
    splitFirst sep (s ++ sep :: t) = (s, some t) := by
  rw [splitFirst_pre sep s _ hs]; simp [splitFirst]

theorem splitFirst_no_sep (sep : UInt8) (s : Bytes) (hs : ∀ x ∈ s, x ≠ sep) : splitFirst sep s = (s, none) := by
  simpa [splitFirst] using splitFirst_pre sep s [] hs

/-- the loop body of `(*SearchParams).init` (`searchparams.go`): skip if empty; `SplitN(q, "=", 2)`; `+` ↦ space, then
    `DecodePercentEncoded`, on the name and on the value (no `=`: the value stays `""`) -/
def parseSeq (cfg : Cfg) (q : Bytes) : Option (Bytes × Bytes) :=
  if q.isEmpty then none
  else
    some (decodePercent cfg (replaceByte 0x2b 0x20 (splitFirst 0x3d q).1),
          match (splitFirst 0x3d q).2 with
          | some v => decodePercent cfg (replaceByte 0x2b 0x20 v)
          | none => [])

theorem spInit_eq (cfg : Cfg) (query : Bytes) :
    spInit cfg query = (splitOn 0x26 query).filterMap (parseSeq cfg) := rfl

theorem spInit_intercalate (cfg : Cfg) (xs : List Bytes) :
    spInit cfg (intercalate [0x26] xs) = xs.flatMap (spInit cfg) := by
  cases xs with
  | nil => rfl
  | cons x xs =>
    rw [spInit_eq, splitOn_intercalate]
    generalize x :: xs = l
    induction l with
    | nil => rfl
    | cons a l ih => rw [List.flatMap_cons, List.filterMap_append, ih, List.flatMap_cons, spInit_eq]

theorem spInit_join {α : Type} (cfg : Cfg) (f : α → Bytes) (g : α → Bytes × Bytes) (l : List α)
    (h : ∀ a ∈ l, spInit cfg (f a) = [g a]) : spInit cfg (intercalate [0x26] (l.map f)) = l.map g := by
  rw [spInit_intercalate, List.flatMap_map]
  induction l with
  | nil => rfl
  | cons a l ih =>
    rw [List.flatMap_cons, h a (by simp), ih (fun b hb => h b (by simp [hb]))]; rfl

theorem spInit_pair (cfg : Cfg) (n v : Bytes) (hn : ∀ x ∈ n, x ≠ 0x26 ∧ x ≠ 0x3d ∧ x ≠ 0x2b)
    (hv : ∀ x ∈ v, x ≠ 0x26 ∧ x ≠ 0x2b) : spInit cfg (n ++ 0x3d :: v) = [(decodePercent cfg n, decodePercent cfg v)] := by
  have hamp : ∀ x ∈ n ++ 0x3d :: v, x ≠ 0x26 := by
    intro x hx
    rcases List.mem_append.mp hx with hx | hx
    · exact (hn x hx).1
    · rcases List.mem_cons.mp hx with rfl | hx
      · decide
      · exact (hv x hx).1
  have hne : (n ++ 0x3d :: v).isEmpty = false := by simp
  rw [spInit_eq, splitOn_no_sep _ _ hamp]
  simp only [List.filterMap_cons, List.filterMap_nil, parseSeq, hne, Bool.false_eq_true, ↓reduceIte,
    splitFirst_append_sep 0x3d n v (fun x hx => (hn x hx).2.1), Utf8.replaceByte_none _ _ n (fun x hx => (hn x hx).2.2),
    Utf8.replaceByte_none _ _ v (fun x hx => (hv x hx).2)]

theorem parseSeq_trailing_eq (cfg : Cfg) (q : Bytes) (hne : q ≠ []) (hq : ∀ x ∈ q, x ≠ 0x3d) :
    parseSeq cfg (q ++ [0x3d]) = parseSeq cfg q := by
  unfold parseSeq
  have h1 : (q ++ [0x3d]).isEmpty = false := by simp
  have h2 : q.isEmpty = false := by simpa using hne
  rw [h1, h2, splitFirst_append_sep 0x3d q [] hq, splitFirst_no_sep 0x3d q hq]
  simp [replaceByte, Percent.decodePercent_nil]

theorem intercalate_length (sep : Bytes) (l : List Bytes) :
    (intercalate sep l).length = (l.map List.length).sum + (l.length - 1) * sep.length := by
  induction l with
  | nil => simp [intercalate]
  | cons x xs ih =>
    cases xs with
    | nil => simp [intercalate]
    | cons y ys =>
      simp only [intercalate, List.length_append, ih, List.map_cons, List.sum_cons, List.length_cons]
      simp only [Nat.add_sub_cancel, Nat.add_mul]
      omega

end WhatwgUrl.Proofs.SkipEquals
