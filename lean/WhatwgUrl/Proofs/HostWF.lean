import WhatwgUrl.Impl.Parser
import WhatwgUrl.Proofs.Percent
import WhatwgUrl.Proofs.HostSh
import WhatwgUrl.Proofs.IPv6Parse
/-
  The host parser (hostparser.go) for any configuration, oracle and hooks: its branches named (`hostOf`, `parseHost_eq`), and
  one postcondition per routine, `Ends cfg Q u0 r` — a host in `Q` on a url that only received non-fatal records and oracle
  queries, or a host-parser error at which `handleError` stops, never a panic.  The frame, the shape of the outcome, panic
  freedom (NoPanic.lean) and the reporting invariant (ReportingU.lean) are projections of it.

  Four declarations of other namespaces are stated here, where `hostOf` and `parseHost_err` are: `Domain.finishDomain`,
  `Web.preIn` and `HostCase.toAsciiOut` (the closed forms that `hostOf`, `parseHost_eq` and `toASCII_eq_out` are written
  with) at the head of the file, `Pipeline.parseHost_et` (an application of `parseHost_err`) at its end.
-/
namespace WhatwgUrl.Proofs.Domain
open WhatwgUrl WhatwgUrl.Impl

/-- what happens to the ASCII domain after ToASCII (the tail of `parseHost`): forbidden code point → failure (or, lax,
    the percent-encoded domain); ends in a number → IPv4 parser; else itself (after the optional `postHost` hook) -/
def finishDomain (cfg : Cfg) (u : Url) (d : Bytes) : HR :=
  let fl := forbiddenLoop cfg d (goRunes d) u
  match fl.2 with
  | some out => ⟨fl.1, out⟩
  | none =>
    if endsInANumber cfg fl.1 d then parseIPv4 cfg fl.1 d
    else match cfg.postHost with
      | some f => ⟨fl.1, .ok (f fl.1 d)⟩
      | none => ⟨fl.1, .ok d⟩

end WhatwgUrl.Proofs.Domain

namespace WhatwgUrl.Proofs.Web
open WhatwgUrl WhatwgUrl.Impl

/-- what the host parser gets to see -/
def preIn (cfg : Cfg) (u : Url) (a : Bytes) : Bytes := match cfg.preHost with | some f => f u a | none => a

theorem preIn_none {cfg : Cfg} (h : cfg.preHost = none) (u : Url) (a : Bytes) : preIn cfg u a = a := by
  unfold preIn; rw [h]

end WhatwgUrl.Proofs.Web

namespace WhatwgUrl.Proofs.HostCase
open WhatwgUrl WhatwgUrl.Impl

/-- the outcome of `ToASCII` when the library is asked about the non-empty text `d` (`HostWF.asciiSrc`, `HostWF.toASCII_eq_out`) -/
def toAsciiOut (cfg : Cfg) (I : Idna) (d : Bytes) : ToAsciiR :=
  if (I d).2 && asciiOrMiscNoPuny (goRunes d) 0 then .ok (I d).1
  else if (I d).2 && !cfg.laxHost then .err (I d).1
  else if (I d).1.isEmpty then .err []
  else .ok (I d).1

end WhatwgUrl.Proofs.HostCase

namespace WhatwgUrl.Proofs.HostWF
open WhatwgUrl WhatwgUrl.Impl
open WhatwgUrl.Proofs.HostCase (toAsciiOut)

variable {Q : Bytes → Prop}

/-- `u` is `u0` after `handleError` calls that went on (non-fatal, not in fail mode) and oracle queries -/
inductive Went (cfg : Cfg) (u0 : Url) : Url → Prop
  | refl : Went cfg u0 u0
  | note {u : Url} (t : ErrT) : Went cfg u0 u → stops cfg false = false → Went cfg u0 (record cfg u t false)
  | log {u : Url} (x : Bytes) : Went cfg u0 u → Went cfg u0 { u with qlog := u.qlog ++ [x] }

/-- `u` is `u0` after any `handleError` calls and oracle queries -/
inductive Logd (cfg : Cfg) (u0 : Url) : Url → Prop
  | refl : Logd cfg u0 u0
  | rcd {u : Url} (t : ErrT) (f : Bool) : Logd cfg u0 u → Logd cfg u0 (record cfg u t f)
  | log {u : Url} (x : Bytes) : Logd cfg u0 u → Logd cfg u0 { u with qlog := u.qlog ++ [x] }

/-- How a routine started on `u0` ends: with a host in `Q` on a url that `Went`; or with a host-parser error at which
    `handleError` stops, on a url that is `Logd`; never with a panic. -/
def Ends (cfg : Cfg) (Q : Bytes → Prop) (u0 : Url) (r : HR) : Prop :=
  match r.out with
  | .ok h => Went cfg u0 r.url ∧ Q h
  | .err e => Logd cfg u0 r.url ∧ hostErrT e.t = true ∧ stops cfg e.failure = true
  | .panic _ => False

variable {cfg : Cfg} {u0 : Url}

theorem Went.logd {u : Url} (h : Went cfg u0 u) : Logd cfg u0 u := by
  induction h with
  | refl => exact .refl
  | note t _ _ ih => exact ih.rcd t false
  | log x _ ih => exact ih.log x

theorem Logd.same {u : Url} (h : Logd cfg u0 u) : Same u0 u := by
  induction h with
  | refl => exact Same.refl _
  | rcd t f _ ih => exact ih.record
  | log x _ ih => exact ih

theorem Logd.noreport (hr : cfg.report = false) {u : Url} (h : Logd cfg u0 u) :
    { u with qlog := [] } = { u0 with qlog := [] } := by
  induction h with
  | refl => rfl
  | rcd t f _ ih => simpa [record, hr] using ih
  | log x _ ih => exact ih

/-- `if b { handleError(…, false) went on }` -/
theorem Went.note_if {u : Url} (h : Went cfg u0 u) (b : Bool) (t : ErrT) (hb : ¬ (b && stops cfg false) = true) :
    Went cfg u0 (if b = true then record cfg u t false else u) := by
  split
  · exact h.note t (by simp_all)
  · exact h

theorem Ends_ok {u : Url} {h : Bytes} (hu : Went cfg u0 u) (hq : Q h) : Ends cfg Q u0 ⟨u, .ok h⟩ := ⟨hu, hq⟩

theorem Ends_err {u : Url} (t : ErrT) (f : Bool) (hu : Went cfg u0 u) (ht : hostErrT t = true) (hs : stops cfg f = true) :
    Ends cfg Q u0 ⟨record cfg u t f, .err ⟨t, f⟩⟩ := ⟨hu.logd.rcd t f, ht, hs⟩

theorem Ends_fail6 {u : Url} (t : ErrT) (hu : Went cfg u0 u) (ht : hostErrT t = true) : Ends cfg Q u0 (fail6 cfg u t) :=
  Ends_err t true hu ht rfl

theorem Ends_ite {p : Prop} [Decidable p] {a b : HR} (h1 : p → Ends cfg Q u0 a) (h2 : ¬p → Ends cfg Q u0 b) :
    Ends cfg Q u0 (if p then a else b) := by
  split
  · exact h1 ‹_›
  · exact h2 ‹_›

theorem Ends_hErr {u : Url} (t : ErrT) (f : Bool) (k : Url → HR) (hu : Went cfg u0 u) (ht : hostErrT t = true)
    (hk : ∀ u', Went cfg u0 u' → Ends cfg Q u0 (k u')) : Ends cfg Q u0 (hErr cfg u t f k) := by
  unfold hErr
  split
  · exact Ends_err _ _ hu ht ‹_›
  · rename_i hs
    obtain rfl : f = false := by cases f <;> simp_all [stops]
    exact hk _ (hu.note t (by simpa using hs))

theorem Ends.mono {Q' : Bytes → Prop} {r : HR} (h : Ends cfg Q u0 r) (hQ : ∀ x, Q x → Q' x) : Ends cfg Q' u0 r := by
  unfold Ends at h ⊢
  split <;> rename_i e <;> rw [e] at h
  · exact ⟨h.1, hQ _ h.2⟩
  · exact h
  · exact h

theorem Ends.logd {r : HR} (h : Ends cfg Q u0 r) : Logd cfg u0 r.url := by
  unfold Ends at h
  split at h
  · exact h.1.logd
  · exact h.1
  · exact h.elim

theorem Ends.ok {r : HR} (h : Ends cfg Q u0 r) {x : Bytes} (hx : r.out = .ok x) : Q x := by
  unfold Ends at h
  rw [hx] at h
  exact h.2

theorem Ends.err {r : HR} (h : Ends cfg Q u0 r) {e : VErr} (he : r.out = .err e) : hostErrT e.t = true := by
  unfold Ends at h
  rw [he] at h
  exact h.2.1

theorem parseIPv6_ends (s : Bytes) {u : Url} (h : Went cfg u0 u) :
    Ends cfg (fun x => ∃ a, x = [0x5b] ++ ipv6String a ++ [0x5d]) u0 (parseIPv6 cfg u s) := by
  rcases IPv6.parseIPv6_cases cfg u s with ⟨a, e⟩ | ⟨t, ht, e⟩ <;> rw [e]
  · exact Ends_ok h ⟨a, rfl⟩
  · exact Ends_fail6 _ h ht

/-! ### IPv4 -/

theorem parseIPv4Number_url (cfg : Cfg) (u : Url) (input : Bytes) :
    (parseIPv4Number cfg u input).url = if input.isEmpty then record cfg u .IPv4EmptyPart true else u := by
  unfold parseIPv4Number
  simp only [apply_ite NumR.url, ite_self]

theorem parseIPv4Number_url_of_none (cfg : Cfg) (u : Url) (i : Bytes) (h : (parseIPv4Number cfg u i).err = .none) :
    (parseIPv4Number cfg u i).url = u := by
  unfold parseIPv4Number at h ⊢
  split
  · rename_i he; rw [if_pos he] at h; cases h
  · simp only [apply_ite NumR.url, ite_self]

theorem parseIPv4Parts_ends : ∀ (parts : List Bytes) (u : Url) (acc : List Nat), Went cfg u0 u →
    ((parseIPv4Parts cfg u parts acc).err = none → Went cfg u0 (parseIPv4Parts cfg u parts acc).url) ∧
    (∀ e, (parseIPv4Parts cfg u parts acc).err = some e →
      Logd cfg u0 (parseIPv4Parts cfg u parts acc).url ∧ hostErrT e.t = true ∧ stops cfg e.failure = true)
  | [], u, acc, h => ⟨fun _ => h, nofun⟩
  | p :: rest, u, acc, h => by
    unfold parseIPv4Parts
    dsimp only
    split
    · have hn : Logd cfg u0 (parseIPv4Number cfg u p).url := by
        rw [parseIPv4Number_url]
        split
        · exact h.logd.rcd _ _
        · exact h.logd
      exact ⟨nofun, fun e he => by cases he; exact ⟨.rcd _ _ hn, rfl, rfl⟩⟩
    · rename_i h1
      have hu : (parseIPv4Number cfg u p).url = u :=
        parseIPv4Number_url_of_none cfg u p (by revert h1; cases (parseIPv4Number cfg u p).err <;> decide)
      split
      · rename_i h2
        exact ⟨nofun, fun e he => by cases he; exact ⟨.rcd _ _ (by rw [hu]; exact h.logd), rfl, by simp_all⟩⟩
      · rename_i h2
        refine parseIPv4Parts_ends rest _ _ ?_
        rw [hu]
        exact h.note_if _ _ h2

/-- the flag says that the non-fatal error was returned -/
theorem ipv4RangeWarn_ends : ∀ (ns : List Nat) (u : Url), Went cfg u0 u →
    ((ipv4RangeWarn cfg u ns).2 = true → Logd cfg u0 (ipv4RangeWarn cfg u ns).1 ∧ stops cfg false = true) ∧
    ((ipv4RangeWarn cfg u ns).2 = false → Went cfg u0 (ipv4RangeWarn cfg u ns).1)
  | [], u, h => ⟨nofun, fun _ => h⟩
  | n :: rest, u, h => by
    unfold ipv4RangeWarn
    split
    · split
      · rename_i hs; exact ⟨fun _ => ⟨h.logd.rcd _ _, hs⟩, nofun⟩
      · rename_i hs; exact ipv4RangeWarn_ends rest _ (h.note _ (by simpa using hs))
    · exact ipv4RangeWarn_ends rest _ h

theorem parseIPv4Parts_len (cfg : Cfg) : ∀ (parts : List Bytes) (u : Url) (acc : List Nat),
    (parseIPv4Parts cfg u parts acc).err = none →
    (parseIPv4Parts cfg u parts acc).nums.length = acc.length + parts.length
  | [], _, _ => fun _ => rfl
  | p :: rest, u, acc => by
    unfold parseIPv4Parts
    dsimp only
    split
    · nofun
    · split
      · nofun
      · intro h
        rw [parseIPv4Parts_len cfg rest _ _ h, List.length_append, List.length_cons, List.length_cons, List.length_nil]
        omega

/-- the part of `parseIPv4` after the warning about the numbers above 255 (`w`: the url and the flag that `ipv4RangeWarn`
    returns) -/
def ipv4AfterWarn (cfg : Cfg) (nums : List Nat) (w : Url × Bool) : HR :=
  if w.2 then ⟨w.1, .err ⟨.IPv4OutOfRangePart, false⟩⟩
  else if nums.dropLast.any (· > 255) then ⟨record cfg w.1 .IPv4OutOfRangePart true, .err ⟨.IPv4OutOfRangePart, true⟩⟩
  else match nums.getLast? with
    | none => ⟨w.1, .panic 1⟩
    | some last =>
      if last ≥ 256 ^ (5 - nums.length) then
        ⟨record cfg w.1 .IPv4OutOfRangePart true, .err ⟨.IPv4OutOfRangePart, true⟩⟩
      else
        let front := nums.dropLast
        let v := (List.range front.length).foldl (fun acc i => acc + front[i]! * 256 ^ (3 - i)) last
        ⟨w.1, .ok (ipv4String (v % 2 ^ 32))⟩

/-- the part of `parseIPv4` after the two `handleError` calls on the number of parts -/
def ipv4AfterCount (cfg : Cfg) (parts : List Bytes) (u : Url) : HR :=
  let pr := parseIPv4Parts cfg u parts []
  match pr.err with
  | some e => ⟨pr.url, .err e⟩
  | none => ipv4AfterWarn cfg pr.nums (ipv4RangeWarn cfg pr.url pr.nums)

theorem parseIPv4_eq (cfg : Cfg) (u : Url) (input : Bytes) : parseIPv4 cfg u input =
    (let parts0 := splitOn 0x2e input
     let lastEmpty := parts0.getLast? == some []
     let parts := if lastEmpty && parts0.length > 1 then parts0.dropLast else parts0
     let afterEmpty : Url → HR := fun u =>
       if parts.length > 4 then hErr cfg u .IPv4TooManyParts true (ipv4AfterCount cfg parts) else ipv4AfterCount cfg parts u
     if lastEmpty then hErr cfg u .IPv4EmptyPart false afterEmpty else afterEmpty u) := rfl

/-- `numbers[len(numbers)-1]` (site 1) is in range: `numbers` has one entry per part, and there is a part -/
theorem ipv4AfterCount_ends (parts : List Bytes) (hne : parts ≠ []) (u : Url) (h : Went cfg u0 u) :
    Ends cfg (fun x => ∃ n, x = ipv4String n) u0 (ipv4AfterCount cfg parts u) := by
  have hp := parseIPv4Parts_ends (cfg := cfg) parts u [] h
  have hlen := parseIPv4Parts_len cfg parts u []
  unfold ipv4AfterCount
  dsimp only
  generalize parseIPv4Parts cfg u parts [] = pr at hp hlen
  split
  · rename_i e he; exact hp.2 e he
  · rename_i he
    have hw := ipv4RangeWarn_ends (cfg := cfg) pr.nums pr.url (hp.1 he)
    generalize ipv4RangeWarn cfg pr.url pr.nums = w at hw
    unfold ipv4AfterWarn
    split
    · rename_i h2; exact ⟨(hw.1 h2).1, rfl, (hw.1 h2).2⟩
    · rename_i h2
      have hwu := hw.2 (by simpa using h2)
      split
      · exact Ends_err _ _ hwu rfl rfl
      · split
        · rename_i hlast
          have hl := hlen he
          rw [List.getLast?_eq_none_iff.mp hlast] at hl
          exact absurd (List.eq_nil_of_length_eq_zero (by simpa using hl.symm)) hne
        · split
          · exact Ends_err _ _ hwu rfl rfl
          · exact Ends_ok hwu ⟨_, rfl⟩

/-- the part list of `parseIPv4` is not empty: `strings.Split` returns at least one part, and the trailing empty one is
    dropped only if there is another -/
theorem trimmedParts_ne_nil (L : List Bytes) (h : L ≠ []) :
    (if (L.getLast? == some [] && decide (L.length > 1)) = true then L.dropLast else L) ≠ [] := by
  split
  · rename_i hc
    intro hn
    have := congrArg List.length hn
    simp only [Bool.and_eq_true, decide_eq_true_eq] at hc
    simp only [List.length_dropLast, List.length_nil] at this
    omega
  · exact h

theorem parseIPv4_ends (s : Bytes) {u : Url} (h : Went cfg u0 u) :
    Ends cfg (fun x => ∃ n, x = ipv4String n) u0 (parseIPv4 cfg u s) := by
  rw [parseIPv4_eq]
  dsimp only
  have hne := trimmedParts_ne_nil _ (Utf8.splitOn_ne_nil 0x2e s)
  generalize (if ((splitOn 0x2e s).getLast? == some [] && decide ((splitOn 0x2e s).length > 1)) = true
      then (splitOn 0x2e s).dropLast else splitOn 0x2e s) = parts at hne
  have h2 : ∀ u, Went cfg u0 u → Ends cfg (fun x => ∃ n, x = ipv4String n) u0
      (if parts.length > 4 then hErr cfg u .IPv4TooManyParts true (ipv4AfterCount cfg parts)
       else ipv4AfterCount cfg parts u) := fun u hu =>
    Ends_ite (fun _ => Ends_hErr _ _ _ hu rfl fun _ hu => ipv4AfterCount_ends _ hne _ hu) fun _ => ipv4AfterCount_ends _ hne _ hu
  exact Ends_ite (fun _ => Ends_hErr _ _ _ h rfl h2) fun _ => h2 _ h

/-! ### opaque host -/

theorem opaqueLoop_ends (input : Bytes) (hlax : cfg.laxHost = true → Q input) :
    ∀ (rs : Str) (u : Url) (out : Bytes), Went cfg u0 u →
      ((∀ c ∈ rs, forbiddenHost c.toNat = false) → Q (out ++ rs.flatMap (percentEncodeRune cfg c0Set))) →
      Ends cfg Q u0 (opaqueLoop cfg input rs u out)
  | [], u, out, h, hQ => Ends_ok h (by simpa using hQ)
  | c :: rest, u, out, h, hQ => by
    unfold opaqueLoop
    dsimp only
    split
    · split
      · exact Ends_ok h (hlax ‹_›)
      · exact Ends_err _ _ h rfl rfl
    · rename_i hf
      split
      · rename_i h1; exact Ends_err _ _ h rfl (by simp_all)
      · rename_i h1
        split
        · rename_i h2; exact Ends_err _ _ (h.note_if _ _ h1) rfl (by simp_all)
        · rename_i h2
          refine opaqueLoop_ends input hlax rest _ _ ((h.note_if _ _ h1).note_if _ _ h2) fun hr => ?_
          simpa using hQ (by simpa [hf] using hr)

/-! ### domain to ASCII -/

theorem toASCII_went (I : Idna) (s : Bytes) {u : Url} (h : Went cfg u0 u) : Went cfg u0 (toASCII cfg I u s).2 := by
  unfold toASCII
  split
  · exact h
  · simp only [apply_ite Prod.snd, ite_self]
    exact h.log _

/-- what `ToASCII` hands to the library: the domain, re-encoded under an encoding override where that is possible -/
def asciiSrc (cfg : Cfg) (src0 : Bytes) : Bytes :=
  match cfg.encOverride with
  | some cm => (match stringToUnicode cm (goRunes src0) with | some s => s | none => src0)
  | none => src0

theorem asciiSrc_none {cfg : Cfg} (h : cfg.encOverride = none) (src0 : Bytes) : asciiSrc cfg src0 = src0 := by
  unfold asciiSrc; rw [h]

theorem toASCII_eq_out (cfg : Cfg) (I : Idna) (u : Url) (src0 : Bytes) (hne : src0 ≠ []) :
    toASCII cfg I u src0 =
      (toAsciiOut cfg I (asciiSrc cfg src0), { u with qlog := u.qlog ++ [asciiSrc cfg src0] }) := by
  have he : src0.isEmpty = false := by cases src0 <;> simp_all
  unfold toASCII
  rw [if_neg (by simp [he])]
  show (fun src : Bytes =>
      (if ((I src).2 && asciiOrMiscNoPuny (goRunes src) 0) = true then (ToAsciiR.ok (I src).1, { u with qlog := u.qlog ++ [src] })
        else if ((I src).2 && !cfg.laxHost) = true then (ToAsciiR.err (I src).1, { u with qlog := u.qlog ++ [src] })
        else if (I src).1.isEmpty = true then (ToAsciiR.err [], { u with qlog := u.qlog ++ [src] })
        else (ToAsciiR.ok (I src).1, { u with qlog := u.qlog ++ [src] }))) (asciiSrc cfg src0) = _
  generalize asciiSrc cfg src0 = src
  unfold toAsciiOut
  dsimp only
  split
  · rfl
  · split
    · rfl
    · split <;> rfl

/-- `toASCII_eq_out` without an encoding override: the library is asked about the domain itself -/
theorem toASCII_eq (cfg : Cfg) (henc : cfg.encOverride = none) (I : Idna) (u : Url) (d : Bytes) (hne : d ≠ []) :
    toASCII cfg I u d = (toAsciiOut cfg I d, { u with qlog := u.qlog ++ [d] }) := by
  rw [toASCII_eq_out cfg I u d hne, asciiSrc_none henc]

theorem toAsciiOut_ok {cfg : Cfg} {I : Idna} {d a : Bytes} (h : toAsciiOut cfg I d = .ok a) : a = (I d).1 := by
  unfold toAsciiOut at h
  split at h
  · cases h; rfl
  · split at h
    · cases h
    · split at h <;> cases h; rfl

/-- what ToASCII returns is the empty text (for the empty domain) or an answer of the library -/
theorem toASCII_ok_of {P : Bytes → Prop} {I : Idna} (h0 : P []) (hI : ∀ src, P (I src).1) {cfg : Cfg} {u : Url} {src0 a : Bytes}
    (h : (toASCII cfg I u src0).1 = .ok a) : P a := by
  by_cases hne : src0 = []
  · subst hne; cases h; exact h0
  · rw [toASCII_eq_out cfg I u src0 hne] at h
    exact toAsciiOut_ok h ▸ hI _

theorem forbiddenLoop_ends (a : Bytes) : ∀ (rs : Str) (u : Url), Went cfg u0 u →
    ((forbiddenLoop cfg a rs u).2 = none → Went cfg u0 (forbiddenLoop cfg a rs u).1) ∧
    (∀ o, (forbiddenLoop cfg a rs u).2 = some o →
      Ends cfg (fun h => cfg.laxHost = true ∧ h = percentEncodeString cfg hostSet a) u0 ⟨(forbiddenLoop cfg a rs u).1, o⟩)
  | [], u, h => ⟨fun _ => h, nofun⟩
  | c :: rest, u, h => by
    unfold forbiddenLoop
    split
    · split
      · exact ⟨nofun, fun o ho => by cases ho; exact Ends_ok h ⟨‹_›, rfl⟩⟩
      · exact ⟨nofun, fun o ho => by cases ho; exact Ends_err _ _ h rfl rfl⟩
    · exact forbiddenLoop_ends a rest u h

theorem forbiddenLoop_none_iff (cfg : Cfg) (a : Bytes) (rs : Str) (u : Url) :
    (forbiddenLoop cfg a rs u).2 = none ↔ ∀ c ∈ rs, forbiddenDomain c.toNat = false := by
  induction rs with
  | nil => simp [forbiddenLoop]
  | cons c rest ih =>
    unfold forbiddenLoop
    cases hc : forbiddenDomain c.toNat
    · simp only [Bool.false_eq_true, if_false, ih, List.mem_cons, forall_eq_or_imp, hc, true_and]
    · simp only [if_true, List.mem_cons, forall_eq_or_imp, hc, Bool.true_eq_false, false_and, iff_false]
      split <;> simp

theorem forbiddenLoop_strict (hlax : cfg.laxHost = false) (a : Bytes) (rs : Str) (u : Url) (o : HOut)
    (h : (forbiddenLoop cfg a rs u).2 = some o) : ∃ e, o = .err e := by
  have he := (forbiddenLoop_ends (u0 := u) a rs u .refl).2 o h
  cases o with
  | ok x => exact absurd he.2.1 (by simp [hlax])
  | err e => exact ⟨e, rfl⟩
  | panic n => exact he.elim

/-! ### parseHost -/

/-- the `[`…`]` branch -/
def bracketHost (cfg : Cfg) (u : Url) (i : Bytes) : HR :=
  if !endsWith i [0x5d] then fail6 cfg u .IPv6Unclosed
  else parseIPv6 cfg u (trimSuffix1 (trimPrefix1 i [0x5b]) [0x5d])

theorem bracketHost_cons (cfg : Cfg) (u : Url) (tl : Bytes) :
    bracketHost cfg u (0x5b :: tl) =
      if !endsWith (0x5b :: tl) [0x5d] then fail6 cfg u .IPv6Unclosed else parseIPv6 cfg u (trimSuffix1 tl [0x5d]) := by
  have ht : trimPrefix1 (0x5b :: tl) [0x5b] = tl := by simp [trimPrefix1, startsWith, List.isPrefixOf]
  rw [bracketHost, ht]

/-- … on a text between a pair of brackets -/
theorem bracketHost_wrap (cfg : Cfg) (u : Url) (x : Bytes) : bracketHost cfg u ([0x5b] ++ x ++ [0x5d]) = parseIPv6 cfg u x := by
  have e : ([0x5b] ++ x ++ [0x5d] : Bytes) = 0x5b :: (x ++ [0x5d]) := by simp
  have h1 : ∀ y : Bytes, endsWith (y ++ [0x5d]) [0x5d] = true := fun y => by
    simp [endsWith, List.isSuffixOf, List.reverse_append, List.isPrefixOf]
  have h2 : endsWith (0x5b :: (x ++ [0x5d])) [0x5d] = true := h1 (0x5b :: x)
  rw [e, bracketHost_cons, h2]
  simp [trimSuffix1, h1 x]

/-- the domain branch (special scheme, not bracketed, not empty) -/
def domainHost (cfg : Cfg) (I : Idna) (u : Url) (i : Bytes) : HR :=
  if !validUtf8 (decodePercent cfg i) && cfg.laxHost then ⟨u, .ok (percentEncodeBytes hostSet i)⟩
  else if !validUtf8 (decodePercent cfg i) then fail6 cfg u .DomainToASCII
  else match (toASCII cfg I u (decodePercent cfg i)).1 with
    | .err _ =>
      if cfg.laxHost then ⟨(toASCII cfg I u (decodePercent cfg i)).2, .ok (decodePercent cfg i)⟩
      else fail6 cfg (toASCII cfg I u (decodePercent cfg i)).2 .DomainToASCII
    | .ok a => Domain.finishDomain cfg (toASCII cfg I u (decodePercent cfg i)).2 a

/-- `parseHost` on what the `preHost` hook hands it -/
def hostOf (cfg : Cfg) (I : Idna) (u : Url) (ns : Bool) : Bytes → HR
  | [] => ⟨u, .ok []⟩
  | b0 :: tl =>
    if b0 == 0x5b then bracketHost cfg u (b0 :: tl)
    else if ns then parseOpaqueHost cfg u (b0 :: tl)
    else domainHost cfg I u (b0 :: tl)

/-- the domain branch sees its input through the percent-decoded text; the raw input is read only where that text is
    ill-formed and host parsing is lax -/
theorem domainHost_of_decoded (cfg : Cfg) (I : Idna) (u : Url) (s t : Bytes) (hd : decodePercent cfg s = decodePercent cfg t)
    (hv : validUtf8 (decodePercent cfg s) = true ∨ cfg.laxHost = false) : domainHost cfg I u s = domainHost cfg I u t := by
  unfold domainHost
  rw [← hd]
  rcases hv with hv | hv
  · simp only [hv, Bool.not_true, Bool.false_and, Bool.false_eq_true, if_false]
  · simp only [hv, Bool.and_false, Bool.false_eq_true, if_false]

theorem domainHost_strict_ok (hlax : cfg.laxHost = false) (I : Idna) (u : Url) (i h : Bytes)
    (hok : (domainHost cfg I u i).out = .ok h) :
    validUtf8 (decodePercent cfg i) = true ∧ ∃ a, (toASCII cfg I u (decodePercent cfg i)).1 = .ok a ∧
      (forbiddenLoop cfg a (goRunes a) (toASCII cfg I u (decodePercent cfg i)).2).2 = none ∧
      (Domain.finishDomain cfg (toASCII cfg I u (decodePercent cfg i)).2 a).out = .ok h := by
  unfold domainHost at hok
  simp only [hlax, Bool.and_false, Bool.false_eq_true, if_false] at hok
  split at hok
  · simp [fail6] at hok
  · rename_i hv
    split at hok
    · simp [fail6] at hok
    · rename_i a ha
      refine ⟨by simpa using hv, a, ha, ?_, hok⟩
      cases hfl : (forbiddenLoop cfg a (goRunes a) (toASCII cfg I u (decodePercent cfg i)).2).2 with
      | none => rfl
      | some o =>
        obtain ⟨e, rfl⟩ := forbiddenLoop_strict hlax a _ _ o hfl
        unfold Domain.finishDomain at hok
        simp [hfl] at hok

theorem parseHost_eq (cfg : Cfg) (I : Idna) (u : Url) (a : Bytes) (ns : Bool) :
    parseHost cfg I u a ns = hostOf cfg I u ns (Web.preIn cfg u a) := by
  unfold parseHost Web.preIn
  cases cfg.preHost <;> dsimp only
  · cases a <;> rfl
  · rename_i f; generalize f u a = i; cases i <;> rfl

theorem hostOf_bracket (cfg : Cfg) (I : Idna) (u : Url) (ns : Bool) (tl : Bytes) :
    hostOf cfg I u ns (0x5b :: tl) = bracketHost cfg u (0x5b :: tl) := rfl

theorem hostOf_domain (cfg : Cfg) (I : Idna) (u : Url) (b0 : UInt8) (tl : Bytes) (hb : b0 ≠ 0x5b) :
    hostOf cfg I u false (b0 :: tl) = domainHost cfg I u (b0 :: tl) := by
  simp [hostOf, hb]

-- below, `Ends` is used through its lemmas only; sealed, so that elaboration does not unfold the routines under its `match`
attribute [local irreducible] Ends in
/-- Any configuration, any oracle.  A host the parser returns is the empty host for the empty input, an IPv6 or IPv4
    serialization, the percent-encoded opaque input, the oracle's output (after the hook), or under `laxHost` one of four
    fallbacks; each hypothesis comes with the test of the branch it belongs to (`inp.head? = some 0x5b`: bracketed).
    `u'` in `hdom`: the `postHost` hook is handed the url as it is after the oracle query is logged and the forbidden-code-point
    loop has run; nothing is known about it here, so `Q` is asked for every `u'`. -/
theorem parseHost_ends_br (cfg : Cfg) (I : Idna) (u : Url) (input inp : Bytes) (ns : Bool)
    (hinp : Web.preIn cfg u input = inp)
    (h0 : inp = [] → Q [])
    (h6 : inp.head? = some 0x5b → ∀ a, Q ([0x5b] ++ ipv6String a ++ [0x5d]))
    (h4 : inp.head? ≠ some 0x5b → ns = false → ∀ n, Q (ipv4String n))
    (hop : inp.head? ≠ some 0x5b → ns = true → inp ≠ [] → (∀ c ∈ goRunes inp, forbiddenHost c.toNat = false) →
      Q ((goRunes inp).flatMap (percentEncodeRune cfg c0Set)))
    (hdom : inp.head? ≠ some 0x5b → ∀ a u', ns = false → inp ≠ [] → (toASCII cfg I u (decodePercent cfg inp)).1 = .ok a →
      (∀ c ∈ goRunes a, forbiddenDomain c.toNat = false) → Q (match cfg.postHost with | some f => f u' a | none => a))
    (hlax : inp.head? ≠ some 0x5b → cfg.laxHost = true → inp ≠ [] →
      Q inp ∧ Q (percentEncodeBytes hostSet inp) ∧ Q (decodePercent cfg inp) ∧
      ∀ a, (toASCII cfg I u (decodePercent cfg inp)).1 = .ok a → Q (percentEncodeString cfg hostSet a)) :
    Ends cfg Q u (parseHost cfg I u input ns) := by
  have hu : Went cfg u u := .refl
  rw [parseHost_eq, hinp]
  match inp, h0, h6, h4, hop, hdom, hlax with
  | [], h0, _, _, _, _, _ => exact Ends_ok hu (h0 rfl)
  | b0 :: rest, _, h6, h4, hop, hdom, hlax =>
    have hne : b0 :: rest ≠ [] := nofun
    unfold hostOf
    refine Ends_ite (fun hb => Ends_ite (fun _ => Ends_fail6 _ hu rfl) fun _ =>
      (parseIPv6_ends _ hu).mono fun _ ⟨a, ha⟩ => ha ▸ h6 (by simpa using hb) a) fun hb => ?_
    have hb : (b0 :: rest).head? ≠ some 0x5b := by simpa using hb
    replace h4 := h4 hb
    replace hop := hop hb
    replace hdom := hdom hb
    replace hlax := hlax hb
    refine Ends_ite (fun hns => opaqueLoop_ends _ (fun hl => (hlax hl hne).1) _ _ _ hu
        fun hf => (List.nil_append _).symm ▸ hop hns hne hf)
      fun hns => ?_
    unfold domainHost
    refine Ends_ite (fun hv => Ends_ok hu (hlax (Bool.and_eq_true_iff.mp hv).2 hne).2.1) fun _ => Ends_ite (fun _ => Ends_fail6 _ hu rfl) fun _ => ?_
    have ht := toASCII_went (cfg := cfg) I (decodePercent cfg (b0 :: rest)) hu
    split
    · exact Ends_ite (fun hl => Ends_ok ht (hlax hl hne).2.2.1) fun _ => Ends_fail6 _ ht rfl
    · rename_i a ha
      have hf := forbiddenLoop_ends (cfg := cfg) a (goRunes a) _ ht
      unfold Domain.finishDomain
      dsimp only
      split
      · rename_i o ho
        exact (hf.2 o ho).mono fun _ ⟨hl, hx⟩ => hx ▸ (hlax hl hne).2.2.2 a ha
      · rename_i ho
        have hd := fun u' => hdom a u' (by simpa using hns) hne ha ((forbiddenLoop_none_iff _ _ _ _).mp ho)
        refine Ends_ite (fun _ => (parseIPv4_ends _ (hf.1 ho)).mono fun _ ⟨n, hn⟩ => hn ▸ h4 (by simpa using hns) n) fun _ => ?_
        split <;> rename_i hpost <;> simp only [hpost] at hd
        · exact Ends_ok (hf.1 ho) (hd _)
        · exact Ends_ok (hf.1 ho) (hd u)

theorem parseHost_ends (cfg : Cfg) (I : Idna) (u : Url) (input : Bytes) (ns : Bool) :
    Ends cfg (fun _ => True) u (parseHost cfg I u input ns) :=
  parseHost_ends_br cfg I u input _ ns rfl (fun _ => trivial) (fun _ _ => trivial) (fun _ _ _ => trivial)
    (fun _ _ _ _ => trivial) (fun _ _ _ _ _ _ _ => trivial) (fun _ _ _ => ⟨trivial, trivial, trivial, fun _ _ => trivial⟩)

/-- `parseHost_ends_br` read at an accepted host, in strict mode without hooks: the parser sees the input itself, the lax
    fallbacks do not occur and the domain branch returns ToASCII's answer -/
theorem parseHost_strict_ok (cfg : Cfg) (hpre : cfg.preHost = none) (hpost : cfg.postHost = none) (hlax : cfg.laxHost = false)
    (I : Idna) (u : Url) (s : Bytes) (ns : Bool)
    (h0 : s = [] → Q [])
    (h6 : s.head? = some 0x5b → ∀ a, Q ([0x5b] ++ ipv6String a ++ [0x5d]))
    (h4 : s.head? ≠ some 0x5b → ns = false → ∀ n, Q (ipv4String n))
    (hop : s.head? ≠ some 0x5b → ns = true → s ≠ [] → (∀ c ∈ goRunes s, forbiddenHost c.toNat = false) →
      Q ((goRunes s).flatMap (percentEncodeRune cfg c0Set)))
    (hdom : s.head? ≠ some 0x5b → ∀ a, ns = false → s ≠ [] → (toASCII cfg I u (decodePercent cfg s)).1 = .ok a →
      (∀ c ∈ goRunes a, forbiddenDomain c.toNat = false) → Q a)
    {h : Bytes} (hok : (parseHost cfg I u s ns).out = .ok h) : Q h :=
  (parseHost_ends_br cfg I u s s ns (Web.preIn_none hpre u s) h0 h6 h4 hop
    (fun hb a _ hns hne ha hf => by rw [hpost]; exact hdom hb a hns hne ha hf)
    (fun _ hl => by rw [hlax] at hl; cases hl)).ok hok

theorem parseHost_frame (cfg : Cfg) (I : Idna) (u : Url) (input : Bytes) (ns : Bool) :
    Same u (parseHost cfg I u input ns).url :=
  (parseHost_ends cfg I u input ns).logd.same

theorem parseHost_err (cfg : Cfg) (I : Idna) (u : Url) (input : Bytes) (ns : Bool) (e : VErr)
    (h : (parseHost cfg I u input ns).out = .err e) : hostErrT e.t = true :=
  (parseHost_ends cfg I u input ns).err h

/-! ### a host the parser returns for a non-empty input is not empty -/

theorem runeBytes_ne (cfg : Cfg) (c : Char) : runeBytes cfg c ≠ [] := by
  unfold runeBytes
  split
  · simp
  · exact String.utf8EncodeChar_ne_nil

theorem percentEncodeRune_ne (cfg : Cfg) (tr : PSet) (c : Char) : percentEncodeRune cfg tr c ≠ [] := by
  unfold percentEncodeRune
  split
  · exact String.utf8EncodeChar_ne_nil
  · have := runeBytes_ne cfg c
    match h : runeBytes cfg c with
    | [] => exact absurd h this
    | x :: t => simp [pctByte]

/-- the oracle hypothesis: on a non-empty query for which the ASCII-only fallback applies (error reported, input is
    ASCII-or-misc without punycode) the oracle's output is not empty. `x/net/idna` satisfies this (it returns the
    processed input together with the error); an arbitrary function does not. -/
def IdnaNonEmpty (I : Idna) : Prop :=
  ∀ s : Bytes, s ≠ [] → (I s).2 = true → asciiOrMiscNoPuny (goRunes s) 0 = true → (I s).1 ≠ []

theorem stringToUnicode_ne (cm : Charmap) : ∀ (rs : Str) (s : Bytes), rs ≠ [] → stringToUnicode cm rs = some s → s ≠ [] := by
  intro rs s hrs h
  match rs, hrs with
  | r :: rest, _ =>
    unfold stringToUnicode at h
    split at h
    · cases hr : stringToUnicode cm rest with
      | none => rw [hr] at h; cases h
      | some t => rw [hr] at h; cases h; simp
    · cases h

theorem asciiSrc_ne (cfg : Cfg) (src0 : Bytes) (h : src0 ≠ []) : asciiSrc cfg src0 ≠ [] := by
  unfold asciiSrc
  split
  · split
    · next cm s hs => exact stringToUnicode_ne _ _ _ (Utf8.goRunes_ne_nil h) hs
    · exact h
  · exact h

theorem toAsciiOut_ne (cfg : Cfg) (I : Idna) (hI : IdnaNonEmpty I) (src a : Bytes) (hne : src ≠ [])
    (h : toAsciiOut cfg I src = .ok a) : a ≠ [] := by
  unfold toAsciiOut at h
  split at h
  · next c1 =>
    cases h
    simp only [Bool.and_eq_true] at c1
    exact hI src hne c1.1 c1.2
  · split at h
    · cases h
    · split at h
      · cases h
      · next c3 => cases h; simpa using c3

theorem toASCII_ne (cfg : Cfg) (I : Idna) (hI : IdnaNonEmpty I) (u : Url) (src0 a : Bytes) (h0 : src0 ≠ [])
    (h : (toASCII cfg I u src0).1 = .ok a) : a ≠ [] := by
  rw [toASCII_eq_out cfg I u src0 h0] at h
  exact toAsciiOut_ne cfg I hI _ a (asciiSrc_ne cfg src0 h0) h

theorem pesRunes_ne (cfg : Cfg) (tr : PSet) (rs : Str) (h : rs ≠ []) : pesRunes cfg tr rs ≠ [] := by
  match rs, h with
  | r :: rest, _ =>
    unfold pesRunes
    split <;> simp [percentEncodeRune_ne]

theorem percentEncodeBytes_ne (tr : PSet) (s : Bytes) (h : s ≠ []) : percentEncodeBytes tr s ≠ [] := by
  match s, h with
  | x :: rest, _ =>
    unfold percentEncodeBytes
    simp only [List.flatMap_cons]
    split <;> simp [pctByte]

theorem flatMap_ne {α β : Type} (f : α → List β) (hf : ∀ a, f a ≠ []) : ∀ l : List α, l ≠ [] → l.flatMap f ≠ []
  | a :: _, _ => by simp [hf a]

theorem ipv4String_ne (n : Nat) : ipv4String n ≠ [] := by simp [ipv4String]

theorem parseHost_nil (cfg : Cfg) (I : Idna) (u : Url) (ns : Bool) (hpre : cfg.preHost = none) :
    parseHost cfg I u [] ns = ⟨u, .ok []⟩ := by
  rw [parseHost_eq, Web.preIn_none hpre]; rfl

theorem parseHost_ne (cfg : Cfg) (I : Idna) (u : Url) (input : Bytes) (ns : Bool) (hpre : cfg.preHost = none)
    (hpost : cfg.postHost = none) (hI : IdnaNonEmpty I) (hin : input ≠ []) (h : Bytes)
    (ho : (parseHost cfg I u input ns).out = .ok h) : h ≠ [] := by
  have hd := Percent.decodePercent_ne_nil cfg input hin
  refine (parseHost_ends_br (Q := (· ≠ [])) cfg I u input input ns (Web.preIn_none hpre u input) (fun h => absurd h hin)
    (by simp) (fun _ _ => ipv4String_ne)
    (fun _ _ _ _ => flatMap_ne _ (percentEncodeRune_ne cfg c0Set) _ (Utf8.goRunes_ne_nil hin))
    (fun _ a _ _ _ ha _ => ?_) (fun _ _ _ => ⟨hin, percentEncodeBytes_ne _ _ hin, hd, fun a ha => ?_⟩)).ok ho
  · rw [hpost]; exact toASCII_ne cfg I hI u _ a hd ha
  · exact pesRunes_ne _ _ _ (Utf8.goRunes_ne_nil (toASCII_ne cfg I hI u _ a hd ha))

end WhatwgUrl.Proofs.HostWF

namespace WhatwgUrl.Proofs.Pipeline
open WhatwgUrl WhatwgUrl.Impl

/-- the host parser does not return the missing-scheme error (the one error after which `(*profile).Parse` retries with the
    default scheme) -/
theorem parseHost_et (cfg : Cfg) (I : Idna) (u : Url) (s : Bytes) (ns : Bool) (e : VErr)
    (he : (parseHost cfg I u s ns).out = .err e) : e.t ≠ .MissingSchemeNonRelativeURL := by
  intro ht
  have := HostWF.parseHost_err cfg I u s ns e he
  rw [ht] at this
  cases this

end WhatwgUrl.Proofs.Pipeline
