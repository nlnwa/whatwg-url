import WhatwgUrl.Proofs.RoundTrip
/-
  Round trip (C03b), stage A: records with an opaque path.
-/
namespace WhatwgUrl.Proofs.RoundTrip
open WhatwgUrl WhatwgUrl.Impl WhatwgUrl.Proofs.IPv4 WhatwgUrl.Proofs.Trim
open WhatwgUrl.Props.C04b (schemeOk okB okB_print WFs)
open WhatwgUrl.Proofs.HostWF (Same)

theorem frag_print : ∀ b : UInt8, fragmentSet.has b.toNat = false → 0x21 ≤ b.toNat ∧ b.toNat < 0x7f :=
  forall_uint8 (by decide +kernel)
theorem qset_print : ∀ (b : UInt8) (sp : Bool), (qset sp).has b.toNat = false → 0x21 ≤ b.toNat ∧ b.toNat < 0x7f := by
  apply forall_uint8
  decide +kernel
theorem opq_print : ∀ b : UInt8, opqB b = true → 0x20 ≤ b.toNat ∧ b.toNat < 0x7f :=
  forall_uint8 (by decide +kernel)
theorem lower_print : ∀ b : UInt8, isLowerN b.toNat = true → 0x21 ≤ b.toNat ∧ b.toNat < 0x7f :=
  forall_uint8 (by decide +kernel)

def Graphic (s : Bytes) : Prop := ∀ b ∈ s, 0x21 ≤ b.toNat ∧ b.toNat < 0x7f

theorem Graphic.printable {s : Bytes} (h : Graphic s) : Printable s := fun b hb => ⟨by have := h b hb; omega, by have := h b hb; omega⟩
theorem Graphic.endsOk {s : Bytes} (h : Graphic s) : EndsOk s :=
  fun x hx => by have := h x (List.mem_of_getLast? hx); simp [isWs]; omega
theorem Graphic.append {s t : Bytes} (hs : Graphic s) (ht : Graphic t) : Graphic (s ++ t) := by
  intro b hb
  rcases List.mem_append.mp hb with h | h
  · exact hs b h
  · exact ht b h
theorem Printable.append {s t : Bytes} (hs : Printable s) (ht : Printable t) : Printable (s ++ t) := by
  intro b hb
  rcases List.mem_append.mp hb with h | h
  · exact hs b h
  · exact ht b h
theorem Graphic.cons {b : UInt8} {t : Bytes} (hb : 0x21 ≤ b.toNat ∧ b.toNat < 0x7f) (ht : Graphic t) : Graphic (b :: t) := by
  intro x hx
  rcases List.mem_cons.mp hx with h | h
  · subst h; exact hb
  · exact ht x h

theorem scheme_graphic (s : Bytes) (h : schemeOk s = true) : Graphic s ∧ ∃ c t, s = c :: t := by
  cases s with
  | nil => simp [schemeOk] at h
  | cons c t =>
    simp only [schemeOk, Bool.and_eq_true] at h
    refine ⟨Graphic.cons (lower_print c h.1) ?_, c, t, rfl⟩
    intro b hb
    have := List.all_eq_true.mp h.2 b hb
    exact okB_print b (by simpa [okB] using this)

theorem fTail_graphic (f : Option Bytes) (hf : FOk f) : Graphic (fTail f) := by
  cases f with
  | none => intro b hb; simp [fTail] at hb
  | some x => exact Graphic.cons (by decide) (fun b hb => frag_print b (hf x rfl b hb))

theorem qTail_graphic (sp : Bool) (q : Option Bytes) (hq : QOk sp q) : Graphic (qTail q) := by
  cases q with
  | none => intro b hb; simp [qTail] at hb
  | some x => exact Graphic.cons (by decide) (fun b hb => qset_print b sp (hq x rfl b hb))

theorem head_not_slash (w : Bytes) (h : w.head? ≠ some 0x2f) : (asStr w).head? ≠ some '/' := by
  cases w with
  | nil => simp [asStr]
  | cons b t =>
    intro hp
    have : bc b = '/' := by simpa [asStr] using hp
    exact h (by rw [bc_inj (x := b) (y := 0x2f) (by rw [this]; rfl)]; rfl)

theorem Same_setQF (u0 u : Url) (h1 : u0.scheme = u.scheme) (h2 : u0.username = u.username) (h3 : u0.password = u.password)
    (h4 : u0.host = u.host) (h5 : u0.port = u.port) (h6 : u0.decodedPort = u.decodedPort) (h7 : u0.path = u.path)
    (h8 : u.query = none → u0.query = none) (h9 : u.fragment = none → u0.fragment = none) :
    Same (setF (setQ u0 u.query) u.fragment) u := by
  unfold Same
  cases hq : u.query <;> cases hf : u.fragment <;> simp [setF, setQ, h1, h2, h3, h4, h5, h6, h7, h8 , h9, hq, hf]

theorem qf_of_RTc {u : Url} (hc : RTc u) : QOk (Cfg.isSpecial {} u.scheme) u.query ∧ FOk u.fragment :=
  ⟨fun x hx => hc.2.2.1 x (by simp [hx]), fun x hx => hc.2.1 x (by simp [hx])⟩

/-- What every stage of the round trip does around its own middle.  The serialization is the scheme, a `:` and a text `X`
    of printable ASCII that does not end in a blank: the prologue of `parse` leaves it alone, the scheme start and scheme
    states read the scheme (`steps_scheme_ok`), and the fuel of `parse` computes the run (`Runs.loop_fuelFor`).  A stage
    supplies `hrun`: the run from the scheme state in front of the `:`, in any text, to a record that is `Same` as `u`. -/
theorem roundtrip_of_run (I : Idna) (u : Url) (hs : schemeOk u.scheme = true) (X : Bytes)
    (hhref : href u false = u.scheme ++ 0x3a :: X) (hX : Printable X) (hE : EndsOk (0x3a :: X))
    (hrun : ∀ (src : Bytes) (rs : Str) (p : Int),
      Run.Cur (mkE I src rs) ⟨.scheme, p, false, u.scheme, false, false, false, {}⟩ (asStr u.scheme) (':' :: asStr X) →
      ∃ U, Resolve.Runs (mkE I src rs) ⟨.scheme, p, false, u.scheme, false, false, false, {}⟩ ⟨U, .url⟩ ∧ Same U u) :
    ∃ u', parse {} I (href u false) = ⟨u', .url⟩ ∧ Same u' u := by
  obtain ⟨hsg, c, t, hct⟩ := scheme_graphic u.scheme hs
  have hcX : Printable (0x3a :: X) :=
    Printable.append (s := [0x3a]) (by intro b hb; simp at hb; subst hb; decide) hX
  rw [hhref, Web.parse_clean_c {} I _ (by rw [hct]; simp) (hsg.printable.append hcX)
    (fun x hx => by
      rw [hct] at hx; simp at hx; subst hx
      have := hsg c (by rw [hct]; simp)
      simp [isWs]; omega)
    (EndsOk_append _ _ hE (fun h => by cases h))]
  obtain ⟨p, t1, hc1⟩ := steps_scheme_ok (mkE I (u.scheme ++ 0x3a :: X) (asStr (u.scheme ++ 0x3a :: X))) u.scheme hs
    (':' :: asStr X) {} (by rw [mkE_runes, asStr_append]; rfl)
  obtain ⟨U, hr, hsame⟩ := hrun _ _ p hc1
  exact ⟨U, (t1.runs hr).loop_fuelFor rfl rfl, hsame⟩

/-- `roundtrip_of_run` for a text of graphic bytes -/
theorem roundtrip_of_run_graphic (I : Idna) (u : Url) (hs : schemeOk u.scheme = true) (X : Bytes)
    (hhref : href u false = u.scheme ++ 0x3a :: X) (hX : Graphic X)
    (hrun : ∀ (src : Bytes) (rs : Str) (p : Int),
      Run.Cur (mkE I src rs) ⟨.scheme, p, false, u.scheme, false, false, false, {}⟩ (asStr u.scheme) (':' :: asStr X) →
      ∃ U, Resolve.Runs (mkE I src rs) ⟨.scheme, p, false, u.scheme, false, false, false, {}⟩ ⟨U, .url⟩ ∧ Same U u) :
    ∃ u', parse {} I (href u false) = ⟨u', .url⟩ ∧ Same u' u :=
  roundtrip_of_run I u hs X hhref hX.printable (Graphic.cons (by decide) hX).endsOk hrun

theorem roundtrip_opaque (I : Idna) (u : Url) (hwf : WFs {} u) (hc : RTc u) (ho : u.path.opq = true) :
    ∃ u', parse {} I (href u false) = ⟨u', .url⟩ ∧ Same u' u := by
  obtain ⟨huser, hpass, hport⟩ := bare_of_WFs hwf (Or.inl (hwf.2.2.1 ho).1)
  obtain ⟨hq, hf⟩ := qf_of_RTc hc
  obtain ⟨hs, h2, h3, h4, h5, h6⟩ := hwf
  obtain ⟨c1, c2, c3, c4, c5, c6, c7, c8⟩ := hc
  obtain ⟨hhost, hlen⟩ := h3 ho
  have hsp : Cfg.isSpecial {} u.scheme = false := by
    cases h : Cfg.isSpecial {} u.scheme
    · rfl
    · have := (h2 h).2.2.1; rw [ho] at this; cases this
  rw [hsp] at hq
  have hdp := c1 hport
  obtain ⟨p, hp⟩ := List.length_eq_one_iff.mp hlen
  obtain ⟨o1, o2, o3⟩ := c4 ho p (by rw [hp]; simp)
  have hhref : href u false = u.scheme ++ 0x3a :: (p ++ (qTail u.query ++ fTail u.fragment)) := by
    unfold href
    simp only [hhost, ho, Path.str, Path.str?, hp, qTail, fTail]
    simp
    rfl
  have hpp : Printable p := fun b hb => by have := opq_print b (o1 b hb); omega
  have hqfg : Graphic (qTail u.query ++ fTail u.fragment) := (qTail_graphic false _ hq).append (fTail_graphic _ hf)
  refine roundtrip_of_run I u hs _ hhref (hpp.append hqfg.printable) ?_ (fun src rs p0 hc1 => ?_)
  · have e1 : 0x3a :: (p ++ (qTail u.query ++ fTail u.fragment)) = ([0x3a] ++ p) ++ (qTail u.query ++ fTail u.fragment) := by simp
    rw [e1]
    refine EndsOk_append _ _ hqfg.endsOk ?_
    intro hnil
    obtain ⟨hqn, hfn⟩ : u.query = none ∧ u.fragment = none := by
      revert hnil; cases u.query <;> cases u.fragment <;> simp [qTail, fTail]
    refine EndsOk_append _ _ ?_ ?_
    · intro x hx
      have hx20 : x ≠ 0x20 := fun e => o3 hqn hfn (by rw [hx, e])
      have := opq_print x (o1 x (List.mem_of_getLast? hx))
      have : x.toNat ≠ 0x20 := fun e => hx20 (UInt8.toNat_inj.mp e)
      simp [isWs]; omega
    · intro _ x hx; simp at hx; subst hx; decide
  · -- the run: colon, opaque path, `?query#fragment`
    rw [asStr_append] at hc1
    have hns : (asStr p ++ asStr (qTail u.query ++ fTail u.fragment)).head? ≠ some '/' := by
      rw [← asStr_append]
      refine head_not_slash _ ?_
      cases p with
      | cons b t => simpa using o2
      | nil => cases u.query <;> cases u.fragment <;> simp [qTail, fTail]
    obtain ⟨s2, hc2⟩ := hc1.one (Run.step_colon_opaque hc1 rfl rfl (not_file_of_nonspecial hsp) hsp hns) rfl rfl
    obtain ⟨s3, hc3⟩ := Run.scan_opaque p _ hc2 rfl rfl (fun b hb => opqB_spec b (o1 b hb)) (quietOn_mkE I _ _ _ _)
    rw [List.nil_append] at s3 hc3
    refine ⟨_, (s2.trans s3).runs (Run.run_qf (e := mkE I src rs) rfl u.query u.fragment { scheme := u.scheme, path := Path.setOpaque p }
      (qok_copied I _ _ _ hsp hq) (fok_copied I _ _ _ hf) hc3 (fun _ _ => quietOn_mkE I _ _ _ _) (fun _ _ => quietOn_mkE I _ _ _ _)
      (fun tl h => ⟨_, Run.step_opaque_qm h rfl, rfl, rfl, rfl, h.eof, rfl⟩)
      (fun tl h => ⟨_, Run.step_opaque_hash h rfl, rfl, rfl, rfl, h.eof, rfl⟩)
      (fun h => Run.step_opaque_eof h rfl)), ?_⟩
    apply Same_setQF
    all_goals simp [huser, hpass, hhost, hport, hdp, Path.setOpaque]
    rw [← hp, ← ho]

end WhatwgUrl.Proofs.RoundTrip
