import WhatwgUrl.Proofs.SelfResolve
import WhatwgUrl.Proofs.RoundTrip
/-
  Helper lemmas for C06c (the self-resolution law): the text.

  For a structurally well-formed record `u` (`WFs {} u`) the serialization `href u false` is, as the machine sees it
  (`goRunes (pro …)`), the scheme of `u`, a `:`, and — whenever `u` has a host, in particular whenever the scheme is special —
  `//`.  Nothing is assumed about the bytes of the other components: the prologue (trim, tab / newline removal) may well
  change them, but it cannot touch the scheme, the `:` and the `//` (all above 0x20), and these are ASCII.
-/
namespace WhatwgUrl.Proofs.SelfResolve
open WhatwgUrl WhatwgUrl.Impl WhatwgUrl.Proofs.Resolve WhatwgUrl.Proofs.IPv4
open WhatwgUrl.Props.C04b (schemeOk okB okB_print WFs)

theorem proTail_cons (x : UInt8) (f : Bytes) (hw : Trim.isWs x = false) : proTail (x :: f) = x :: proTail f :=
  proTail_append [x] f (fun _ hy => List.mem_singleton.mp hy ▸ hw)

theorem schemeSplit_okB (t : Bytes) (ht : ∀ x ∈ t, okB x = true) (after : Str) :
    ∀ buf, schemeSplit (asStr t ++ ':' :: after) buf = some (buf ++ t, after) := by
  induction t with
  | nil =>
    intro buf
    show schemeSplit (':' :: after) buf = _
    simp [schemeSplit, show isSchemeChar ':' = false from by decide]
  | cons x t ih =>
    intro buf
    obtain ⟨_, _, h3, h4, _⟩ := RoundTrip.okB_char x (ht x List.mem_cons_self)
    show schemeSplit (bc x :: (asStr t ++ ':' :: after)) buf = _
    rw [schemeSplit, if_pos h3, h4, ih (fun y hy => ht y (List.mem_cons_of_mem _ hy))]
    simp

theorem splitScheme_schemeOk (s : Bytes) (h : schemeOk s = true) (after : Str) :
    splitScheme (asStr s ++ ':' :: after) = some (s, after) := by
  cases s with
  | nil => simp [schemeOk] at h
  | cons c t =>
    have hok := (RoundTrip.schemeOk_okB _ h).2
    simp only [schemeOk, Bool.and_eq_true] at h
    obtain ⟨_, _, _, h4, h2⟩ := RoundTrip.okB_char c (hok c List.mem_cons_self)
    show splitScheme (bc c :: (asStr t ++ ':' :: after)) = _
    rw [splitScheme, if_pos (h2 h.1).2, h4, schemeSplit_okB t (fun y hy => hok y (List.mem_cons_of_mem _ hy))]
    rfl

theorem splitScheme_text (s X : Bytes) (h : schemeOk s = true) :
    splitScheme (goRunes (pro (s ++ 0x3a :: X))) = some (s, goRunes (proTail X)) := by
  obtain ⟨hne, hok⟩ := RoundTrip.schemeOk_okB s h
  rw [pro_append s _ (fun x hx => by have := okB_print x (hok x hx); simp [Trim.isWs]; omega) hne, proTail_cons _ _ (by decide),
    Spelling.goRunes_clean s _ (fun x hx => by have := okB_print x (hok x hx); omega), goRunes_cons_ascii _ _ (by decide)]
  exact splitScheme_schemeOk s h _

theorem runes_slashes (Y : Bytes) : goRunes (proTail (0x2f :: 0x2f :: Y)) = '/' :: '/' :: goRunes (proTail Y) := by
  rw [proTail_cons _ _ (by decide), proTail_cons _ _ (by decide), goRunes_cons_ascii _ _ (by decide),
    goRunes_cons_ascii _ _ (by decide)]
  rfl

/-- what `href` writes after the `:` -/
def hrefRest (u : Url) : Bytes :=
  (match u.host with
   | some h =>
     [0x2f, 0x2f] ++
     (if u.username != [] || u.password != [] then
        u.username ++ (if u.password != [] then 0x3a :: u.password else []) ++ [0x40]
      else []) ++
     h ++ (match u.port with | some p => 0x3a :: p | none => [])
   | none => []) ++
  (if u.host == none && !u.path.opq && u.path.segs.length > 1 && u.path.segs.head? == some [] then [0x2f, 0x2e] else []) ++
  u.path.str ++
  (match u.query with | some q => 0x3f :: q | none => []) ++
  (match u.fragment with | some f => 0x23 :: f | none => [])

theorem href_eq (u : Url) : href u false = u.scheme ++ 0x3a :: hrefRest u := by
  unfold href hrefRest
  simp only [Bool.not_false, ↓reduceIte, List.append_assoc, List.cons_append, List.nil_append]
  rfl

theorem hrefRest_host (u : Url) (h : u.host ≠ none) : ∃ Y, hrefRest u = 0x2f :: 0x2f :: Y := by
  unfold hrefRest
  cases hh : u.host with
  | none => exact absurd hh h
  | some x =>
    simp only [List.append_assoc, List.cons_append, List.nil_append]
    exact ⟨_, rfl⟩

/-- the serialization of a record with a well-formed scheme, as the machine sees it: the scheme, and `//` after the `:`
    when there is a host -/
theorem href_splitScheme (u : Url) (hs : schemeOk u.scheme = true) :
    splitScheme (goRunes (pro (href u false))) = some (u.scheme, goRunes (proTail (hrefRest u))) ∧
    (u.host ≠ none → ['/', '/'].isPrefixOf (goRunes (proTail (hrefRest u))) = true) := by
  rw [href_eq, splitScheme_text _ _ hs]
  refine ⟨rfl, fun h => ?_⟩
  obtain ⟨Y, hY⟩ := hrefRest_host u h
  rw [hY, runes_slashes]
  simp [List.isPrefixOf]

theorem href_selfIndep (u : Url) (hw : WFs {} u) : selfIndep (goRunes (pro (href u false))) = true := by
  obtain ⟨h1, h2, _⟩ := hw
  obtain ⟨e, hp⟩ := href_splitScheme u h1
  refine selfIndep_of_split e ?_
  by_cases hsp : ({} : Cfg).isSpecial u.scheme = true
  · exact Or.inr (hp (h2 hsp).1)
  · exact Or.inl (by simpa using hsp)

end WhatwgUrl.Proofs.SelfResolve
