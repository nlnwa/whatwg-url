import WhatwgUrl.Proofs.PipelineHeap
import WhatwgUrl.Proofs.HeapInv
/-
  The text `(*profile).Parse` returns, at heap level and at value level: the object is freshly allocated, so `canonicalize` on
  it is the pipeline `canonV` (`Proofs/PipelineHeap.lean`) on its record (`canonicalize_shape`), for every profile.
  `C18d.canonAfter`, the common tail of `(*profile).Parse` and `ParseRef`, is defined in `Proofs/HeapInv.lean`.
-/
namespace WhatwgUrl.Props.C17b
open WhatwgUrl WhatwgUrl.Impl

/-- what the caller of `(*profile).Parse` sees: `String()` of the returned object, when the error is nil -/
def canonText (x : Heap × Option Nat × Ret) : Option Bytes :=
  match x.2.2, x.2.1 with
  | .url, some i => (x.1.urls[i]?).map fun o => href o.u false
  | _, _ => none

end WhatwgUrl.Props.C17b

namespace WhatwgUrl.Proofs.Pipeline
open WhatwgUrl WhatwgUrl.Impl

theorem canonV_ret (I : Idna) (p : Profile) (x : VS) : (canonV I p x).2 = .url ∨ ∃ n, (canonV I p x).2 = .panic n := by
  have hT : ∀ (a : VS × Ret) (k : VS → VS × Ret), (∀ z, (k z).2 = .url ∨ ∃ n, (k z).2 = .panic n) →
      ((thenV a k).2 = .url ∨ ∃ n, (thenV a k).2 = .panic n) := by
    intro a k hk
    unfold thenV
    split
    · exact Or.inr ⟨_, rfl⟩
    · exact hk _
  unfold canonV
  refine hT _ _ fun _ => hT _ _ fun _ => hT _ _ fun _ => hT _ _ fun _ => hT _ _ fun _ => hT _ _ fun _ => hT _ _ fun z => ?_
  split
  · exact Or.inr ⟨_, rfl⟩
  · exact Or.inl rfl

end WhatwgUrl.Proofs.Pipeline

namespace WhatwgUrl.Props.C18d
open WhatwgUrl WhatwgUrl.Impl WhatwgUrl.Proofs.Pipeline
open WhatwgUrl.Props.C17b (canonText)

/-- the canonical text at value level: the pipeline `canonV` on the parsed record (no list yet) -/
def canonOut (I : Idna) (p : Profile) (r : Res) : Option Bytes :=
  if r.ret = .url then
    (if (canonV I p ⟨r.url, none⟩).2 = .url then some (href (canonV I p ⟨r.url, none⟩).1.u false) else none)
  else none

/-- **heap level = value level**: the text of the object `(*profile).Parse` returns -/
theorem canonText_canonAfter (I : Idna) (p : Profile) (H : Heap) (r : Res) :
    canonText (canonAfter I p H r) = canonOut I p r := by
  unfold canonAfter canonOut Heap.allocRes
  cases hr : r.ret with
  | url =>
    simp only [Heap.allocUrl, if_true]
    have hS : Shape H.urls.length p.cfg ({ H with urls := H.urls ++ [⟨r.url, none, p.cfg⟩] } : Heap) ⟨r.url, none⟩ :=
      ⟨⟨r.url, none, p.cfg⟩, by simp, rfl, rfl, Or.inl ⟨rfl, rfl⟩⟩
    obtain ⟨e1, o, ho, hu, _, _⟩ := canonicalize_shape I p _ _ _ hS
    unfold canonText
    dsimp only
    rw [e1]
    rcases canonV_ret I p ⟨r.url, none⟩ with h | ⟨n, h⟩
    · rw [h]
      simp only [if_true, ho, Option.map_some, hu]
    · rw [h]
      simp
  | nilNil => simp [canonText]
  | err e w => simp [canonText]
  | panic n => simp [canonText]
  | outOfFuel => simp [canonText]

theorem canonText_canonParse (I : Idna) (p : Profile) (H : Heap) (raw : Bytes) :
    canonText (canonParse I p H raw) = canonOut I p (canonParseBase I p raw) :=
  canonText_canonAfter I p H _

end WhatwgUrl.Props.C18d
