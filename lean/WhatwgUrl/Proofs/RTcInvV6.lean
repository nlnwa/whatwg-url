import WhatwgUrl.Proofs.IPv6Parse
import WhatwgUrl.Proofs.RTcInvHostAll
import WhatwgUrl.Proofs.Frame
import WhatwgUrl.Proofs.Domain
import WhatwgUrl.Proofs.Setters
/-
  C03c: the standard's IPv6 parser returns an address (eight pieces below 2^16: `IPv6Parse.lean`), and a
  host the Go host parser accepts starts with `[` only if the input did (`parseHost_bracket_iff`), hence
  every bracketed host it accepts is the serialization of an address, hence (host provenance,
  `RTcInvHostAll.lean`) so is every bracketed host of a url the parser leaves behind.
-/
namespace WhatwgUrl.Proofs.RTcInv
open WhatwgUrl WhatwgUrl.Impl WhatwgUrl.Proofs.IPv6

/-! `IPv6.spec_parseIPv6_addr` at work on one text -/
example : Spec.parseIPv6 "1::2".toList = some [1, 0, 0, 0, 0, 0, 0, 2] := by decide
example : WhatwgUrl.Props.C08.Addr [1, 0, 0, 0, 0, 0, 0, 2] := spec_parseIPv6_addr "1::2".toList _ (by decide)

/-- a host text that starts with `[` is the serialization of an IPv6 address -/
def V6h (h : Bytes) : Prop := h.head? = some 0x5b → ∃ a, WhatwgUrl.Props.C08.Addr a ∧ h = [0x5b] ++ ipv6String a ++ [0x5d]

theorem ipv4String_head (n : Nat) : (ipv4String n).head? ≠ some 0x5b := by
  intro e
  rcases Domain.ipv4String_bytes n _ (List.mem_of_mem_head? e) with h | h <;> exact absurd h (by decide)

/-- an accepted host starts with `[` exactly when the input of the host parser did, i.e. exactly when it came out of
    the IPv6 branch (strict mode, no hooks; special and non-special schemes): every branch of the host parser
    (`HostWF.parseHost_strict_ok`) keeps it so -/
theorem parseHost_bracket_iff (cfg : Cfg) (I : Idna) (u0 : Url) (s : Bytes) (ns : Bool) (h : Bytes)
    (hpre : cfg.preHost = none) (hpost : cfg.postHost = none) (hlax : cfg.laxHost = false)
    (hp : (parseHost cfg I u0 s ns).out = .ok h) : h.head? = some 0x5b ↔ s.head? = some 0x5b := by
  refine HostWF.parseHost_strict_ok (Q := fun h => h.head? = some 0x5b ↔ s.head? = some 0x5b)
    cfg hpre hpost hlax I u0 s ns (fun e => by rw [e]) (fun hb a => by simp [hb]) (fun hb _ n => ?_)
    (fun hb _ hne hf => ?_) (fun hb a _ _ _ hforb => ?_) hp
  · exact ⟨fun hh => absurd hh (ipv4String_head n), fun hh => absurd hh hb⟩
  · -- opaque host: the first code point is not a forbidden host code point, so its encoding does not start with `[`
    refine ⟨fun hh => ?_, fun hh => absurd hh hb⟩
    cases hr : goRunes s with
    | nil => rw [hr] at hh; cases hh
    | cons c rest =>
      rw [hr] at hh hf
      exact absurd hh (Frame.pe_head cfg c (hf c List.mem_cons_self) _)
  · -- domain: `[` is a forbidden domain code point
    refine ⟨fun hh => ?_, fun hh => absurd hh hb⟩
    match a, hh with
    | x :: rest, hh =>
      obtain rfl : x = 0x5b := by simpa using hh
      obtain ⟨rs, hrs⟩ := Frame.goRunes_bracket rest
      exact absurd (hforb '[' (by rw [hrs]; simp)) (by decide)

theorem parseHost_v6 (I : Idna) (u : Url) (s : Bytes) (ns : Bool) (h : Bytes) (hp : (parseHost {} I u s ns).out = .ok h) :
    V6h h := by
  intro hh
  have hb := (parseHost_bracket_iff {} I u s ns h rfl rfl rfl hp).mp hh
  obtain ⟨a, ha, he⟩ := Domain.parseHost_bracket {} I u s ns h rfl hp hb
  exact ⟨a, spec_parseIPv6_addr _ a ha, he⟩

theorem basicParser_V6 (I : Idna) (input : Bytes) (base url : Option Url) (ov : Option State)
    (hb : ∀ b, base = some b → HostAll V6h b) (hu : HostAll V6h (url.getD {})) :
    HostAll V6h (basicParser {} I input base url ov).url :=
  basicParser_hostAll V6h {} I input base url ov (fun h => nomatch h) (fun u buf ns b hp => parseHost_v6 I u buf ns b hp) hb hu

theorem setU_V6 (I : Idna) (s : Setter) (u : Url) (v : Bytes) (hu : HostAll V6h u) : HostAll V6h (setU {} I s u v).url := by
  refine Setters.setU_cases {} I s u v (R := fun r => HostAll V6h r.url) (fun r h => ?_) (fun st u' input h => ?_)
  · cases h <;> exact HostAll_of_host rfl hu
  · exact basicParser_V6 I _ none (some u') _ nofun (by cases h <;> exact HostAll_of_host rfl hu)

end WhatwgUrl.Proofs.RTcInv
