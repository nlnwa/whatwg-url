import WhatwgUrl.Proofs.WebSteps
import WhatwgUrl.Proofs.WebDefs
import WhatwgUrl.Proofs.Frame
import WhatwgUrl.Impl.Profiles
import WhatwgUrl.Proofs.RoundTripC2
/-
  The port under an ARBITRARY configuration (no base, no override): `scheme://host:port ++ rest` parses like
  `scheme://host ++ rest` when `port` is empty or spells the default port of the scheme; `rest` is empty or starts with
  `/ ? #` and is otherwise ARBITRARY (shift lemma, `Proofs/SpellingShift.lean`).  What is needed of the configuration:
  the scheme is special, lower case, not `file` (`SpecialSchemeC`), its default port is at most 65535.
  In the run lemmas the pointer of a state handed on is quantified, never computed.
-/
namespace WhatwgUrl.Proofs.Web
open WhatwgUrl WhatwgUrl.Impl WhatwgUrl.Proofs.IPv4 WhatwgUrl.Proofs.Trim WhatwgUrl.Proofs.RoundTrip WhatwgUrl.Proofs.Spelling
open WhatwgUrl.Proofs.Run WhatwgUrl.Proofs.Resolve
open WhatwgUrl.Proofs.Machine (cleanDefaultPort_scheme cleanDefaultPort_username cleanDefaultPort_password cleanDefaultPort_host
  cleanDefaultPort_path cleanDefaultPort_query cleanDefaultPort_fragment)

/-- `Spelling.basicParser_congr_prefixes` for `parse`, in the environments `mkEC` (`Spelling.envOf cfg I none none src` is
    `mkEC cfg I src (goRunes src)` by `rfl`; the lemmas of the `Web` files are stated on `mkEC` and use those on `envOf` so) -/
theorem parse_congr_c (cfg : Cfg) (I : Idna) (A1 A2 rest : Bytes) (h1 : A1 ≠ []) (n1 : NoWs A1) (h2 : A2 ≠ []) (n2 : NoWs A2)
    (hloop : ∀ vs : List VErr, (cfg.report = false → vs = []) →
      LoopEq (mkEC cfg I (A1 ++ restText rest) (goRunes (A1 ++ restText rest))) (ps0 .schemeStart { verrs := vs })
        (mkEC cfg I (A2 ++ restText rest) (goRunes (A2 ++ restText rest))) (ps0 .schemeStart { verrs := vs })) :
    parse cfg I (A1 ++ rest) = parse cfg I (A2 ++ rest) :=
  basicParser_congr_prefixes cfg I none none A1 A2 rest h1 n1 h2 n2 hloop

theorem specialSchemeC_graphic {cfg : Cfg} {s : Bytes} (h : SpecialSchemeC cfg s) : Graphic s :=
  fun b hb => schemeB_graphic b (schemeText_all s h.text b hb)

theorem specialSchemeC_default (s dp : Bytes) (h : Cfg.special? {} s = some dp) (hdp : dp ≠ []) : SpecialSchemeC {} s :=
  webCfg_default.toWebParseCfg.specialSchemeC s dp h hdp

theorem steps_authority (cfg : Cfg) (I : Idna) (src : Bytes) (rs : Str) (s : Bytes) (hs : SpecialSchemeC cfg s) (u0 : Url)
    (c : Char) (tl : Str) (hd : rs = asStr s ++ ':' :: '/' :: '/' :: c :: tl) (h1 : c ≠ '/') (h2 : c ≠ '\\') :
    ∃ p, Steps (mkEC cfg I src rs) (ps0 .schemeStart u0) ⟨.authority, p, false, [], false, false, false, { u0 with scheme := s }⟩ ∧
      Cur (mkEC cfg I src rs) ⟨.authority, p, false, [], false, false, false, { u0 with scheme := s }⟩
        (asStr s ++ [':', '/', '/']) (c :: tl) := by
  obtain ⟨p, S0, C0⟩ := steps_scheme (mkEC cfg I src rs) s hs.text _ u0 hd
  rw [hs.lower] at S0 C0
  obtain ⟨S1, C1⟩ := steps_colon_auth _ C0 rfl rfl hs.notFile (fun _ => ⟨c, tl, rfl, h1, h2⟩)
  exact ⟨_, S0.trans S1, C1⟩

section
variable (cfg : Cfg) (I : Idna) (src : Bytes) (rs : Str)

/-- the authority state reads `a ++ X` (`X`: the `:port` behind the host text, which it buffers too) up to the delimiter
    and goes back over it; then the host state reads the host text `a` (any authority flags: with or without credentials
    before) -/
theorem steps_host_read (a X : Bytes) (ha : hostText a = true) (hX : ∀ b ∈ X, authB true b = true) (u : Url) (af pw : Bool)
    (pre tl : Str) (htl : Delim tl) (p : Int)
    (hc : Cur (mkEC cfg I src rs) ⟨.authority, p, false, [], af, false, pw, u⟩ pre (asStr (a ++ X) ++ tl)) :
    ∃ p', Steps (mkEC cfg I src rs) ⟨.authority, p, false, [], af, false, pw, u⟩ ⟨.host, p', false, a, af, false, pw, u⟩ ∧
      Cur (mkEC cfg I src rs) ⟨.host, p', false, a, af, false, pw, u⟩ (pre ++ asStr a) (asStr X ++ tl) := by
  obtain ⟨hne, hB, hscan⟩ := hostText_spec ha
  have hall : ∀ b ∈ a ++ X, authB true b = true := fun b hb =>
    (List.mem_append.mp hb).elim (fun h => (hostB_spec b true (hB b h)).2.2.2.2.2.1) (hX b)
  obtain ⟨S1, C1⟩ := steps_auth_host (a ++ X) tl hc htl rfl rfl (authB_copied _ u (fun _ => rfl) hall)
    (fun _ h => by cases a with | nil => exact hne rfl | cons _ _ => simp at h)
  obtain ⟨S3, C3⟩ := scan_host a (asStr X ++ tl) false (by rw [← List.append_assoc, ← asStr_append]; exact C1) (Or.inl rfl)
    (fun h => by cases h) (hostB_copied _ _ (fun _ => rfl) hB) hscan
  exact ⟨_, S1.trans S3, C3⟩

theorem steps_host_state (s a X : Bytes) (T : Str) (hs : SpecialSchemeC cfg s) (ha : hostText a = true)
    (hX : ∀ b ∈ X, authB true b = true) (hT : Delim T) (u0 : Url)
    (hrs : rs = asStr s ++ ':' :: '/' :: '/' :: (asStr (a ++ X) ++ T)) :
    ∃ p, Steps (mkEC cfg I src rs) (ps0 .schemeStart u0) ⟨.host, p, false, a, false, false, false, { u0 with scheme := s }⟩ ∧
      Cur (mkEC cfg I src rs) ⟨.host, p, false, a, false, false, false, { u0 with scheme := s }⟩
        (asStr s ++ [':', '/', '/'] ++ asStr a) (asStr X ++ T) := by
  obtain ⟨hne, hB, _⟩ := hostText_spec ha
  obtain ⟨c0, a', rfl⟩ : ∃ c0 a', a = c0 :: a' := by
    cases a with
    | nil => exact absurd rfl hne
    | cons c0 a' => exact ⟨c0, a', rfl⟩
  have hc := hostB_spec c0 true (hB c0 (by simp))
  obtain ⟨p, S1, C1⟩ := steps_authority cfg I src rs s hs u0 (bc c0) (asStr (a' ++ X) ++ T) hrs hc.2.1 (hc.2.2.2.2.1 rfl)
  obtain ⟨p', S2, C2⟩ := steps_host_read cfg I src rs (c0 :: a') X ha hX _ false false _ T hT p C1
  exact ⟨p', S1.trans S2, C2⟩

end

theorem cleanDefaultPort_c (cfg : Cfg) (V : Url) (dp : Bytes) (dv : Nat) (h1 : cfg.special? V.scheme = some dp)
    (h2 : V.port = none) (h3 : V.decodedPort = 0) :
    cleanDefaultPort cfg { V with decodedPort := dv, port := some dp } = V := by
  unfold cleanDefaultPort
  simp only [h1]
  cases V
  simp_all

theorem graphic_css : Graphic (lit "://") := by unfold Graphic; decide

theorem prefix_graphic_c (cfg : Cfg) (s a : Bytes) (hs : SpecialSchemeC cfg s) (ha : hostText a = true) :
    Graphic (s ++ lit "://" ++ a) :=
  ((specialSchemeC_graphic hs).append graphic_css).append (hostText_graphic ha)

theorem digits_graphic {p : Bytes} (hpd : ∀ b ∈ p, isDigitN b.toNat = true) : Graphic p :=
  fun b hb => ⟨(digit_spec b (hpd b hb)).2.2.2.1, (digit_spec b (hpd b hb)).2.2.2.2⟩

/-- a port text the port state accepts: decimal digits, value at most 65535 (`none`: no `:` at all) -/
def PortOk (po : Option Bytes) : Prop := ∀ p, po = some p → (∀ b ∈ p, isDigitN b.toNat = true) ∧ digitsVal 10 p ≤ 65535

instance (po : Option Bytes) : Decidable (PortOk po) := by
  unfold PortOk
  cases po with
  | none => exact isTrue (fun p h => by cases h)
  | some p =>
    exact decidable_of_iff ((∀ b ∈ p, isDigitN b.toNat = true) ∧ digitsVal 10 p ≤ 65535)
      ⟨fun h q hq => by cases hq; exact h, fun h => h p rfl⟩

theorem portU_frame (cfg : Cfg) (V : Url) (po : Option Bytes) :
    (portU cfg V po).scheme = V.scheme ∧ (portU cfg V po).username = V.username ∧
    (portU cfg V po).password = V.password ∧ (portU cfg V po).host = V.host ∧
    (portU cfg V po).path = V.path ∧ (portU cfg V po).query = V.query ∧
    (portU cfg V po).fragment = V.fragment := by
  cases po with
  | none => exact ⟨rfl, rfl, rfl, rfl, rfl, rfl, rfl⟩
  | some p =>
    by_cases hp : p = []
    · rw [portU_empty cfg V p hp]
      exact ⟨rfl, rfl, rfl, rfl, rfl, rfl, rfl⟩
    · rw [portU_digits cfg V p hp]
      exact ⟨cleanDefaultPort_scheme .., cleanDefaultPort_username .., cleanDefaultPort_password .., cleanDefaultPort_host ..,
        cleanDefaultPort_path .., cleanDefaultPort_query .., cleanDefaultPort_fragment ..⟩


theorem portText_graphic (po : Option Bytes) (hpo : PortOk po) : Graphic (portText po) := by
  cases po with
  | none => intro b hb; cases hb
  | some p => exact Graphic.cons (by decide) (digits_graphic (hpo p rfl).1)

theorem portText_auth (po : Option Bytes) (hpo : PortOk po) : ∀ b ∈ portText po, authB true b = true := by
  cases po with
  | none => intro b hb; cases hb
  | some p =>
    intro b hb
    rcases List.mem_cons.mp hb with h | h
    · subst h; decide
    · exact (digit_spec b ((hpo p rfl).1 b h)).2.2.1

section
variable {e : Env} {ps : PS} {pre : Str}

/-- the host state of a special scheme with the host text in its buffer, in front of the optional `:port` and a delimiter,
    when the host parser accepts the text (`Run.steps_host_exit` with the host parser's flag computed) … -/
theorem steps_host_exit_special {h' : Bytes} (po : Option Bytes) (tl : Str) (hc : Cur e ps pre (asStr (portText po) ++ tl))
    (hd : Delim tl) (hst : ps.state = .host) (hov : e.ov = none) (hsp : e.cfg.isSpecial ps.url.scheme = true)
    (hfl : ps.bracketFlag = false) (hne : ps.buffer ≠ []) (hout : (parseHost e.cfg e.I ps.url ps.buffer false).out = .ok h')
    (hpo : PortOk po) :
    ∃ p', Steps e ps
        { ps with pointer := p', state := .pathStart, buffer := [],
                  url := portU e.cfg { (parseHost e.cfg e.I ps.url ps.buffer false).url with host := some h' } po } ∧
      Cur e
        { ps with pointer := p', state := .pathStart, buffer := [],
                  url := portU e.cfg { (parseHost e.cfg e.I ps.url ps.buffer false).url with host := some h' } po }
        (pre ++ asStr (portText po)) tl := by
  have h0 : (!isSp e ps.url) = false := by simp [isSp, hsp]
  obtain ⟨ps', S, C, hps'⟩ := Run.steps_host_exit (h' := h') po tl hc hd hst hov hfl (fun _ => hne) (h0 ▸ hout) hpo
  obtain ⟨p', hp'⟩ : ∃ p', ps'.pointer = p' := ⟨_, rfl⟩
  rw [hp', h0] at hps'
  subst hps'
  exact ⟨p', S, C⟩

/-- … and when it rejects it -/
theorem step_host_exit_fail (po : Option Bytes) (tl : Str) (hc : Cur e ps pre (asStr (portText po) ++ tl)) (hd : Delim tl)
    (hst : ps.state = .host) (hov : e.ov = none) (hsp : e.cfg.isSpecial ps.url.scheme = true) (hfl : ps.bracketFlag = false)
    (hne : ps.buffer ≠ []) (hno : ∀ h, (parseHost e.cfg e.I ps.url ps.buffer false).out ≠ .ok h) :
    step e ps = .done (hostFail (parseHost e.cfg e.I ps.url ps.buffer false)) := by
  cases po with
  | none => exact step_host_end_fail (by simpa [portText, asStr] using hc) hd hst hov hsp hne hno
  | some x => exact step_host_colon_fail (tl := asStr x ++ tl) (by simpa [portText, asStr, bc_colon] using hc) hst hov hsp hfl hne hno

end

/-- the environment on `A ++ Z` for an ASCII `A` -/
def envAC (cfg : Cfg) (I : Idna) (A Z : Bytes) : Env := mkEC cfg I (A ++ Z) (asStr A ++ goRunes Z)

theorem envAC_eq (cfg : Cfg) (I : Idna) (A Z : Bytes) (gA : Graphic A) : mkEC cfg I (A ++ Z) (goRunes (A ++ Z)) = envAC cfg I A Z := by
  unfold envAC; rw [goRunes_clean A Z (graphic_ascii gA)]

theorem envAC_assoc (cfg : Cfg) (I : Idna) (A B Z : Bytes) (gB : Graphic B) : envAC cfg I (A ++ B) Z = envAC cfg I A (B ++ Z) := by
  unfold envAC; rw [goRunes_clean B Z (graphic_ascii gB), asStr_append, List.append_assoc, List.append_assoc]

theorem shift_tail_c (cfg : Cfg) (I : Idna) (A1 A2 Z : Bytes) (gA1 : Graphic A1) (gA2 : Graphic A2) (F1 F2 : PS)
    (C1 : Cur (envAC cfg I A1 Z) F1 (asStr A1) (goRunes Z)) (C2 : Cur (envAC cfg I A2 Z) F2 (asStr A2) (goRunes Z))
    (hF : F2 = { F1 with pointer := F2.pointer }) (hst : PastAuth F1.state) :
    LoopEq (envAC cfg I A1 Z) F1 (envAC cfg I A2 Z) F2 := by
  rw [← envAC_eq cfg I A1 Z gA1, ← envAC_eq cfg I A2 Z gA2] at *
  exact loopEq_prefixes cfg I none none A1 A2 Z (graphic_ascii gA1) (graphic_ascii gA2) F1 F2 C1 C2 hF hst.1 hst.2.1 hst.2.2

/-- both texts are run to the path start state with the same record (`hport`: a neutral port part leaves the record as
    it is), then the shift lemma.  `hu0p`, `hu0d`: the record starts without a port, so that `cleanDefaultPort` gives back
    the record itself. -/
theorem portc_loopEq (cfg : Cfg) (I : Idna) (s dp a p R : Bytes) (u0 : Url) (hu0p : u0.port = none) (hu0d : u0.decodedPort = 0)
    (hs : SpecialSchemeC cfg s) (hsd : cfg.special? s = some dp) (hle : digitsVal 10 dp ≤ 65535)
    (ha : hostText a = true) (hp : PortNeutral dp p) (hR : Delim (goRunes R)) :
    LoopEq (envAC cfg I (s ++ lit "://" ++ a ++ 0x3a :: p) R) (ps0 .schemeStart u0)
      (envAC cfg I (s ++ lit "://" ++ a) R) (ps0 .schemeStart u0) := by
  obtain ⟨hpd, hpv⟩ := hp
  have gA2 : Graphic (s ++ lit "://" ++ a) := prefix_graphic_c cfg s a hs ha
  have gA1 : Graphic (s ++ lit "://" ++ a ++ 0x3a :: p) := gA2.append (Graphic.cons (by decide) (digits_graphic hpd))
  generalize hA1 : s ++ lit "://" ++ a ++ 0x3a :: p = A1 at gA1 ⊢
  generalize hA2 : s ++ lit "://" ++ a = A2 at gA2 ⊢
  have e1 : asStr A1 = asStr s ++ [':', '/', '/'] ++ asStr a ++ asStr (portText (some p)) := by
    rw [← hA1, lit_css]; simp [asStr, bc_colon, bc_slash, portText]
  have e2 : asStr A2 = asStr s ++ [':', '/', '/'] ++ asStr a ++ asStr (portText none) := by
    rw [← hA2, lit_css]; simp [asStr, bc_colon, bc_slash, portText]
  have hne : a ≠ [] := (hostText_spec ha).1
  have hple : digitsVal 10 p ≤ 65535 := by
    rcases hpv with rfl | h
    · decide
    · have := digitsVal_itoa (digitsVal 10 p); rw [h] at this; omega
  have hpo : PortOk (some p) := fun x hx => by cases hx; exact ⟨hpd, hple⟩
  obtain ⟨p1, H1, K1⟩ := steps_host_state cfg I (A1 ++ R) (asStr A1 ++ goRunes R) s a (portText (some p)) (goRunes R) hs ha
    (portText_auth _ hpo) hR u0 (by rw [e1]; simp [asStr])
  obtain ⟨p2, H2, K2⟩ := steps_host_state cfg I (A2 ++ R) (asStr A2 ++ goRunes R) s a (portText none) (goRunes R) hs ha
    (portText_auth _ nofun) hR u0 (by rw [e2]; simp [asStr])
  generalize hU : ({ u0 with scheme := s } : Url) = U at H1 K1 H2 K2
  have hUs : U.scheme = s := by rw [← hU]
  have hsp : cfg.isSpecial U.scheme = true := by rw [hUs]; exact hs.special
  by_cases hok : ∃ h', (parseHost cfg I U a false).out = .ok h'
  · obtain ⟨h', hout⟩ := hok
    have hF := hostRec_frame cfg I U a false h'
    obtain ⟨q1, S1, C1⟩ := steps_host_exit_special (h' := h') (some p) _ K1 hR rfl rfl hsp rfl hne hout hpo
    obtain ⟨q2, S2, C2⟩ := steps_host_exit_special (h' := h') none _ K2 hR rfl rfl hsp rfl hne hout nofun
    generalize hV : ({ (parseHost cfg I U a false).url with host := some h' } : Url) = V at hF
    have hVs : cfg.special? V.scheme = some dp := by rw [hF.1, hUs]; exact hsd
    have hVp : V.port = none := by rw [hF.2.2.1, ← hU]; exact hu0p
    have hVd : V.decodedPort = 0 := by rw [hF.2.2.2, ← hU]; exact hu0d
    have hport : portU cfg V (some p) = V := by
      by_cases hp0 : p = []
      · exact portU_empty cfg V p hp0
      · rw [portU_digits cfg V p hp0, hpv.resolve_left hp0, cleanDefaultPort_c cfg V dp _ hVs hVp hVd]
    simp only [mkEC_cfg, mkEC_I, hV, hport] at S1 C1
    simp only [mkEC_cfg, mkEC_I, hV, portU] at S2 C2
    rw [← e1] at C1
    rw [← e2] at C2
    have L := shift_tail_c cfg I A1 A2 R gA1 gA2 _ _ C1 C2 rfl (by decide : PastAuth .pathStart)
    exact LoopEq.steps_l (H1.trans S1) (LoopEq.steps_r (H2.trans S2) L)
  · have hno : ∀ h, (parseHost cfg I U a false).out ≠ .ok h := fun h hh => hok ⟨h, hh⟩
    exact LoopEq.steps_l H1 (LoopEq.steps_r H2 (LoopEq.done
      (step_host_exit_fail (some p) _ K1 hR rfl rfl hsp rfl hne hno) (step_host_exit_fail none _ K2 hR rfl rfl hsp rfl hne hno)))

/-- **the parse-level statement** for an arbitrary configuration: the scheme is special under `cfg`, lower case, not `file`
    (`SpecialSchemeC`, which `WebParseCfg` provides), its default port is at most 65535 -/
theorem portc_parse_eq (cfg : Cfg) (I : Idna) (s dp a p rest : Bytes) (hs : SpecialSchemeC cfg s) (hsd : cfg.special? s = some dp)
    (hle : digitsVal 10 dp ≤ 65535) (ha : hostText a = true) (hp : PortNeutral dp p) (hrest : DelimB rest) :
    parse cfg I (s ++ lit "://" ++ a ++ 0x3a :: p ++ rest) = parse cfg I (s ++ lit "://" ++ a ++ rest) := by
  have gA2 := prefix_graphic_c cfg s a hs ha
  have gA1 : Graphic (s ++ lit "://" ++ a ++ 0x3a :: p) := gA2.append (Graphic.cons (by decide) (digits_graphic hp.1))
  have hne : s ++ lit "://" ++ a ≠ [] := by simp [lit_css]
  apply parse_congr_c cfg I _ _ rest (by simp) (graphic_noWs gA1) hne (graphic_noWs gA2)
  intro vs _
  rw [envAC_eq cfg I _ _ gA1, envAC_eq cfg I _ _ gA2]
  exact portc_loopEq cfg I s dp a p (restText rest) { verrs := vs } rfl rfl hs hsd hle ha hp (restText_delim rest hrest)

/-- every (unshadowed) default port of the special-scheme table is a canonical decimal number ≤ 65535
    (a Boolean test on the table; `WithSpecialSchemes` accepts any strings) -/
def PortTableOk (cfg : Cfg) : Prop :=
  cfg.specialSchemes.all (fun e => e.2.isEmpty || cfg.special? e.1 != some e.2 ||
    (e.2.all (fun b => isDigitN b.toNat) && itoa (digitsVal 10 e.2) == e.2 && decide (digitsVal 10 e.2 ≤ 65535))) = true

instance (cfg : Cfg) : Decidable (PortTableOk cfg) := by unfold PortTableOk; infer_instance

theorem PortTableOk.spec {cfg : Cfg} (h : PortTableOk cfg) (s dp : Bytes) (hsd : cfg.special? s = some dp) (hdp : dp ≠ []) :
    (∀ b ∈ dp, isDigitN b.toNat = true) ∧ itoa (digitsVal 10 dp) = dp ∧ digitsVal 10 dp ≤ 65535 := by
  have hc := special_all h hsd hdp
  simp only [Bool.and_eq_true, beq_iff_eq, List.all_eq_true, decide_eq_true_eq] at hc
  exact ⟨hc.1.1, hc.1.2, hc.2⟩

theorem portTableOk_default : PortTableOk {} := by decide +kernel
theorem portTableOk_gsb : PortTableOk gsbCfg := by decide +kernel
theorem portTableOk_semantic : PortTableOk semanticCfg := by decide +kernel

theorem portNeutral_default_c {cfg : Cfg} (h : PortTableOk cfg) (s dp : Bytes) (hsd : cfg.special? s = some dp) (hdp : dp ≠ [])
    (n : Nat) : PortNeutral dp (List.replicate n 0x30 ++ dp) := by
  obtain ⟨hdig, hcan, _⟩ := h.spec s dp hsd hdp
  refine ⟨?_, Or.inr (by rw [digitsVal_zeros, hcan])⟩
  intro b hb
  rcases List.mem_append.mp hb with h | h
  · rw [(List.mem_replicate.mp h).2]; decide
  · exact hdig b h

end WhatwgUrl.Proofs.Web
#print axioms WhatwgUrl.Proofs.Web.portc_parse_eq
