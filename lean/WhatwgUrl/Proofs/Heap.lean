import WhatwgUrl.Impl.Heap
import WhatwgUrl.Proofs.HeapInvQuery
/-
  The base of the heap level: the heap predicates (`OwnSp`, `InSync`, `obsAll`, `Separated`), one characterisation lemma per
  heap primitive and for `attach`, and one case lemma per compound operation: a fact about such an operation is proved of
  the primitives it is composed of, without walking through its definition again.
-/
namespace WhatwgUrl.Proofs
open WhatwgUrl WhatwgUrl.Impl

/-- object i's list is its own: it exists and its back-pointer designates i.  The pointer structure under its other names:
    `spLive` (Bool, one object: the handle is below `sps.length`; `spLive_of_ownSp`), `HeapInv.LiveR` (that for every
    object), `SyncInv.Linked` (first clause: `OwnSp` of every object, `Linked.ownSp`; second: every list has an owner, whose
    current list it is; `Linked.sep` gives `Separated` of any two objects) -/
def OwnSp (H : Heap) (i : Nat) : Prop :=
  ∀ o, H.urls[i]? = some o → ∀ s, o.sp = some s → ∃ so, H.sps[s]? = some so ∧ so.url = some i

/-- the query of object i equals the serialization of its list (the C12 synchronisation invariant), when it has a list -/
def InSync (H : Heap) (i : Nat) : Prop :=
  ∀ o, H.urls[i]? = some o → ∀ s, o.sp = some s → ∀ so, H.sps[s]? = some so →
    queryG o.u = spString o.cfg so.params

/-- everything observable about object i: its value and its parameter list -/
def obsAll (H : Heap) (i : Nat) : Option (Url × Option Pairs) :=
  (H.urls[i]?).map fun o => (o.u, o.sp.bind fun s => (H.sps[s]?).map (·.params))

/-- instance search runs out of size on the nested `Option (Url × Option Pairs)`; give it the inner step -/
instance instDecEqObs : DecidableEq (Url × Option Pairs) := fun a b => instDecidableEqProd a b

/-- two url objects share no mutable state: different objects, different lists
    (that no list of one points back at the other is expressed by `OwnSp` of both) -/
def Separated (H : Heap) (a b : Nat) : Prop :=
  a ≠ b ∧ (∀ oa ob, H.urls[a]? = some oa → H.urls[b]? = some ob → ∀ sa sb, oa.sp = some sa → ob.sp = some sb → sa ≠ sb)

/-- object b's list handle (if any) designates an existing list — the decidable core of `OwnSp` that the
    allocation-sensitive frame property needs -/
def spLive (H : Heap) (b : Nat) : Bool :=
  match H.urls[b]? with
  | none => true
  | some ob =>
    match ob.sp with
    | none => true
    | some sb => decide (sb < H.sps.length)

theorem Separated.symm {H : Heap} {a b : Nat} (h : Separated H a b) : Separated H b a :=
  ⟨fun e => h.1 e.symm, fun ob oa hb ha sb sa hsb hsa e => h.2 oa ob ha hb sa sb hsa hsb e.symm⟩

theorem obsAll_congr {H H' : Heap} {b : Nat} (hu : H'.urls[b]? = H.urls[b]?)
    (hs : ∀ ob sb, H.urls[b]? = some ob → ob.sp = some sb → H'.sps[sb]? = H.sps[sb]?) : obsAll H' b = obsAll H b := by
  unfold obsAll
  rw [hu]
  cases h : H.urls[b]? with
  | none => rfl
  | some ob =>
    cases hsp : ob.sp with
    | none => simp [hsp]
    | some sb => simp [hsp, hs ob sb h hsp]

/-- the list `SearchParams()` creates for a url that has none: the urlencoded parse of its query -/
def IndepHist.initP (cfg : Cfg) (u : Url) : Pairs :=
  match u.query with
  | some q => spInit cfg q
  | none => []

end WhatwgUrl.Proofs

namespace WhatwgUrl.Impl.Heap
open WhatwgUrl WhatwgUrl.Impl
open WhatwgUrl.Proofs.IndepHist (initP)

@[simp] theorem allocUrl_urls (H : Heap) (o : UrlObj) : (H.allocUrl o).1.urls = H.urls ++ [o] := rfl
@[simp] theorem allocUrl_sps (H : Heap) (o : UrlObj) : (H.allocUrl o).1.sps = H.sps := rfl
@[simp] theorem allocUrl_snd (H : Heap) (o : UrlObj) : (H.allocUrl o).2 = H.urls.length := rfl
@[simp] theorem allocSp_urls (H : Heap) (o : SpObj) : (H.allocSp o).1.urls = H.urls := rfl
@[simp] theorem allocSp_sps (H : Heap) (o : SpObj) : (H.allocSp o).1.sps = H.sps ++ [o] := rfl
@[simp] theorem allocSp_snd (H : Heap) (o : SpObj) : (H.allocSp o).2 = H.sps.length := rfl

theorem lt_of_getElem?_eq_some {α} {l : List α} {i : Nat} {a : α} (h : l[i]? = some a) : i < l.length := by
  rcases Nat.lt_or_ge i l.length with h' | h'
  · exact h'
  · rw [List.getElem?_eq_none h'] at h; cases h

theorem getElem?_append_singleton_lt {α} (l : List α) (x : α) {j : Nat} (h : j < l.length) : (l ++ [x])[j]? = l[j]? :=
  List.getElem?_append_left h

theorem getElem?_append_singleton_iff {α} (l : List α) (x a : α) (k : Nat) :
    (l ++ [x])[k]? = some a ↔ l[k]? = some a ∨ (k = l.length ∧ a = x) := by
  rcases Nat.lt_or_ge k l.length with hk | hk
  · rw [List.getElem?_append_left hk]
    constructor
    · exact Or.inl
    · rintro (h | ⟨h, _⟩)
      · exact h
      · omega
  · rw [List.getElem?_append_right hk, List.getElem?_eq_none hk]
    constructor
    · intro h
      cases hd : k - l.length with
      | zero => rw [hd] at h; cases h; exact Or.inr ⟨by omega, rfl⟩
      | succ d => rw [hd] at h; cases h
    · rintro (h | ⟨h, rfl⟩)
      · cases h
      · subst h; simp

theorem getElem?_set_of_some {α} {l : List α} {i : Nat} {a : α} (x : α) (j : Nat) (h : l[i]? = some a) :
    (l.set i x)[j]? = if j = i then some x else l[j]? := by
  have hi := lt_of_getElem?_eq_some h
  rw [List.getElem?_set]
  by_cases hji : j = i
  · subst hji; simp [hi]
  · have : ¬ i = j := fun e => hji e.symm
    simp [hji, this]

@[simp] theorem setUrl_sps (H : Heap) (i : Nat) (f : UrlObj → UrlObj) : (H.setUrl i f).sps = H.sps := by
  unfold setUrl; split <;> rfl

theorem setUrl_urls (H : Heap) (i : Nat) (f : UrlObj → UrlObj) (j : Nat) :
    (H.setUrl i f).urls[j]? = if j = i then (H.urls[i]?).map f else H.urls[j]? := by
  unfold setUrl
  split
  · next o h =>
    show (H.urls.set i (f o))[j]? = _
    rw [getElem?_set_of_some _ _ h, h]; rfl
  · next h =>
    by_cases hji : j = i
    · subst hji; simp [h]
    · simp [hji]

theorem setUrl_urls_some {H : Heap} {i j : Nat} {f : UrlObj → UrlObj} {o : UrlObj} (h : (H.setUrl i f).urls[j]? = some o) :
    (∃ oi, H.urls[i]? = some oi ∧ o = f oi) ∨ H.urls[j]? = some o := by
  rw [setUrl_urls] at h
  split at h
  · cases hi : H.urls[i]? with
    | none => rw [hi] at h; cases h
    | some oi => rw [hi] at h; cases h; exact Or.inl ⟨oi, rfl, rfl⟩
  · exact Or.inr h

@[simp] theorem setUrl_urls_length (H : Heap) (i : Nat) (f : UrlObj → UrlObj) : (H.setUrl i f).urls.length = H.urls.length := by
  unfold setUrl; split
  · simp
  · rfl

theorem setUrl_urls_self (H : Heap) (i : Nat) (f : UrlObj → UrlObj) : (H.setUrl i f).urls[i]? = (H.urls[i]?).map f := by
  rw [setUrl_urls]; simp

theorem setUrl_urls_ne (H : Heap) (i : Nat) (f : UrlObj → UrlObj) {j : Nat} (h : j ≠ i) : (H.setUrl i f).urls[j]? = H.urls[j]? := by
  rw [setUrl_urls]; simp [h]

@[simp] theorem setSp_urls (H : Heap) (s : Nat) (f : SpObj → SpObj) : (H.setSp s f).urls = H.urls := by
  unfold setSp; split <;> rfl

theorem setSp_sps (H : Heap) (s : Nat) (f : SpObj → SpObj) (t : Nat) :
    (H.setSp s f).sps[t]? = if t = s then (H.sps[s]?).map f else H.sps[t]? := by
  unfold setSp
  split
  · next o h =>
    show (H.sps.set s (f o))[t]? = _
    rw [getElem?_set_of_some _ _ h, h]; rfl
  · next h =>
    by_cases hts : t = s
    · subst hts; simp [h]
    · simp [hts]

theorem setSp_sps_some {H : Heap} {s t : Nat} {f : SpObj → SpObj} {so : SpObj} (h : (H.setSp s f).sps[t]? = some so) :
    (∃ os, H.sps[s]? = some os ∧ so = f os) ∨ H.sps[t]? = some so := by
  rw [setSp_sps] at h
  split at h
  · cases hs : H.sps[s]? with
    | none => rw [hs] at h; cases h
    | some os => rw [hs] at h; cases h; exact Or.inl ⟨os, rfl, rfl⟩
  · exact Or.inr h

@[simp] theorem setSp_sps_length (H : Heap) (s : Nat) (f : SpObj → SpObj) : (H.setSp s f).sps.length = H.sps.length := by
  unfold setSp; split
  · simp
  · rfl

theorem setSp_sps_self (H : Heap) (s : Nat) (f : SpObj → SpObj) : (H.setSp s f).sps[s]? = (H.sps[s]?).map f := by
  rw [setSp_sps]; simp

theorem setSp_sps_ne (H : Heap) (s : Nat) (f : SpObj → SpObj) {t : Nat} (h : t ≠ s) : (H.setSp s f).sps[t]? = H.sps[t]? := by
  rw [setSp_sps]; simp [h]

@[simp] theorem setValue_sps (H : Heap) (i : Nat) (r : Res) : (H.setValue i r).sps = H.sps := by
  unfold setValue; simp

theorem setValue_urls (H : Heap) (i : Nat) (r : Res) (j : Nat) :
    (H.setValue i r).urls[j]? = if j = i then (H.urls[i]?).map (fun o => { o with u := r.url }) else H.urls[j]? := by
  unfold setValue; rw [setUrl_urls]

theorem setValue_urls_self (H : Heap) (i : Nat) (r : Res) :
    (H.setValue i r).urls[i]? = (H.urls[i]?).map (fun o => { o with u := r.url }) := by
  rw [setValue_urls]; simp

theorem setValue_urls_ne (H : Heap) (i : Nat) (r : Res) {j : Nat} (h : j ≠ i) : (H.setValue i r).urls[j]? = H.urls[j]? := by
  rw [setValue_urls]; simp [h]

/-- `update()` does nothing, or writes `some (serialization)` to the query of the url the list points back at -/
theorem spUpdate_cases {P : Heap → Prop} (H : Heap) (s : Nat) (h0 : P H)
    (h1 : ∀ so j uo, H.sps[s]? = some so → so.url = some j → H.urls[j]? = some uo →
      P (H.setUrl j fun o => { o with u := { o.u with query := some (spString uo.cfg so.params) } })) :
    P (H.spUpdate s) := by
  unfold spUpdate
  split
  · exact h0
  · next so hso =>
    split
    · exact h0
    · next j hj =>
      split
      · exact h0
      · next uo huo =>
        dsimp only
        split
        · exact h1 so j uo hso hj huo
        · exact h0

@[simp] theorem spUpdate_sps (H : Heap) (s : Nat) : (H.spUpdate s).sps = H.sps :=
  spUpdate_cases (P := fun H' => H'.sps = H.sps) H s rfl (fun _ _ _ _ _ _ => setUrl_sps _ _ _)

@[simp] theorem spUpdate_urls_length (H : Heap) (s : Nat) : (H.spUpdate s).urls.length = H.urls.length :=
  spUpdate_cases (P := fun H' => H'.urls.length = H.urls.length) H s rfl (fun _ _ _ _ _ _ => setUrl_urls_length _ _ _)

theorem spUpdate_urls_ne (H : Heap) (s k : Nat) (h : ∀ so, H.sps[s]? = some so → so.url ≠ some k) :
    (H.spUpdate s).urls[k]? = H.urls[k]? :=
  spUpdate_cases (P := fun H' => H'.urls[k]? = H.urls[k]?) H s rfl (fun so j _ hso hj _ =>
    setUrl_urls_ne _ _ _ (fun e => h so hso (by rw [hj, e])))

/-- the query `update()` leaves behind: `some (serialization)`, except that an empty serialization does not create a
    query (`none` stays `none`) -/
def updQuery (old : Option Bytes) (q : Bytes) : Option Bytes := if q = [] ∧ old = none then none else some q

theorem updQuery_getD (old : Option Bytes) (q : Bytes) : (updQuery old q).getD [] = q := by
  unfold updQuery; split
  · rename_i h; rw [h.1]; rfl
  · rfl

theorem search_updQuery (u : Url) (q : Bytes) :
    search { u with query := updQuery u.query q } = if q = [] then [] else 0x3f :: q := by
  unfold search updQuery
  cases q <;> cases u.query <;> simp

theorem spUpdate_owner (H : Heap) (s j : Nat) (so : SpObj) (uo : UrlObj)
    (hso : H.sps[s]? = some so) (hj : so.url = some j) (huo : H.urls[j]? = some uo) :
    (H.spUpdate s).urls[j]? =
      some { uo with u := { uo.u with query := updQuery uo.u.query (spString uo.cfg so.params) } } := by
  unfold spUpdate updQuery
  simp only [hso, hj, huo]
  split
  · rename_i hc
    have hn : ¬ (spString uo.cfg so.params = [] ∧ uo.u.query = none) := by
      rintro ⟨h1, h2⟩
      rw [h1, h2] at hc
      simp at hc
    rw [if_neg hn, setUrl_urls_self, huo]; rfl
  · rename_i hc
    have hy : spString uo.cfg so.params = [] ∧ uo.u.query = none := by
      cases hq : spString uo.cfg so.params <;> cases hqq : uo.u.query <;> simp_all
    rw [if_pos hy, huo, ← hy.2]

theorem spMutate_owner (H : Heap) (i s : Nat) (m : SpMut) (o : UrlObj) (so : SpObj)
    (ho : H.urls[i]? = some o) (hso : H.sps[s]? = some so) (hown : so.url = some i) :
    (H.spMutate s m).sps[s]? = some { so with params := applyMut m so.params } ∧
    (H.spMutate s m).urls[i]? =
      some { o with u := { o.u with query := updQuery o.u.query (spString o.cfg (applyMut m so.params)) } } := by
  have h1 : (H.setSp s fun o => { o with params := applyMut m o.params }).sps[s]? =
      some { so with params := applyMut m so.params } := by
    rw [setSp_sps_self, hso]; rfl
  exact ⟨by unfold spMutate; rw [spUpdate_sps]; exact h1,
    spUpdate_owner _ s i _ o h1 hown (by rw [setSp_urls]; exact ho)⟩

/-- url object `i` gets a fresh list with contents `p` that points back at it: what `newUrlSearchParams` does with the
    parsed query, and `Clone` with a copy of the source's list -/
def attach (H : Heap) (i : Nat) (p : Pairs) : Heap :=
  (H.allocSp { url := some i, params := p }).1.setUrl i fun o => { o with sp := some H.sps.length }

@[simp] theorem attach_sps (H : Heap) (i : Nat) (p : Pairs) : (H.attach i p).sps = H.sps ++ [{ url := some i, params := p }] := by
  simp [attach]

theorem attach_urls (H : Heap) (i : Nat) (p : Pairs) (uo : UrlObj) (h : H.urls[i]? = some uo) (j : Nat) :
    (H.attach i p).urls[j]? = if j = i then some { uo with sp := some H.sps.length } else H.urls[j]? := by
  unfold attach
  rw [setUrl_urls]
  simp [h]

@[simp] theorem attach_urls_length (H : Heap) (i : Nat) (p : Pairs) : (H.attach i p).urls.length = H.urls.length := by
  simp [attach]

theorem newUrlSearchParams_eq (H : Heap) (i : Nat) (uo : UrlObj) (h : H.urls[i]? = some uo) :
    H.newUrlSearchParams i = H.attach i (initP uo.cfg uo.u) := by
  unfold newUrlSearchParams
  simp only [h]
  rfl

theorem newUrlSearchParams_invalid (H : Heap) (i : Nat) (h : H.urls[i]? = none) : H.newUrlSearchParams i = H := by
  unfold newUrlSearchParams; simp only [h]

theorem searchParams_fst (H : Heap) (i : Nat) :
    (H.searchParams i).1 = H ∨
      ((∀ o, H.urls[i]? = some o → o.sp = none) ∧ (H.searchParams i).1 = H.newUrlSearchParams i) := by
  unfold searchParams
  split
  · exact Or.inl rfl
  · next o ho =>
    split
    · exact Or.inl rfl
    · next hn => exact Or.inr ⟨fun o' ho' => by rw [ho] at ho'; cases ho'; exact hn, rfl⟩

theorem set_eq_of_ne_search (I : Idna) (H : Heap) (i : Nat) (st : Setter) (v : Bytes) (hst : st ≠ .search) :
    H.set I i st v =
      match H.urls[i]? with
      | none => (H, .url)
      | some uo => (H.setValue i (setU uo.cfg I st uo.u v), (setU uo.cfg I st uo.u v).ret) := by
  cases st <;> first | exact absurd rfl hst | rfl

/-- every outcome of `SetSearch`, heap and return value, with what decides it; `H1` is the heap after the value-level write -/
theorem setSearch_cases {P : Heap × Ret → Prop} (I : Idna) (H : Heap) (i : Nat) (v : Bytes)
    (h0 : H.urls[i]? = none → P (H, .url))
    (h1 : ∀ uo, H.urls[i]? = some uo →
      let r := setSearchU uo.cfg I uo.u v
      let H1 := H.setValue i r
      (v.isEmpty = true →
        (uo.sp = none → P (H1, r.ret)) ∧ (∀ s, uo.sp = some s → P (H1.setSp s fun o => { o with params := [] }, r.ret))) ∧
      (v.isEmpty = false →
        (uo.sp = none → P (H1.newUrlSearchParams i, r.ret)) ∧
        (∀ s, uo.sp = some s → H1.sps[s]? = none → P (H1, r.ret)) ∧
        (∀ s so, uo.sp = some s → H1.sps[s]? = some so → so.url.bind (H1.urls[·]?) = none → P (H1, .panic 30)) ∧
        (∀ s so owner, uo.sp = some s → H1.sps[s]? = some so → so.url.bind (H1.urls[·]?) = some owner →
          (r.url.query = none → P (H1, .panic 31)) ∧
          (∀ q, r.url.query = some q → P (H1.setSp s fun o => { o with params := spInit owner.cfg q }, r.ret))))) :
    P (H.setSearch I i v) := by
  cases ho : H.urls[i]? with
  | none =>
    have hr : H.setSearch I i v = (H, .url) := by unfold setSearch; simp only [ho]
    rw [hr]; exact h0 ho
  | some uo =>
    obtain ⟨hE, hN⟩ := h1 uo ho
    unfold setSearch
    simp only [ho]
    split
    · next hv =>
      cases hs : uo.sp with
      | none => exact (hE hv).1 hs
      | some s => exact (hE hv).2 s hs
    · next hv =>
      obtain ⟨hnew, hdang, h30, hown⟩ := hN (by simpa using hv)
      cases hs : uo.sp with
      | none => exact hnew hs
      | some s =>
        simp only []
        split
        · next hso => exact hdang s hs hso
        · next so hso =>
          split
          · next hb => exact h30 s so hs hso hb
          · next owner hb =>
            split
            · next hq => exact (hown s so owner hs hso hb).1 hq
            · next q hq => exact (hown s so owner hs hso hb).2 q hq

/-- what a setter does to the heap: nothing on an invalid handle; otherwise the value-level write `H1`, after which
    `SetSearch` may replace the contents of the object's list or create a list for an object that has none.
    Every heap predicate that survives these steps survives `set`. -/
theorem set_fst_cases {P : Heap → Prop} (I : Idna) (H : Heap) (i : Nat) (st : Setter) (v : Bytes)
    (h0 : H.urls[i]? = none → P H)
    (h1 : ∀ uo, H.urls[i]? = some uo → P (H.setValue i (setU uo.cfg I st uo.u v)) ∧ (st = .search →
      (∀ s p, uo.sp = some s → P ((H.setValue i (setU uo.cfg I st uo.u v)).setSp s fun o => { o with params := p })) ∧
      (uo.sp = none → P ((H.setValue i (setU uo.cfg I st uo.u v)).newUrlSearchParams i)))) :
    P (H.set I i st v).1 := by
  by_cases hst : st = .search
  · subst hst
    refine setSearch_cases (P := fun x => P x.1) I H i v h0 (fun uo ho => ?_)
    obtain ⟨hv, h2⟩ := h1 uo ho
    obtain ⟨hsp, hnew⟩ := h2 rfl
    exact ⟨fun _ => ⟨fun _ => hv, fun s hs => hsp s _ hs⟩,
      fun _ => ⟨hnew, fun _ _ _ => hv, fun _ _ _ _ _ => hv, fun s _ _ hs _ _ => ⟨fun _ => hv, fun _ _ => hsp s _ hs⟩⟩⟩
  · rw [set_eq_of_ne_search I H i st v hst]
    cases ho : H.urls[i]? with
    | none => exact h0 ho
    | some uo => exact (h1 uo ho).1

theorem spInit_nil (cfg : Cfg) : spInit cfg [] = [] := by
  simp [spInit, splitOn]

theorem setSearchU_empty_query (cfg : Cfg) (I : Idna) (u : Url) (v : Bytes) (hv : v.isEmpty = true) :
    (setSearchU cfg I u v).url.query = none := by
  unfold setSearchU
  simp only [hv, if_true]
  split
  · split <;> rfl
  · rfl

/-- `SetSearch` on an object whose list points back at it: one equation (the panic sites 30/31 and the dangling-handle
    branch are excluded by the pointer structure and by `setSearchU_query_isSome`) -/
theorem setSearch_of_list (I : Idna) (H : Heap) (i s : Nat) (v : Bytes) (uo : UrlObj) (so : SpObj)
    (ho : H.urls[i]? = some uo) (hs : uo.sp = some s) (hso : H.sps[s]? = some so) (hown : so.url = some i) :
    H.setSearch I i v =
      ((H.setValue i (setSearchU uo.cfg I uo.u v)).setSp s fun o =>
        { o with params := spInit uo.cfg ((setSearchU uo.cfg I uo.u v).url.query.getD []) },
       (setSearchU uo.cfg I uo.u v).ret) := by
  have hs1 : (H.setValue i (setSearchU uo.cfg I uo.u v)).sps[s]? = some so := by
    rw [setValue_sps]; exact hso
  cases hv : v.isEmpty with
  | true =>
    unfold setSearch
    simp only [ho, hs, hv, if_true]
    rw [setSearchU_empty_query uo.cfg I uo.u v hv]
    simp only [Option.getD_none, spInit_nil]
  | false =>
    have hown1 : (so.url.bind ((H.setValue i (setSearchU uo.cfg I uo.u v)).urls[·]?)) =
        some { uo with u := (setSearchU uo.cfg I uo.u v).url } := by
      rw [hown]; show (H.setValue i _).urls[i]? = _; rw [setValue_urls_self, ho]; rfl
    have hq := Proofs.HeapInvQuery.setSearchU_query_isSome uo.cfg I uo.u v hv
    cases hqq : (setSearchU uo.cfg I uo.u v).url.query with
    | none => rw [hqq] at hq; cases hq
    | some q =>
      unfold setSearch
      simp only [ho, hs, hs1, hown1, hqq, hv, Bool.false_eq_true, if_false, Option.getD_some]

theorem setSearch_of_list_spec (I : Idna) (H : Heap) (i s : Nat) (v : Bytes) (uo : UrlObj) (so : SpObj)
    (ho : H.urls[i]? = some uo) (hs : uo.sp = some s) (hso : H.sps[s]? = some so) (hown : so.url = some i) :
    (H.setSearch I i v).1.urls[i]? = some { uo with u := (setSearchU uo.cfg I uo.u v).url } ∧
    (H.setSearch I i v).1.sps[s]? =
      some { so with params := spInit uo.cfg ((setSearchU uo.cfg I uo.u v).url.query.getD []) } := by
  rw [setSearch_of_list I H i s v uo so ho hs hso hown]
  exact ⟨by rw [setSp_urls, setValue_urls_self, ho]; rfl, by rw [setSp_sps_self, setValue_sps, hso]; rfl⟩

theorem setSearchU_params (cfg : Cfg) (I : Idna) (u : Url) (v : Bytes) :
    (v = [] → (setSearchU cfg I u v).url.query = none ∧ spInit cfg ((setSearchU cfg I u v).url.query.getD []) = []) ∧
    (v ≠ [] → ∃ q, (setSearchU cfg I u v).url.query = some q ∧
      spInit cfg ((setSearchU cfg I u v).url.query.getD []) = spInit cfg q) := by
  refine ⟨fun hv => ?_, fun hv => ?_⟩
  · have hq := setSearchU_empty_query cfg I u v (by rw [hv]; rfl)
    exact ⟨hq, by rw [hq]; exact spInit_nil cfg⟩
  · obtain ⟨q, hq⟩ := Proofs.HeapInvQuery.setSearchU_query_some cfg I u v (by cases v <;> simp_all)
    exact ⟨q, hq, by rw [hq]; rfl⟩

theorem setSearch_of_nolist (I : Idna) (H : Heap) (i : Nat) (v : Bytes) (uo : UrlObj)
    (ho : H.urls[i]? = some uo) (hs : uo.sp = none) :
    (H.setSearch I i v).1 =
      if v.isEmpty then H.setValue i (setSearchU uo.cfg I uo.u v)
      else (H.setValue i (setSearchU uo.cfg I uo.u v)).newUrlSearchParams i := by
  unfold setSearch
  simp only [ho, hs]
  split <;> rfl

theorem allocRes_spec (H : Heap) (cfg : Cfg) (r : Res) :
    (∀ j, j < H.urls.length → (H.allocRes cfg r).1.urls[j]? = H.urls[j]?) ∧ (H.allocRes cfg r).1.sps = H.sps ∧
    (∀ k, (H.allocRes cfg r).2 = some k → k = H.urls.length ∧ ∃ ok, (H.allocRes cfg r).1.urls[k]? = some ok ∧ ok.sp = none) := by
  unfold allocRes
  split
  · refine ⟨fun j hj => List.getElem?_append_left hj, rfl, fun k hk => ?_⟩
    cases hk
    exact ⟨rfl, _, List.getElem?_concat_length, rfl⟩
  · exact ⟨fun _ _ => rfl, rfl, fun k hk => by cases hk⟩

theorem urlParse_eq (I : Idna) (H : Heap) (i : Nat) (ref : Bytes) (uo : UrlObj) (ho : H.urls[i]? = some uo) :
    H.urlParse I i ref = ((H.allocRes uo.cfg (Impl.urlParse uo.cfg I uo.u ref)).1,
      (H.allocRes uo.cfg (Impl.urlParse uo.cfg I uo.u ref)).2, (Impl.urlParse uo.cfg I uo.u ref).ret) := by
  unfold Heap.urlParse; simp only [ho]

theorem set_invalid (I : Idna) (H : Heap) (i : Nat) (st : Setter) (v : Bytes) (hi : H.urls[i]? = none) :
    H.set I i st v = (H, .url) := by
  cases st <;> simp [Heap.set, Heap.setSearch, hi]

theorem searchParams_invalid (H : Heap) (i : Nat) (hi : H.urls[i]? = none) : H.searchParams i = (H, none) := by
  simp [Heap.searchParams, hi]

theorem clone_invalid (H : Heap) (i : Nat) (hi : H.urls[i]? = none) : H.clone i = (H, none) := by
  simp [Heap.clone, hi]

theorem urlParse_invalid (I : Idna) (H : Heap) (i : Nat) (ref : Bytes) (hi : H.urls[i]? = none) :
    H.urlParse I i ref = (H, none, .url) := by
  simp [Heap.urlParse, hi]

theorem spMutate_invalid (H : Heap) (s : Nat) (m : SpMut) (hs : H.sps[s]? = none) : H.spMutate s m = H := by
  simp [Heap.spMutate, Heap.setSp, Heap.spUpdate, hs]

theorem urlParse_spec (I : Idna) (H : Heap) (i : Nat) (ref : Bytes) :
    (∀ j, j < H.urls.length → (H.urlParse I i ref).1.urls[j]? = H.urls[j]?) ∧ (H.urlParse I i ref).1.sps = H.sps ∧
    (∀ k, (H.urlParse I i ref).2.1 = some k → k = H.urls.length ∧ ∃ ok, (H.urlParse I i ref).1.urls[k]? = some ok ∧ ok.sp = none) := by
  cases ho : H.urls[i]? with
  | none =>
    rw [urlParse_invalid I H i ref ho]
    exact ⟨fun _ _ => rfl, rfl, fun k hk => by cases hk⟩
  | some uo =>
    rw [urlParse_eq I H i ref uo ho]
    exact allocRes_spec H uo.cfg _

/-- `Clone` allocates a copy of the record; if the source's list exists, the copy gets a list with the same contents -/
theorem clone_cases {P : Heap × Option Nat → Prop} (H : Heap) (i : Nat) (h0 : H.urls[i]? = none → P (H, none))
    (h1 : ∀ o, H.urls[i]? = some o →
      let H1 := (H.allocUrl { u := { o.u with verrs := [], qlog := [] }, sp := none, cfg := o.cfg }).1
      (o.sp.bind (H.sps[·]?) = none → P (H1, some H.urls.length)) ∧
      (∀ s so, o.sp = some s → H.sps[s]? = some so → P (H1.attach H.urls.length so.params, some H.urls.length))) :
    P (H.clone i) := by
  unfold clone
  split
  · next hn => exact h0 hn
  · next o ho =>
    obtain ⟨ha, hb⟩ := h1 o ho
    dsimp only
    split
    · next hn => exact ha hn
    · next so hso =>
      cases hs : o.sp with
      | none => rw [hs] at hso; cases hso
      | some s => rw [hs] at hso; exact hb s so hs hso

theorem clone_spec (H : Heap) (i : Nat) (o : UrlObj) (ho : H.urls[i]? = some o) :
    ∃ c oc, (H.clone i).2 = some c ∧ c = H.urls.length ∧ (H.clone i).1.urls[c]? = some oc ∧
      (∀ j, j < H.urls.length → (H.clone i).1.urls[j]? = H.urls[j]?) ∧
      (∀ t, t < H.sps.length → (H.clone i).1.sps[t]? = H.sps[t]?) ∧
      oc.cfg = o.cfg ∧ { oc.u with verrs := [], qlog := [] } = { o.u with verrs := [], qlog := [] } ∧
      (o.sp = none → oc.sp = none) ∧
      (∀ s so, o.sp = some s → H.sps[s]? = some so → ∃ s' so', oc.sp = some s' ∧ s' = H.sps.length ∧
        (H.clone i).1.sps[s']? = some so' ∧ so'.params = so.params ∧ so'.url = some c) := by
  refine clone_cases (P := fun r => ∃ c oc, r.2 = some c ∧ c = H.urls.length ∧ r.1.urls[c]? = some oc ∧
      (∀ j, j < H.urls.length → r.1.urls[j]? = H.urls[j]?) ∧ (∀ t, t < H.sps.length → r.1.sps[t]? = H.sps[t]?) ∧
      oc.cfg = o.cfg ∧ { oc.u with verrs := [], qlog := [] } = { o.u with verrs := [], qlog := [] } ∧
      (o.sp = none → oc.sp = none) ∧
      (∀ s so, o.sp = some s → H.sps[s]? = some so → ∃ s' so', oc.sp = some s' ∧ s' = H.sps.length ∧
        r.1.sps[s']? = some so' ∧ so'.params = so.params ∧ so'.url = some c))
    H i (fun hn => by rw [ho] at hn; cases hn) (fun o' ho' => ?_)
  rw [ho] at ho'; cases ho'
  have hc : (H.allocUrl { u := { o.u with verrs := [], qlog := [] }, sp := none, cfg := o.cfg }).1.urls[H.urls.length]? =
      some { u := { o.u with verrs := [], qlog := [] }, sp := none, cfg := o.cfg } := List.getElem?_concat_length
  refine ⟨fun hb => ⟨_, _, rfl, rfl, hc, fun j hj => List.getElem?_append_left hj, fun t _ => rfl, rfl, rfl, fun _ => rfl,
      fun s so hs hso => by rw [hs] at hb; simp [hso] at hb⟩,
    fun s so hs hso => ⟨_, { u := { o.u with verrs := [], qlog := [] }, sp := some H.sps.length, cfg := o.cfg }, rfl, rfl, ?_,
      fun j hj => ?_, fun t ht => ?_, rfl, rfl, fun hn => (by rw [hn] at hs; cases hs), fun s' so' hs' hso' => ?_⟩⟩
  · rw [attach_urls _ _ _ _ hc, if_pos rfl]; rfl
  · rw [attach_urls _ _ _ _ hc, if_neg (Nat.ne_of_lt hj)]; exact List.getElem?_append_left hj
  · rw [attach_sps]; exact List.getElem?_append_left ht
  · rw [hs] at hs'; cases hs'
    rw [hso] at hso'; cases hso'
    exact ⟨_, { url := some H.urls.length, params := so.params }, rfl, rfl,
      by rw [attach_sps]; exact List.getElem?_concat_length, rfl, rfl⟩

end WhatwgUrl.Impl.Heap

namespace WhatwgUrl.Proofs
open WhatwgUrl WhatwgUrl.Impl

theorem spLive_of_ownSp {H : Heap} {b : Nat} (h : OwnSp H b) : spLive H b = true := by
  unfold spLive
  split
  · rfl
  · next ob hob =>
    split
    · rfl
    · next sb hsb =>
      obtain ⟨so, hso, _⟩ := h ob hob sb hsb
      exact decide_eq_true (Heap.lt_of_getElem?_eq_some hso)

end WhatwgUrl.Proofs
