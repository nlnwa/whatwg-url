import WhatwgUrl.Proofs.SyncInv
/-
  C12c: every heap transformer of `Impl/Heap.lean` preserves `Sync`; the canonicalizer and the histories then follow from
  `HeapInv.Stable`.
-/
namespace WhatwgUrl.Proofs.SyncInv
open WhatwgUrl WhatwgUrl.Impl WhatwgUrl.Impl.Heap WhatwgUrl.Proofs.IndepHist
open WhatwgUrl.Proofs.HeapInv (Stable allocRes_cases)

theorem sync_op (I : Idna) {H : Heap} (a : Nat) (op : Op) (hop : op.isLocal = true) (hS : Sync H) :
    Sync (applyOp I H a op) := by
  cases ho : H.urls[a]? with
  | none => rw [applyOp_invalid I H a op ho]; exact hS
  | some o =>
    obtain ⟨x, hx⟩ := linked_loc hS.1 ho
    exact sync_local hS (local_op I op hop hx) hx (step_op I op hx).2
      (stepV_rel I _ x op ((syncAt_iff hS.1 a).1 (hS.2 a) _ x hx))

theorem set_sync {H : Heap} (I : Idna) (i : Nat) (st : Setter) (v : Bytes) (hS : Sync H) : Sync (H.set I i st v).1 :=
  sync_op I i (.set st v) rfl hS

-- `.sp` and `.mut` do not consult the oracle `sync_op` takes: any will do
theorem searchParams_sync {H : Heap} (i : Nat) (hS : Sync H) : Sync (H.searchParams i).1 :=
  sync_op (fun b => (b, false)) i .sp rfl hS

/-- a mutation through any list handle is a mutation of the current list of the list's owner -/
theorem spMutate_sync {H : Heap} (s : Nat) (m : SpMut) (hS : Sync H) : Sync (H.spMutate s m) := by
  cases hso : H.sps[s]? with
  | none =>
    rw [spMutate_invalid H s m hso]; exact hS
  | some so =>
    obtain ⟨j, oj, _, hoj, hjs⟩ := hS.1.2 s so hso
    rw [← applyOp_mut (fun b => (b, false)) m hoj hjs]; exact sync_op _ j (.mut m) rfl hS

/-- `SetSearchParams(i, s)` is only called with the url's own list -/
def OwnList (H : Heap) (i s : Nat) : Prop := ∃ o, H.urls[i]? = some o ∧ o.sp = some s

theorem setSearchParams_sync {H : Heap} (i s : Nat) (hV : OwnList H i s) (hS : Sync H) :
    Sync (H.setSearchParams i s) := by
  obtain ⟨o, ho, hs⟩ := hV
  have hid : (H.setUrl i fun o => { o with sp := some s }) = H := by
    unfold setUrl; simp only [ho]
    have hi := lt_of_getElem?_eq_some ho
    have ho2 : o = H.urls[i] := by rw [List.getElem?_eq_getElem hi] at ho; cases ho; rfl
    have : ({ o with sp := some s } : UrlObj) = o := by cases o; simp only at hs; subst hs; rfl
    rw [this, ho2, List.set_getElem_self]
  unfold setSearchParams
  rw [hid]
  obtain ⟨so, hso, hb⟩ := hS.1.1 i o s ho hs
  have hx : Loc H i o.cfg (o.u, some so.params) := ⟨o, ho, rfl, rfl, Or.inr ⟨s, so, hs, hso, hb, rfl⟩⟩
  exact sync_local hS (local_spUpdate H i s o so ho hso hb) hx (loc_spUpdate ho hs hx)
    (fun l hl => by cases hl; exact Or.inr (updQ_query _ _ _))

theorem attach_sync {H : Heap} {i : Nat} {o : UrlObj} (p : Pairs) (hS : Sync H) (ho : H.urls[i]? = some o)
    (hn : o.sp = none) (hR : Rel o.cfg (o.u.query.getD []) p) : Sync (H.attach i p) :=
  have hx : Loc H i o.cfg (o.u, none) := ⟨o, ho, rfl, rfl, Or.inl ⟨hn, rfl⟩⟩
  sync_local hS (local_attach H i p o ho hn) hx (loc_attach p hx) (fun l hl => by cases hl; exact hR)

theorem clone_sync {H : Heap} (i : Nat) (hS : Sync H) : Sync (H.clone i).1 := by
  refine clone_cases (P := fun x => Sync x.1) H i (fun _ => hS) (fun o ho => ?_)
  have ha := sync_allocUrl { u := { o.u with verrs := [], qlog := [] }, sp := none, cfg := o.cfg } hS rfl
  refine ⟨fun _ => ha, fun s so hs hso => attach_sync (i := H.urls.length)
    (o := { u := { o.u with verrs := [], qlog := [] }, sp := none, cfg := o.cfg }) so.params ha ?_ rfl (hS.2 i o s so ho hs hso)⟩
  rw [allocUrl_urls]; exact List.getElem?_concat_length

theorem allocRes_sync {H : Heap} (cfg : Cfg) (r : Res) (hS : Sync H) : Sync (H.allocRes cfg r).1 :=
  allocRes_cases cfg r hS (fun _ => sync_allocUrl _ hS rfl)

theorem stable_sync {C : Cfg → Prop} : Stable C OwnList Sync where
  empty := sync_empty
  alloc h _ := allocRes_sync _ _ h
  set I i st v h := set_sync I i st v h
  searchParams i h := searchParams_sync i h
  spMutate s m h := spMutate_sync s m h
  setSearchParams i s hv h := setSearchParams_sync i s hv h
  clone i h := clone_sync i h

end WhatwgUrl.Proofs.SyncInv
