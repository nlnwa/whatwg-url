import WhatwgUrl.Proofs.Resolve
import WhatwgUrl.Proofs.ResolveAbs
/-
  Helper lemmas for C06c (the self-resolution law): the machine.

  An absolute reference whose scheme is not special, or is followed by `//`, is resolved without reading the base.  The
  base is OPTIONAL (`Eo I src rs ob`; `ob = none` is the environment of `parse`, `E I src rs b = Eo I src rs (some b)`).
  For the `file` scheme followed by `//` the scheme state goes to the file state, which on `/` goes to the file slash
  state, which on `/` goes to the file host state; none of the three reads the base on that path, and the file host
  state is base-free (`BF`).
-/
namespace WhatwgUrl.Proofs.Resolve
open WhatwgUrl WhatwgUrl.Impl WhatwgUrl.Proofs.Termination WhatwgUrl.Proofs.Run

theorem body_base_free_o (I : Idna) (src : Bytes) (rs : Str) (o₁ o₂ : Option Url) (q : PS) (r : Char) (h : BF q.state) :
    body (Eo I src rs o₁) q r = body (Eo I src rs o₂) q r := by
  unfold body
  split <;> rename_i heq <;> first
    | rfl
    | (exfalso; rw [heq] at h; revert h; unfold BF; decide)

theorem step_base_free_o (I : Idna) (src : Bytes) (rs : Str) (o₁ o₂ : Option Url) (ps : PS) (h : BF ps.state) :
    step (Eo I src rs o₁) ps = step (Eo I src rs o₂) ps := by
  unfold step
  simp only [Eo_runes]
  rw [body_base_free_o I src rs o₁ o₂ _ _ (by rw [next_state]; exact h)]

theorem runs_base_free_o (I : Idna) (src : Bytes) (rs : Str) (o₁ o₂ : Option Url) {ps : PS} {r : Res}
    (h : Runs (Eo I src rs o₁) ps r) : Inv rs.length ps → BF ps.state → Runs (Eo I src rs o₂) ps r := by
  induction h with
  | done hs =>
    intro _ hb
    rw [step_base_free_o I src rs o₁ o₂ _ hb] at hs
    exact Runs.done hs
  | cont hs _ ih =>
    intro hI hb
    have hI' := (step_cont (Eo I src rs o₁) _ _ hI hs).1
    have hb' := step_BF (Eo I src rs o₁) _ _ hI hb hs
    rw [step_base_free_o I src rs o₁ o₂ _ hb] at hs
    exact Runs.cont hs (ih hI' hb')

/-- the reference has a scheme which is not special or is followed by `//` (`file` included) -/
def selfIndep (rs : Str) : Bool :=
  match splitScheme rs with
  | none => false
  | some (sch, after) => !({} : Cfg).isSpecial sch || ['/', '/'].isPrefixOf after

theorem selfIndep_of_split {rs : Str} {sch : Bytes} {after : Str} (hs : splitScheme rs = some (sch, after))
    (hc : ({} : Cfg).isSpecial sch = false ∨ ['/', '/'].isPrefixOf after = true) : selfIndep rs = true := by
  unfold selfIndep
  rw [hs]
  simpa using hc

/-- a reference of this kind reaches, whatever the base, one and the same base-free state: the steps up to there
    (`Proofs/RunScan.lean`: the scheme, the colon, the slashes) do not read the base, or lead to the same state whatever
    they read -/
theorem self_common (I : Idna) (src : Bytes) (rs : Str) (u : Url) (h : selfIndep rs = true) :
    ∃ S : PS, BF S.state ∧ Inv rs.length S ∧
      ∀ ob r, Runs (Eo I src rs ob) S r → Runs (Eo I src rs ob) (P .schemeStart (-1) [] u) r := by
  match rs, h with
  | c :: rest, h =>
    unfold selfIndep splitScheme at h
    by_cases hc : isAlphaN c.toNat = true
    · simp only [hc, if_true] at h
      cases hsp : schemeSplit rest (utf8Char (lowerC c)) with
      | none => rw [hsp] at h; cases h
      | some pr =>
        obtain ⟨sch, after⟩ := pr
        rw [hsp] at h
        simp only [Bool.or_eq_true, Bool.not_eq_true'] at h
        obtain ⟨w, rfl, hw, hsch⟩ := schemeSplit_spec rest _ sch after hsp
        -- the scheme state in front of the colon, for every base
        have hS : ∀ ob, Steps (Eo I src (c :: (w ++ ':' :: after)) ob) (P .schemeStart (-1) [] u)
              (P .scheme (-1 + ((c :: w).length : Int)) sch u) ∧
            Cur (Eo I src (c :: (w ++ ':' :: after)) ob) (P .scheme (-1 + ((c :: w).length : Int)) sch u) ([c] ++ w) (':' :: after) := by
          intro ob
          have hc0 : Cur (Eo I src (c :: (w ++ ':' :: after)) ob) (P .schemeStart (-1) [] u) [] (c :: (w ++ ':' :: after)) :=
            ⟨rfl, rfl, rfl⟩
          have := steps_scheme c w (':' :: after) hc0 rfl hc hw
          simp only [List.nil_append, List.flatMap_cons] at this
          rw [hsch]
          exact this
        -- what is asked of the state `S` reached after the colon
        have fin : ∀ (S : PS), BF S.state →
            (∀ ob, Steps (Eo I src (c :: (w ++ ':' :: after)) ob) (P .scheme (-1 + ((c :: w).length : Int)) sch u) S ∧
              ∃ pre tl, Cur (Eo I src (c :: (w ++ ':' :: after)) ob) S pre tl) →
            ∃ S : PS, BF S.state ∧ Inv (c :: (w ++ ':' :: after)).length S ∧ ∀ ob r,
              Runs (Eo I src (c :: (w ++ ':' :: after)) ob) S r →
              Runs (Eo I src (c :: (w ++ ':' :: after)) ob) (P .schemeStart (-1) [] u) r :=
          fun S hbf hk => by
            obtain ⟨_, _, _, hcur⟩ := hk none
            exact ⟨S, hbf, hcur.inv, fun ob r hr => ((hS ob).1.trans (hk ob).1).runs hr⟩
        by_cases hspc : ({} : Cfg).isSpecial sch = true
        · -- special: followed by `//`
          have hpf : ['/', '/'].isPrefixOf after = true := by
            rcases h with h | h
            · rw [hspc] at h; cases h
            · exact h
          obtain ⟨after2, rfl⟩ := isPrefixOf_elim hpf
          by_cases hf : sch = lit "file"
          · subst hf
            refine fin (P .fileHost (-1 + ((c :: w).length : Int) + 1 + 1 + 1) [] { u with scheme := lit "file", host := some [] })
              (Or.inl (by simp only [P]; decide)) fun ob => ?_
            obtain ⟨_, hc2⟩ := hS ob
            obtain ⟨t3, hc3⟩ := hc2.one (step_colon_file hc2 rfl rfl Mute.default rfl) rfl rfl
            obtain ⟨t4, hc4⟩ := hc3.one (step_file_slash hc3 rfl) rfl rfl
            obtain ⟨t5, hc5⟩ := hc4.one (step_fileSlash_slash hc4 rfl) rfl rfl
            exact ⟨(t3.trans t4).trans t5, _, _, hc5⟩
          · refine fin (P .specialAuthorityIgnoreSlashes (-1 + ((c :: w).length : Int) + 1 + 1 + 1) [] { u with scheme := sch })
              (Or.inl (by simp only [P]; decide)) fun ob => ?_
            obtain ⟨_, hc2⟩ := hS ob
            have hnf : (sch == lit "file") = false := by simpa using hf
            obtain ⟨t3, hc3⟩ := hc2.one (step_colon_special hc2 rfl rfl hnf hspc) rfl rfl
            obtain ⟨t4, hc4⟩ := hc3.two (step_slashes hc3 (by
              show (if baseHas ob sch = true then State.specialRelativeOrAuthority else State.specialAuthoritySlashes) = _ ∨
                (if baseHas ob sch = true then State.specialRelativeOrAuthority else State.specialAuthoritySlashes) = _
              cases baseHas ob sch <;> simp)) rfl rfl
            exact ⟨t3.trans t4, _, _, hc4⟩
        · have hspc' : ({} : Cfg).isSpecial sch = false := by simpa using hspc
          have hnf : (sch == lit "file") = false := RoundTrip.not_file_of_nonspecial hspc'
          by_cases hsl : ['/'].isPrefixOf after = true
          · obtain ⟨after2, rfl⟩ := isPrefixOf_elim hsl
            refine fin (P .pathOrAuthority (-1 + ((c :: w).length : Int) + 1 + 1) [] { u with scheme := sch })
              (Or.inr rfl) fun ob => ?_
            obtain ⟨_, hc2⟩ := hS ob
            obtain ⟨t3, hc3⟩ := hc2.two (step_colon_pOA hc2 rfl rfl hnf hspc') rfl rfl
            exact ⟨t3, _, _, hc3⟩
          · refine fin (P .opaquePath (-1 + ((c :: w).length : Int) + 1) [] { u with scheme := sch, path := Path.setOpaque [] })
              (Or.inl (by simp only [P]; decide)) fun ob => ?_
            obtain ⟨_, hc2⟩ := hS ob
            have hns : after.head? ≠ some '/' := by
              intro hh
              apply hsl
              cases after with
              | nil => cases hh
              | cons x t => simp at hh; subst hh; simp [List.isPrefixOf]
            obtain ⟨t3, hc3⟩ := hc2.one (step_colon_opaque hc2 rfl rfl hnf hspc' hns) rfl rfl
            exact ⟨t3, _, _, hc3⟩
    · simp only [hc, Bool.false_eq_true, if_false] at h

theorem self_indep (I : Idna) (src : Bytes) (rs : Str) (u : Url) (h : selfIndep rs = true) (o₁ o₂ : Option Url) :
    ∃ r, Runs (Eo I src rs o₁) (P .schemeStart (-1) [] u) r ∧ Runs (Eo I src rs o₂) (P .schemeStart (-1) [] u) r := by
  obtain ⟨S, hbf, hI, hrun⟩ := self_common I src rs u h
  obtain ⟨r, hr, _⟩ := Runs.exists (Eo I src rs o₁) S hI
  exact ⟨r, hrun o₁ r hr, hrun o₂ r (runs_base_free_o I src rs o₁ o₂ hr hI hbf)⟩

theorem basicParser_self_indep (I : Idna) (ref : Bytes) (h : selfIndep (goRunes (pro ref)) = true) (o₁ o₂ : Option Url) :
    basicParser {} I ref o₁ none none = basicParser {} I ref o₂ none none := by
  obtain ⟨r, h1, h2⟩ := self_indep I (pro ref) (goRunes (pro ref)) {} h o₁ o₂
  rw [Run.basicParser_of_runs Run.Mute.default (input := ref) (url := none) (ov := none) h1,
    Run.basicParser_of_runs Run.Mute.default (input := ref) (url := none) (ov := none) h2]

end WhatwgUrl.Proofs.Resolve
