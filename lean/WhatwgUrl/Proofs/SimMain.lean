import WhatwgUrl.Proofs.SimParse
import WhatwgUrl.Proofs.SimSetters
/-
  Conformance simulation: a map of the files around the per-state one-iteration lemmas (C01 / C05 assembly), the concrete
  disagreements behind `RRes'` and `BaseOk`, non-vacuity examples and the axiom audit.

  * loop lifting                     `Proofs/SimLoop.lean`      `loop_sim`, `loop_sim_for`, `loop_sim_gen`, `machine_succ`, `RPS_init`
  * prologue                         `Proofs/SimPrologue.lean`  `prologue_sim`, `goRunes_trim`, `TabNlOk_of_valid`,
                                                                `TabNlOk_of_ascii`, `TabNlOk_trim`, `TabNlOk_counterexample`
  * observation transport            `Proofs/SimObs.lean`       `RUrl.obs_href`, `RUrl.obs_protocol`, `RUrl.obs_host`, …
  * assembly, C01                    `Proofs/SimParse.lean`     `basicParser_sim_gen`; `parse_conforms_of_sim`,
                                                                `parseRef_conforms_of_sim`, `C01_parse_conforms_of_sim` and their
                                                                `'` forms; `api_conforms_of_parse`
  * setters, C05                     `Proofs/SimSetters.lean`   `Reenter`, `set_conforms_of_sim_gen`, `set_conforms_of_sim'`,
                                                                `basicParse_scheme_colon`
  * result relation, side invariant  `Proofs/SimDefs2.lean`     `RRes'`, `RStep'`, `XInv`, `BaseOk`, `HostFrame`, `StepSim'`
  * the invariant is inductive       `Proofs/SimInv.lean`       `XInv_init`, `XInv_step`
  * the 21 per-state lemmas put in   `Proofs/SimFinal.lean`     `stepSimG_all`, `basicParser_conforms`, `api_conforms`, `set_conforms`

  `StepSim I` (`SimLoop.lean`), the statement without side invariant and with the result relation `RRes` of `SimDefs.lean`,
  is unsatisfiable, and so is `StepSimFor I none`: `StepSim_false`, `StepSimFor_none_false` in `SimParse.lean`.

  What a per-state lemma provides in the form `StepSim'`, for its state `S`:
    hypotheses   `REnv e input base ov I`, `EnvOk e`, `RPS pi ss`, `XInv e pi`, `pi.state = S`; for the nine states from the
                 host state on also `YInv e pi` (so `StepSim' I ov` itself is proved for no `ov`; `stepSimG_all`)
    conclusion   `RStep' ov.isNone (step e pi) (afterRun input (Spec.run (specIdna I) input base ov ss))`, i.e.
                 * both continue and `RPS pi' ss'` (`XInv e pi'` follows centrally, from `XInv_step`), or
                 * both stop and `RRes' ov.isNone r s`: as `RRes`, and in addition
                   - `RUrl r.url s.1` also when Go returns an error (always the Go url at that moment, which corresponds
                     to the standard's url by `RPS.url`; after a host parser error by the second clause of `HostConforms`),
                   - for Go's `return nil, nil` (file host state, override, empty buffer): `ov ≠ none`, no failure on
                     the Spec side, and the urls correspond,
                   - under an override the failure flag of a failing Go run is not compared (port state, override,
                     empty buffer: Go returns `PortMissing`, the standard returns without failure).
-/
namespace WhatwgUrl.Proofs.Sim
open WhatwgUrl WhatwgUrl.Impl

/-! ### the concrete disagreements behind `RRes'` and `BaseOk` -/

private def I0 : Idna := fun s => (s, false)

/-- port setter with a value that does not start with a digit: Go returns the error `PortMissing` (failure), the
    standard returns without failure; the url is unchanged on both sides (so the setter conforms all the same) -/
example :
    (setPort {} I0 { scheme := lit "http", host := some (lit "h") } (lit "x")).ret = .err ⟨.PortMissing, true⟩ false ∧
    (setPort {} I0 { scheme := lit "http", host := some (lit "h") } (lit "x")).url = { scheme := lit "http", host := some (lit "h") } ∧
    Spec.basicParse (specIdna I0) "x".toList none (some { scheme := "http".toList, host := some "h".toList }) (some .port) =
      ({ scheme := "http".toList, host := some "h".toList }, false) := by decide +kernel

/-- host setter with the empty value on a `file:` url: Go returns `nil, nil`, the standard returns the url with the
    empty host; the urls correspond -/
example :
    (setHost {} I0 { scheme := lit "file", host := some (lit "h") } []).ret = .nilNil ∧
    (setHost {} I0 { scheme := lit "file", host := some (lit "h") } []).url = { scheme := lit "file", host := some [] } ∧
    Spec.basicParse (specIdna I0) [] none (some { scheme := "file".toList, host := some "h".toList }) (some .host) =
      ({ scheme := "file".toList, host := some [] }, false) := by decide +kernel

/-- an ill-formed base record (special scheme with an opaque path; never produced by the parser) on which the Go code
    and the standard really disagree: hence `BaseOk` -/
example :
    href (basicParser {} I0 (lit "http:y") (some { scheme := lit "http", host := some (lit "h"), path := ⟨[lit "x"], true⟩ })
      none none).url false ≠
    utf8 (Spec.serialize (Spec.basicParse (specIdna I0) "http:y".toList
      (some { scheme := "http".toList, host := some "h".toList, path := .opaque "x".toList }) none none).1 false) := by
  decide +kernel

/-! ### non-vacuity of the hypotheses of the primed forms on a concrete run -/

/-- the invariant holds initially … -/
example : XInv (envOf I0 (lit "foo://h/") none true none) (ps0Of none none) :=
  XInv_init _ _ _ rfl (fun h => by cases h)
/-- … and the two sides of the conclusion of `C01_parse_conforms_of_sim'` are really computed and equal on an example -/
example : Props.C01.obsImpl (parse {} I0 (lit " foo://u@[::1]:8/a/../b?q#f\t")) =
    Props.C01.obsSpec (Spec.apiParse (Props.C01.specIdna I0) (goRunes (lit " foo://u@[::1]:8/a/../b?q#f\t")) none) := by
  decide +kernel

end WhatwgUrl.Proofs.Sim

open WhatwgUrl.Proofs.Sim in
#print axioms loop_sim
open WhatwgUrl.Proofs.Sim in
#print axioms loop_sim_gen
open WhatwgUrl.Proofs.Sim in
#print axioms prologue_sim
open WhatwgUrl.Proofs.Sim in
#print axioms TabNlOk_of_valid
open WhatwgUrl.Proofs.Sim in
#print axioms TabNlOk_of_ascii
open WhatwgUrl.Proofs.Sim in
#print axioms TabNlOk_counterexample
open WhatwgUrl.Proofs.Sim in
#print axioms RUrl.obs_href
open WhatwgUrl.Proofs.Sim in
#print axioms RUrl.obs_host
open WhatwgUrl.Proofs.Sim in
#print axioms parse_conforms_of_sim
open WhatwgUrl.Proofs.Sim in
#print axioms parseRef_conforms_of_sim
open WhatwgUrl.Proofs.Sim in
#print axioms C01_parse_conforms_of_sim
open WhatwgUrl.Proofs.Sim in
#print axioms parse_conforms_of_sim'
open WhatwgUrl.Proofs.Sim in
#print axioms parseRef_conforms_of_sim'
open WhatwgUrl.Proofs.Sim in
#print axioms C01_parse_conforms_of_sim'
open WhatwgUrl.Proofs.Sim in
#print axioms C01_parse_conforms_of_sim_valid'
open WhatwgUrl.Proofs.Sim in
#print axioms set_conforms_of_sim'
open WhatwgUrl.Proofs.Sim in
#print axioms set_conforms_of_sim_gen
open WhatwgUrl.Proofs.Sim in
#print axioms XInv_step
open WhatwgUrl.Proofs.Sim in
#print axioms XInv_init
open WhatwgUrl.Proofs.Sim in
#print axioms StepSim_false
open WhatwgUrl.Proofs.Sim in
#print axioms StepSimFor_none_false
