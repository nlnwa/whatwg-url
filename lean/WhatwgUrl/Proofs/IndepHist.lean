import WhatwgUrl.Proofs.HeapLocal
/-
  C13b: operation histories on one heap object.  `Loc H a cfg x` is the local view of `a` (value, parser options, own list
  with back pointer) and `stepV` what an operation does to the view: every operation has the footprint `Frame` of
  `Proofs/HeapLocal.lean` and maps the view by `stepV`.
  Note: `mut` is a keyword; in `cases … with` the constructor `Op.mut` is written `«mut»`.
-/
namespace WhatwgUrl.Proofs.IndepHist
open WhatwgUrl WhatwgUrl.Impl WhatwgUrl.Impl.Heap WhatwgUrl.Proofs

inductive Op
  | set (st : Setter) (v : Bytes)
  /-- call `SearchParams()` (lazy creation) -/
  | sp
  /-- mutate the target's CURRENT list (no-op if it has none) -/
  | mut (m : Heap.SpMut)
  /-- `(*Url).Parse(ref)` with the target as base -/
  | resolve (ref : Bytes)
  /-- `Clone()` of the target -/
  | clone

/-- one operation on the target `t`.  Only `.set` and `.resolve` consult the oracle `I`; a lemma about `.sp` or `.mut` that goes
    through `applyOp` / `stepV` may be given any oracle (`fun b => (b, false)` in `SyncInvOps`, `PipelineHeap`) -/
def applyOp (I : Idna) (H : Heap) (t : Nat) : Op → Heap
  | .set st v => (H.set I t st v).1
  | .sp => (H.searchParams t).1
  | .mut m => match (H.urls[t]?).bind (·.sp) with
    | some s => H.spMutate s m
    | none => H
  | .resolve ref => (H.urlParse I t ref).1
  | .clone => (H.clone t).1

def applyOps (I : Idna) (H : Heap) (t : Nat) (ops : List Op) : Heap := ops.foldl (applyOp I · t) H

theorem applyOp_mut (I : Idna) {H : Heap} {t s : Nat} {o : UrlObj} (m : SpMut) (ho : H.urls[t]? = some o) (hs : o.sp = some s) :
    applyOp I H t (.mut m) = H.spMutate s m := by
  simp only [applyOp, ho, Option.bind_some, hs]

theorem applyOp_mut_none (I : Idna) {H : Heap} {t : Nat} {o : UrlObj} (m : SpMut) (ho : H.urls[t]? = some o) (hn : o.sp = none) :
    applyOp I H t (.mut m) = H := by
  simp only [applyOp, ho, Option.bind_some, hn]

@[simp] theorem applyOps_nil (I : Idna) (H : Heap) (t : Nat) : applyOps I H t [] = H := rfl
@[simp] theorem applyOps_cons (I : Idna) (H : Heap) (t : Nat) (op : Op) (ops : List Op) :
    applyOps I H t (op :: ops) = applyOps I (applyOp I H t op) t ops := rfl

/-- object `a` exists with value `x.1`, options `cfg`, and either no list (`x.2 = none`) or a list of its own with
    contents `x.2` -/
def Loc (H : Heap) (a : Nat) (cfg : Cfg) (x : Url × Option Pairs) : Prop :=
  ∃ o, H.urls[a]? = some o ∧ o.u = x.1 ∧ o.cfg = cfg ∧
    ((o.sp = none ∧ x.2 = none) ∨
      ∃ s so, o.sp = some s ∧ H.sps[s]? = some so ∧ so.url = some a ∧ x.2 = some so.params)

theorem Loc.ownSp {H : Heap} {a : Nat} {cfg : Cfg} {x : Url × Option Pairs} (h : Loc H a cfg x) : OwnSp H a := by
  obtain ⟨o, ho, _, _, hsp⟩ := h
  intro o' ho' s hs
  rw [ho] at ho'; cases ho'
  rcases hsp with ⟨hn, _⟩ | ⟨s', so, hs', hso, hu, _⟩
  · rw [hn] at hs; cases hs
  · rw [hs'] at hs; cases hs; exact ⟨so, hso, hu⟩

theorem Loc.obs {H : Heap} {a : Nat} {cfg : Cfg} {x : Url × Option Pairs} (h : Loc H a cfg x) : obsAll H a = some x := by
  obtain ⟨o, ho, hu, _, hsp⟩ := h
  unfold obsAll
  rw [ho]
  rcases hsp with ⟨hn, hx⟩ | ⟨s', so, hs', hso, _, hx⟩
  · simp [hn, ← hx, hu]
  · simp [hs', hso, ← hx, hu]

theorem Loc.lt {H : Heap} {a : Nat} {cfg : Cfg} {x : Url × Option Pairs} (h : Loc H a cfg x) : a < H.urls.length := by
  obtain ⟨o, ho, _⟩ := h
  exact lt_of_getElem?_eq_some ho

theorem Loc.unique {H : Heap} {a : Nat} {c c' : Cfg} {x y : Url × Option Pairs} (h : Loc H a c x) (h' : Loc H a c' y) :
    c = c' ∧ x = y := by
  obtain ⟨o1, ho1, -, hc1, -⟩ := id h
  obtain ⟨o2, ho2, -, hc2, -⟩ := id h'
  rw [ho1] at ho2; cases ho2
  exact ⟨hc1.symm.trans hc2, Option.some.inj (h.obs.symm.trans h'.obs)⟩

theorem Loc.of_ownSp {H : Heap} {a : Nat} {o : UrlObj} (ho : H.urls[a]? = some o) (hown : OwnSp H a) :
    ∃ x, Loc H a o.cfg x := by
  cases hsp : o.sp with
  | none => exact ⟨(o.u, none), o, ho, rfl, rfl, Or.inl ⟨hsp, rfl⟩⟩
  | some s =>
    obtain ⟨so, hso, hu⟩ := hown o ho s hsp
    exact ⟨(o.u, some so.params), o, ho, rfl, rfl, Or.inr ⟨s, so, hsp, hso, hu, rfl⟩⟩

theorem loc_setValue {H : Heap} {a : Nat} {cfg : Cfg} {x : Url × Option Pairs} (r : Res) (h : Loc H a cfg x) :
    Loc (H.setValue a r) a cfg (r.url, x.2) := by
  obtain ⟨o, ho, hu, hc, hsp⟩ := h
  refine ⟨{ o with u := r.url }, ?_, rfl, hc, ?_⟩
  · rw [setValue_urls_self, ho]; rfl
  · simpa only [setValue_sps] using hsp

theorem loc_setSp {H : Heap} {a : Nat} {cfg : Cfg} {u : Url} {l : Pairs} {o : UrlObj} {s : Nat} (g : Pairs → Pairs)
    (ho : H.urls[a]? = some o) (hs : o.sp = some s) (h : Loc H a cfg (u, some l)) :
    Loc (H.setSp s fun so => { so with params := g so.params }) a cfg (u, some (g l)) := by
  obtain ⟨o', ho', hu, hc, hsp⟩ := h
  rw [ho] at ho'; cases ho'
  rcases hsp with ⟨hn, _⟩ | ⟨s', so, hs', hso, hb, hx⟩
  · rw [hn] at hs; cases hs
  · rw [hs] at hs'; cases hs'
    cases hx
    refine ⟨o, by rw [setSp_urls]; exact ho, hu, hc, Or.inr ⟨s, { so with params := g so.params }, hs, ?_, hb, rfl⟩⟩
    rw [setSp_sps_self, hso]; rfl

theorem loc_attach {H : Heap} {a : Nat} {cfg : Cfg} {u : Url} (p : Pairs) (h : Loc H a cfg (u, none)) :
    Loc (H.attach a p) a cfg (u, some p) := by
  obtain ⟨o, ho, hu, hc, _⟩ := h
  refine ⟨{ o with sp := some H.sps.length }, ?_, hu, hc, Or.inr ⟨H.sps.length, { url := some a, params := p }, rfl, ?_, rfl, rfl⟩⟩
  · rw [attach_urls H a p o ho, if_pos rfl]
  · rw [attach_sps]; exact List.getElem?_concat_length

theorem loc_newUSP {H : Heap} {a : Nat} {cfg : Cfg} {u : Url} (h : Loc H a cfg (u, none)) :
    Loc (H.newUrlSearchParams a) a cfg (u, some (initP cfg u)) := by
  obtain ⟨o, ho, hu, hc, _⟩ := id h
  simp only at hu hc
  subst hu; subst hc
  rw [newUrlSearchParams_eq H a o ho]
  exact loc_attach _ h

/-- `update()` at the value level -/
def updQ (cfg : Cfg) (u : Url) (l : Pairs) : Url :=
  if ((spString cfg l).isEmpty && u.query.isSome) || !(spString cfg l).isEmpty then
    { u with query := some (spString cfg l) }
  else u

theorem updQ_eq (cfg : Cfg) (u : Url) (l : Pairs) :
    updQ cfg u l = { u with query := updQuery u.query (spString cfg l) } := by
  unfold updQ updQuery
  by_cases h : spString cfg l = [] ∧ u.query = none
  · rw [if_pos h, if_neg (by simp [h.1, h.2]), ← h.2]
  · rw [if_neg h, if_pos (by cases hq : spString cfg l <;> cases hu : u.query <;> simp_all)]

theorem updQ_query (cfg : Cfg) (u : Url) (l : Pairs) : (updQ cfg u l).query.getD [] = spString cfg l := by
  rw [updQ_eq]; exact updQuery_getD _ _

theorem loc_spUpdate {H : Heap} {a : Nat} {cfg : Cfg} {u : Url} {l : Pairs} {o : UrlObj} {s : Nat}
    (ho : H.urls[a]? = some o) (hs : o.sp = some s) (h : Loc H a cfg (u, some l)) :
    Loc (H.spUpdate s) a cfg (updQ cfg u l, some l) := by
  obtain ⟨o', ho', hu, hc, hsp⟩ := h
  rw [ho] at ho'; cases ho'
  rcases hsp with ⟨hn, _⟩ | ⟨s', so, hs', hso, hb, hx⟩
  · rw [hn] at hs; cases hs
  · rw [hs] at hs'; cases hs'
    simp only at hu hc hx
    cases hx; subst hu; subst hc
    refine ⟨_, spUpdate_owner H s a so o hso hb ho, (updQ_eq _ _ _).symm, rfl, Or.inr ⟨s, so, hs, ?_, hb, rfl⟩⟩
    rw [spUpdate_sps]; exact hso

theorem loc_of_alloc {H H' : Heap} {a : Nat} {cfg : Cfg} {x : Url × Option Pairs}
    (hu : ∀ j, j < H.urls.length → H'.urls[j]? = H.urls[j]?)
    (hs : ∀ t, t < H.sps.length → H'.sps[t]? = H.sps[t]?) (h : Loc H a cfg x) : Loc H' a cfg x := by
  obtain ⟨o, ho, hu', hc, hsp⟩ := h
  refine ⟨o, by rw [hu a (lt_of_getElem?_eq_some ho)]; exact ho, hu', hc, ?_⟩
  rcases hsp with h | ⟨s, so, hs', hso, hb, hx⟩
  · exact Or.inl h
  · exact Or.inr ⟨s, so, hs', by rw [hs s (lt_of_getElem?_eq_some hso)]; exact hso, hb, hx⟩

theorem frame_loc {H H' : Heap} {a b : Nat} {cfg : Cfg} {x : Url × Option Pairs} (hf : Frame H H' a)
    (hsep : Separated H a b) (h : Loc H b cfg x) : Loc H' b cfg x := by
  obtain ⟨o, ho, hu, hc, hsp⟩ := h
  have hb := lt_of_getElem?_eq_some ho
  refine ⟨o, by rw [hf.urls b hb (fun e => hsep.1 e.symm)]; exact ho, hu, hc, ?_⟩
  rcases hsp with h | ⟨s, so, hs, hso, hbk, hx⟩
  · exact Or.inl h
  · refine Or.inr ⟨s, so, hs, ?_, hbk, hx⟩
    rw [hf.sps s (lt_of_getElem?_eq_some hso) (fun oa hoa hsa => hsep.2 oa o hoa ho s s hsa hs rfl)]
    exact hso

/-- what an operation does to the target's observable state `(value, list)`, given the target's parser options.  In the
    case `.set .search v` with `v` non-empty and a list `l`, the arm `none => l` is never taken: after a non-empty
    `SetSearch` the query is `some _` (`HeapInvQuery.setSearchU_query_some`; in Go the other case is panic site 31) -/
def stepV (I : Idna) (cfg : Cfg) (x : Url × Option Pairs) : Op → Url × Option Pairs
  | .set st v =>
    if st = .search then
      if v.isEmpty then ((setU cfg I st x.1 v).url, x.2.map fun _ => [])
      else
        match x.2 with
        | none => ((setU cfg I st x.1 v).url, some (initP cfg (setU cfg I st x.1 v).url))
        | some l =>
          ((setU cfg I st x.1 v).url,
            some (match (setU cfg I st x.1 v).url.query with | some q => spInit cfg q | none => l))
    else ((setU cfg I st x.1 v).url, x.2)
  | .sp => (x.1, some (match x.2 with | some l => l | none => initP cfg x.1))
  | .mut m =>
    match x.2 with
    | none => x
    | some l => (updQ cfg x.1 (applyMut m l), some (applyMut m l))
  | .resolve _ => x
  | .clone => x

def runV (I : Idna) (cfg : Cfg) (x : Url × Option Pairs) (ops : List Op) : Url × Option Pairs :=
  ops.foldl (stepV I cfg) x

theorem loc_set (I : Idna) {H : Heap} {a : Nat} {cfg : Cfg} {x : Url × Option Pairs} (st : Setter) (v : Bytes)
    (h : Loc H a cfg x) : Loc (H.set I a st v).1 a cfg (stepV I cfg x (.set st v)) := by
  obtain ⟨o, ho, hu, hc, hsp⟩ := id h
  obtain ⟨u, p⟩ := x
  simp only at hu hc hsp
  subst hu; subst hc
  have h1 : Loc (H.setValue a (setU o.cfg I st o.u v)) a o.cfg ((setU o.cfg I st o.u v).url, p) := loc_setValue _ h
  by_cases hst : st = .search
  · subst hst
    have ho1 : (H.setValue a (setSearchU o.cfg I o.u v)).urls[a]? = some { o with u := (setSearchU o.cfg I o.u v).url } := by
      rw [setValue_urls_self, ho]; rfl
    show Loc (H.setSearch I a v).1 _ _ _
    simp only [stepV, if_true, setU] at h1 ⊢
    rcases hsp with ⟨hn, rfl⟩ | ⟨s, so, hs, hso, hb, rfl⟩
    · rw [setSearch_of_nolist I H a v o ho hn]
      split
      · exact h1
      · exact loc_newUSP h1
    · rw [setSearch_of_list I H a s v o so ho hs hso hb]
      have := loc_setSp (fun _ => spInit o.cfg ((setSearchU o.cfg I o.u v).url.query.getD [])) ho1 hs h1
      by_cases hv : v.isEmpty = true
      · simpa only [hv, if_true, setSearchU_empty_query o.cfg I o.u v hv, Option.getD_none, spInit_nil, Option.map_some] using this
      · obtain ⟨q, hq⟩ := HeapInvQuery.setSearchU_query_some o.cfg I o.u v (by simpa using hv)
        simpa only [hv, if_false, Bool.false_eq_true, hq, Option.getD_some] using this
  · rw [set_eq_of_ne_search I H a st v hst]
    simp only [ho, stepV, if_neg hst]
    exact h1

theorem loc_sp {H : Heap} {a : Nat} {cfg : Cfg} {x : Url × Option Pairs} (h : Loc H a cfg x) :
    Loc (H.searchParams a).1 a cfg (x.1, some (match x.2 with | some l => l | none => initP cfg x.1)) := by
  obtain ⟨o, ho, hu, hc, hsp⟩ := id h
  obtain ⟨u, p⟩ := x
  simp only at hu hc hsp
  unfold searchParams
  simp only [ho]
  rcases hsp with ⟨hn, rfl⟩ | ⟨s, so, hs, hso, hb, rfl⟩
  · simp only [hn]; exact loc_newUSP h
  · simp only [hs]; exact h

theorem loc_mut (I : Idna) {H : Heap} {a : Nat} {cfg : Cfg} {x : Url × Option Pairs} (m : SpMut) (h : Loc H a cfg x) :
    Loc (applyOp I H a (.mut m)) a cfg (stepV I cfg x (.mut m)) := by
  obtain ⟨o, ho, hu, hc, hsp⟩ := id h
  obtain ⟨u, p⟩ := x
  simp only at hu hc hsp
  rcases hsp with ⟨hn, rfl⟩ | ⟨s, so, hs, hso, hb, rfl⟩
  · rw [applyOp_mut_none I m ho hn]; exact h
  · rw [applyOp_mut I m ho hs]
    unfold spMutate
    exact loc_spUpdate (by rw [setSp_urls]; exact ho) hs
      (loc_setSp (applyMut m) ho hs h)

def Op.isLocal : Op → Bool
  | .set _ _ | .sp | .mut _ => true
  | _ => false

theorem local_op (I : Idna) {H : Heap} {a : Nat} {cfg : Cfg} {x : Url × Option Pairs} (op : Op) (hop : op.isLocal = true)
    (h : Loc H a cfg x) : Local H (applyOp I H a op) a := by
  obtain ⟨o, ho, -, -, hsp⟩ := h
  cases op with
  | set st v => exact local_set I H a st v
  | sp => exact local_searchParams H a
  | «mut» m =>
    rcases hsp with ⟨hn, _⟩ | ⟨s, so, hs, hso, hb, _⟩
    · rw [applyOp_mut_none I m ho hn]; exact Local.refl _ _
    · rw [applyOp_mut I m ho hs]; exact local_spMutate H a s m o so ho hs hso hb
  | resolve ref => cases hop
  | clone => cases hop

theorem step_op (I : Idna) {H : Heap} {a : Nat} {cfg : Cfg} {x : Url × Option Pairs} (op : Op) (h : Loc H a cfg x) :
    Frame H (applyOp I H a op) a ∧ Loc (applyOp I H a op) a cfg (stepV I cfg x op) := by
  cases op with
  | set st v => exact ⟨(local_op I (.set st v) rfl h).toFrame, loc_set I st v h⟩
  | sp => exact ⟨(local_op I .sp rfl h).toFrame, loc_sp h⟩
  | «mut» m => exact ⟨(local_op I (.mut m) rfl h).toFrame, loc_mut I m h⟩
  | resolve ref =>
    obtain ⟨hu, hs, _⟩ := urlParse_spec I H a ref
    exact ⟨frame_of_alloc hu (fun t _ => congrArg (·[t]?) hs) h.lt, loc_of_alloc hu (fun t _ => congrArg (·[t]?) hs) h⟩
  | clone =>
    obtain ⟨o, ho, _⟩ := id h
    obtain ⟨c, oc, _, _, _, hu, hs, _⟩ := clone_spec H a o ho
    exact ⟨frame_of_alloc hu hs h.lt, loc_of_alloc hu hs h⟩

theorem applyOp_invalid (I : Idna) (H : Heap) (a : Nat) (op : Op) (ha : H.urls[a]? = none) : applyOp I H a op = H := by
  cases op with
  | set st v => show (H.set I a st v).1 = H; rw [set_invalid I H a st v ha]
  | sp => show (H.searchParams a).1 = H; rw [searchParams_invalid H a ha]
  | «mut» m => unfold applyOp; simp only [ha, Option.bind_none]
  | resolve ref => show (H.urlParse I a ref).1 = H; rw [urlParse_invalid I H a ref ha]
  | clone => show (H.clone a).1 = H; rw [clone_invalid H a ha]

theorem steps (I : Idna) (ops : List Op) : ∀ {H : Heap} {a : Nat} {cfg : Cfg} {x : Url × Option Pairs}, Loc H a cfg x →
    Frame H (applyOps I H a ops) a ∧ Loc (applyOps I H a ops) a cfg (runV I cfg x ops) := by
  induction ops with
  | nil => intro H a cfg x h; exact ⟨Frame.refl _ _, h⟩
  | cons op ops ih =>
    intro H a cfg x h
    obtain ⟨f1, l1⟩ := step_op I op h
    obtain ⟨f2, l2⟩ := ih l1
    exact ⟨f1.trans f2, l2⟩

theorem stepV_set_fst (I : Idna) (cfg : Cfg) (x : Url × Option Pairs) (st : Setter) (v : Bytes) :
    (stepV I cfg x (.set st v)).1 = (setU cfg I st x.1 v).url := by
  simp only [stepV]
  split
  · split
    · rfl
    · split <;> rfl
  · rfl

end WhatwgUrl.Proofs.IndepHist
