import WhatwgUrl.Proofs.HeapInv
import WhatwgUrl.Proofs.SaneInv
/-
  C02c: the heap invariant `HeapInv.HInvR` at `RC` (beside `HeapInv.recInv_pathOk`, its instance at `PathOk`) — every url
  object's record is `SaneC` for its own configuration, and "file" is a special scheme of that configuration (the
  hypothesis under which `SaneC` is inductive, see `Proofs/SaneInv.lean`).
-/
namespace WhatwgUrl.Proofs.HeapInv
open WhatwgUrl WhatwgUrl.Impl
open WhatwgUrl.Proofs.SaneInv (SaneC SP parse_saneC setU_saneC)

def FileSpecial (cfg : Cfg) : Prop := cfg.isSpecial (lit "file") = true

instance (cfg : Cfg) : Decidable (FileSpecial cfg) := by unfold FileSpecial; infer_instance

def RC (cfg : Cfg) (u : Url) : Prop := FileSpecial cfg ∧ SaneC cfg u

instance (cfg : Cfg) (u : Url) : Decidable (RC cfg u) := by unfold RC SaneC SP; infer_instance

theorem recInv_saneC : RecInv RC FileSpecial where
  pathOk h := h.2.2
  setter I s v h := ⟨h.1, setU_saneC _ I s _ v h.1 h.2⟩
  query q h := ⟨h.1, h.2⟩
  ghost h := ⟨h.1, h.2⟩
  resolve I ref h hr := ⟨h.1, parse_saneC _ I ref (some _) (by intro b hb; cases hb; exact h.2) hr⟩
  parse I raw hC hr := ⟨hC, parse_saneC _ I raw none (by intro b hb; cases hb) hr⟩

end WhatwgUrl.Proofs.HeapInv
