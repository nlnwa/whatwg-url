import WhatwgUrl.Proofs.PipelineSpelled
import WhatwgUrl.Proofs.PipelineParse
/-
  C17c: the state machine under a state override (the setters of the canonicalization pipeline) on PLAIN texts — any
  configuration whose percent-encode sets leave the unreserved characters alone: the pathname, hash and hostname setters
  store what they are given (the hostname setter: what the host parser makes of it).
-/
namespace WhatwgUrl.Proofs.Idem
open WhatwgUrl WhatwgUrl.Impl WhatwgUrl.Proofs.IPv4 WhatwgUrl.Proofs.Trim WhatwgUrl.Proofs.RoundTrip WhatwgUrl.Proofs.Spelling
open WhatwgUrl.Proofs.Pipeline (unres spB Plain Tok Seg)

theorem unres_char : ∀ b : UInt8, unres b = true →
    b.toNat < 0x80 ∧ isUrlCp (bc b).toNat = true ∧ bc b ≠ '%' ∧ bc b ≠ '/' ∧ bc b ≠ '\\' ∧ bc b ≠ '?' ∧ bc b ≠ '#' ∧
    0x21 ≤ b.toNat ∧ b.toNat < 0x7f ∧ isTabNl b = false :=
  forall_uint8 (by decide +kernel)

theorem invalidPct_ne (c : Char) (tl : Str) (h : c ≠ '%') : invalidPct (c :: tl) = false := by
  simp [invalidPct, h]

theorem unitChecks_unres (e : Env) (ps : PS) (k : Nat) (b : UInt8) (tl : Str) (hp : ps.pointer = (k : Int))
    (hd : e.runes.drop k = bc b :: tl) (hb : unres b = true) (K : PS → StepR) :
    unitChecks e ps (bc b) K = K ps := by
  obtain ⟨_, h2, h3, _⟩ := unres_char b hb
  have hi : remainingInvalidPct e.runes ps = false := by
    simp only [remainingInvalidPct, runesFrom, hp, Int.toNat_natCast, hd]
    exact invalidPct_ne _ _ h3
  simp [unitChecks, h2, hi]

theorem quietOn_urlcp (e : Env) (w : Bytes) (tl : Str) (h : ∀ b ∈ w, isUrlCp (bc b).toNat = true ∧ bc b ≠ '%') :
    Run.QuietOn e (asStr w) tl := by
  intro a b hab hb
  cases b with
  | nil => exact absurd rfl hb
  | cons c t =>
    have hm : c ∈ asStr w := by rw [hab]; simp
    obtain ⟨x, hx, rfl⟩ := List.mem_map.mp hm
    have hi := invalidPct_ne (bc x) (t ++ tl) (h x hx).2
    exact ⟨Or.inr ⟨fun c' hc' => by
      simp only [List.cons_append, List.head?_cons, Option.mem_def, Option.some.injEq] at hc'
      subst hc'
      exact Or.inl (h x hx).1, hi⟩, fun h' => by rw [List.cons_append, hi] at h'; cases h'⟩

theorem spelled_refl : ∀ p : Bytes, Props.C18.Spelled p p
  | [] => .nil
  | x :: p => .lit x (spelled_refl p)

/-- a plain path segment: a non-empty text over the unreserved characters other than `.` and `..` -/
def PSeg (p : Bytes) : Prop := Plain p ∧ p ≠ lit "." ∧ p ≠ lit ".."

theorem PSeg.seg {p : Bytes} (h : PSeg p) : Seg p p := ⟨⟨h.1, spelled_refl p⟩, h.2.1, h.2.2⟩

theorem tok_refl {p : Bytes} (h : Plain p) : Tok p p := ⟨h, spelled_refl p⟩

theorem unres_not_drive : ∀ b : UInt8, unres b = true → (b == 0x3a || b == 0x7c) = false := forall_uint8 (by decide +kernel)

theorem plain_not_drive {p : Bytes} (h : ∀ b ∈ p, unres b = true) : isWindowsDriveLetter p = false := by
  match p, h with
  | [], _ => rfl
  | [_], _ => rfl
  | [a, b], h =>
    simp only [isWindowsDriveLetter]
    rw [unres_not_drive b (h b (by simp))]
    simp
  | _ :: _ :: _ :: _, _ => rfl

theorem pseg_facts {p : Bytes} (h : PSeg p) :
    isSingleDot p = false ∧ isDoubleDot p = false ∧ isWindowsDriveLetter p = false ∧ p.length > 0 := by
  obtain ⟨_, h1, h2⟩ := segOk_spec (Pipeline.seg_segOk h.seg)
  refine ⟨h1, h2, plain_not_drive h.1.2, ?_⟩
  cases p with
  | nil => exact absurd rfl h.1.1
  | cons _ _ => simp

theorem removeTabNl_none (s : Bytes) (h : ∀ b ∈ s, isTabNl b = false) : removeTabNl s = (s, false) := by
  unfold removeTabNl
  have hf : s.filter (fun x => !isTabNl x) = s := List.filter_eq_self.mpr (fun b hb => by simp [h b hb])
  have ha : s.any isTabNl = false := by
    rw [List.any_eq_false]; intro b hb; simp [h b hb]
  rw [hf, ha]

/-- the environment of a setter call: no base, state override `st` (`Web.mkEC` is the one without override) -/
def envS (cfg : Cfg) (I : Idna) (v : Bytes) (st : State) : Env := ⟨cfg, I, v, asStr v, none, some st⟩

/-- the twin of `Run.basicParser_of_runs` under a state override: on an ASCII text without tab / newline the prologue does
    nothing and the run is the loop on the text -/
theorem basicParser_ov_of_runs {cfg : Cfg} {I : Idna} {v : Bytes} {u u' : Url} {st : State} (h1 : ∀ b ∈ v, isTabNl b = false) (h2 : Ascii v)
    (H : Resolve.Runs (envS cfg I v st) (ps0 st u) ⟨u', .url⟩) : basicParser cfg I v none (some u) (some st) = ⟨u', .url⟩ := by
  have e : basicParser cfg I v none (some u) (some st) = loop (envS cfg I v st) (fuelFor (asStr v)) (ps0 st u) := by
    unfold basicParser
    simp only [Option.isNone_some, Bool.false_and, Bool.false_eq_true, if_false, Option.getD_some, removeTabNl_none v h1,
      goRunes_ascii v h2]
    rfl
  rw [e]
  exact Resolve.Runs.loop_fuelFor H rfl rfl

theorem plain_graphic {p : Bytes} (h : ∀ b ∈ p, unres b = true) : (∀ b ∈ p, isTabNl b = false) ∧ Ascii p :=
  ⟨fun b hb => (unres_char b (h b hb)).2.2.2.2.2.2.2.2.2, fun b hb => (unres_char b (h b hb)).1⟩

theorem pathText_clean (ps : List Bytes) (h : ∀ p ∈ ps, PSeg p) :
    (∀ b ∈ pathText ps, isTabNl b = false) ∧ Ascii (pathText ps) := by
  constructor
  · intro b hb
    obtain ⟨p, hp, hb⟩ := List.mem_flatMap.mp hb
    rcases List.mem_cons.mp hb with rfl | hb
    · decide
    · exact (plain_graphic (h p hp).1.2).1 b hb
  · intro b hb
    obtain ⟨p, hp, hb⟩ := List.mem_flatMap.mp hb
    rcases List.mem_cons.mp hb with rfl | hb
    · decide
    · exact (plain_graphic (h p hp).1.2).2 b hb

theorem setPathname_plain (cfg : Cfg) (I : Idna) (u : Url) (ps : List Bytes)
    (hset : ∀ b : UInt8, unres b = true → cfg.pathSet.has b.toNat = false)
    (ho : u.path.opq = false) (hne : ps ≠ []) (hps : ∀ p ∈ ps, PSeg p) :
    setU cfg I .pathname u (pathText ps) = ⟨{ u with path := ⟨ps, false⟩ }, .url⟩ := by
  show setPathname cfg I u (pathText ps) = _
  unfold setPathname
  rw [ho]
  simp only [Bool.false_eq_true, if_false]
  obtain ⟨hc1, hc2⟩ := pathText_clean ps hps
  apply basicParser_ov_of_runs hc1 hc2
  obtain ⟨p1, more, rfl⟩ : ∃ p1 more, ps = p1 :: more := by
    cases ps with
    | nil => exact absurd rfl hne
    | cons a b => exact ⟨a, b, rfl⟩
  have e1 : asStr (pathText (p1 :: more)) = '/' :: (asStr (p1 ++ more.flatMap (fun s => 0x2f :: s)) ++ []) := by
    simp [pathText, asStr, bc_slash]
  have hc0 : Run.Cur (envS cfg I (pathText (p1 :: more)) .pathStart) (ps0 .pathStart { u with path := Path.init }) []
      ('/' :: (asStr (p1 ++ more.flatMap (fun s => 0x2f :: s)) ++ [])) := e1 ▸ Run.Cur.start rfl rfl
  obtain ⟨S0, C0⟩ := hc0.one (Run.step_pathStart_slash hc0 rfl) rfl rfl
  obtain ⟨ps', pre', S1, C1, hps', hdrv, hadd⟩ := Run.steps_path (cfg.isSpecial u.scheme) more p1 [] _ _ C0 rfl rfl rfl
    (fun s hs => ⟨fun b hb => by
        obtain ⟨_, _, _, g4, g5, g6, g7, _⟩ := unres_char b ((hps s hs).1.2 b hb)
        exact ⟨hset b ((hps s hs).1.2 b hb), g4, g6, g7, fun _ => g5⟩,
      (pseg_facts (hps s hs)).1, (pseg_facts (hps s hs)).2.1⟩)
    (fun h => by simp [(pseg_facts (hps p1 (by simp))).2.2.1] at h)
    (fun a s b hs => quietOn_urlcp _ _ _ fun x hx => by
      have hu := (hps s (by rw [hs]; simp)).1.2 x hx
      exact ⟨(unres_char x hu).2.1, (unres_char x hu).2.2.1⟩)
    (Or.inr ⟨(fun s hs => by simp [ps0, Path.init] at hs), fun s hs => by
      have := (pseg_facts (hps s (List.dropLast_subset _ hs))).2.2.2
      intro h; rw [h] at this; cases this⟩)
  have hst' : ps'.state = .path := by rw [hps']
  have hb' : ps'.buffer = (p1 :: more).getLast (by simp) := by rw [hps']
  have hlast := pseg_facts (hps ((p1 :: more).getLast (by simp)) (List.getLast_mem _))
  refine (S0.trans S1).done ?_
  rw [Run.step_path_eof C1 hst' (by rw [hb']; exact hlast.1) (by rw [hb']; exact hlast.2.1) hdrv hadd, hb', hps']
  simp [ps0, Path.init, Path.addSegment, List.dropLast_concat_getLast]

theorem setHash_plain (cfg : Cfg) (I : Idna) (u : Url) (f : Bytes)
    (hset : ∀ b : UInt8, unres b = true → cfg.spFragSet.has b.toNat = false)
    (hsp : cfg.isSpecial u.scheme = true) (hf : Plain f) :
    setU cfg I .hash u f = ⟨{ u with fragment := some f }, .url⟩ := by
  show setHash cfg I u f = _
  obtain ⟨c, t, rfl⟩ : ∃ c t, f = c :: t := by
    cases f with
    | nil => exact absurd rfl hf.1
    | cons a b => exact ⟨a, b, rfl⟩
  have hc : c ≠ 0x23 := fun h => (unres_char c (hf.2 c (by simp))).2.2.2.2.2.2.1 (by rw [h]; rfl)
  have htp : trimPrefix1 (c :: t) [0x23] = c :: t := by
    simp [trimPrefix1, startsWith, Ne.symm hc]
  unfold setHash
  simp only [List.isEmpty_cons, Bool.false_eq_true, if_false, htp]
  obtain ⟨hc1, hc2⟩ := plain_graphic hf.2
  apply basicParser_ov_of_runs hc1 hc2
  have hc0 : Run.Cur (envS cfg I (c :: t) .fragment) (ps0 .fragment { u with fragment := some [] }) [] (asStr (c :: t)) :=
    Run.Cur.start rfl rfl
  have := Run.run_fragment hc0 rfl (quietOn_urlcp _ _ [] fun b hb => ⟨(unres_char b (hf.2 b hb)).2.1, (unres_char b (hf.2 b hb)).2.2.1⟩)
  have hset' : Run.fragSetOf (envS cfg I (c :: t) .fragment) { u with fragment := some [] } = cfg.spFragSet := by
    simp [Run.fragSetOf, isSp, envS, hsp]
  simp only [ps0] at this
  rw [hset', Run.flatMap_pe_copy _ _ _ (fun b hb => hset b (hf.2 b hb))] at this
  simpa [ps0] using this

theorem step_hostname_eof {e : Env} {ps : PS} {pre : Str} {h : Bytes} (hc : Run.Cur e ps pre [])
    (hst : ps.state = .hostname) (hov : e.ov.isSome = true) (hsp : isSp e ps.url = true)
    (hnf : (ps.url.scheme == lit "file") = false) (hne : ps.buffer ≠ [])
    (hout : (parseHost e.cfg e.I ps.url ps.buffer false).out = .ok h) :
    step e ps = .done ⟨{ (parseHost e.cfg e.I ps.url ps.buffer false).url with host := some h }, .url⟩ := by
  have hem : ps.buffer.isEmpty = false := by simpa using hne
  rw [hc.step_nil]
  have h1 : (repl == ':') = false := by decide
  simp [body, hst, stHost, hov, hnf, h1, rewindLast, hsp, hem, afterHost, hout, retUrl, bottom]

/-- **the hostname setter on a host text**: special scheme other than `file`, list path; the text goes to the host parser
    (with the record the setter was called on), whose result is stored -/
theorem setHostname_text (cfg : Cfg) (I : Idna) (u : Url) (v h : Bytes) (hv : hostText v = true)
    (ho : u.path.opq = false) (hsp : cfg.isSpecial u.scheme = true) (hnf : (u.scheme == lit "file") = false)
    (hout : (parseHost cfg I u v false).out = .ok h) :
    setU cfg I .hostname u v = ⟨{ (parseHost cfg I u v false).url with host := some h }, .url⟩ := by
  show setHostname cfg I u v = _
  unfold setHostname
  rw [ho]
  simp only [Bool.false_eq_true, if_false]
  obtain ⟨hne, hB, hscan⟩ := hostText_spec hv
  have hg := hostText_graphic hv
  apply basicParser_ov_of_runs (fun b hb => isTabNl_of_ge b (by have := hg b hb; omega)) (graphic_ascii hg)
  obtain ⟨S, C⟩ := Run.scan_host (e := envS cfg I v .hostname) (ps := ps0 .hostname u) (pre := []) v [] false
    (by rw [List.append_nil]; exact Run.Cur.start rfl rfl) (Or.inr rfl) (fun _ => hnf)
    (hostB_copied _ _ (fun _ => rfl) hB) hscan
  refine S.done ?_
  have := step_hostname_eof C rfl rfl hsp hnf (by simpa [ps0] using hne) (by simpa [ps0, envS] using hout)
  simpa [ps0, envS] using this

end WhatwgUrl.Proofs.Idem
