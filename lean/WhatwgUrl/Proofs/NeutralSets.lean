import WhatwgUrl.Proofs.CfgCongr
/-
  C16c: the special-scheme table and the five replaceable percent-encode sets of the parser (path, special-query, query,
  special-fragment, fragment).  `updS c …` is `c` with those six fields overwritten (the frame proofs of
  `Proofs/NeutralFrame.lean` compare `updS c …` with `c`); `schemeTrig s` is the trigger of a changed table entry `s`.
-/
namespace WhatwgUrl.Proofs.Neutral
open WhatwgUrl WhatwgUrl.Impl

@[reducible] def updS (c : Cfg) (ss : List (Bytes × Bytes)) (t1 t2 t3 t4 t5 : PSet) : Cfg :=
  { c with specialSchemes := ss, pathSet := t1, spQuerySet := t2, querySet := t3, spFragSet := t4, fragSet := t5 }

/-- the trigger of a changed entry `s` of the special-scheme table at a parser state: the step from `ps` looks the
    scheme `s` up.  By state: the scheme state looks up the buffer (and, under a state override, the url's scheme) when the
    next code point is `:`; the relative state looks up the base's scheme; nine states look nothing up; the others look
    up the url's scheme. -/
def schemeTrig (s : Bytes) (rs : Str) (base : Option Url) (ov : Option State) (ps : PS) : Bool :=
  match ps.state with
  | .schemeStart | .noScheme | .opaquePath | .specialRelativeOrAuthority | .specialAuthoritySlashes
  | .specialAuthorityIgnoreSlashes | .pathOrAuthority | .file | .fileSlash => false
  | .scheme => cur rs (ps.pointer + 1) == some ':' && (ps.buffer == s || (ov.isSome && ps.url.scheme == s))
  | .relative => (match base with | some b => b.scheme == s | none => false)
  | _ => ps.url.scheme == s

theorem next_colon (rs : Str) (ps : PS) (h : (next rs ps).2 = ':') : cur rs (ps.pointer + 1) = some ':' := by
  unfold next at h
  split at h
  · rename_i c hc; rw [hc]; exact congrArg some h
  · exact absurd h (by decide : repl ≠ ':')

/-- `schemeTrig` before `next` is `looksUp` after it -/
theorem looksUp_ne {s : Bytes} {rs : Str} {base : Option Url} {ov : Option State} {ps : PS} {x : Bytes}
    (h : schemeTrig s rs base ov ps = false) (hx : looksUp base ov (next rs ps).1 (next rs ps).2 x) : x ≠ s := by
  unfold looksUp at hx
  unfold schemeTrig at h
  rw [Machine.next_state] at hx
  rw [Machine.next_buffer, Machine.next_url] at hx
  split at hx
  · rename_i hst
    obtain ⟨hr, hx⟩ := hx
    simp only [hst, next_colon rs ps hr, beq_self_eq_true, Bool.true_and, Bool.or_eq_false_iff, beq_eq_false_iff_ne,
      Bool.and_eq_false_imp] at h
    rcases hx with rfl | ⟨ho, rfl⟩
    · exact h.1
    · simpa using h.2 ho
  · rename_i hst
    obtain ⟨b, rfl, rfl⟩ := hx
    simpa [hst] using h
  · obtain ⟨hr, rfl⟩ := hx
    revert h hr
    cases ps.state <;> simp [readsUrlScheme]

end WhatwgUrl.Proofs.Neutral
