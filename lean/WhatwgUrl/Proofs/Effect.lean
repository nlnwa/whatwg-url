import WhatwgUrl.Proofs.Machine
/-
  What one pass through the `switch` may do, as tables and one theorem.

  `succ ov s`    the states in which the machine may continue from state `s` (`ov`: under a state override);
  `writes ov s`  the components of the url that state `s` may write (`verrs` / `qlog` are no components: every state may
                 record a validation error, and the host parser logs its oracle calls);
  `raises s`     the validation errors with which state `s` may return (`ownErrs s`, and those of the host parser in the
                 states of `hostSt`);
  `Moves`        how the cursor moves.
  `body_eff` proves the tables right, in one traversal of the 21 state functions.  An invariant that speaks of the state,
  of the cursor, or of url components that most states leave alone is then a fact about the tables (`decide`) and needs no
  state function (`Termination.body_good`, `Web.body_nm`, the frames of `Proofs/Frame.lean` through `Keeps`).
-/
namespace WhatwgUrl.Proofs.Machine
set_option linter.unusedSimpArgs false
open WhatwgUrl WhatwgUrl.Impl WhatwgUrl.Proofs.HostWF

/-- the components of a url record; `list` stands for "a list path stays a list path" -/
inductive Field
  | scheme | username | password | host | port | path | list | query | fragment
deriving DecidableEq

def Field.kept : Field → Url → Url → Prop
  | .scheme, u, v => v.scheme = u.scheme
  | .username, u, v => v.username = u.username
  | .password, u, v => v.password = u.password
  | .host, u, v => v.host = u.host
  | .port, u, v => v.port = u.port ∧ v.decodedPort = u.decodedPort
  | .path, u, v => v.path = u.path
  | .list, u, v => u.path.opq = false → v.path.opq = false
  | .query, u, v => v.query = u.query
  | .fragment, u, v => v.fragment = u.fragment

def Frame (W : List Field) (u v : Url) : Prop := ∀ f, f ∉ W → f.kept u v

theorem Frame_iff (W : List Field) (u v : Url) :
    Frame W u v ↔
      (.scheme ∉ W → v.scheme = u.scheme) ∧ (.username ∉ W → v.username = u.username) ∧
      (.password ∉ W → v.password = u.password) ∧ (.host ∉ W → v.host = u.host) ∧
      (.port ∉ W → v.port = u.port ∧ v.decodedPort = u.decodedPort) ∧ (.path ∉ W → v.path = u.path) ∧
      (.list ∉ W → u.path.opq = false → v.path.opq = false) ∧ (.query ∉ W → v.query = u.query) ∧
      (.fragment ∉ W → v.fragment = u.fragment) :=
  ⟨fun h => ⟨h .scheme, h .username, h .password, h .host, h .port, h .path, h .list, h .query, h .fragment⟩,
    fun ⟨h1, h2, h3, h4, h5, h6, h7, h8, h9⟩ f => by cases f <;> assumption⟩

def succ (ov : Bool) : State → List State
  | .schemeStart => if ov then [.scheme] else [.scheme, .noScheme]
  | .scheme =>
    if ov then [.scheme]
    else [.scheme, .noScheme, .file, .specialRelativeOrAuthority, .specialAuthoritySlashes, .pathOrAuthority, .opaquePath]
  | .noScheme => [.fragment, .relative, .file]
  | .specialRelativeOrAuthority => [.specialAuthorityIgnoreSlashes, .relative]
  | .specialAuthoritySlashes => [.specialAuthorityIgnoreSlashes]
  | .specialAuthorityIgnoreSlashes => [.specialAuthorityIgnoreSlashes, .authority]
  | .pathOrAuthority => [.authority, .path]
  | .authority => [.authority, .host]
  | .host => if ov then [.host, .fileHost, .port] else [.host, .port, .pathStart]
  | .hostname => if ov then [.hostname, .fileHost, .port] else [.hostname, .port, .pathStart]
  | .port => if ov then [.port] else [.port, .pathStart]
  | .file => [.file, .fileSlash, .query, .fragment, .path]
  | .fileSlash => [.fileHost, .path]
  | .fileHost => if ov then [.fileHost] else [.fileHost, .path, .pathStart]
  | .pathStart => if ov then [.pathStart, .path] else [.pathStart, .path, .query, .fragment]
  | .path => if ov then [.path] else [.path, .query, .fragment]
  | .opaquePath => [.opaquePath, .query, .fragment]
  | .query => if ov then [.query] else [.query, .fragment]
  | .fragment => [.fragment]
  | .relative => [.relative, .relativeSlash, .query, .fragment, .path]
  | .relativeSlash => [.specialAuthorityIgnoreSlashes, .authority, .path]

/-- the scheme state is the one row in which the override adds a component: the protocol setter ends with
    `cleanDefaultPort`, which may clear the port; a fresh parse may set the opaque path -/
def writes (ov : Bool) : State → List Field
  | .schemeStart | .specialRelativeOrAuthority | .specialAuthoritySlashes | .specialAuthorityIgnoreSlashes
  | .pathOrAuthority => []
  | .scheme => if ov then [.scheme, .port] else [.scheme, .path, .list]
  | .noScheme => [.scheme, .path, .list, .query, .fragment]
  | .authority => [.username, .password]
  | .host | .hostname | .fileHost => [.host]
  | .port => [.port]
  | .file => [.scheme, .host, .path, .list, .query, .fragment]
  | .fileSlash => [.host, .path]
  | .pathStart => if ov then [.path] else [.query, .fragment]
  | .path => if ov then [.path] else [.path, .query, .fragment]
  | .opaquePath => [.path, .list, .query, .fragment]
  | .query => if ov then [.query] else [.query, .fragment]
  | .fragment => [.fragment]
  | .relative => [.scheme, .username, .password, .host, .port, .path, .list, .query, .fragment]
  | .relativeSlash => [.username, .password, .host, .port]

def ownErrs : State → List ErrT
  | .schemeStart | .opaquePath | .query | .fragment => [.InvalidURLUnit]
  | .scheme => [.SpecialSchemeMissingFollowingSolidus, .InvalidURLUnit]
  | .noScheme => [.MissingSchemeNonRelativeURL]
  | .specialRelativeOrAuthority | .specialAuthoritySlashes | .specialAuthorityIgnoreSlashes =>
    [.SpecialSchemeMissingFollowingSolidus]
  | .pathOrAuthority => []
  | .authority => [.InvalidCredentials]
  | .host | .hostname => [.HostMissing]
  | .fileHost => [.FileInvalidWindowsDriveLetterHost]
  | .port => [.PortOutOfRange, .PortMissing, .PortInvalid]
  | .file => [.InvalidReverseSolidus, .FileInvalidWindowsDriveLetter]
  | .fileSlash | .pathStart | .relative | .relativeSlash => [.InvalidReverseSolidus]
  | .path => [.InvalidReverseSolidus, .InvalidURLUnit]

def hostSt : State → Bool
  | .host | .hostname | .fileHost => true
  | _ => false

def raises (s : State) (t : ErrT) : Bool := (ownErrs s).any (fun t' => decide (t' = t)) || (hostSt s && hostErrT t)

/-- the cursor of a continuing outcome: where it was; rewound (or reset); or advanced by `next` -/
def Moves (e : Env) (q ps' : PS) : Prop :=
  (ps'.pointer = q.pointer ∧ ps'.eof = q.eof) ∨
  (ps'.eof = false ∧ (ps'.pointer < q.pointer ∨ ps'.pointer = -1)) ∨
  (ps'.pointer = q.pointer + 1 ∧ ps'.eof = (next e.runes q).1.eof)

/-- a continuing outcome `ps'` of the switch entered with `q`, the machine state AFTER `next`: the state is a successor;
    an outcome that stays in the state leaves the cursor where `next` put it (with `next` a self-loop consumes one code
    point: what `Termination.body_good` uses); the cursor moves by `Moves` (what every other user reads); the components
    outside the row of `writes` are kept -/
def Eff (e : Env) (q ps' : PS) : Prop :=
  ps'.state ∈ succ e.ov.isSome q.state ∧ (ps'.state = q.state → ps'.pointer = q.pointer ∧ ps'.eof = q.eof) ∧ Moves e q ps' ∧
    Frame (writes e.ov.isSome q.state) q.url ps'.url

/-- a returning outcome: not out of fuel, an error of the row of `raises`, the components outside the row of `writes` kept -/
def EffD (e : Env) (q : PS) (x : Res) : Prop :=
  x.ret ≠ .outOfFuel ∧ (∀ er w, x.ret = .err er w → raises q.state er.t = true) ∧ Frame (writes e.ov.isSome q.state) q.url x.url

theorem Sh_afterHost_eff {P : PS → Prop} {D : Res → Prop} (cfg : Cfg) (I : Idna) (u : Url) (s : Bytes) (ns : Bool) (ps : PS)
    (k : PS → Bytes → StepR) :
    Sh P D (afterHost (parseHost cfg I u s ns) ps k) ↔
      (∀ h, (parseHost cfg I u s ns).out = .ok h → Sh P D (k { ps with url := (parseHost cfg I u s ns).url } h)) ∧
      (∀ er, (parseHost cfg I u s ns).out = .err er → hostErrT er.t = true → D ⟨(parseHost cfg I u s ns).url, .err er true⟩) ∧
      (∀ n, (parseHost cfg I u s ns).out = .panic n → D ⟨(parseHost cfg I u s ns).url, .panic n⟩) := by
  rw [Sh_afterHost]
  exact ⟨fun h => ⟨h.1, fun er he _ => h.2.1 er he, h.2.2⟩,
    fun h => ⟨h.1, fun er he => h.2.1 er he (parseHost_err cfg I u s ns er he), h.2.2⟩⟩

/-- `hrepl` is asked for under a state override only, so that a user without override (`Resolve.body_si`) owes nothing;
    the others hold the fact without the guard -/
theorem body_eff (e : Env) (q : PS) (r : Char) (hrepl : e.ov.isSome = true → q.eof = true → r = repl) :
    Sh (Eff e q) (EffD e q) (body e q r) := by
  -- a segment ends at `?` / `#` only if these are tested for: not under a state override (the one use of `hrepl`)
  have hne : e.ov.isSome = true → (q.eof = true ∨ r = '/') ∨ spBackslash e q.url r = true → r ≠ '?' ∧ r ≠ '#' :=
    fun ho hc => by
      constructor <;> rintro rfl <;> simp [spBackslash] at hc <;> exact absurd (hrepl ho hc) (by decide)
  -- for the closing `grind`: a segment stored in the path state leaves a list path a list path; `rewindLast` moves left
  have hl := fun p => segPath_opq e p r
  have h1 : ∀ p : Int, p - 1 < p := fun p => by omega
  unfold body
  split <;> rename_i hst
  case' h_3 | h_12 | h_14 | h_20 | h_21 => cases hb : e.base
  -- the states whose tables depend on the override
  case' h_1 | h_2 | h_10 | h_11 | h_13 | h_15 | h_16 | h_17 | h_18 => cases hov : e.ov
  case' h_16.some => replace hne := hne (by rw [hov]; rfl)
  all_goals
    simp [stSchemeStart, stScheme, stNoScheme, stOpaquePath, stSpecialRelativeOrAuthority, stSpecialAuthoritySlashes,
      stSpecialAuthorityIgnoreSlashes, stPathOrAuthority, stAuthority, stFile, stFileHost, stFileSlash_eq, stPort, stPathStart,
      stHost_eq, hostChar, stPath_eq, segEnd, stQuery_eq, stFragment, stRelative, stRelativeSlash,
      Sh_unitChecks, Sh_afterHost_eff, Sh_ite, Sh_herr, Sh_cont, Sh_done, Sh_retUrl, Sh_elim, Eff, EffD, Moves, Frame_iff,
      succ, writes, raises, ownErrs, hostSt, stops, rewindLast, resetInput, rewind, writeRune, ite_url, ite_eof, ite_state, ite_pointer,
      record_eq, next_fst, cleanDefaultPort_scheme, cleanDefaultPort_username, cleanDefaultPort_password, cleanDefaultPort_host,
      cleanDefaultPort_path, cleanDefaultPort_query, cleanDefaultPort_fragment, parseHost_scheme, parseHost_username,
      parseHost_password, parseHost_host, parseHost_port, parseHost_decodedPort, parseHost_path, parseHost_query,
      parseHost_fragment, shorten_opq, Path.addSegment, Path.init, *]
    try grind

theorem Field.kept_trans {f : Field} {u v w : Url} (h1 : f.kept u v) (h2 : f.kept v w) : f.kept u w := by
  cases f <;> simp only [Field.kept] at * <;> grind

/-- under a state override (`ov`) or in a fresh parse, the machine does not leave the set `S` of states, and no state
    in `S` writes component `f` -/
def Keeps (ov : Bool) (S : State → Bool) (f : Field) : Prop :=
  ∀ s, S s = true → (∀ s' ∈ succ ov s, S s' = true) ∧ f ∉ writes ov s

theorem body_keeps {ov : Bool} {S : State → Bool} {f : Field} (hS : Keeps ov S f) (e : Env) (hov : e.ov.isSome = ov) (u0 : Url)
    (q : PS) (r : Char) (hrepl : ov = true → q.eof = true → r = repl) (hq : S q.state = true ∧ f.kept u0 q.url) :
    Sh (fun ps => S ps.state = true ∧ f.kept u0 ps.url) (fun x => f.kept u0 x.url) (body e q r) := by
  subst hov
  exact (body_eff e q r hrepl).mono (fun ps' h => ⟨(hS _ hq.1).1 _ h.1, Field.kept_trans hq.2 (h.2.2.2 f (hS _ hq.1).2)⟩)
    (fun x h => Field.kept_trans hq.2 (h.2.2 f (hS _ hq.1).2))

/-- the path states: under a state override they are entered with a list path and keep it -/
def pathSt : State → Bool
  | .pathStart | .path => true
  | _ => false

theorem keeps_list : Keeps true pathSt .list := fun s => by cases s <;> decide

/-- the states that write no component of the url but the credentials -/
def plainSt : State → Bool
  | .schemeStart | .specialRelativeOrAuthority | .specialAuthoritySlashes | .specialAuthorityIgnoreSlashes | .pathOrAuthority
  | .authority => true
  | _ => false

/-- from these states the switch does not continue at the end of the input (it rewinds, or returns an error), and does
    not return the url; `hp`: inside the input the machine is at a code point -/
theorem body_plain (e : Env) (q : PS) (r : Char) (hst : plainSt q.state = true) (hrepl : q.eof = true → r = repl)
    (hp : q.eof = false → 0 ≤ q.pointer) :
    Sh (fun ps' => ps'.eof = false) (fun x => x.ret ≠ .url) (body e q r) := by
  have hnx := fun c s => remainingStartsWith_next e.runes q c s hp
  unfold body
  split <;> rename_i hs <;> simp [hs, plainSt] at hst
  all_goals
    cases he : q.eof
    · simp [stSchemeStart, stSpecialRelativeOrAuthority, stSpecialAuthoritySlashes, stSpecialAuthorityIgnoreSlashes,
        stPathOrAuthority, stAuthority, Sh_ite, Sh_herr, Sh_cont, Sh_done, rewindLast, rewind, writeRune, he, stops_true]
      try grind
    · obtain rfl := hrepl he
      simp [stSchemeStart, stSpecialRelativeOrAuthority, stSpecialAuthoritySlashes, stSpecialAuthorityIgnoreSlashes,
        stPathOrAuthority, stAuthority, Sh_ite, Sh_herr, Sh_cont, Sh_done, rewindLast, rewind, writeRune, he, repl_class,
        spBackslash, stops_true]
      try grind

theorem plain_writes (ov : Bool) (s : State) (h : plainSt s = true) (f : Field) (hu : f ≠ .username) (hp : f ≠ .password) :
    f ∉ writes ov s := by
  cases s <;> simp_all [plainSt, writes]

end WhatwgUrl.Proofs.Machine
