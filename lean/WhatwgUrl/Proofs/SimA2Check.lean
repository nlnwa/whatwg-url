import WhatwgUrl.Proofs.SimA2
import WhatwgUrl.Proofs.SimHost
/-
  All hypotheses of `stepSim'_A` — including the oracle laws, which `SimA2.lean` leaves a parameter — are satisfiable at
  once: the toy oracle `I0` of `SimHost.lean` (`I0_laws`), a one-code-point input, the empty url record as base, the machine
  at its first iteration in each of the twelve states. No property module imports this file;
  `lake build WhatwgUrl.Proofs.SimA2Check` builds it.
-/
namespace WhatwgUrl.Proofs.Sim.A2
open WhatwgUrl WhatwgUrl.Impl

example (S : State) (hS : stA S = true) :
    RStep' true (step (wEnv I0) (wPS S)) (afterRun ['a'] (Spec.run (specIdna I0) ['a'] (some {}) none (wSS S))) :=
  have w := witness_ok2 I0 S hS
  stepSim'_A I0 I0_laws none _ _ _ w.1 w.2.1 _ _ w.2.2.1 w.2.2.2.1 w.2.2.2.2

end WhatwgUrl.Proofs.Sim.A2
