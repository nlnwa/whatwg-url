import WhatwgUrl.Proofs.WellFormed
import WhatwgUrl.Proofs.Utf8
import WhatwgUrl.Proofs.Lifting
/-
  C04b: `body` and `basicParser` keep the invariant of `Proofs/WellFormed.lean` (`J` per state, `WFs` at the end);
  `basicParser_withJ` is the lifting for invariants that are kept on top of `J`.
-/
namespace WhatwgUrl.Props.C04b
set_option linter.unusedSimpArgs false
open WhatwgUrl WhatwgUrl.Impl WhatwgUrl.Proofs WhatwgUrl.Proofs.HostWF
open WhatwgUrl.Proofs.Machine (segPath segEnd)

theorem segEnd_good (e : Env) (r : Char) (p : PS) (hst : p.state = .path) (ha : WFa e.cfg p.url) (ho : p.url.path.opq = false)
    (hov : e.ov = none ∨ e.ov = some .pathStart) (heof : p.eof = true → r = repl) : Machine.Sh (P e) (D e) (segEnd e r p) := by
  have h1 := Machine.segPath_opq e p r ho
  have h2 := Machine.segPath_ne e p r
  have hr := Machine.repl_class
  rw [WFa_fields] at ha
  rcases Classical.em (r = '?') with rfl | hq
  · simp [segEnd, Machine.Sh_ite, Machine.Sh_cont, P, J, WFs_fields, spBackslash, ha] at h2 ⊢
    exact ⟨fun _ => WFpF_list _ _ _ _ h1 fun _ => h2, fun _ => WFpF_list _ _ _ _ h1 fun _ => h2⟩
  rcases Classical.em (r = '#') with rfl | hh
  · simp [segEnd, Machine.Sh_ite, Machine.Sh_cont, P, J, WFs_fields, spBackslash, ha] at h2 ⊢
    exact ⟨fun _ => WFpF_list _ _ _ _ h1 fun _ => h2, fun _ => WFpF_list _ _ _ _ h1 fun _ => h2⟩
  · simp [segEnd, Machine.Sh_ite, Machine.Sh_cont, P, J, WFs_fields, WFa_fields, spBackslash, ha, hst, hq, hh, h1, hov] at h2 ⊢
    grind [WFpF_list]

/-- one direction of `Utf8.utf8_eq_nil`, kept for its own sake: nothing calls it -/
theorem utf8_eq_nil (s : Str) (h : utf8 s = []) : s = [] := Utf8.utf8_eq_nil.mp h

/-- the authority state: the buffer is the UTF-8 of the code points since the last `@`, so the rewind by its number of
    runes lands on the first of them, which is not a delimiter -/
theorem stAuthority_good (e : Env) (q : PS) (r : Char) (hst : q.state = .authority)
    (hJ : J e q q.pointer) (hcur : Cur e q r) : Machine.Sh (P e) (D e) (stAuthority e q r) := by
  unfold J at hJ; rw [hst] at hJ; dsimp only at hJ
  obtain ⟨hov, hso, hnf, hh, hp, hpa, hat, s, hbuf, hz⟩ := hJ
  have hE := Cur_eof hcur
  have hr := Machine.repl_class
  unfold stAuthority
  rw [Machine.Sh_ite]
  refine ⟨fun c1 => ?_, fun c1 => ?_⟩
  · simp [Machine.Sh_herr, Machine.Sh_cont, P, D, J, hst, hov, hso, hnf, hh, hp, hpa, AuthZ_nil, stops]
    grind
  · rw [Machine.Sh_ite]
    refine ⟨fun c2 => ?_, fun c2 => ?_⟩
    · dsimp only
      rw [Machine.Sh_ite]
      refine ⟨fun c3 => ?_, fun c3 => ?_⟩
      · simp [Machine.Sh_herr, D, hov, stops]
      · refine ⟨(by intro h; cases h), fun _ => ?_⟩
        unfold J
        dsimp only [rewind]
        left
        refine ⟨hov, hso, hnf, hp, hpa, ?_⟩
        intro hcred
        right
        dsimp only at hcred
        have hatf : q.atFlag = true := by
          cases hq : q.atFlag with
          | true => rfl
          | false => obtain ⟨h1, h2⟩ := hat hq; rcases hcred with h | h <;> contradiction
        have hbne : q.buffer ≠ [] := by
          intro hbe
          apply c3
          simp [hatf, hbe]
        have hs : s ≠ [] := by
          intro hse; apply hbne; rw [hbuf, hse]; rfl
        obtain ⟨c, hc, hn⟩ := hz hs
        refine ⟨c, ?_, hn⟩
        have hlen : (goRunes q.buffer).length = s.length := by rw [hbuf, WhatwgUrl.Proofs.Utf8.goRunes_utf8]
        rw [hlen]
        have : q.pointer - ((s.length + 1 : Nat) : Int) + 1 = q.pointer - (s.length : Int) := by omega
        rw [this]; exact hc
    · have hq : q.eof = false := by
        cases hq : q.eof with
        | false => rfl
        | true => exfalso; apply c2; simp [hq]
      have hcr : cur e.runes q.pointer = some r := by
        rcases hcur with ⟨_, h⟩ | ⟨h, _⟩
        · exact h
        · rw [hq] at h; cases h
      refine ⟨(by intro h; rw [writeRune] at h; rw [hq] at h; cases h), fun _ => ?_⟩
      unfold J
      dsimp only [writeRune]
      rw [hst]
      dsimp only
      refine ⟨hov, hso, hnf, hh, hp, hpa, hat, s ++ [r], ?_, ?_⟩
      · rw [hbuf, ← Percent.utf8_snoc]
      · intro _
        have hl : (((s ++ [r]).length : Nat) : Int) = (s.length : Int) + 1 := by simp
        rw [hl]
        have : q.pointer + 1 - ((s.length : Int) + 1) = q.pointer - (s.length : Int) := by omega
        rw [this]
        by_cases hs : s = []
        · subst hs
          refine ⟨r, by simpa using hcr, ?_⟩
          simp only [Bool.or_eq_true, beq_iff_eq, not_or] at c2
          exact ⟨c2.1.1.1.2, c2.1.1.2, c2.1.2⟩
        · exact hz hs

theorem stPath_good (e : Env) (H : Hyp e) (q : PS) (r : Char) (hst : q.state = .path) (hJ : J e q q.pointer) (hcur : Cur e q r) :
    Machine.Sh (P e) (D e) (stPath e q r) := by
  have hfail := H.hfail
  simp [J, hst, stops] at hJ hfail
  have hE := Cur_eof hcur
  have hk : ∀ p : PS, p.state = .path → Same q.url p.url → (p.eof = true → r = repl) →
      Machine.Sh (P e) (D e) (segEnd e r p) := fun p hp hu hE =>
    segEnd_good e r p hp ((WFa_same hu).mpr hJ.1) (by rw [hu.path]; exact hJ.2.1) hJ.2.2 hE
  rcases hcur with ⟨he, hc⟩ | ⟨he, hc, rfl⟩ <;> cases hov : e.ov <;> simp [hov] at hJ hfail <;>
    simp [Machine.stPath_eq, Machine.Sh_unitChecks, Machine.Sh_ite, Machine.Sh_herr, Machine.Sh_cont, Machine.Sh_done, hk, hE,
      Same_record, Same.refl, P, D, J, hst, he, hov, hJ, hfail, stops, Machine.repl_class, spBackslash]

attribute [local grind .] schemeOk_next WFs_setScheme next_eof_of_rsw Path.setOpaque WFs_setPort WFa_setPort Machine.cleanDefaultPort_path CanPort in
/-- The two states that write the url through `cleanDefaultPort`; `WFs` / `WFa` stay folded, for `WFs_setScheme` /
    `WFs_setPort`. Each state is looked at four times — inside the input or at its end (where the code point is U+FFFD,
    which decides most tests), fresh parse or state override — so that `simp` is left with the few leaves that matter. -/
theorem body_good_port (e : Env) (H : Hyp e) (q : PS) (r : Char) (hst : q.state = .scheme ∨ q.state = .port)
    (hJ : J e q q.pointer) (hcur : Cur e q r) : Machine.Sh (P e) (D e) (body e q r) := by
  have hfile := H.hfile
  rcases hst with hst | hst <;> simp only [body, hst] <;>
    rcases hcur with ⟨he, hc⟩ | ⟨he, hc, rfl⟩ <;> cases hov : e.ov <;>
    simp [J, hst, hov, Blank, PreAuth, Option.isSome_iff_ne_none] at hJ hfile
  all_goals
    simp [stScheme, stPort, Machine.Sh_ite, Machine.Sh_herr, Machine.Sh_cont, Machine.Sh_done, Machine.Sh_retUrl, stops, Machine.repl_class,
      P, D, J, hst, he, hov, rewindLast, resetInput, writeRune, Machine.ite_url, Machine.ite_eof, Machine.ite_state, Machine.ite_pointer,
      Blank, PreAuth, CanPort, isSp, spBackslash, Option.isSome_iff_ne_none, Option.isNone_iff_eq_none]
  all_goals
    try grind

attribute [local grind .] next_eof_of_rsw WFaF_file WFaF_of_opaque WFaF.scheme WFaF.of_file WFpF_list WFpF_of_opaque
  WFpF.list_of_host WFpF.list_of_special Path.addSegment Path.init in
theorem body_good_base (e : Env) (H : Hyp e) (q : PS) (r : Char)
    (hst : q.state = .noScheme ∨ q.state = .specialRelativeOrAuthority ∨ q.state = .file ∨ q.state = .fileSlash ∨
      q.state = .relative ∨ q.state = .relativeSlash)
    (hJ : J e q q.pointer) (hcur : Cur e q r) : Machine.Sh (P e) (D e) (body e q r) := by
  have hb := H.hb
  rcases hst with hst | hst | hst | hst | hst | hst <;> simp only [body, hst] <;>
    rcases hcur with ⟨he, hc⟩ | ⟨he, hc, rfl⟩ <;> cases hbase : e.base <;>
    simp [J, hst, hbase, Blank, PreAuth, FileJ, WFs_fields] at hJ hb
  all_goals
    simp [stNoScheme, stSpecialRelativeOrAuthority, stFile, stFileSlash, stRelative, stRelativeSlash, Machine.Sh_ite, Machine.Sh_herr, Machine.Sh_cont, Machine.Sh_done,
      stops, Machine.repl_class, AuthZ_nil, P, D, J, hst, hbase, he, hJ, hb, rewindLast, Machine.ite_url, Machine.ite_eof, Machine.ite_state,
      Machine.ite_pointer, Machine.ite_buffer, WFs_fields, WFa_fields, Blank, PreAuth, FileJ, isSp, spBackslash]
  all_goals
    try grind

/-! `J` in the states the host state continues into, as rewrite rules: a `match` on the state does not reduce under
    `q.state = .host ∨ q.state = .hostname` -/
section
variable {e : Env} {ps : PS} {p : Int}

theorem J_host (h : ps.state = .host ∨ ps.state = .hostname) :
    J e ps p ↔
      (e.ov = none ∧ schemeOk ps.url.scheme = true ∧ ps.url.scheme ≠ lit "file" ∧ ps.url.port = none ∧
          ps.url.path = ⟨[], false⟩ ∧ HostZ e ps p) ∨
        (e.ov.isSome = true ∧ WFs e.cfg ps.url ∧ ps.url.path.opq = false) := by
  rcases h with h | h <;> simp only [J, h]
theorem J_fileHost (h : ps.state = .fileHost) :
    J e ps p ↔ FileJ ps.url ∧ (e.ov = none → ps.url.path = ⟨[], false⟩) ∧ (e.ov.isSome = true → WFs e.cfg ps.url) := by
  simp only [J, h]
theorem J_port (h : ps.state = .port) :
    J e ps p ↔ WFa e.cfg ps.url ∧ CanPort ps.url ∧ (e.ov = none → ps.url.path = ⟨[], false⟩) ∧
      (e.ov.isSome = true → WFs e.cfg ps.url) := by
  simp only [J, h]
theorem J_pathStart (h : ps.state = .pathStart) :
    J e ps p ↔ WFa e.cfg ps.url ∧ ps.url.path = ⟨[], false⟩ ∧ (e.ov = none ∨ e.ov = some .pathStart) := by
  simp only [J, h]

end

attribute [local grind .] WFaF_file WFaF_setHost WFaF.scheme WFaF.port WFaF.of_file WFpF_list WFpF_setHost Percent.utf8Char_ne_nil
  portOkF_none in
/-- the host and hostname states run the same code and have the same clause of `J`; where the machine stays, `J` of the
    outcome is read through `J_host` -/
theorem stHost_good (e : Env) (H : Hyp e) (q : PS) (r : Char) (hst : q.state = .host ∨ q.state = .hostname)
    (hJ : J e q q.pointer) (hcur : Cur e q r) : Machine.Sh (P e) (D e) (stHost e q r) := by
  have hfail := H.hfail
  have hc0 := H.hc
  have hs := fun u b ns => parseHost_spec H u b ns
  simp only [Same, forall_and] at hs
  replace hJ := (J_host hst).1 hJ
  rcases hcur with ⟨he, hc⟩ | ⟨he, hc, rfl⟩ <;> cases hov : e.ov <;>
    simp [hov, PreAuth, Blank, FileJ, WFs_fields, WFa_fields, Option.isSome_iff_ne_none, stops, HostZ, NonDelim] at hJ hfail
  all_goals
    simp [Machine.stHost_eq, Machine.hostChar, Machine.Sh_afterHost,
      Machine.Sh_elim, Machine.Sh_ite, Machine.Sh_herr, Machine.Sh_cont, Machine.Sh_done, Machine.Sh_retUrl, stops, Machine.repl_class,
      HostZ, NonDelim, P, D, J_host, J_fileHost, J_port, J_pathStart, hst, he, hov, hJ, hs.1, hc0, rewindLast, writeRune, Machine.ite_url,
      Machine.ite_eof, Machine.ite_state, Machine.ite_pointer, Machine.ite_buffer, WFs_fields, WFa_fields, Blank, PreAuth, FileJ,
      CanPort, isSp, spBackslash, Option.isSome_iff_ne_none, Option.isNone_iff_eq_none]
  all_goals
    replace hs := hs.2
    clear H
    grind (splits := 20)

attribute [local grind .] WFaF_file WFaF_setHost WFaF.scheme WFaF.port WFaF.of_file WFpF_list WFpF_setHost
  Percent.utf8Char_ne_nil portOkF_none schemeOk_first next_eof_of_rsw WFaF_blank WFpF_opaque Path.setOpaque
  Path.addSegment Path.init in
theorem body_good (e : Env) (H : Hyp e) (q : PS) (r : Char) (hJ : J e q q.pointer) (hcur : Cur e q r) :
    Machine.Sh (P e) (D e) (body e q r) := by
  have hfile := H.hfile
  have hfail := H.hfail
  have hc0 := H.hc
  cases hst : q.state
  case authority => simpa only [body, hst] using stAuthority_good e q r hst hJ hcur
  case path => simpa only [body, hst] using stPath_good e H q r hst hJ hcur
  case scheme | port => exact body_good_port e H q r (by simp [hst]) hJ hcur
  case noScheme | specialRelativeOrAuthority | file | fileSlash | relative | relativeSlash => exact body_good_base e H q r (by simp [hst]) hJ hcur
  case host => simpa only [body, hst] using stHost_good e H q r (Or.inl hst) hJ hcur
  case hostname => simpa only [body, hst] using stHost_good e H q r (Or.inr hst) hJ hcur
  case fileHost =>
    have hs := fun u b ns => parseHost_spec H u b ns
    simp only [Same, forall_and] at hs
    simp only [body, hst]
    rcases hcur with ⟨he, hc⟩ | ⟨he, hc, rfl⟩ <;> cases hov : e.ov <;>
      simp [J, hst, hov, PreAuth, Blank, FileJ, WFs_fields, WFa_fields, Option.isSome_iff_ne_none, stops, HostZ, NonDelim]
        at hJ hfail
    all_goals
      simp [Machine.stHost_eq, Machine.hostChar, stFileHost, Machine.Sh_unitChecks, Machine.Sh_afterHost,
        Machine.Sh_elim, Machine.Sh_ite, Machine.Sh_herr, Machine.Sh_cont, Machine.Sh_done, Machine.Sh_retUrl, stops, Machine.repl_class, AuthZ_nil,
        HostZ, NonDelim, P, D, J, hst, he, hov, hJ, hs.1, hc0, rewindLast, writeRune, Machine.ite_url,
        Machine.ite_eof, Machine.ite_state, Machine.ite_pointer, Machine.ite_buffer, WFs_fields, WFa_fields, Blank, PreAuth, FileJ,
        CanPort, isSp, spBackslash, Option.isSome_iff_ne_none, Option.isNone_iff_eq_none]
    -- the leaves read the host parser only through its last clause, and nothing else of `H`
    all_goals
      replace hs := hs.2
      clear H hfile
      grind (splits := 20)
  all_goals
    simp only [body, hst]
    rcases hcur with ⟨he, hc⟩ | ⟨he, hc, rfl⟩ <;> cases hov : e.ov <;>
      simp [J, hst, hov, PreAuth, Blank, CanPort, WFs_fields, WFa_fields, Option.isSome_iff_ne_none, stops]
        at hJ hfile hfail
  all_goals
    simp [stSchemeStart, stOpaquePath, stSpecialAuthoritySlashes,
      stSpecialAuthorityIgnoreSlashes, stPathOrAuthority, stPathStart, Machine.stQuery_eq, stFragment, Machine.Sh_unitChecks,
      Machine.Sh_ite, Machine.Sh_herr, Machine.Sh_cont, Machine.Sh_done, Machine.Sh_retUrl, stops, Machine.repl_class, AuthZ_nil,
      P, D, J, hst, he, hov, hJ, hc0, rewindLast, writeRune, Machine.ite_url,
      Machine.ite_eof, Machine.ite_state, Machine.ite_pointer, Machine.ite_buffer, WFs_fields, WFa_fields, Blank, PreAuth,
      CanPort, isSp, spBackslash, Option.isSome_iff_ne_none, Option.isNone_iff_eq_none]
  all_goals
    clear H hfile
    grind

/-- `J` holds of the start state of a parse without state override -/
theorem J_fresh {e : Env} (he : e.ov = none) {u : Url} (hs : Same ({} : Url) u) :
    J e (Machine.start .schemeStart u) 0 :=
  ⟨rfl, Or.inl ⟨he, hs.2.1, hs.2.2.1, hs.host, hs.2.2.2.2.1, hs.path⟩⟩

theorem Cur_of_read {e : Env} {ps q : PS} {r : Char} (R : Machine.Read e ps q r) : Cur e q r := by
  have := R.cur
  cases he : q.eof
  · exact Or.inl ⟨he, by simpa [he] using this⟩
  · exact Or.inr ⟨he, by simpa [he] using this, R.repl he⟩

/-- the lifting for an invariant `A` that rests on `J`: the body is given `J` of the machine state it starts from
    (`basicParser_WF` below is the same lifting for `J` alone, with `C04b.D` for the result) -/
theorem basicParser_withJ {A : PS → Prop} {D : Res → Prop} (cfg : Cfg) (I : Idna) (input : Bytes) (base url : Option Url)
    (ov : Option State) (hcfg : CfgOk cfg I) (hb : ∀ b, base = some b → WFs cfg b)
    (hfile : ov = some .schemeStart → cfg.isSpecial (lit "file") = true)
    (hfail : ov = some .pathStart → cfg.failOnVErr = false)
    (hpro : stops cfg false = true → ∀ u, Same (url.getD {}) u →
      D ⟨record cfg u .InvalidURLUnit false, .err ⟨.InvalidURLUnit, false⟩ false⟩)
    (hbody : Hyp (Machine.loopEnv cfg I input base url ov) → ∀ ps q r, A ps →
      Machine.Read (Machine.loopEnv cfg I input base url ov) ps q r → J (Machine.loopEnv cfg I input base url ov) q q.pointer →
      Machine.Sh (Machine.Owes A D) D (body (Machine.loopEnv cfg I input base url ov) q r))
    (hJ0 : ∀ u, Same (url.getD {}) u →
      J (Machine.loopEnv cfg I input base url ov) (Machine.start (ov.getD .schemeStart) u) 0)
    (hA0 : ∀ u, Same (url.getD {}) u → A (Machine.start (ov.getD .schemeStart) u)) :
    D (basicParser cfg I input base url ov) := by
  have H : Hyp (Machine.loopEnv cfg I input base url ov) := ⟨hcfg, hb, hfile, hfail⟩
  refine (Machine.basicParser_of_body (P := fun ps => J (Machine.loopEnv cfg I input base url ov) ps (ps.pointer + 1) ∧ A ps)
    (D := D) cfg I input base url ov hpro (fun ps q r h R => ?_)
    (fun u hu => ⟨by exact hJ0 u hu, hA0 u hu⟩))
  have hJ : J (Machine.loopEnv cfg I input base url ov) q q.pointer := by rw [R.eq]; exact h.1
  refine ((body_good _ H q r hJ (Cur_of_read R)).and (hbody H ps q r h.2 R hJ)).mono (fun ps' h' => ?_) (fun _ h' => h'.2)
  rw [Machine.Owes_iff] at h' ⊢
  exact ⟨h'.2.1, fun he => ⟨h'.1.2 he, h'.2.2 he⟩⟩

/-- the parser-level statement from which the parse, resolve and setter theorems are instances -/
theorem basicParser_WF (cfg : Cfg) (I : Idna) (input : Bytes) (base url : Option Url) (ov : Option State)
    (hcfg : CfgOk cfg I) (hb : ∀ b, base = some b → WFs cfg b)
    (hfile : ov = some .schemeStart → cfg.isSpecial (lit "file") = true)
    (hfail : ov = some .pathStart → cfg.failOnVErr = false)
    (hex : stops cfg false = true → ov.isSome = true → WFs cfg (url.getD {}))
    (hJ0 : ∀ u, Same (url.getD {}) u →
      J (Machine.loopEnv cfg I input base url ov) (Machine.start (ov.getD .schemeStart) u) 0) :
    (ov.isSome = true ∨ (basicParser cfg I input base url ov).ret = .url) →
      WFs cfg (basicParser cfg I input base url ov).url := by
  refine Machine.basicParser_of_body (P := fun ps => J (Machine.loopEnv cfg I input base url ov) ps (ps.pointer + 1))
    (D := D (Machine.loopEnv cfg I input base url ov)) cfg I input base url ov ?_ (fun ps q r h R => ?_)
    (fun u hu => by exact hJ0 u hu)
  · rintro hst u hu (h | h)
    · exact (WFs_record _ _ _ _ _).mpr ((WFs_same hu).mpr (hex hst h))
    · cases h
  · exact (body_good _ ⟨hcfg, hb, hfile, hfail⟩ q r (by rw [R.eq]; exact h)
      (Cur_of_read R)).mono (fun _ h' => (Machine.Owes_iff _).2 ⟨fun he _ => h'.1 he, h'.2⟩) (fun _ h' => h')

/-- a successful parse without state override returns a well-formed record -/
theorem parse_WFs (cfg : Cfg) (I : Idna) (input : Bytes) (base : Option Url) (hb : ∀ b, base = some b → WFs cfg b)
    (hcfg : CfgOk cfg I) :
    (basicParser cfg I input base none none).ret = .url → WFs cfg (basicParser cfg I input base none none).url := by
  intro h
  apply basicParser_WF cfg I input base none none hcfg hb (by intro h; cases h) (by intro h; cases h)
    (by intro _ h; cases h)
  · exact fun _ hs => J_fresh rfl hs
  · exact Or.inr h

theorem CfgOk_default (I : Idna) (hI : IdnaNonEmpty I) : CfgOk {} I := ⟨rfl, rfl, rfl, hI⟩

end WhatwgUrl.Props.C04b
