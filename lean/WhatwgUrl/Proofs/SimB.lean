import WhatwgUrl.Proofs.SimB2Core
/-
  One-iteration simulation lemmas for the nine states host, hostname, port, file host, path start, path, opaque path, query,
  fragment of the Go machine, in the form that carries the local invariant `Extra` (`SimBaseB.lean`: what `RPS` lacks) along,
  read off the state lemmas `step_simX_S` of `SimB2Core.lean`.  The port and file host states, in which the Go code and the
  standard return differently under a state override, have a `_B` form (result relation `RResB`) and a `_partial` form (no
  override).  Then machine-checked witnesses: non-vacuity; the two disagreements; why each part of `Extra` is needed.

  This file holds the first form of the statements for these states, kept beside the chain that ends in `SimFinal.lean`;
  nothing imports it, no property module builds it: `lake build WhatwgUrl.Proofs.SimB`. `Sim.Extra` (`SimBaseB.lean`),
  `Sim.Extra.loc` and `Sim.step_sim_Statement` here are not those of `SimA.lean`, which bear the same full names for the
  other twelve states (a different structure, different binders): the two files cannot be imported together.
-/
namespace WhatwgUrl.Proofs.Sim
open WhatwgUrl WhatwgUrl.Impl

theorem Extra.loc {input : Str} {base : Option Spec.SUrl} {ov : Option Spec.St} {pi : PS} {ss : Spec.PS}
    (h : Extra input pi ss) (hs : stB pi.state = true) : Loc input base ov pi ss := by
  obtain ⟨lo, hi, hl, hp, hb⟩ := h
  refine ⟨lo, hi, ?_, ?_, ?_⟩ <;> revert hs hl hp hb <;> cases pi.state <;>
    simp (config := { contextual := true }) [stB, BufL, relSt, NoOpq, listPathSt]

-- the two statements name their hypotheses (`hI`, `hH`, …) as the theorems that prove them do
section
set_option linter.unusedVariables false

/-- the statement for state `S` with `RPS` alone (no `Extra`). As it stands it is false for every state: `RPS` does
    not bound the pointer (see `Extra.lo`, `Extra.hi`); the theorems below prove it under `Extra`. -/
def step_sim_Statement (S : State) : Prop :=
  ∀ (I : Idna) (hI : IdnaLaws I) (hH : HostConforms I) (e : Env) (input : Str) (base : Option Spec.SUrl) (ov : Option Spec.St)
    (hE : REnv e input base ov I) (pi : PS) (ss : Spec.PS) (h : RPS pi ss) (hs : pi.state = S),
    RStep (step e pi) (afterRun input (Spec.run (specIdna I) input base ov ss))

def step_simE_Statement (S : State) : Prop :=
  ∀ (I : Idna) (hI : IdnaLaws I) (hH : HostConforms I) (e : Env) (input : Str) (base : Option Spec.SUrl) (ov : Option Spec.St)
    (hE : REnv e input base ov I) (pi : PS) (ss : Spec.PS) (h : RPS pi ss) (hX : Extra input pi ss) (hs : pi.state = S),
    RStep (step e pi) (afterRun input (Spec.run (specIdna I) input base ov ss))

end

/-- the statement under `Extra` for the port state and for the file host state: both are false (the two `example`s with
    `¬ RStep …` below are counterexamples under a state override), which is why these two states have the `_B` and
    `_partial` forms instead -/
def step_sim_port_Statement : Prop := step_simE_Statement .port
def step_sim_fileHost_Statement : Prop := step_simE_Statement .fileHost

theorem step_sim_host : step_simE_Statement .host :=
  fun I _ hH e input base ov hE pi ss h hX hs => (step_simX_host (P := True) I hH e input base ov hE pi ss h (hX.loc (by rw [hs]; rfl)) (fun _ => hX) hs).toRStep
theorem step_sim_hostname : step_simE_Statement .hostname :=
  fun I _ hH e input base ov hE pi ss h hX hs => (step_simX_hostname (P := True) I hH e input base ov hE pi ss h (hX.loc (by rw [hs]; rfl)) (fun _ => hX) hs).toRStep
theorem step_sim_pathStart : step_simE_Statement .pathStart :=
  fun I _ _ e input base ov hE pi ss h hX hs => (step_simX_pathStart (P := True) I e input base ov hE pi ss h (hX.loc (by rw [hs]; rfl)) (fun _ => hX) hs).toRStep
theorem step_sim_path : step_simE_Statement .path :=
  fun I _ _ e input base ov hE pi ss h hX hs => (step_simX_path (P := True) I e input base ov hE pi ss h (hX.loc (by rw [hs]; rfl)) (fun _ => hX) hs).toRStep
theorem step_sim_opaquePath : step_simE_Statement .opaquePath :=
  fun I _ _ e input base ov hE pi ss h hX hs => (step_simX_opaquePath (P := True) I e input base ov hE pi ss h (hX.loc (by rw [hs]; rfl)) (fun _ => hX) hs).toRStep
theorem step_sim_query : step_simE_Statement .query :=
  fun I _ _ e input base ov hE pi ss h hX hs => (step_simX_query (P := True) I e input base ov hE pi ss h (hX.loc (by rw [hs]; rfl)) (fun _ => hX) hs).toRStep
theorem step_sim_fragment : step_simE_Statement .fragment :=
  fun I _ _ e input base ov hE pi ss h hX hs => (step_simX_fragment (P := True) I e input base ov hE pi ss h (hX.loc (by rw [hs]; rfl)) (fun _ => hX) hs).toRStep

set_option linter.unusedVariables false in
/-- port state: with the result relation `RResB` (fatal `PortMissing` under an override against the standard's plain return) -/
theorem step_sim_port_B (I : Idna) (hI : IdnaLaws I) (hH : HostConforms I) (e : Env) (input : Str) (base : Option Spec.SUrl)
    (ov : Option Spec.St) (hE : REnv e input base ov I) (pi : PS) (ss : Spec.PS) (h : RPS pi ss) (hX : Extra input pi ss)
    (hs : pi.state = .port) :
    RStepB e.ov.isSome (step e pi) (afterRun input (Spec.run (specIdna I) input base ov ss)) :=
  (step_simX_port (P := True) I e input base ov hE pi ss h (hX.loc (by rw [hs]; rfl)) (fun _ => hX) hs).imp
    (fun _ _ hp _ => hp) fun _ _ hd => hd.1

set_option linter.unusedVariables false in
theorem step_sim_port_partial (I : Idna) (hI : IdnaLaws I) (hH : HostConforms I) (e : Env) (input : Str) (base : Option Spec.SUrl)
    (ov : Option Spec.St) (hE : REnv e input base ov I) (pi : PS) (ss : Spec.PS) (h : RPS pi ss) (hX : Extra input pi ss)
    (hs : pi.state = .port) (hov : e.ov = none) :
    RStep (step e pi) (afterRun input (Spec.run (specIdna I) input base ov ss)) := by
  have := step_simX_port (P := True) I e input base ov hE pi ss h (hX.loc (by rw [hs]; rfl)) (fun _ => hX) hs
  rw [hov] at this
  exact this.toRStep

set_option linter.unusedVariables false in
/-- file host state: with the result relation `RResB` (`return nil, nil` under an override against the standard's return) -/
theorem step_sim_fileHost_B (I : Idna) (hI : IdnaLaws I) (hH : HostConforms I) (e : Env) (input : Str) (base : Option Spec.SUrl)
    (ov : Option Spec.St) (hE : REnv e input base ov I) (pi : PS) (ss : Spec.PS) (h : RPS pi ss) (hX : Extra input pi ss)
    (hs : pi.state = .fileHost) :
    RStepB e.ov.isSome (step e pi) (afterRun input (Spec.run (specIdna I) input base ov ss)) :=
  (step_simX_fileHost (P := True) I hH e input base ov hE pi ss h (hX.loc (by rw [hs]; rfl)) (fun _ => hX) hs).imp
    (fun _ _ hp _ => hp) fun _ _ hd => hd.1

set_option linter.unusedVariables false in
theorem step_sim_fileHost_partial (I : Idna) (hI : IdnaLaws I) (hH : HostConforms I) (e : Env) (input : Str) (base : Option Spec.SUrl)
    (ov : Option Spec.St) (hE : REnv e input base ov I) (pi : PS) (ss : Spec.PS) (h : RPS pi ss) (hX : Extra input pi ss)
    (hs : pi.state = .fileHost) (hov : e.ov = none) :
    RStep (step e pi) (afterRun input (Spec.run (specIdna I) input base ov ss)) := by
  have := step_simX_fileHost (P := True) I hH e input base ov hE pi ss h (hX.loc (by rw [hs]; rfl)) (fun _ => hX) hs
  rw [hov] at this
  exact this.toRStep

/-- `stB` of `SimBaseB.lean` under a second name -/
def stateB : State → Bool
  | .host | .hostname | .port | .fileHost | .pathStart | .path | .opaquePath | .query | .fragment => true
  | _ => false

theorem stateB_eq_stB : stateB = stB := rfl

theorem step_extra_B (I : Idna) (hH : HostConforms I) (e : Env) (input : Str) (base : Option Spec.SUrl) (ov : Option Spec.St)
    (hE : REnv e input base ov I) (pi : PS) (ss : Spec.PS) (h : RPS pi ss) (hX : Extra input pi ss) (hs : stateB pi.state = true)
    (pi' : PS) (ss' : Spec.PS) (h1 : step e pi = .cont pi')
    (h2 : afterRun input (Spec.run (specIdna I) input base ov ss) = .cont ss') : Extra input pi' ss' :=
  (step_simX_B (P := True) I hH e input base ov hE pi ss h (hX.loc hs) (fun _ => hX) hs).cont pi' ss' h1 h2 trivial

/-! ## concrete witnesses: non-vacuity of the hypotheses, the two disagreements, and why each part of `Extra` is needed -/

private def uHttp : Url := { scheme := [0x68, 0x74, 0x74, 0x70], host := some [0x68] }
private def sHttp : Spec.SUrl := { scheme := "http".toList, host := some ['h'] }
private theorem rHttp : RUrl uHttp sHttp := ⟨by decide, rfl, rfl, by decide, rfl, ⟨rfl, rfl⟩, rfl, rfl⟩

/-- the port setter with the value "x" on `http://h`: a state override, an empty buffer, a non-digit. The hypotheses of the
    lemma hold, the Go code fails with `PortMissing`, the standard returns — `RStep` is false, `RStepB` holds. -/
example (I : Idna) :
    let e : Env := ⟨{}, I, [0x78], ['x'], none, some .port⟩
    let pi : PS := ⟨.port, -1, false, [], false, false, false, uHttp⟩
    let ss : Spec.PS := ⟨.port, 0, [], false, false, false, sHttp⟩
    REnv e ['x'] none (some .port) I ∧ RPS pi ss ∧ Extra ['x'] pi ss ∧
    step e pi = .done ⟨uHttp, .err ⟨.PortMissing, true⟩ false⟩ ∧
    Spec.run (specIdna I) ['x'] none (some .port) ss = .ret sHttp ∧
    ¬ RStep (step e pi) (afterRun ['x'] (Spec.run (specIdna I) ['x'] none (some .port) ss)) := by
  intro e pi ss
  have h1 : step e pi = .done ⟨uHttp, .err ⟨.PortMissing, true⟩ false⟩ := rfl
  have h2 : Spec.run (specIdna I) ['x'] none (some .port) ss = .ret sHttp := rfl
  refine ⟨⟨rfl, rfl, rfl, (by show goRunes [0x78] = _; decide), trivial, rfl⟩, ?_, ?_, h1, h2, ?_⟩
  · exact RPS.ofOrdB rfl rfl rfl rfl rfl rfl rfl rfl rHttp
  · exact Extra.ofPortB (by decide) (by decide) rfl rfl (by intro c hc; cases hc)
  · rw [h1, h2]; intro h; cases h

private def uFile : Url := { scheme := [0x66, 0x69, 0x6c, 0x65], host := some [] }
private def sFile : Spec.SUrl := { scheme := "file".toList, host := some [] }
private theorem rFile : RUrl uFile sFile := ⟨by decide, rfl, rfl, rfl, rfl, ⟨rfl, rfl⟩, rfl, rfl⟩

/-- the host setter with the value "" on `file:///`: the file host state under a state override with an empty buffer at EOF.
    The Go code returns `nil, nil`, the standard returns the url: `RRes` has no case for it, `RResB` has. -/
example (I : Idna) :
    let e : Env := ⟨{}, I, [], [], none, some .host⟩
    let pi : PS := ⟨.fileHost, -1, false, [], false, false, false, uFile⟩
    let ss : Spec.PS := ⟨.fileHost, 0, [], false, false, false, sFile⟩
    REnv e [] none (some .host) I ∧ RPS pi ss ∧ Extra [] pi ss ∧
    step e pi = .done ⟨uFile, .nilNil⟩ ∧
    Spec.run (specIdna I) [] none (some .host) ss = .ret sFile ∧
    ¬ RStep (step e pi) (afterRun [] (Spec.run (specIdna I) [] none (some .host) ss)) := by
  intro e pi ss
  have h1 : step e pi = .done ⟨uFile, .nilNil⟩ := rfl
  have h2 : Spec.run (specIdna I) [] none (some .host) ss = .ret sFile := rfl
  refine ⟨⟨rfl, rfl, rfl, rfl, trivial, rfl⟩, ?_, ?_, h1, h2, ?_⟩
  · exact RPS.ofOrdB rfl rfl rfl rfl rfl rfl rfl rfl rFile
  · exact Extra.ofListB (by decide) (by decide) rfl (by decide) (by decide)
  · rw [h1, h2]; intro h; cases h

/-- `Extra.lo` is needed (every state): `RPS` allows a pointer below -1; the Go cursor is then at "EOF" and the loop ends,
    the standard's driver continues -/
example (I : Idna) :
    let e : Env := ⟨{}, I, [0x78], ['x'], none, none⟩
    let pi : PS := ⟨.fragment, -5, false, [], false, false, false, { uHttp with fragment := some [] }⟩
    let ss : Spec.PS := ⟨.fragment, -4, [], false, false, false, { sHttp with fragment := some [] }⟩
    REnv e ['x'] none none I ∧ RPS pi ss ∧
    ¬ RStep (step e pi) (afterRun ['x'] (Spec.run (specIdna I) ['x'] none none ss)) := by
  intro e pi ss
  have h1 : step e pi = .done ⟨{ uHttp with fragment := some [] }, .url⟩ := rfl
  have h2 : afterRun ['x'] (Spec.run (specIdna I) ['x'] none none ss) = .cont { ss with pointer := -3 } := rfl
  refine ⟨⟨rfl, rfl, rfl, (by show goRunes [0x78] = _; decide), trivial, rfl⟩, ?_, ?_⟩
  · exact RPS.ofFragmentB rfl rfl rfl rfl rfl rfl rfl (rHttp.setFragment'B _ _ rfl) (by simp)
  · rw [h1, h2]; intro h; exact h

/-- `Extra.portBuf` is needed: `RPS` allows a non-ASCII buffer in the port state, and `digitsVal` on the bytes of "1é" is 100
    where `strVal` on its code points is 10 -/
example : digitsVal 10 (utf8 ['1', 'é']) = 100 ∧ Spec.strVal 10 ['1', 'é'] = 10 := by decide

/-- `Extra.listPath` is needed: `RPath` allows an opaque path in the path state, where `addSegment` (Go) and "append to
    url's path" (standard) differ -/
example :
    RPath ⟨[[0x61]], true⟩ (.opaque ['a']) ∧
    (Path.addSegment ⟨[[0x61]], true⟩ [0x62] = ⟨[[0x61], [0x62]], false⟩) ∧
    (Spec.pathAppend { path := .opaque ['a'] } ['b']).path = .opaque ['a', 'b'] ∧
    ¬ RPath ⟨[[0x61], [0x62]], false⟩ (.opaque ['a', 'b']) := by
  refine ⟨⟨rfl, rfl⟩, rfl, rfl, ?_⟩
  intro h; cases h.1

/-- `Extra.psBuf` is needed: with a non-empty buffer in the path start state the query state would start with it (the Go
    buffer is then not the encoding of the standard's) -/
example : utf8 [' '] ≠ utf8 (Spec.utf8PercentEncode Spec.querySet [' ']) := by decide

/-- non-vacuity of the hypotheses in the remaining states: a pair of related states for the input `http://h/a b?c#d` -/
example (I : Idna) :
    let input := "http://h/a b?c#d".toList
    let e : Env := ⟨{}, I, utf8 input, input, none, none⟩
    REnv e input none none I ∧
    (RPS ⟨.host, 6, false, [], false, false, false, { scheme := [0x68, 0x74, 0x74, 0x70] }⟩
        ⟨.host, 7, [], false, false, false, { scheme := "http".toList }⟩ ∧
      Extra input ⟨.host, 6, false, [], false, false, false, { scheme := [0x68, 0x74, 0x74, 0x70] }⟩
        ⟨.host, 7, [], false, false, false, { scheme := "http".toList }⟩) ∧
    (RPS ⟨.pathStart, 7, false, [], false, false, false, uHttp⟩ ⟨.pathStart, 8, [], false, false, false, sHttp⟩ ∧
      Extra input ⟨.pathStart, 7, false, [], false, false, false, uHttp⟩ ⟨.pathStart, 8, [], false, false, false, sHttp⟩) ∧
    (RPS ⟨.path, 10, false, [0x61, 0x25, 0x32, 0x30], false, false, false, uHttp⟩
        ⟨.path, 11, "a%20".toList, false, false, false, sHttp⟩ ∧
      Extra input ⟨.path, 10, false, [0x61, 0x25, 0x32, 0x30], false, false, false, uHttp⟩
        ⟨.path, 11, "a%20".toList, false, false, false, sHttp⟩) ∧
    RPS ⟨.query, 12, false, [], false, false, false, { uHttp with path := ⟨[[0x61, 0x25, 0x32, 0x30, 0x62]], false⟩, query := some [] }⟩
        ⟨.query, 13, [], false, false, false, { sHttp with path := .list ["a%20b".toList], query := some [] }⟩ ∧
    RPS ⟨.fragment, 14, false, [], false, false, false,
          { uHttp with path := ⟨[[0x61, 0x25, 0x32, 0x30, 0x62]], false⟩, query := some [0x63], fragment := some [] }⟩
        ⟨.fragment, 15, [], false, false, false,
          { sHttp with path := .list ["a%20b".toList], query := some ['c'], fragment := some [] }⟩ := by
  intro input e
  refine ⟨⟨rfl, rfl, rfl, Utf8.goRunes_utf8 _, trivial, rfl⟩, ⟨?_, ?_⟩, ⟨?_, ?_⟩, ⟨?_, ?_⟩, ?_, ?_⟩
  · exact RPS.ofOrdB rfl rfl rfl rfl rfl rfl rfl rfl ⟨by decide, rfl, rfl, rfl, rfl, ⟨rfl, rfl⟩, rfl, rfl⟩
  · exact Extra.ofListB (by decide) (by decide) rfl (by decide) (by decide)
  · exact RPS.ofOrdB rfl rfl rfl rfl rfl rfl rfl rfl rHttp
  · exact Extra.ofPathStartB (by decide) (by decide) rfl rfl rfl
  · exact RPS.ofOrdB rfl rfl rfl rfl rfl rfl rfl (by decide) rHttp
  · exact Extra.ofListB (by decide) (by decide) rfl (by decide) (by decide)
  · exact RPS.ofQueryB rfl rfl rfl rfl rfl rfl rfl rfl rfl
      ⟨by decide, rfl, rfl, by decide, rfl, ⟨rfl, by decide⟩, rfl, rfl⟩ (by simp)
  · exact RPS.ofFragmentB rfl rfl rfl rfl rfl rfl rfl
      ⟨by decide, rfl, rfl, by decide, rfl, ⟨rfl, by decide⟩, by decide, rfl⟩ (by simp)

/-- an opaque-path state: `mailto:a` after the `a` -/
example : RPS ⟨.opaquePath, 7, false, [0x61], false, false, false, { scheme := [0x6d], path := ⟨[[0x61]], true⟩ }⟩
    ⟨.opaquePath, 8, [], false, false, false, { scheme := ['m'], path := .opaque ['a'] }⟩ :=
  RPS.ofOpaqueB rfl rfl rfl rfl rfl rfl rfl rfl ⟨by decide, rfl, rfl, rfl, rfl, ⟨rfl, by decide⟩, rfl, rfl⟩ rfl

end WhatwgUrl.Proofs.Sim
