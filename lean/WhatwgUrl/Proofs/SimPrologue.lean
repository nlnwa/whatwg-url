import WhatwgUrl.Proofs.Trim
import WhatwgUrl.Proofs.Utf8
import WhatwgUrl.Proofs.Percent
import WhatwgUrl.Proofs.IPv4
import WhatwgUrl.Spec.Url
/-
  Conformance simulation: the prologue of `basicParser` (Go: `trim c0OrSpaceSet`, `removeTabNl`, both on bytes)
  against the prologue of the standard's basic URL parser (strip leading / trailing C0-control-or-space code points,
  remove ASCII tab / newline code points), under the decidable hypothesis `TabNlOk` that marks the boundary of finding F3.
-/
namespace WhatwgUrl.Proofs.Sim
open WhatwgUrl WhatwgUrl.Impl WhatwgUrl.Proofs.Trim

/-- tab/newline removal at byte level agrees with removal at code point level (false only when a tab/newline sits
    inside an ill-formed UTF-8 sequence) -/
def TabNlOk (b : Bytes) : Prop :=
  goRunes (removeTabNl b).1 = (goRunes b).filter (fun c => !Spec.isTabOrNewline c)

instance (b : Bytes) : Decidable (TabNlOk b) := by unfold TabNlOk; infer_instance

/-- `decode1` looks ahead at most three bytes and rejects a sequence whose next byte is not a continuation byte exactly
    as it rejects a truncated sequence at the end of the input -/
theorem decode1_append_noncont (b0 x : UInt8) (rest tl : Bytes) (hc : isCont x = false) :
    decode1 b0 (rest ++ x :: tl) = decode1 b0 rest := by
  -- a byte that is not a continuation byte fails every range test on a second byte
  have hx : ∀ lo hi : Nat, 0x80 ≤ lo → hi ≤ 0xBF → (decide (lo ≤ x.toNat) && decide (x.toNat ≤ hi)) = false := by
    intro lo hi h1 h2
    simp only [isCont, Bool.and_eq_false_iff, decide_eq_false_iff_not] at hc ⊢; omega
  rcases Nat.lt_or_ge b0.toNat 0xC2 with h1 | h1
  · rw [Utf8.decode1_1 _ _ (.inl h1), Utf8.decode1_1 _ rest (.inl h1)]
  rcases Nat.lt_or_ge b0.toNat 0xE0 with h2 | h2
  · rw [Utf8.decode1_2 _ _ h1 h2, Utf8.decode1_2 _ _ h1 h2]
    cases rest with
    | nil => dsimp only [List.nil_append]; rw [hc]; rfl
    | cons => rfl
  rcases Nat.lt_or_ge b0.toNat 0xF0 with h3 | h3
  · rw [Utf8.decode1_3 _ _ h2 h3, Utf8.decode1_3 _ _ h2 h3]
    dsimp +instances only [Utf8.ok3]
    rcases rest with _ | ⟨b1, _ | ⟨b2, r⟩⟩
    · cases tl with
      | nil => rfl
      | cons t tl =>
        dsimp only [List.nil_append]
        rw [hx _ _ (by split <;> omega) (by split <;> omega)]
        rfl
    · dsimp only [List.cons_append, List.nil_append]; rw [hc, Bool.and_false]; rfl
    · rfl
  rcases Nat.lt_or_ge b0.toNat 0xF5 with h4 | h4
  · rw [Utf8.decode1_4 _ _ h3 h4, Utf8.decode1_4 _ _ h3 h4]
    dsimp +instances only [Utf8.ok4]
    rcases rest with _ | ⟨b1, _ | ⟨b2, _ | ⟨b3, r⟩⟩⟩
    · rcases tl with _ | ⟨t1, _ | ⟨t2, tl⟩⟩
      · rfl
      · rfl
      · dsimp only [List.nil_append]
        rw [hx _ _ (by split <;> omega) (by split <;> omega)]
        rfl
    · cases tl with
      | nil => rfl
      | cons t tl => dsimp only [List.cons_append, List.nil_append]; rw [hc, Bool.and_false, Bool.false_and]; rfl
    · dsimp only [List.cons_append, List.nil_append]; rw [hc, Bool.and_false]; rfl
    · rfl
  · rw [Utf8.decode1_1 _ _ (.inr h4), Utf8.decode1_1 _ rest (.inr h4)]

theorem decode1_append_ascii (b0 x : UInt8) (rest tl : Bytes) (hx : x.toNat < 0x80) :
    decode1 b0 (rest ++ x :: tl) = decode1 b0 rest :=
  decode1_append_noncont b0 x rest tl (Utf8.isCont_ascii x hx)

/-- the decoder re-synchronises at a byte that is not a continuation byte, whatever precedes it -/
theorem goRunes_append_noncont_cons (x : UInt8) (tl : Bytes) (hx : isCont x = false) (b : Bytes) :
    goRunes (b ++ x :: tl) = goRunes b ++ goRunes (x :: tl) := by
  induction b using Utf8.goDecode_ind with
  | h0 => rfl
  | hs b0 rest ih =>
    have hle := Utf8.decode1_size_le_length b0 rest
    rw [List.cons_append, Utf8.goRunes_cons, Utf8.goRunes_cons, decode1_append_noncont b0 x rest tl hx,
      List.drop_append_of_le_length (by omega), ih]
    rfl

theorem utf8Char_head_noncont (c : Char) : ∃ x tl, utf8Char c = x :: tl ∧ isCont x = false := by
  have hv : c.toNat < 0xD800 ∨ (0xDFFF < c.toNat ∧ c.toNat < 0x110000) := c.valid
  rw [Utf8.utf8Char_eq]
  repeat' split
  all_goals
    refine ⟨_, _, rfl, ?_⟩
    simp only [isCont, UInt8.toNat_ofNat', Bool.and_eq_false_iff, decide_eq_false_iff_not]; omega

theorem goRunes_append_utf8Char (b : Bytes) (c : Char) : goRunes (b ++ utf8Char c) = goRunes b ++ [c] := by
  obtain ⟨x, tl, e, hx⟩ := utf8Char_head_noncont c
  rw [e, goRunes_append_noncont_cons x tl hx, ← e]
  have := Utf8.goRunes_utf8Char_append c []
  rw [List.append_nil] at this
  rw [this]; rfl

theorem goRunes_append_utf8 (b : Bytes) (s : Str) : goRunes (b ++ utf8 s) = goRunes b ++ s := by
  induction s generalizing b with
  | nil => simp [utf8]
  | cons c s ih =>
    rw [Utf8.utf8_cons, ← List.append_assoc, ih, goRunes_append_utf8Char]
    simp

theorem goRunes_append_ascii (a : Bytes) (ha : ∀ x ∈ a, x.toNat < 0x80) (b : Bytes) :
    goRunes (b ++ a) = goRunes b ++ a.map bc := by
  have := goRunes_append_utf8 b (IPv4.asStr a)
  rwa [IPv4.utf8_asStr a ha] at this

theorem goRunes_append_ascii_one (x : UInt8) (hx : x.toNat < 0x80) (b : Bytes) :
    goRunes (b ++ [x]) = goRunes b ++ [bc x] :=
  goRunes_append_ascii [x] (fun y hy => by rw [List.mem_singleton.mp hy]; exact hx) b

theorem isC0OrSpace_bc (x : UInt8) : Spec.isC0OrSpace (bc x) = isWs x := by
  simp only [Spec.isC0OrSpace, isWs, Utf8.bc_toNat]
  by_cases h : x.toNat < 0x21
  · simp [h]; omega
  · simp [h]; omega

theorem goRunes_dropWs (b : Bytes) : goRunes (dropWs b) = (goRunes b).dropWhile Spec.isC0OrSpace := by
  induction b with
  | nil => rfl
  | cons x rest ih =>
    by_cases hw : x.toNat < 0x21
    · have h1 : dropWs (x :: rest) = dropWs rest := by simp [dropWs, isWs, hw]
      have h2 : Spec.isC0OrSpace (bc x) = true := by rw [isC0OrSpace_bc]; simp [isWs, hw]
      rw [h1, ih, Utf8.goRunes_cons, Utf8.decode1_ascii x rest (by omega)]
      simp [h2]
    · have h1 : dropWs (x :: rest) = x :: rest := by simp [dropWs, isWs, hw]
      have h2 := decode1_notws x rest (by omega)
      have h3 : Spec.isC0OrSpace (decode1 x rest).1 = false := by
        simp only [Spec.isC0OrSpace, decide_eq_false_iff_not]; omega
      rw [h1, Utf8.goRunes_cons]
      simp [h3]

/-- if the last byte is above 0x20, so is the last rune (a rune ≤ 0x20 is a complete one-byte sequence) -/
theorem goRunes_getLast_notws (b : Bytes) : ∀ x, b.getLast? = some x → 0x21 ≤ x.toNat →
    ∀ c, (goRunes b).getLast? = some c → 0x21 ≤ c.toNat := by
  induction b using Utf8.goDecode_ind with
  | h0 => intro x h; simp at h
  | hs b0 rest ih =>
    intro x hx hx21 c hc
    rw [Utf8.goRunes_cons] at hc
    by_cases hr : rest.drop ((decode1 b0 rest).2 - 1) = []
    · rw [hr] at hc
      simp only [Utf8.goRunes_nil, List.getLast?_singleton, Option.some.injEq] at hc
      subst hc
      by_cases hb : 0x21 ≤ b0.toNat
      · exact decode1_notws b0 rest hb
      · have hd := Utf8.decode1_ascii b0 rest (by omega)
        rw [hd] at hr
        simp only [Nat.sub_self, List.drop_zero] at hr
        subst hr
        simp only [List.getLast?_singleton, Option.some.injEq] at hx
        subst hx
        omega
    · obtain ⟨r0, rs, hrs⟩ := List.exists_cons_of_ne_nil hr
      have hne : goRunes (rest.drop ((decode1 b0 rest).2 - 1)) ≠ [] := by rw [hrs]; exact Utf8.goRunes_ne_nil (List.cons_ne_nil _ _)
      rw [List.getLast?_cons_of_ne_nil hne] at hc
      refine ih x ?_ hx21 c hc
      have hrest : rest ≠ [] := by intro h; rw [h] at hr; simp at hr
      rw [List.getLast?_cons_of_ne_nil hrest] at hx
      rw [List.getLast?_drop]
      split
      · rename_i hlen
        exact absurd (List.drop_eq_nil_of_le hlen) hr
      · exact hx

theorem goRunes_dropWsR (b : Bytes) :
    goRunes (dropWsR b) = ((goRunes b).reverse.dropWhile Spec.isC0OrSpace).reverse := by
  obtain ⟨ws, hsplit, hws⟩ := dropWsR_split b
  have hascii : ∀ x ∈ ws, x.toNat < 0x80 := fun x hx => isWs_lt (hws x hx)
  generalize hk : dropWsR b = k at hsplit
  have h1 : goRunes b = goRunes k ++ ws.map bc := by rw [hsplit]; exact goRunes_append_ascii ws hascii k
  rw [h1, List.reverse_append, List.dropWhile_append_of_pos]
  · -- the last rune of the kept part is not white space
    suffices h : (goRunes k).reverse.dropWhile Spec.isC0OrSpace = (goRunes k).reverse by rw [h, List.reverse_reverse]
    cases hg : (goRunes k).reverse with
    | nil => rfl
    | cons c l =>
      have hlast : (goRunes k).getLast? = some c := by
        rw [List.getLast?_eq_head?_reverse, hg]; rfl
      -- the last byte of `k` is not white space
      have hkne : k ≠ [] := by
        intro h; rw [h] at hg; simp at hg
      have hkl : ∀ x, k.getLast? = some x → 0x21 ≤ x.toNat := by
        intro x hx
        rw [← hk, dropWsR, List.getLast?_reverse] at hx
        have := List.head?_dropWhile_not isWs b.reverse
        rw [hx] at this
        simp only [isWs, decide_eq_false_iff_not] at this
        omega
      obtain ⟨x, hx⟩ : ∃ x, k.getLast? = some x := by
        cases h : k.getLast? with
        | none => exact absurd (List.getLast?_eq_none_iff.mp h) hkne
        | some x => exact ⟨x, rfl⟩
      have := goRunes_getLast_notws k x hx (hkl x hx) c hlast
      have hc : Spec.isC0OrSpace c = false := by
        simp only [Spec.isC0OrSpace, decide_eq_false_iff_not]; omega
      simp [hc]
  · intro c hc
    rw [List.mem_reverse, List.mem_map] at hc
    obtain ⟨x, hx, rfl⟩ := hc
    rw [isC0OrSpace_bc]; exact hws x hx

/-- Go's `trim` with the C0-control-or-space set, seen on runes, is the standard's stripping of leading and trailing
    C0 control or space code points — for every byte string, valid UTF-8 or not -/
theorem goRunes_trim (input : Bytes) :
    goRunes (trim c0OrSpaceSet input).1 =
      (((goRunes input).dropWhile Spec.isC0OrSpace).reverse.dropWhile Spec.isC0OrSpace).reverse := by
  rw [trim_fst, goRunes_dropWsR, goRunes_dropWs]

/-- Prologue: the rune list the Go state machine runs on is the code point list the standard's machine runs on. -/
theorem prologue_sim (input : Bytes) (fresh : Bool)
    (h : TabNlOk (if fresh then (trim c0OrSpaceSet input).1 else input)) :
    goRunes (removeTabNl (if fresh then (trim c0OrSpaceSet input).1 else input)).1 =
    ((if fresh then (((goRunes input).dropWhile Spec.isC0OrSpace).reverse.dropWhile Spec.isC0OrSpace).reverse
      else goRunes input).filter (!Spec.isTabOrNewline ·)) := by
  rw [h]
  cases fresh
  · rfl
  · simp only [if_true, goRunes_trim]

private theorem isTabNl_ascii : ∀ i : Fin 128, Spec.isTabOrNewline (Char.ofNat i.val) = isTabNl i.val.toUInt8 := by
  decide +kernel

theorem isTabOrNewline_bc (x : UInt8) (hx : x.toNat < 0x80) : Spec.isTabOrNewline (bc x) = isTabNl x := by
  simpa [bc] using isTabNl_ascii ⟨x.toNat, hx⟩

theorem filter_utf8 (s : Str) :
    (utf8 s).filter (fun x => !isTabNl x) = utf8 (s.filter fun c => !Spec.isTabOrNewline c) := by
  induction s with
  | nil => rfl
  | cons c s ih =>
    rw [Utf8.utf8_cons, List.filter_append, ih]
    by_cases hc : c.toNat < 0x80
    · have h2 : Spec.isTabOrNewline c = isTabNl c.toNat.toUInt8 := by simpa using isTabNl_ascii ⟨c.toNat, hc⟩
      rw [Utf8.utf8Char_ascii c hc, List.filter_cons, List.filter_cons, h2]
      split
      · rw [Utf8.utf8_cons, Utf8.utf8Char_ascii c hc]; rfl
      · rfl
    · have h1 : Spec.isTabOrNewline c = false := by
        simp only [Spec.isTabOrNewline, Bool.or_eq_false_iff, beq_eq_false_iff_ne]; omega
      have h2 : (utf8Char c).filter (fun x => !isTabNl x) = utf8Char c := by
        rw [List.filter_eq_self]
        intro x hx
        rw [isTabNl_of_ge x (by have := Utf8.utf8Char_high c (by omega) x hx; omega)]; rfl
      rw [h2, List.filter_cons, h1]
      rfl

theorem TabNlOk_utf8 (s : Str) : TabNlOk (utf8 s) := by
  unfold TabNlOk removeTabNl
  simp only
  rw [filter_utf8, Utf8.goRunes_utf8, Utf8.goRunes_utf8]

theorem TabNlOk_of_valid (b : Bytes) (h : validUtf8 b = true) : TabNlOk b := by
  rw [← Utf8.utf8_goRunes b h]; exact TabNlOk_utf8 _

theorem TabNlOk_of_ascii (b : Bytes) (h : ∀ x ∈ b, x.toNat < 0x80) : TabNlOk b := by
  rw [← IPv4.utf8_asStr b h]; exact TabNlOk_utf8 _

/-- an ASCII byte in front: removed or kept on both sides alike -/
theorem TabNlOk_cons_ascii (x : UInt8) (hx : x.toNat < 0x80) (rest : Bytes) : TabNlOk (x :: rest) ↔ TabNlOk rest := by
  unfold TabNlOk removeTabNl
  rw [Utf8.goRunes_cons x rest, Utf8.decode1_ascii x _ hx]
  simp only [List.filter_cons, isTabOrNewline_bc x hx, Nat.sub_self, List.drop_zero]
  cases isTabNl x
  · simp only [Bool.not_false, if_true]
    rw [Utf8.goRunes_cons, Utf8.decode1_ascii x _ hx]
    simp only [Nat.sub_self, List.drop_zero, List.cons.injEq, true_and]
  · simp only [Bool.not_true, Bool.false_eq_true, if_false]

/-- an ASCII byte at the end: the decoder re-synchronises there (`goRunes_append_ascii_one`) -/
theorem TabNlOk_snoc_ascii (x : UInt8) (hx : x.toNat < 0x80) (b : Bytes) : TabNlOk (b ++ [x]) ↔ TabNlOk b := by
  unfold TabNlOk removeTabNl
  rw [goRunes_append_ascii_one x hx]
  simp only [List.filter_append, List.filter_cons, List.filter_nil, isTabOrNewline_bc x hx]
  cases isTabNl x
  · simp only [Bool.not_false, if_true]
    rw [goRunes_append_ascii_one x hx, List.append_cancel_right_eq]
  · simp only [Bool.not_true, Bool.false_eq_true, if_false, List.append_nil]

theorem TabNlOk_ascii_prefix (a : Bytes) (ha : ∀ x ∈ a, x.toNat < 0x80) (b : Bytes) : TabNlOk (a ++ b) ↔ TabNlOk b := by
  induction a with
  | nil => rfl
  | cons x a ih =>
    rw [List.cons_append, TabNlOk_cons_ascii x (ha x (by simp))]
    exact ih fun y hy => ha y (by simp [hy])

theorem TabNlOk_ascii_suffix (a : Bytes) (ha : ∀ x ∈ a, x.toNat < 0x80) (b : Bytes) : TabNlOk (b ++ a) ↔ TabNlOk b := by
  induction a generalizing b with
  | nil => rw [List.append_nil]
  | cons x a ih =>
    rw [show b ++ x :: a = (b ++ [x]) ++ a by simp, ih (fun y hy => ha y (by simp [hy])),
      TabNlOk_snoc_ascii x (ha x (by simp))]

/-- trimming removes ASCII bytes at the two ends only -/
theorem TabNlOk_trim (b : Bytes) : TabNlOk (trim c0OrSpaceSet b).1 ↔ TabNlOk b := by
  rw [trim_fst]
  obtain ⟨ws, h1, hws⟩ := dropWsR_split (dropWs b)
  have h2 : b = b.takeWhile isWs ++ dropWs b := (List.takeWhile_append_dropWhile (p := isWs) (l := b)).symm
  conv => rhs; rw [h2, TabNlOk_ascii_prefix _ (fun x hx => isWs_lt (Utf8.mem_takeWhile_imp hx)), h1,
    TabNlOk_ascii_suffix _ (fun x hx => isWs_lt (hws x hx))]

theorem TabNlOk_trim_of_valid (b : Bytes) (h : validUtf8 b = true) : TabNlOk (trim c0OrSpaceSet b).1 :=
  (TabNlOk_trim b).2 (TabNlOk_of_valid b h)

theorem trimPrefix1_nil (x : UInt8) : trimPrefix1 [] [x] = [] := rfl

theorem trimPrefix1_cons (x y : UInt8) (rest : Bytes) :
    trimPrefix1 (y :: rest) [x] = if x = y then rest else y :: rest := by
  unfold trimPrefix1 startsWith
  by_cases h : x = y
  · subst h; simp [List.isPrefixOf]
  · simp [List.isPrefixOf, h]

theorem TabNlOk_trimPrefix1 (x : UInt8) (hx : x.toNat < 0x80) (v : Bytes) (h : TabNlOk v) : TabNlOk (trimPrefix1 v [x]) := by
  cases v with
  | nil => exact h
  | cons y rest =>
    rw [trimPrefix1_cons]
    split
    · next hxy => subst hxy; exact (TabNlOk_cons_ascii x hx rest).1 h
    · exact h

/-- the counterexample behind finding F3: a newline inside an ill-formed sequence. Go removes the byte 0x0A and then
    decodes `C3 A9` as U+00E9; the standard sees U+FFFD, U+000A, U+FFFD and removes the middle one. -/
theorem TabNlOk_counterexample : ¬ TabNlOk [0xc3, 0x0a, 0xa9] := by decide +kernel

example : TabNlOk (lit " \thttp://ex\nample.org/\t ") := TabNlOk_of_ascii _ (by decide +kernel)
example : TabNlOk [0x61, 0xC3, 0xA9, 0x0a, 0xE2, 0x82, 0xAC] := TabNlOk_of_valid _ (by decide +kernel)
/-- an ill-formed input for which the hypothesis holds all the same (the newline is not inside the ill-formed sequence) -/
example : validUtf8 [0xc3, 0x61, 0x0a, 0xa9] = false ∧ TabNlOk [0xc3, 0x61, 0x0a, 0xa9] := by decide +kernel
/-- stripping on runes really happens, also next to ill-formed bytes -/
example : goRunes (trim c0OrSpaceSet [0x20, 0xc3, 0x20, 0x0a]).1 = [repl] := by decide +kernel

end WhatwgUrl.Proofs.Sim
