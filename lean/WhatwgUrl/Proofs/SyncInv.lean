import WhatwgUrl.Proofs.HeapInv
import WhatwgUrl.Proofs.IndepHist
import WhatwgUrl.Proofs.Frame
/-
  C12c: the history-level invariant "a url and its list describe the same query" (`Sync`).
  `Linked` makes every object own its list, so every object has a local view (`IndepHist.Loc`), and `SyncAt` says that
  every view relates query text and list (`RelV`).  A step with the footprint `IndepHist.Local` on a target keeps `Sync`
  as soon as the target's new view is related (`sync_local`); that the views stay related under the operations is a fact
  about `IndepHist.stepV` alone (`stepV_rel`).
-/
namespace WhatwgUrl.Proofs.SyncInv
open WhatwgUrl WhatwgUrl.Impl WhatwgUrl.Impl.Heap WhatwgUrl.Proofs.IndepHist

/-- list `p` and query text `q` describe the same query under `cfg`: the list is the urlencoded parse of the text
    (state after `SetSearch` / lazy creation) or the text is the list's serialization (state after a mutation) -/
def Rel (cfg : Cfg) (q : Bytes) (p : Pairs) : Prop := p = spInit cfg q ∨ q = spString cfg p

/-- pointer structure: a url's list exists and points back at it; EVERY list has an owner, whose current list it is
    (so lists are not shared, and there are no orphaned lists) -/
def Linked (H : Heap) : Prop :=
  (∀ (i : Nat) (o : UrlObj) (s : Nat), H.urls[i]? = some o → o.sp = some s → ∃ so : SpObj, H.sps[s]? = some so ∧ so.url = some i) ∧
  (∀ (s : Nat) (so : SpObj), H.sps[s]? = some so → ∃ (j : Nat) (o : UrlObj), so.url = some j ∧ H.urls[j]? = some o ∧ o.sp = some s)

/-- the list of url `i` (if it has one) and its query satisfy `Rel`, written out (`syncAt_iff` reads it on the local view);
    the second disjunct alone is `InSync H i` of `Proofs/Heap.lean`, the write-through clause of C12 -/
def SyncAt (H : Heap) (i : Nat) : Prop :=
  ∀ (o : UrlObj) (s : Nat) (so : SpObj), H.urls[i]? = some o → o.sp = some s → H.sps[s]? = some so →
    so.params = spInit o.cfg (o.u.query.getD []) ∨ o.u.query.getD [] = spString o.cfg so.params

def Sync (H : Heap) : Prop := Linked H ∧ ∀ i, SyncAt H i

theorem Linked.back {H : Heap} (h : Linked H) {s : Nat} {so : SpObj} {j : Nat} (hso : H.sps[s]? = some so)
    (hj : so.url = some j) : ∃ o, H.urls[j]? = some o ∧ o.sp = some s := by
  obtain ⟨j', o, hj', ho, hsp⟩ := h.2 s so hso
  rw [hj] at hj'; cases hj'
  exact ⟨o, ho, hsp⟩

theorem Linked.inj {H : Heap} (h : Linked H) {i k : Nat} {o ok : UrlObj} {s : Nat} (ho : H.urls[i]? = some o)
    (hok : H.urls[k]? = some ok) (hs : o.sp = some s) (hks : ok.sp = some s) : k = i := by
  obtain ⟨so, hso, hu⟩ := h.1 i o s ho hs
  obtain ⟨so', hso', hu'⟩ := h.1 k ok s hok hks
  rw [hso] at hso'; cases hso'
  rw [hu] at hu'; cases hu'; rfl

/-- the first clause of `Linked` is `OwnSp` of every object (binders in another order) -/
theorem Linked.ownSp {H : Heap} (h : Linked H) (i : Nat) : OwnSp H i := fun o ho s hs => h.1 i o s ho hs

/-- `Linked` gives the hypotheses the frame theorems of C13 / C13b ask of two objects -/
theorem Linked.sep {H : Heap} (h : Linked H) {a b : Nat} (hab : a ≠ b) : Separated H a b ∧ OwnSp H a ∧ OwnSp H b :=
  ⟨⟨hab, fun _ _ hoa hob _ _ hsa hsb e => hab (by subst e; exact h.inj hob hoa hsb hsa)⟩, h.ownSp a, h.ownSp b⟩

theorem sync_empty : Sync {} :=
  ⟨⟨fun i o s h => by simp at h, fun s so h => by simp at h⟩, fun i o s so h => by simp at h⟩

theorem rel_init (cfg : Cfg) (q : Option Bytes) :
    Rel cfg (q.getD []) (match q with | some q => spInit cfg q | none => []) := by
  cases q with
  | none => exact Or.inl (spInit_nil cfg).symm
  | some q => exact Or.inl rfl

theorem sync_allocUrl {H : Heap} (o : UrlObj) (hS : Sync H) (hn : o.sp = none) : Sync (H.allocUrl o).1 := by
  obtain ⟨hL, hA⟩ := hS
  refine ⟨⟨?_, ?_⟩, ?_⟩
  · intro k ok s hok hks
    rw [allocUrl_urls, getElem?_append_singleton_iff] at hok
    rcases hok with hok | ⟨_, rfl⟩
    · exact hL.1 k ok s hok hks
    · rw [hn] at hks; cases hks
  · intro t so hso
    rw [allocUrl_sps] at hso
    obtain ⟨j, oj, hj, hoj, hjs⟩ := hL.2 t so hso
    refine ⟨j, oj, hj, ?_, hjs⟩
    rw [allocUrl_urls, getElem?_append_singleton_iff]; exact Or.inl hoj
  · intro k ok s so hok hks hso
    rw [allocUrl_urls, getElem?_append_singleton_iff] at hok
    rcases hok with hok | ⟨_, rfl⟩
    · exact hA k ok s so hok hks hso
    · rw [hn] at hks; cases hks

theorem linked_loc {H : Heap} (hL : Linked H) {a : Nat} {o : UrlObj} (ho : H.urls[a]? = some o) : ∃ x, Loc H a o.cfg x :=
  Loc.of_ownSp ho (hL.ownSp a)

/-- a step on `a` keeps the view of every other object: lists are not shared -/
theorem loc_other {H H' : Heap} {a b : Nat} {cfg : Cfg} {x : Url × Option Pairs} (hL : Linked H) (hf : Frame H H' a)
    (hab : b ≠ a) (h : Loc H b cfg x) : Loc H' b cfg x := by
  exact frame_loc hf (hL.sep fun e => hab e.symm).1 h

theorem linked_local {H H' : Heap} {a : Nat} {cfg : Cfg} {x x' : Url × Option Pairs} (hL : Linked H) (hf : Local H H' a)
    (h : Loc H a cfg x) (h' : Loc H' a cfg x') : Linked H' := by
  refine ⟨fun k ok s hok hks => ?_, fun t so hso => ?_⟩
  · by_cases hka : k = a
    · subst hka; exact h'.ownSp ok hok s hks
    · have hk : k < H.urls.length := by rw [← hf.ulen_eq]; exact lt_of_getElem?_eq_some hok
      obtain ⟨y, hy⟩ := linked_loc hL (List.getElem?_eq_getElem hk)
      exact (loc_other hL hf.toFrame hka hy).ownSp ok hok s hks
  · rcases Nat.lt_or_ge t H.sps.length with ht | ht
    · obtain ⟨j, oj, hj, hoj, hjs⟩ := hL.2 t H.sps[t] (List.getElem?_eq_getElem ht)
      by_cases hja : j = a
      · subst hja
        obtain ⟨oa2, hoa2, hs2⟩ := hf.keep oj t hoj hjs
        obtain ⟨so2, hso2, hb2⟩ := h'.ownSp oa2 hoa2 t hs2
        rw [hso] at hso2; cases hso2
        exact ⟨j, oa2, hb2, hoa2, hs2⟩
      · have hne : ∀ oa, H.urls[a]? = some oa → oa.sp ≠ some t := fun oa2 h2 e => hja (hL.inj h2 hoj e hjs)
        rw [hf.sps t ht hne, List.getElem?_eq_getElem ht] at hso; cases hso
        exact ⟨j, oj, hj, by rw [hf.urls j (lt_of_getElem?_eq_some hoj) hja]; exact hoj, hjs⟩
    · -- a list allocated by the step is the target's
      obtain ⟨oa2, hoa2, hs2⟩ := hf.newsp t ht (lt_of_getElem?_eq_some hso)
      obtain ⟨so2, hso2, hb2⟩ := h'.ownSp oa2 hoa2 t hs2
      rw [hso] at hso2; cases hso2
      exact ⟨a, oa2, hb2, hoa2, hs2⟩

def RelV (cfg : Cfg) (x : Url × Option Pairs) : Prop := ∀ l, x.2 = some l → Rel cfg (x.1.query.getD []) l

theorem syncAt_iff {H : Heap} (hL : Linked H) (a : Nat) : SyncAt H a ↔ ∀ cfg x, Loc H a cfg x → RelV cfg x := by
  constructor
  · rintro hA cfg x ⟨o, ho, hu, hc, hsp⟩ l hl
    rcases hsp with ⟨_, hn⟩ | ⟨s, so, hs, hso, _, hx⟩
    · rw [hn] at hl; cases hl
    · rw [hx] at hl; cases hl
      rw [← hu, ← hc]; exact hA o s so ho hs hso
  · intro h o s so ho hs hso
    obtain ⟨so', hso', hb⟩ := hL.1 a o s ho hs
    rw [hso] at hso'; cases hso'
    exact h o.cfg (o.u, some so.params) ⟨o, ho, rfl, rfl, Or.inr ⟨s, so, hs, hso, hb, rfl⟩⟩ _ rfl

/-- `Sync` under a local step: all that is asked of the operation is that the target's new view is related -/
theorem sync_local {H H' : Heap} {a : Nat} {cfg : Cfg} {x x' : Url × Option Pairs} (hS : Sync H) (hf : Local H H' a)
    (h : Loc H a cfg x) (h' : Loc H' a cfg x') (hR : RelV cfg x') : Sync H' := by
  have hL' := linked_local hS.1 hf h h'
  refine ⟨hL', fun k => (syncAt_iff hL' k).2 (fun c y hy => ?_)⟩
  by_cases hka : k = a
  · subst hka
    obtain ⟨rfl, rfl⟩ := Loc.unique hy h'
    exact hR
  · have hk : k < H.urls.length := by rw [← hf.ulen_eq]; exact Loc.lt hy
    obtain ⟨z, hz⟩ := linked_loc hS.1 (List.getElem?_eq_getElem hk)
    obtain ⟨rfl, rfl⟩ := Loc.unique hy (loc_other hS.1 hf.toFrame hka hz)
    exact (syncAt_iff hS.1 k).1 (hS.2 k) _ _ hz

theorem stepV_rel (I : Idna) (cfg : Cfg) (x : Url × Option Pairs) (op : Op) (h : RelV cfg x) : RelV cfg (stepV I cfg x op) := by
  obtain ⟨u, p⟩ := x
  intro l hl
  cases op with
  | set st v =>
    by_cases hst : st = .search
    · subst hst
      simp only [stepV, if_true, setU] at hl ⊢
      by_cases hv : v.isEmpty = true
      · simp only [hv, if_true] at hl ⊢
        rw [setSearchU_empty_query cfg I u v hv]
        cases p with
        | none => cases hl
        | some l0 => cases hl; exact Or.inl (spInit_nil cfg).symm
      · simp only [hv, if_false, Bool.false_eq_true] at hl ⊢
        cases p with
        | none => cases hl; exact rel_init cfg _
        | some l0 =>
          obtain ⟨q, hq⟩ := HeapInvQuery.setSearchU_query_some cfg I u v (by simpa using hv)
          simp only [hq] at hl ⊢
          cases hl; exact Or.inl rfl
    · simp only [stepV, if_neg hst] at hl ⊢
      rw [Frame.setU_query cfg I st u v hst]
      exact h l hl
  | sp =>
    cases p with
    | none => cases hl; exact rel_init cfg _
    | some l0 => cases hl; exact h l0 rfl
  | «mut» m =>
    cases p with
    | none => cases hl
    | some l0 => cases hl; exact Or.inr (updQ_query cfg u _)
  | resolve ref => exact h l hl
  | clone => exact h l hl

end WhatwgUrl.Proofs.SyncInv
