import WhatwgUrl.Proofs.CharsetHost
import WhatwgUrl.Proofs.Machine
/-
  C04c: the state machine keeps the character-set invariant.
  The structural invariant `J` of C04b is used as a hypothesis (it says where the url is still blank, where the path is
  a list, …); `body_c` is the fact about one pass through the `switch`, and `C04b.basicParser_withJ` lifts such a fact to
  `basicParser` (it is used again for the round-trip clauses in `Proofs/RTcInvMachine.lean`).
-/
namespace WhatwgUrl.Props.C04c
set_option linter.unusedSimpArgs false
open WhatwgUrl WhatwgUrl.Impl WhatwgUrl.Proofs.HostWF
open WhatwgUrl.Proofs.Machine
open WhatwgUrl.Props.C04b (WFs WFa J Hyp CfgOk Blank PreAuth FileJ basicParser_withJ
  next_atFlag next_state')

/-- the hypotheses on the configuration / oracle for the character-set invariant (all hold for the default configuration) -/
structure CfgC (cfg : Cfg) (I : Idna) : Prop where
  /-- the percent-encoder writes UTF-8 and leaves `%` to the encode set: what `percentEncodeString_ok` is stated for -/
  henc : cfg.encOverride = none
  hpct : cfg.pctSingle = false
  /-- the host parser rejects the forbidden host code points -/
  hlax : cfg.laxHost = false
  /-- the encode sets of path, query and fragment are the standard's, which is what the clauses of `WFcC` name -/
  hps : cfg.pathSet = pathSet
  hsq : cfg.spQuerySet = specialQuerySet
  hq : cfg.querySet = querySet
  hsf : cfg.spFragSet = fragmentSet
  hf : cfg.fragSet = fragmentSet
  /-- the oracle answers in ASCII -/
  hIa : ∀ s, ∀ x ∈ (I s).1, x.toNat < 0x80

/-- the state-indexed part: what the buffer may contain, and where the query is still absent (the states in which the
    scheme — hence the query percent-encode set — may still change) -/
def Bc (e : Env) (ps : PS) : Prop :=
  match ps.state with
  | .schemeStart | .scheme => e.ov = none → ps.url.query = none
  | .noScheme | .relative | .specialRelativeOrAuthority => ps.url.query = none
  | .file => ps.buffer = [] ∧ ps.url.query = none
  | .fileSlash | .pathStart => ps.buffer = []
  | .path => ps.buffer.all (segByteOk (e.cfg.isSpecial ps.url.scheme)) = true
  | .opaquePath => okIn c0Set ps.buffer = true
  | .query => okIn (if e.cfg.isSpecial ps.url.scheme = true then specialQuerySet else querySet) ps.buffer = true
  | .fragment => okIn fragmentSet ps.buffer = true
  | _ => True

def Pc (e : Env) (ps : PS) : Prop := WFcC e.cfg ps.url ∧ (ps.eof = false → Bc e ps)
def Dc (e : Env) (x : Res) : Prop := WFcC e.cfg x.url

/-- kept for its own sake: nothing calls it (`body_c` rewrites field by field with the `Machine.cleanDefaultPort_*`) -/
theorem WFcC_cdp (cfg cfg' : Cfg) (u : Url) : WFcC cfg (cleanDefaultPort cfg' u) ↔ WFcC cfg u := by
  unfold WFcC
  rw [cleanDefaultPort_scheme, cleanDefaultPort_username, cleanDefaultPort_password, cleanDefaultPort_host, cleanDefaultPort_path, cleanDefaultPort_query, cleanDefaultPort_fragment]

macro "c_fl" : tactic => `(tactic|
  simp only [Pc, Dc, Bc, WFcC, Same, Blank, PreAuth, FileJ, writeRune, rewindLast, resetInput, rewind, isSp, spBackslash,
    Path.setOpaque, Path.init, shorten_opq, record_scheme, record_username,
    record_password, record_host, record_port, record_decodedPort, record_path, record_query, record_fragment,
    cleanDefaultPort_scheme, cleanDefaultPort_username, cleanDefaultPort_password, cleanDefaultPort_host, cleanDefaultPort_path, cleanDefaultPort_query, cleanDefaultPort_fragment,
    next_url, next_buffer, next_atFlag, next_state', next_pointer,
    okIn_nil, hostOk_none, hostOk_some_nil, queryOk_none, queryOk_some_nil, fragOk_none, fragOk_some_nil, pathOk_init,
    pathOk_opaque, segs_all_nil, hostCharsOk_nil, queryOk_some, fragOk_some, okIn_append, List.all_append, Bool.and_eq_true, ite_self,
    true_implies, false_implies, and_true, true_and, reduceCtorEq, implies_true, not_true_eq_false, not_false_eq_true,
    forall_const, Bool.false_eq_true, Bool.true_eq_false, ne_eq, or_true, true_or, and_false, and_self] at *)

attribute [local grind =] okIn_nil hostOk_none hostOk_some_nil queryOk_none queryOk_some_nil fragOk_none fragOk_some_nil
  pathOk_init pathOk_shorten pathOk_addSegment segOk_nil hostOk_some hostCharsOk_nil pathOk_headD segs_all_nil drive_bytes
  pathOk_opaque normDrive_segOk

macro "c_grind" : tactic => `(tactic| grind (splits := 40))

macro "c_close" he:ident : tactic => `(tactic|
  (c_fl; (try simp only [$he:ident] at *); c_grind))

theorem segPath_pathOk (e : Env) (ps : PS) (r : Char)
    (hp : pathOk (e.cfg.isSpecial ps.url.scheme) ps.url.path = true) (ho : ps.url.path.opq = false)
    (hbuf : ps.buffer.all (segByteOk (e.cfg.isSpecial ps.url.scheme)) = true) :
    pathOk (e.cfg.isSpecial ps.url.scheme) (segPath e ps r) = true := by
  have hsh := pathOk_shorten _ _ ps.url.scheme hp
  have hd := drive_norm (e.cfg.isSpecial ps.url.scheme) ps.buffer
  have hs := segOk_of _ _ hbuf
  have hl := fun x => pathOk_setLast _ _ x hp ho
  unfold segPath
  grind [shorten_opq]

theorem segEnd_c (e : Env) (r : Char) (p : PS) (hst : p.state = .path) (hW : WFcC e.cfg p.url)
    (ho : p.url.path.opq = false) (hbuf : p.buffer.all (segByteOk (e.cfg.isSpecial p.url.scheme)) = true) :
    Sh (Pc e) (Dc e) (segEnd e r p) := by
  have := segPath_pathOk e p r hW.2.2.2.1 ho hbuf
  simp [WFcC] at hW
  simp [segEnd, Sh_ite, Sh_cont, Pc, Bc, WFcC, hst, hW, this]

section
variable {e : Env} {ps : PS}

theorem Bc_host (h : ps.state = .host ∨ ps.state = .hostname) : Bc e ps ↔ True := by
  rcases h with h | h <;> simp [Bc, h]
theorem Bc_fileHost (h : ps.state = .fileHost) : Bc e ps ↔ True := by simp [Bc, h]
theorem Bc_port (h : ps.state = .port) : Bc e ps ↔ True := by simp [Bc, h]
theorem Bc_pathStart (h : ps.state = .pathStart) : Bc e ps ↔ ps.buffer = [] := by simp [Bc, h]

end

/-- the host and hostname states run the same code and have the same clause of `J` and of `Bc`; the state is kept where the
    machine stays, so `Bc` of the outcome is read through `Bc_host` (a `match` on the state does not reduce under `hst`) -/
theorem stHost_c (e : Env) (H : Hyp e) (C : CfgC e.cfg e.I) (q : PS) (r : Char) (hst : q.state = .host ∨ q.state = .hostname)
    (hJ : J e q q.pointer) (hW : WFcC e.cfg q.url) : Sh (Pc e) (Dc e) (stHost e q r) := by
  have hch : ∀ sp s h, (parseHost e.cfg e.I q.url s (!sp)).out = .ok h → hostCharsOk sp h = true :=
    fun sp s => parseHost_chars e.cfg e.I q.url s sp H.hpre H.hpost C.henc C.hlax C.hIa
  replace hJ := (WhatwgUrl.Props.C04b.J_host hst).1 hJ
  rcases hJ with hJ | hJ
  all_goals
    simp [WFcC, hJ] at hW
    simp [stHost_eq, hostChar, Sh_ite, Sh_herr, Sh_elim, Sh_cont, Sh_done, Sh_afterHost, Sh_retUrl, Pc, Dc, Bc_host, Bc_fileHost,
      Bc_port, Bc_pathStart, WFcC, writeRune, rewindLast, record_eq, stops_true, ite_url, ite_state, ite_eof, ite_buffer, isSp,
      spBackslash, -List.all_eq_true, Option.isSome_iff_ne_none, parseHost_scheme, parseHost_username, parseHost_password,
      parseHost_host, parseHost_path, parseHost_query, parseHost_fragment, hst, hJ, hW, hch]
    try c_grind

theorem body_c (e : Env) (H : Hyp e) (C : CfgC e.cfg e.I) (hbc : ∀ b, e.base = some b → WFcC e.cfg b) (q : PS) (r : Char)
    (hJ : J e q q.pointer) (hW : WFcC e.cfg q.url) (hB : Bc e q) : Sh (Pc e) (Dc e) (body e q r) := by
  have hch : ∀ sp s h, (parseHost e.cfg e.I q.url s (!sp)).out = .ok h → hostCharsOk sp h = true :=
    fun sp s => parseHost_chars e.cfg e.I q.url s sp H.hpre H.hpost C.henc C.hlax C.hIa
  have hpq := fun sp => pe_okIn e.cfg C.henc _ (SetOk_q sp) r
  have hpf := pe_okIn e.cfg C.henc _ SetOk_fragment r
  have hp0 := pe_okIn e.cfg C.henc _ SetOk_c0 r
  have hcl := fun rs pw => credLoop_ok e.cfg C.henc rs pw q.url.username q.url.password hW.1 hW.2.1
  unfold body
  split <;> rename_i hst
  case h_10 => exact stHost_c e H C q r (Or.inl hst) hJ hW
  case h_11 => exact stHost_c e H C q r (Or.inr hst) hJ hW
  all_goals simp [J, Bc, hst, Blank, PreAuth, FileJ, Option.isSome_iff_ne_none, -List.all_eq_true] at hJ hB
  case h_16 =>
    have hs : ∀ v, Sh (Pc e) (Dc e) (segEnd e r { q with state := .path, url := { q.url with verrs := v } }) := fun v =>
      segEnd_c e r _ rfl hW hJ.2.1 hB
    have hs0 := segEnd_c e r q hst hW hJ.2.1 hB
    have hpp := pe_path e.cfg C.henc (e.cfg.isSpecial q.url.scheme) r
    simp [WFcC] at hW
    simp [stPath_eq, Sh_unitChecks, Sh_ite, Sh_herr, Sh_cont, hs, hs0, Pc, Dc, Bc, WFcC, record_eq, hst, hW, C.hps, C.hpct,
      percentEncodeInvalidRune, isSp, spBackslash, -List.all_eq_true, List.all_append, hB]
    grind
  -- fresh parse or state override
  case' h_1 | h_2 => obtain ⟨-, hJ | hJ⟩ := hJ
  case' h_2 | h_3 | h_12 | h_14 | h_20 | h_21 =>
    cases hb : e.base <;>
      simp only [stScheme, stNoScheme, stFile, stFileSlash_eq, stRelative, stRelativeSlash, hb] at hbc hJ ⊢
  all_goals
    simp [WFcC, hJ] at hbc hW hB
    simp [stSchemeStart, stScheme, stOpaquePath, stSpecialRelativeOrAuthority, stSpecialAuthoritySlashes,
      stSpecialAuthorityIgnoreSlashes, stPathOrAuthority, stAuthority, stFileHost,
      stPort, stPathStart, stQuery_eq, stFragment, Sh_ite, Sh_herr, Sh_unitChecks, Sh_elim, Sh_cont,
      Sh_done, Sh_afterHost, Sh_retUrl, Pc, Dc, Bc, WFcC, writeRune, rewindLast, resetInput, rewind, record_eq, stops_true,
      next_fst, ite_url, ite_state, ite_eof, ite_buffer, cleanDefaultPort_scheme, cleanDefaultPort_username,
      cleanDefaultPort_password, cleanDefaultPort_host, cleanDefaultPort_path, cleanDefaultPort_query, cleanDefaultPort_fragment,
      isSp, spBackslash, Path.init, Path.setOpaque, -List.all_eq_true, Option.isSome_iff_ne_none, C.hsq, C.hq, C.hsf, C.hf,
      C.hpct, percentEncodeInvalidRune, okIn_append, queryOk_some, fragOk_some, parseHost_scheme,
      parseHost_username, parseHost_password, parseHost_host,
      parseHost_path, parseHost_query, parseHost_fragment, hst, hJ, hW, hB, hbc, hch, hpq, hpf, hp0, hcl]
    try c_grind
  -- the protocol setter stores a scheme only if it is special exactly when the old one is
  all_goals
    cases hs : e.cfg.isSpecial q.url.scheme <;> c_close hs

theorem basicParser_WFc (cfg : Cfg) (I : Idna) (input : Bytes) (base url : Option Url) (ov : Option State)
    (hcfg : CfgOk cfg I) (hcc : CfgC cfg I) (hb : ∀ b, base = some b → WFs cfg b) (hbc : ∀ b, base = some b → WFcC cfg b)
    (hfile : ov = some .schemeStart → cfg.isSpecial (lit "file") = true)
    (hfail : ov = some .pathStart → cfg.failOnVErr = false)
    (hu : WFcC cfg (url.getD {}))
    (hJ0 : ∀ u, Same (url.getD {}) u → J (loopEnv cfg I input base url ov) (start (ov.getD .schemeStart) u) 0)
    (hB0 : ∀ u, Same (url.getD {}) u → Bc (loopEnv cfg I input base url ov) (start (ov.getD .schemeStart) u)) :
    WFcC cfg (basicParser cfg I input base url ov).url := by
  refine basicParser_withJ (A := fun ps => WFcC cfg ps.url ∧ Bc (loopEnv cfg I input base url ov) ps)
      (D := fun x => WFcC cfg x.url) cfg I input base url ov hcfg hb hfile hfail
      (fun _ u hs => (WFcC_record _ _ _ _ _).mpr ((WFcC_same hs).mpr hu))
      (fun H ps q r h R hJ => ?_) hJ0 (fun u hs => ⟨(WFcC_same hs).mpr hu, hB0 u hs⟩)
  refine (body_c _ H hcc hbc q r hJ (by rw [R.eq]; exact h.1) (by rw [R.eq]; exact h.2)).mono (fun ps' h' => ?_) (fun _ h' => h')
  exact (Owes_iff _).2 ⟨fun _ => h'.1, fun he => ⟨h'.1, h'.2 he⟩⟩

end WhatwgUrl.Props.C04c
