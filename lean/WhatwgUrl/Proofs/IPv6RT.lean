import WhatwgUrl.Proofs.IPv6Parse
/-
  The IPv6 round trip `parse (serialize a) = a` (C08_roundtrip): the standard's main loop on the chunks the serializer
  writes, then the swap loop.
-/
namespace WhatwgUrl.Proofs.IPv6
open WhatwgUrl WhatwgUrl.Impl

theorem at6_of_drop {input suf : Str} {p : Nat} (h : input.drop p = suf) :
    Spec.at6 input p = suf.head? := by
  rw [Spec.at6, ← h, List.head?_drop]

theorem drop_succ_of_drop {input : Str} {p : Nat} {c : Char} {suf : Str} (h : input.drop p = c :: suf) :
    input.drop (p + 1) = suf := by
  rw [← List.drop_drop, h]; rfl

theorem drop_add_of_drop {input : Str} {p : Nat} {pre suf : Str} (h : input.drop p = pre ++ suf) :
    input.drop (p + pre.length) = suf := by
  rw [← List.drop_drop, h]; simp

theorem hexRun_digits (input rest : Str) (hrest : Spec.isHexC rest.head? = false) :
    ∀ (ds : List Nat) (v0 l p fuel : Nat), (∀ d ∈ ds, d < 16) →
      input.drop p = (ds.map fun d => bc (hexLower d)) ++ rest → l + ds.length ≤ 4 → ds.length < fuel →
      Spec.hexRun input fuel v0 l p = (ds.foldl (fun acc d => acc * 16 + d) v0, l + ds.length, p + ds.length) := by
  intro ds
  induction ds with
  | nil =>
    intro v0 l p fuel _ hd _ hf
    obtain ⟨f, rfl⟩ : ∃ f, fuel = f + 1 := ⟨fuel - 1, by simp at hf; omega⟩
    simp only [List.map_nil, List.nil_append] at hd
    simp [Spec.hexRun, at6_of_drop hd, hrest]
  | cons d ds ih =>
    intro v0 l p fuel hlt hd hl hf
    obtain ⟨f, rfl⟩ : ∃ f, fuel = f + 1 := ⟨fuel - 1, by simp at hf; omega⟩
    simp only [List.map_cons, List.cons_append] at hd
    have hc := hexChar_facts ⟨d, hlt d (by simp)⟩
    simp only at hc
    have hat : Spec.at6 input p = some (bc (hexLower d)) := by rw [at6_of_drop hd]; rfl
    have hl4 : l < 4 := by simp at hl; omega
    simp only [Spec.hexRun, hat, Spec.isHexC, hc.2.2.2.1, hl4, decide_true, Bool.and_self, if_true, Option.getD_some, hc.2.2.1]
    rw [ih _ _ _ _ (fun e he => hlt e (by simp [he])) (drop_succ_of_drop hd) (by simp at hl ⊢; omega) (by simp at hf ⊢; omega)]
    simp only [List.foldl_cons, List.length_cons]
    congr 2 <;> omega

theorem hexRun_piece (input rest : Str) (v p : Nat) (hv : v < 65536) (hrest : Spec.isHexC rest.head? = false)
    (hd : input.drop p = Spec.hexLowerStr v ++ rest) :
    Spec.hexRun input 5 0 0 p = (v, (Spec.hexLowerStr v).length, p + (Spec.hexLowerStr v).length) := by
  have hl : (toDigits 16 v).length ≤ 4 := toDigits_length_le 16 (by omega) v 3 hv
  unfold Spec.hexLowerStr at hd ⊢
  rw [hexRun_digits input rest hrest (toDigits 16 v) 0 0 p 5 (toDigits_lt 16 (by omega) v) hd (by omega) (by omega)]
  simp [toDigits_val 16 (by omega) v]

/-! ### single steps of the standard's main loop on well-formed chunks -/

theorem hexLowerStr_cons (v : Nat) : ∃ c cs, Spec.hexLowerStr v = c :: cs ∧ c ≠ ':' := by
  unfold Spec.hexLowerStr
  have hlt := toDigits_lt 16 (by omega) v
  cases hds : toDigits 16 v with
  | nil => exact absurd hds (toDigits_ne 16 v)
  | cons d ds =>
    have hc := hexChar_facts ⟨d, hlt d (by simp [hds])⟩
    simp only at hc
    exact ⟨_, _, rfl, hc.2.2.2.2⟩

/-- the pieces in lower-case hex with `:` between them: what the serializer writes for a run without compression -/
def joinC : List Nat → Str
  | [] => []
  | [x] => Spec.hexLowerStr x
  | x :: y :: r => Spec.hexLowerStr x ++ ':' :: joinC (y :: r)

/-- every piece followed by `:` — the pieces before the compression marker -/
def colonEach : List Nat → Str
  | [] => []
  | x :: r => Spec.hexLowerStr x ++ ':' :: colonEach r

/-- the state of the standard's main loop after the pieces `done` are read: they stand at the front of the address, the
    rest is still zero, the piece index is their number -/
def st (done : List Nat) (co : Option Nat) (p : Nat) : Spec.P6 :=
  ⟨done ++ List.replicate (8 - done.length) 0, done.length, co, p⟩

theorem st_set (done : List Nat) (v : Nat) (h : done.length < 8) :
    (done ++ List.replicate (8 - done.length) 0).set done.length v =
      (done ++ [v]) ++ List.replicate (8 - (done ++ [v]).length) 0 := by
  obtain ⟨r, hr⟩ : ∃ r, 8 - done.length = r + 1 := ⟨7 - done.length, by omega⟩
  have : 8 - (done ++ [v]).length = r := by simp; omega
  rw [hr, this, List.replicate_succ]
  simp

theorem st_after_colon (pre : List Nat) (co : Option Nat) (p : Nat) (h : pre.length < 8) :
    (⟨pre ++ List.replicate (8 - pre.length) 0, pre.length + 1, co, p⟩ : Spec.P6) = st (pre ++ [0]) co p := by
  obtain ⟨r, hr⟩ : ∃ r, 8 - pre.length = r + 1 := ⟨7 - pre.length, by omega⟩
  have : 8 - (pre ++ [0]).length = r := by simp; omega
  unfold st
  rw [hr, this, List.replicate_succ]
  simp

theorem loop6_colon (input : Str) (fuel : Nat) (done : List Nat) (p : Nat) (rest : Str)
    (hl : done.length < 8) (hd : input.drop p = ':' :: rest) :
    Spec.loop6 input (fuel + 1) (st done none p) =
      Spec.loop6 input fuel (st (done ++ [0]) (some (done.length + 1)) (p + 1)) := by
  have hat : Spec.at6 input p = some ':' := by rw [at6_of_drop hd]; rfl
  have : (done.length == 8) = false := by simp; omega
  rw [← st_after_colon done _ _ hl, st]
  simp [Spec.loop6, hat, this]

theorem loop6_piece_colon (input : Str) (fuel : Nat) (done : List Nat) (co : Option Nat) (p v : Nat)
    (rest : Str) (hv : v < 65536) (hl : done.length < 8) (hd : input.drop p = Spec.hexLowerStr v ++ ':' :: rest)
    (hr : rest ≠ []) :
    Spec.loop6 input (fuel + 1) (st done co p) =
      Spec.loop6 input fuel (st (done ++ [v]) co (p + (Spec.hexLowerStr v).length + 1)) := by
  obtain ⟨c, cs, hcs, hc1⟩ := hexLowerStr_cons v
  have hat : Spec.at6 input p = some c := by rw [at6_of_drop hd, hcs]; rfl
  have hrun := hexRun_piece input (':' :: rest) v p hv (by simp only [List.head?_cons]; decide) hd
  have hd2 := drop_add_of_drop hd
  have hat2 : Spec.at6 input (p + (Spec.hexLowerStr v).length) = some ':' := by rw [at6_of_drop hd2]; rfl
  have hat3 : Spec.at6 input (p + (Spec.hexLowerStr v).length + 1) = rest.head? := by
    rw [at6_of_drop (drop_succ_of_drop hd2)]
  have hne : (rest.head?).isNone = false := by cases rest with | nil => exact absurd rfl hr | cons _ _ => rfl
  have h8 : (done.length == 8) = false := by simp; omega
  have hcc : (c == ':') = false := by simpa using hc1
  simp only [st]
  rw [← st_set done v hl, List.length_append, List.length_singleton]
  simp [Spec.loop6, hat, h8, hcc, hrun, hat2, hat3, hne]

theorem loop6_piece_end (input : Str) (fuel : Nat) (done : List Nat) (co : Option Nat) (p v : Nat)
    (hv : v < 65536) (hl : done.length < 8) (hd : input.drop p = Spec.hexLowerStr v) :
    Spec.loop6 input (fuel + 1) (st done co p) = some (st (done ++ [v]) co (p + (Spec.hexLowerStr v).length)) := by
  obtain ⟨c, cs, hcs, hc1⟩ := hexLowerStr_cons v
  have hat : Spec.at6 input p = some c := by rw [at6_of_drop hd, hcs]; rfl
  have hd' : input.drop p = Spec.hexLowerStr v ++ [] := by simpa using hd
  have hrun := hexRun_piece input [] v p hv (by decide) hd'
  have hd2 := drop_add_of_drop hd'
  have hat2 : Spec.at6 input (p + (Spec.hexLowerStr v).length) = none := by rw [at6_of_drop hd2]; rfl
  have h8 : (done.length == 8) = false := by simp; omega
  have hcc : (c == ':') = false := by simpa using hc1
  simp only [st]
  rw [← st_set done v hl, List.length_append, List.length_singleton]
  simp only [Spec.loop6, hat, h8, hcc, hrun, hat2]
  simp
  exact sloop6_eof _ _ _ hat2

theorem head_ne_colon_joinC (v : Nat) (r : List Nat) : ∃ c, (joinC (v :: r)).head? = some c ∧ c ≠ ':' := by
  obtain ⟨c, cs, hcs, hc⟩ := hexLowerStr_cons v
  refine ⟨c, ?_, hc⟩
  cases r <;> simp [joinC, hcs]

theorem loop6_colonEach (input rest : Str) (hr : rest ≠ []) :
    ∀ (ps done : List Nat) (p fuel : Nat), Bnd ps → input.drop p = colonEach ps ++ rest →
      done.length + ps.length ≤ 8 →
      Spec.loop6 input (fuel + ps.length) (st done none p) =
        Spec.loop6 input fuel (st (done ++ ps) none (p + (colonEach ps).length)) := by
  intro ps
  induction ps with
  | nil => intro done p fuel _ _ _; simp [colonEach]
  | cons v ps ih =>
    intro done p fuel hlt hd hl
    simp only [colonEach, List.append_assoc, List.cons_append] at hd
    have h1 := loop6_piece_colon input (fuel + ps.length) done none p v (colonEach ps ++ rest) (hlt v (by simp))
      (by simp at hl; omega) hd (by simp [hr])
    have h2 := ih (done ++ [v]) (p + (Spec.hexLowerStr v).length + 1) fuel (fun e he => hlt e (by simp [he]))
      (drop_succ_of_drop (drop_add_of_drop hd)) (by simp at hl ⊢; omega)
    rw [List.length_cons, ← Nat.add_assoc, h1, h2]
    simp only [List.append_assoc, List.cons_append, List.nil_append, colonEach, List.length_append, List.length_cons]
    congr 2; omega

theorem loop6_joinC (input : Str) (co : Option Nat) :
    ∀ (ps done : List Nat) (p fuel : Nat), ps ≠ [] → Bnd ps → input.drop p = joinC ps →
      done.length + ps.length ≤ 8 →
      Spec.loop6 input (fuel + ps.length) (st done co p) = some (st (done ++ ps) co (p + (joinC ps).length)) := by
  intro ps
  induction ps with
  | nil => intro done p fuel h; exact absurd rfl h
  | cons v ps ih =>
    intro done p fuel _ hlt hd hl
    have hl' : done.length < 8 := by simp at hl; omega
    cases ps with
    | nil => exact loop6_piece_end input fuel done co p v (hlt v (by simp)) hl' hd
    | cons w r =>
      simp only [joinC] at hd ⊢
      have h1 := loop6_piece_colon input (fuel + (w :: r).length) done co p v (joinC (w :: r)) (hlt v (by simp)) hl' hd
        (fun e => by obtain ⟨_, h, _⟩ := head_ne_colon_joinC w r; rw [e] at h; cases h)
      have h2 := ih (done ++ [v]) (p + (Spec.hexLowerStr v).length + 1) fuel (by simp) (fun e he => hlt e (by simp [he]))
        (drop_succ_of_drop (drop_add_of_drop hd)) (by simp at hl ⊢; omega)
      rw [List.length_cons, ← Nat.add_assoc, h1, h2]
      simp only [List.append_assoc, List.cons_append, List.nil_append, List.length_append, List.length_cons]
      congr 2; omega

/-! ### the swap loop -/

theorem swap_at (A Z D : List Nat) (v z : Nat) :
    ((A ++ v :: (Z ++ z :: D)).set (A.length + (Z.length + 1)) (A ++ v :: (Z ++ z :: D))[A.length]!).set A.length
        (A ++ v :: (Z ++ z :: D))[A.length + (Z.length + 1)]! = A ++ z :: (Z ++ v :: D) := by
  simp

/-- the swap loop carries the pieces read after the compression marker (`yr`: last one first) over the `r` zeros that are
    left behind them, one piece per round; `done` are the pieces already in place -/
theorem swapRun_shift (pre : List Nat) (hp : pre ≠ []) (r : Nat) : ∀ (yr done : List Nat) (fuel : Nat), yr.length ≤ fuel →
    Spec.swapRun fuel (pre ++ yr.reverse ++ List.replicate r 0 ++ done) (pre.length + yr.length + r - 1) pre.length yr.length =
      pre ++ List.replicate r 0 ++ yr.reverse ++ done := by
  have hpl : 1 ≤ pre.length := List.length_pos_iff.mpr hp
  intro yr
  induction yr with
  | nil => intro done fuel _; cases fuel <;> simp [Spec.swapRun]
  | cons v yr ih =>
    intro done fuel hf
    obtain ⟨f, rfl⟩ : ∃ f, fuel = f + 1 := ⟨fuel - 1, by simp at hf; omega⟩
    have hswap : ((pre ++ (v :: yr).reverse ++ List.replicate r 0 ++ done).set (pre.length + (v :: yr).length + r - 1)
          (pre ++ (v :: yr).reverse ++ List.replicate r 0 ++ done)[pre.length + (v :: yr).length - 1]!).set
          (pre.length + (v :: yr).length - 1)
          (pre ++ (v :: yr).reverse ++ List.replicate r 0 ++ done)[pre.length + (v :: yr).length + r - 1]! =
        pre ++ yr.reverse ++ List.replicate r 0 ++ (v :: done) := by
      have e0 : pre.length + (v :: yr).length - 1 = (pre ++ yr.reverse).length := by simp
      cases r with
      | zero => rw [Nat.add_zero, e0]; simp
      | succ r' =>
        have e1 : pre.length + (v :: yr).length + (r' + 1) - 1 = (pre ++ yr.reverse).length + ((List.replicate r' 0).length + 1) := by
          simp; omega
        have e2 : pre ++ (v :: yr).reverse ++ List.replicate (r' + 1) 0 ++ done =
            (pre ++ yr.reverse) ++ v :: (List.replicate r' 0 ++ 0 :: done) := by simp [List.replicate_succ']
        rw [e0, e1, e2, swap_at]
        simp [List.replicate_succ]
    have hc : (pre.length + (v :: yr).length + r - 1 != 0 && decide ((v :: yr).length > 0)) = true := by simp; omega
    have e3 : pre.length + (v :: yr).length + r - 1 - 1 = pre.length + yr.length + r - 1 := by simp; omega
    simp only [Spec.swapRun, hc, if_true, hswap, e3]
    rw [show (v :: yr).length - 1 = yr.length from rfl, ih (v :: done) f (by simp at hf; omega)]
    simp

theorem swap_ok (x y : List Nat) (r : Nat) (h : x.length + 1 + y.length + r = 8) :
    Spec.swapRun 8 (x ++ [0] ++ y ++ List.replicate r 0) 7 (x.length + 1) y.length =
      x ++ [0] ++ List.replicate r 0 ++ y := by
  have := swapRun_shift (x ++ [0]) (by simp) r y.reverse [] 8 (by simp; omega)
  have e : (x ++ [0]).length + y.reverse.length + r - 1 = 7 := by simp; omega
  rw [e] at this
  simpa using this

/-! ### the shape of the serializer's output -/

theorem drop_cons_get (a : List Nat) (i : Nat) (h : i < a.length) : a.drop i = a[i]! :: a.drop (i + 1) := by
  rw [getElem!_pos a i h]; exact List.drop_eq_getElem_cons h

theorem ser_plain (a : List Nat) (co : Option Nat) (ha : a.length = 8) : ∀ n i ig, i + n = 8 →
    (∀ j, i ≤ j → co ≠ some j) → (ig = true → a[i]! ≠ 0) →
    Spec.serializeIPv6Aux a co n i ig = joinC (a.drop i) := by
  intro n
  induction n with
  | zero =>
    intro i ig hi _ _
    rw [List.drop_eq_nil_of_le (by omega)]; rfl
  | succ n ih =>
    intro i ig hi hco hig
    have hi8 : ¬ i ≥ 8 := by omega
    have h1 : ¬ ((ig && a[i]! == 0) = true) := by
      intro h; simp only [Bool.and_eq_true, beq_iff_eq] at h; exact hig h.1 h.2
    have h2 : ¬ ((co == some i) = true) := by
      intro h; exact hco i (Nat.le_refl _) (by simpa using h)
    rw [Spec.serializeIPv6Aux, if_neg hi8, if_neg h1, if_neg h2,
      ih (i + 1) false (by omega) (fun j hj => hco j (by omega)) (by simp), drop_cons_get a i (by omega)]
    by_cases h7 : i = 7
    · subst h7
      rw [List.drop_eq_nil_of_le (by omega)]
      simp [joinC]
    · rw [drop_cons_get a (i + 1) (by omega)]
      simp [joinC, h7]

theorem ser_skip (a : List Nat) (k : Nat) (ha : a.length = 8) : ∀ n i, i + n = 8 → k < i →
    Spec.serializeIPv6Aux a (some k) n i true = joinC ((a.drop i).dropWhile (· == 0)) := by
  intro n
  induction n with
  | zero =>
    intro i hi _
    rw [List.drop_eq_nil_of_le (by omega)]; rfl
  | succ n ih =>
    intro i hi hk
    by_cases h0 : a[i]! = 0
    · have hi8 : ¬ i ≥ 8 := by omega
      rw [Spec.serializeIPv6Aux, if_neg hi8, if_pos (by simp [h0]), ih (i + 1) (by omega) (by omega),
        drop_cons_get a i (by omega), h0]
      simp
    · rw [ser_plain a (some k) ha (n + 1) i true hi (fun j hj => by simp; omega) (fun _ => h0),
        drop_cons_get a i (by omega), List.dropWhile_cons_of_neg (by simpa using h0)]

/-- the serializer from piece `i ≤ k` on, compression at `k`: at the compressed piece the standard appends `::` if it is
    piece 0 and `:` otherwise — the piece before has written one colon already -/
theorem ser_before (a : List Nat) (k : Nat) (ha : a.length = 8) (hk : k < 8) : ∀ n i, i + n = 8 → i ≤ k →
    Spec.serializeIPv6Aux a (some k) n i false =
      colonEach ((a.take k).drop i) ++ (if k = 0 then [':', ':'] else [':']) ++
        joinC ((a.drop (k + 1)).dropWhile (· == 0)) := by
  intro n
  induction n with
  | zero => intro i hi hik; omega
  | succ n ih =>
    intro i hi hik
    have hi8 : ¬ i ≥ 8 := by omega
    by_cases hik' : i = k
    · subst hik'
      rw [Spec.serializeIPv6Aux, if_neg hi8, if_neg (by simp), if_pos (by simp), ser_skip a i ha n (i + 1) (by omega) (by omega)]
      have : (a.take i).drop i = [] := by simp
      rw [this]
      simp [colonEach]
    · have hlt : i < k := by omega
      have h2 : ¬ ((some k == some i) = true) := by simp; omega
      rw [Spec.serializeIPv6Aux, if_neg hi8, if_neg (by simp), if_neg h2, ih (i + 1) (by omega) (by omega)]
      have : (a.take k).drop i = a[i]! :: (a.take k).drop (i + 1) := by
        have h3 : i < (a.take k).length := by simp; omega
        rw [drop_cons_get (a.take k) i h3]
        congr 1
        rw [getElem!_pos (a.take k) i h3, getElem!_pos a i (by omega)]
        simp
      rw [this]
      have h7 : (i != 7) = true := by simp; omega
      simp [colonEach, h7]

/-! ### assembling the round trip -/

theorem colonEach_length (ps : List Nat) : ps.length ≤ (colonEach ps).length := by
  induction ps with
  | nil => simp
  | cons v ps ih => simp [colonEach]; omega

theorem joinC_length (ps : List Nat) : ps.length ≤ (joinC ps).length := by
  induction ps with
  | nil => simp
  | cons v ps ih =>
    cases ps with
    | nil =>
      obtain ⟨c, cs, hcs, _⟩ := hexLowerStr_cons v
      simp [joinC, hcs]
    | cons w r =>
      have := ih
      simp [joinC] at this ⊢; omega

theorem loop6_tail (input : Str) (co : Option Nat) (tl done : List Nat) (p fuel : Nat) (hlt : Bnd tl)
    (hd : input.drop p = joinC tl) (hl : done.length + tl.length ≤ 8) (hf : tl.length ≤ fuel) :
    Spec.loop6 input fuel (st done co p) = some (st (done ++ tl) co (p + (joinC tl).length)) := by
  cases tl with
  | nil => simpa [joinC] using sloop6_eof input fuel (st done co p) (at6_of_drop hd)
  | cons v r =>
    obtain ⟨f, rfl⟩ : ∃ f, fuel = f + (v :: r).length := ⟨fuel - (v :: r).length, by omega⟩
    exact loop6_joinC input co (v :: r) done p f (by simp) hlt hd hl

theorem sstart_plain {input : Str} {c : Char} (h : Spec.at6 input 0 = some c) (hc : c ≠ ':') :
    sstart input = some (st [] none 0) := by
  have : (some c == some ':') = false := by simpa using hc
  simp only [sstart, h, this, Bool.false_eq_true, if_false]
  rfl

theorem rt_none (a : List Nat) (ha : a.length = 8) (hlt : Bnd a) (hc : Spec.compressIndex a = none) :
    Spec.parseIPv6 (Spec.serializeIPv6 a) = some a := by
  have hser : Spec.serializeIPv6 a = joinC a := by
    rw [Spec.serializeIPv6, hc, ser_plain a none ha 8 0 false (by omega) (by simp) (by simp)]; simp
  rw [hser]
  obtain ⟨a0, r, rfl⟩ : ∃ a0 r, a = a0 :: r := by
    cases a with
    | nil => simp at ha
    | cons a0 r => exact ⟨a0, r, rfl⟩
  obtain ⟨c, hc0, hcc⟩ := head_ne_colon_joinC a0 r
  have hat0 : Spec.at6 (joinC (a0 :: r)) 0 = some c := by
    rw [at6_of_drop (List.drop_zero), hc0]
  have hlen := joinC_length (a0 :: r)
  have hloop := loop6_tail (joinC (a0 :: r)) none (a0 :: r) [] 0 ((joinC (a0 :: r)).length + 1) hlt (by simp)
    (by simp [ha]) (by omega)
  simp only [specParse_eq, sstart_plain hat0 hcc, hloop]
  simp [sfin, st, ha]

/-- after the main loop: the swap puts the tail pieces at the end -/
theorem sfin_st (pre tl : List Nat) (r p' : Nat) (hlen : pre.length + 1 + tl.length + r = 8) :
    sfin (st (pre ++ [0] ++ tl) (some (pre.length + 1)) p') = some (pre ++ [0] ++ List.replicate r 0 ++ tl) := by
  have h1 : (pre ++ [0] ++ tl).length - (pre.length + 1) = tl.length := by simp; omega
  have h2 : 8 - (pre ++ [0] ++ tl).length = r := by simp; omega
  simp only [sfin, st, h1, h2]
  rw [swap_ok pre tl r hlen]

theorem rt_shape (pre tl : List Nat) (r : Nat) (hlen : pre.length + 1 + tl.length + r = 8)
    (hpre : Bnd pre) (htl : Bnd tl) :
    Spec.parseIPv6 (colonEach pre ++ (if pre.length = 0 then [':', ':'] else [':']) ++ joinC tl) =
      some (pre ++ [0] ++ List.replicate r 0 ++ tl) := by
  have hjl := joinC_length tl
  by_cases hp : pre = []
  · subst hp
    simp only [colonEach, List.length_nil, if_true, List.nil_append, List.cons_append]
    generalize hin : (':' :: ':' :: joinC tl) = input
    have hat0 : Spec.at6 input 0 = some ':' := by rw [← hin]; rfl
    have hat1 : Spec.at6 input 1 = some ':' := by rw [← hin]; rfl
    have hd : input.drop 2 = joinC tl := by rw [← hin]; rfl
    have hil : input.length = (joinC tl).length + 2 := by rw [← hin]; simp
    have hloop := loop6_tail input (some 1) tl [0] 2 (input.length + 1) htl hd (by simp at hlen ⊢; omega) (by omega)
    have hs0 : sstart input = some (st [0] (some 1) 2) := by simp only [sstart, hat0, hat1]; rfl
    simp only [specParse_eq, hs0, hloop]
    exact sfin_st [] tl r _ hlen
  · obtain ⟨p0, ps, hpe⟩ : ∃ p0 ps, pre = p0 :: ps := by
      cases pre with
      | nil => exact absurd rfl hp
      | cons x y => exact ⟨x, y, rfl⟩
    have hne : ¬ (pre.length = 0) := by rw [hpe]; simp
    simp only [if_neg hne]
    generalize hin : colonEach pre ++ [':'] ++ joinC tl = input
    have hd0 : input.drop 0 = colonEach pre ++ (':' :: joinC tl) := by rw [← hin]; simp
    obtain ⟨c, cs, hcs, hc⟩ := hexLowerStr_cons p0
    have hat0 : Spec.at6 input 0 = some c := by
      rw [at6_of_drop hd0, hpe]; simp [colonEach, hcs]
    have hil : input.length = (colonEach pre).length + 1 + (joinC tl).length := by rw [← hin]; simp; omega
    have hcl := colonEach_length pre
    obtain ⟨f, hf⟩ : ∃ f, input.length + 1 = ((f + tl.length) + 1) + pre.length := ⟨input.length - tl.length - pre.length, by omega⟩
    have hk8 : pre.length < 8 := by omega
    have h1 := loop6_colonEach input (':' :: joinC tl) (by simp) pre [] 0 ((f + tl.length) + 1) hpre hd0 (by simp; omega)
    simp only [List.nil_append, Nat.zero_add] at h1
    have hd1 : input.drop (colonEach pre).length = ':' :: joinC tl := by
      have := drop_add_of_drop hd0; simpa using this
    have h2 := loop6_colon input (f + tl.length) pre (colonEach pre).length (joinC tl) hk8 hd1
    have h3 := loop6_tail input (some (pre.length + 1)) tl (pre ++ [0])
      ((colonEach pre).length + 1) (f + tl.length) htl (drop_succ_of_drop hd1) (by simp; omega) (by omega)
    have hloop : Spec.loop6 input (input.length + 1) (st [] none 0) =
        some (st (pre ++ [0] ++ tl) (some (pre.length + 1)) ((colonEach pre).length + 1 + (joinC tl).length)) := by
      rw [hf]; exact h1.trans (h2.trans h3)
    simp only [specParse_eq, sstart_plain hat0 hc, hloop]
    exact sfin_st pre tl r _ hlen

theorem compressIndex_some (a : List Nat) (k : Nat) (h : Spec.compressIndex a = some k) :
    k < 8 ∧ Spec.zeroRunLen a k ≥ 2 := by
  unfold Spec.compressIndex at h
  have h1 := List.find?_some h
  have h2 := List.mem_of_find?_eq_some h
  simp only [Bool.and_eq_true, decide_eq_true_eq] at h1
  exact ⟨by simpa using h2, h1.1.1⟩

theorem rt_some (a : List Nat) (ha : a.length = 8) (hlt : Bnd a) (k : Nat)
    (hc : Spec.compressIndex a = some k) : Spec.parseIPv6 (Spec.serializeIPv6 a) = some a := by
  obtain ⟨hk, hz⟩ := compressIndex_some a k hc
  have hdk := drop_cons_get a k (by omega)
  have h0 : a[k]! = 0 := by
    by_cases h : a[k]! = 0
    · exact h
    · exfalso
      rw [Spec.zeroRunLen, hdk, List.takeWhile_cons_of_neg (by simpa using h)] at hz
      simp at hz
  have hser : Spec.serializeIPv6 a = colonEach (a.take k) ++ (if k = 0 then [':', ':'] else [':']) ++
      joinC ((a.drop (k + 1)).dropWhile (· == 0)) := by
    rw [Spec.serializeIPv6, hc, ser_before a k ha hk 8 0 (by omega) (by omega)]; simp
  have hzs : (a.drop (k + 1)).takeWhile (· == 0) = List.replicate ((a.drop (k + 1)).takeWhile (· == 0)).length 0 := by
    rw [List.eq_replicate_iff]
    refine ⟨rfl, fun b hb => ?_⟩
    have hall := List.all_eq_true.1 (List.all_takeWhile (l := a.drop (k + 1)) (p := (· == 0))) b hb
    simpa using hall
  have hdec : a = a.take k ++ [0] ++ List.replicate ((a.drop (k + 1)).takeWhile (· == 0)).length 0 ++
      (a.drop (k + 1)).dropWhile (· == 0) := by
    rw [← hzs, List.append_assoc, List.takeWhile_append_dropWhile, List.append_assoc]
    have : [0] ++ a.drop (k + 1) = a.drop k := by rw [hdk, h0]; rfl
    rw [this, List.take_append_drop]
  have hkl : (a.take k).length = k := by simp; omega
  have hlen : (a.take k).length + 1 + ((a.drop (k + 1)).dropWhile (· == 0)).length +
      ((a.drop (k + 1)).takeWhile (· == 0)).length = 8 := by
    have := congrArg List.length hdec
    simp only [List.length_append, List.length_replicate, List.length_cons, List.length_nil] at this
    omega
  have hsub1 : ∀ v ∈ a.take k, v < 65536 := fun v hv => hlt v (List.mem_of_mem_take hv)
  have hsub2 : ∀ v ∈ (a.drop (k + 1)).dropWhile (· == 0), v < 65536 := fun v hv =>
    hlt v (List.mem_of_mem_drop ((List.dropWhile_sublist _).subset hv))
  have := rt_shape (a.take k) ((a.drop (k + 1)).dropWhile (· == 0)) _ hlen hsub1 hsub2
  rw [hkl] at this
  rw [hser, this, ← hdec]

theorem roundtrip (a : List Nat) (ha : a.length = 8) (hlt : Bnd a) :
    Spec.parseIPv6 (Spec.serializeIPv6 a) = some a := by
  cases hc : Spec.compressIndex a with
  | none => exact rt_none a ha hlt hc
  | some k => exact rt_some a ha hlt k hc

/-- the Go parser on the Go serialization of an address -/
theorem parseIPv6_ipv6String (cfg : Cfg) (u : Url) (a : List Nat) (ha : Props.C08.Addr a) :
    Impl.parseIPv6 cfg u (ipv6String a) = ⟨u, .ok ([0x5b] ++ ipv6String a ++ [0x5d])⟩ := by
  have h := parseIPv6_closed cfg u (ipv6String a)
  rw [ipv6String_eq a ha.1, Proofs.Utf8.goRunes_utf8, roundtrip a ha.1 ha.2, ← ipv6String_eq a ha.1] at h
  exact h

end WhatwgUrl.Proofs.IPv6
