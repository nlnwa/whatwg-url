import WhatwgUrl.Proofs.ReportingBase
import WhatwgUrl.Proofs.ReportingN
import WhatwgUrl.Proofs.ReportingU
import WhatwgUrl.Proofs.ReportingF
import WhatwgUrl.Proofs.ReportingX
