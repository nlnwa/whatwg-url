import WhatwgUrl.Proofs.RoundTripC
import WhatwgUrl.Proofs.HostTr
/-
  Round trip (C03b), stage C: the authority state with the credentials (`steps_auth`), then host, port and the rest of the
  text (`run_host`), and the stage theorem.  The walk itself is `Run.steps_colon_auth`, `steps_auth_cred`, `steps_auth_host`,
  `steps_host_exit`, `run_pathStart` of `RunScan.lean`; here are the byte classes and the record of the round trip.
-/
namespace WhatwgUrl.Proofs.RoundTrip
open WhatwgUrl WhatwgUrl.Impl WhatwgUrl.Proofs.IPv4 WhatwgUrl.Proofs.Trim
open WhatwgUrl.Props.C04b (schemeOk okB WFs)
open WhatwgUrl.Proofs.HostWF (Same)
open WhatwgUrl.Proofs.Web (portText)

/-- the record after the host state -/
def hostUrl (I : Idna) (ns : Bool) (U : Url) (h : Bytes) : Url := { (parseHost {} I U h ns).url with host := some h }
/-- the record after the port state -/
def portUrl (U : Url) (port : Option Bytes) (dp : Nat) : Url :=
  match port with
  | none => U
  | some _ => { U with decodedPort := dp, port := some (itoa dp) }

theorem delim_rest (segs : List Bytes) (q f : Option Bytes) : Delim (asStr (pathText segs) ++ asStr (qTail q ++ fTail f)) := by
  rw [← asStr_append]
  cases segs with
  | cons s more => exact pathText_delim _ (List.cons_ne_nil _ _) _
  | nil =>
    cases q with
    | some x => right; exact ⟨'?', _, by simp [pathText, qTail, asStr_append, bc_qm]; rfl, Or.inr (Or.inl rfl)⟩
    | none =>
      cases f with
      | some y => right; exact ⟨'#', _, by simp [pathText, qTail, fTail, bc_hash]; rfl, Or.inr (Or.inr rfl)⟩
      | none => left; simp [pathText, qTail, fTail]

/-- the port of a well-formed record, as the port state needs it -/
def PortOk (scheme : Bytes) (port : Option Bytes) (dp : Nat) : Prop :=
  ∀ p, port = some p → p = itoa dp ∧ dp ≤ 65535 ∧ (Cfg.special? {} scheme != some p) = true

theorem authB_colon (sp : Bool) : authB sp 0x3a = true := by cases sp <;> decide

theorem hp_authB (sp : Bool) (h : Bytes) (port : Option Bytes) (dp : Nat) (hh : ∀ b ∈ h, hostB sp b = true)
    (hport : ∀ p, port = some p → p = itoa dp) : ∀ b ∈ h ++ portText port, authB sp b = true := by
  intro b hb
  rcases List.mem_append.mp hb with h1 | h1
  · exact (hostB_spec b sp (hh b h1)).2.2.2.2.2.1
  · cases port with
    | none => simp [portText] at h1
    | some p =>
      have := hport p rfl
      subst this
      simp only [portText, List.mem_cons] at h1
      rcases h1 with h1 | h1
      · subst h1; exact authB_colon sp
      · exact authB_mono b sp (digit_spec b (itoa_digits dp b h1)).2.2.1

theorem goRunes_len_ascii (s : Bytes) (h : ∀ b ∈ s, b.toNat < 0x80) : (goRunes s).length = s.length := by
  rw [goRunes_ascii s h]; simp

theorem authB_ascii (sp : Bool) (b : UInt8) (h : authB sp b = true) : b.toNat < 0x80 := by
  simp only [authB, Bool.and_eq_true, decide_eq_true_eq] at h
  exact h.1.1.1.1.1

theorem portU_portUrl (V : Url) (port : Option Bytes) (dp : Nat) (hport : PortOk V.scheme port dp) :
    Web.portU {} V port = portUrl V port dp := by
  cases port with
  | none => rfl
  | some p =>
    obtain ⟨rfl, _, hnd⟩ := hport p rfl
    rw [Web.portU_digits _ _ _ (itoa_ne dp), digitsVal_itoa,
      cleanDefaultPort_keep { V with decodedPort := dp, port := some (itoa dp) } (itoa dp) rfl hnd]
    rfl

/-- the hypothesis of `Run.scan_host` for a host text; `hsp`: under a special scheme the text was checked as one (`sp = true`
    always does) -/
theorem hostB_copied (e : Env) {sp : Bool} (u : Url) (hsp : e.cfg.isSpecial u.scheme = true → sp = true) {h : Bytes}
    (hh : ∀ b ∈ h, hostB sp b = true) :
    ∀ b ∈ h, b.toNat < 0x80 ∧ bc b ≠ '/' ∧ bc b ≠ '?' ∧ bc b ≠ '#' ∧ spBackslash e u (bc b) = false := by
  intro b hb
  obtain ⟨_, g1, g2, g3, g4, _, _, g9⟩ := hostB_spec b sp (hh b hb)
  exact ⟨by omega, g1, g2, g3, Run.spBackslash_sp e u (bc b) _ rfl fun h => g4 (hsp h)⟩

/-- the hypothesis of `Run.steps_auth_host`, `Run.steps_auth_cred` for a text of `authB` bytes; `hsp` as in `hostB_copied` -/
theorem authB_copied (e : Env) {sp : Bool} (u : Url) (hsp : e.cfg.isSpecial u.scheme = true → sp = true) {w : Bytes}
    (hw : ∀ b ∈ w, authB sp b = true) :
    ∀ b ∈ w, b.toNat < 0x80 ∧ bc b ≠ '@' ∧ bc b ≠ '/' ∧ bc b ≠ '?' ∧ bc b ≠ '#' ∧ spBackslash e u (bc b) = false := by
  intro b hb
  obtain ⟨_, g1, g2, g3, g4, g5⟩ := authB_spec b sp (hw b hb)
  exact ⟨authB_ascii sp b (hw b hb), g1, g2, g3, g4, Run.spBackslash_sp e u (bc b) _ rfl fun h => g5 (hsp h)⟩

/-- from the host state in front of the host text to the end of the text -/
theorem run_host (I : Idna) (src : Bytes) (rs : Str) (sp : Bool) (h : Bytes) (port : Option Bytes) (dp : Nat)
    (segs : List Bytes) (q f : Option Bytes)
    (hq : QOk sp q) (hf : FOk f) (hsegs : ∀ s ∈ segs, segOk sp s = true) (hne : sp = true → segs ≠ [])
    (hh : ∀ b ∈ h, hostB sp b = true) (hscan : hostScan h false = some false)
    (hstable : ∀ v, (parseHost {} I v h (!sp)).out = .ok h)
    (hhne : sp = true ∨ port ≠ none → h ≠ [])
    (ps : PS) (pre : Str) (hport : PortOk ps.url.scheme port dp)
    (hc : Run.Cur (mkE I src rs) ps pre
      (asStr h ++ (asStr (portText port) ++ (asStr (pathText segs) ++ asStr (qTail q ++ fTail f)))))
    (hst : ps.state = .host) (hsp : Cfg.isSpecial {} ps.url.scheme = sp)
    (hb : ps.buffer = []) (hfl : ps.bracketFlag = false) (hp : ps.url.path = ⟨[], false⟩)
    (hnf : (ps.url.scheme == lit "file") = false) :
    Resolve.Runs (mkE I src rs) ps
      ⟨setF (setQ { (portUrl (hostUrl I (!sp) ps.url h) port dp) with path := ⟨segs, false⟩ } q) f, .url⟩ := by
  subst hsp
  obtain ⟨t1, hc1⟩ := Run.scan_host h _ false hc (Or.inl hst) (fun h => nomatch h) (hostB_copied (mkE I src rs) _ (fun h => h) hh)
    (by rw [hfl]; exact hscan)
  rw [hb, List.nil_append] at t1 hc1
  obtain ⟨ps', t2, hc2, hps'⟩ := Run.steps_host_exit port _ hc1 (delim_rest segs q f) hst rfl rfl hhne (hstable _)
    (fun x hx => by obtain ⟨rfl, hle, _⟩ := hport x hx; exact ⟨itoa_digits dp, by rw [digitsVal_itoa]; exact hle⟩)
  have hurl : ps'.url = portUrl (hostUrl I (!Cfg.isSpecial {} ps.url.scheme) ps.url h) port dp := by
    rw [hps']
    exact portU_portUrl (hostUrl I _ ps.url h) port dp (by simpa [hostUrl, Machine.parseHost_scheme] using hport)
  have hsch : ps'.url.scheme = ps.url.scheme := by
    rw [hurl]; cases port <;> simp [portUrl, hostUrl, Machine.parseHost_scheme]
  have hpath : ps'.url.path = ⟨[], false⟩ := by
    rw [hurl]; cases port <;> simp [portUrl, hostUrl, Machine.parseHost_path, hp]
  have := run_pathStart I src rs _ segs q f hq hf hsegs hne ps' _ hc2 (by rw [hps']) (by rw [hsch]) (by rw [hps'])
    hpath (fun s _ => DriveOk_notfile _ _ (by rw [hsch]; exact hnf))
  rw [hurl] at this
  exact (t1.trans t2).runs this

theorem credText_cases (sp : Bool) (user pass : Bytes) (hu : ∀ b ∈ user, userinfoSet.has b.toNat = false)
    (hpw : ∀ b ∈ pass, userinfoSet.has b.toNat = false) (hc : ¬ (user = [] ∧ pass = [])) :
    ∃ cred : Bytes, credText user pass = cred ++ [0x40] ∧ (∀ b ∈ cred, authB sp b = true) ∧
      ∃ pw, credLoop {} (asStr cred) false [] [] = (pw, user, pass) := by
  have hub : ∀ b ∈ user, authB sp b = true := fun b hb => authB_mono b sp (cred_byte b (hu b hb)).2.2
  have hpb : ∀ b ∈ pass, authB sp b = true := fun b hb => authB_mono b sp (cred_byte b (hpw b hb)).2.2
  by_cases hp0 : pass = []
  · subst hp0
    have hune : user ≠ [] := fun hu0 => hc ⟨hu0, rfl⟩
    refine ⟨user, by simp [credText, hune], hub, false, ?_⟩
    rw [← List.append_nil (asStr user), Run.credLoop_user {} user hu]; simp [credLoop]
  · have hpne : (pass != []) = true := by simpa using hp0
    refine ⟨user ++ 0x3a :: pass, by simp [credText, hpne], ?_, true, Run.credLoop_both {} user pass hu hpw⟩
    intro b hb
    rcases List.mem_append.mp hb with h1 | h1
    · exact hub b h1
    · rcases List.mem_cons.mp h1 with h2 | h2
      · subst h2; exact authB_colon sp
      · exact hpb b h2

/-- the authority state: the credentials (if any) are stored (`Run.steps_auth_cred`), then the rest `X` (host and port) is
    read up to the delimiter and the host state starts over in front of `X` (`Run.steps_auth_host`) -/
theorem steps_auth (I : Idna) (src : Bytes) (rs : Str) (sp : Bool) (user pass X : Bytes) (rest : Str)
    (hX : ∀ b ∈ X, authB sp b = true) (hd : Delim rest) (hXne : user ≠ [] ∨ pass ≠ [] → X ≠ [])
    (hu : ∀ b ∈ user, userinfoSet.has b.toNat = false) (hpw : ∀ b ∈ pass, userinfoSet.has b.toNat = false)
    (ps : PS) (pre : Str) (hc : Run.Cur (mkE I src rs) ps pre (asStr (credText user pass) ++ (asStr X ++ rest)))
    (hst : ps.state = .authority) (hsp : Cfg.isSpecial {} ps.url.scheme = sp) (hb : ps.buffer = [])
    (haf : ps.atFlag = false) (hps : ps.pwSeen = false) (hun : ps.url.username = []) (hpn : ps.url.password = []) :
    ∃ ps' pre', Run.Steps (mkE I src rs) ps ps' ∧ Run.Cur (mkE I src rs) ps' pre' (asStr X ++ rest) ∧
      ps' = { ps with pointer := ps'.pointer, state := .host, buffer := [], atFlag := ps'.atFlag, pwSeen := ps'.pwSeen,
                      url := { ps.url with username := user, password := pass } } := by
  have hX1 := authB_copied (mkE I src rs) ps.url (fun h => hsp ▸ h) hX
  by_cases hcr : user = [] ∧ pass = []
  · obtain ⟨rfl, rfl⟩ := hcr
    obtain ⟨t, hc'⟩ := Run.steps_auth_host X rest (by simpa [credText] using hc) hd hst hb hX1 (by rw [haf]; exact fun h => nomatch h)
    refine ⟨_, _, t, hc', ?_⟩
    obtain ⟨st, p, ef, buf, af, bf, pw, u⟩ := ps
    cases u
    dsimp only at hun hpn ⊢
    subst hun hpn
    rfl
  · obtain ⟨cred, hcred, hcredB, pw, hcl⟩ := credText_cases sp user pass hu hpw hcr
    have hXn : X ≠ [] := hXne (by
      by_cases hu0 : user = []
      · right; intro hp0; exact hcr ⟨hu0, hp0⟩
      · left; exact hu0)
    have hc' : Run.Cur (mkE I src rs) ps pre (asStr cred ++ ('@' :: (asStr X ++ rest))) := by
      rw [hcred] at hc; simpa [asStr_append, show bc 64 = '@' from rfl] using hc
    obtain ⟨t1, hc1⟩ := Run.steps_auth_cred (pw := pw) (user := user) (pass := pass) cred _ hc' hst Run.Mute.default hb haf
      (authB_copied (mkE I src rs) ps.url (fun h => hsp ▸ h) hcredB) (by rw [hps, hun, hpn]; exact hcl)
    obtain ⟨t2, hc2⟩ := Run.steps_auth_host X rest hc1 hd hst rfl hX1 (fun _ => hXn)
    exact ⟨_, _, t1.trans t2, hc2, rfl⟩

theorem portOk_PortOk {u : Url} (h : Props.C04b.portOk {} u = true) : PortOk u.scheme u.port u.decodedPort := by
  intro p hp
  unfold Props.C04b.portOk at h
  rw [hp] at h
  simp only [Bool.and_eq_true, beq_iff_eq, decide_eq_true_eq] at h
  exact ⟨h.1.1, h.1.2, h.2⟩

theorem href_host (u : Url) (h : Bytes) (hh : u.host = some h) (ho : u.path.opq = false) :
    href u false = u.scheme ++ 0x3a :: 0x2f :: 0x2f :: (credText u.username u.password ++ ((h ++ portText u.port) ++
      (pathText u.path.segs ++ (qTail u.query ++ fTail u.fragment)))) := by
  unfold href
  cases u.port <;>
  · simp only [hh, ho, Path.str, Path.str?, qTail, fTail, credText, portText, pathText]
    simp
    rfl

theorem cred_graphic (user pass : Bytes) (hu : ∀ b ∈ user, userinfoSet.has b.toNat = false)
    (hp : ∀ b ∈ pass, userinfoSet.has b.toNat = false) : Graphic (credText user pass) := by
  have hug : Graphic user := fun b hb => ⟨(cred_byte b (hu b hb)).1, (cred_byte b (hu b hb)).2.1⟩
  have hpg : Graphic pass := fun b hb => ⟨(cred_byte b (hp b hb)).1, (cred_byte b (hp b hb)).2.1⟩
  unfold credText
  split
  · refine (hug.append ?_).append (Graphic.cons (by decide) (fun _ h => nomatch h))
    split
    · exact Graphic.cons (by decide) hpg
    · intro b hb; simp at hb
  · intro b hb; simp at hb

theorem hostport_graphic (sp : Bool) (h : Bytes) (port : Option Bytes) (dp : Nat) (hh : ∀ b ∈ h, hostB sp b = true)
    (hport : ∀ p, port = some p → p = itoa dp) : Graphic (h ++ portText port) := by
  refine Graphic.append (fun b hb => (hostB_spec b sp (hh b hb)).2.2.2.2.2.2) ?_
  cases port with
  | none => intro b hb; simp [portText] at hb
  | some p =>
    have := hport p rfl
    subst this
    exact Graphic.cons (by decide) (fun b hb => (digit_spec b (itoa_digits dp b hb)).2.2.2)

theorem portUrl_fields (U : Url) (port : Option Bytes) (dp : Nat) (hport : ∀ p, port = some p → p = itoa dp)
    (hU : U.port = none) (hdp : port = none → U.decodedPort = dp) :
    (portUrl U port dp).scheme = U.scheme ∧ (portUrl U port dp).username = U.username ∧ (portUrl U port dp).password = U.password ∧
    (portUrl U port dp).host = U.host ∧ (portUrl U port dp).port = port ∧ (portUrl U port dp).decodedPort = dp ∧
    (portUrl U port dp).query = U.query ∧ (portUrl U port dp).fragment = U.fragment := by
  cases port with
  | none => simp [portUrl, hU, hdp rfl]
  | some p => simp [portUrl, hport p rfl]

theorem same_final (u U2 : Url) (g1 : U2.scheme = u.scheme) (g2 : U2.username = u.username) (g3 : U2.password = u.password)
    (g4 : U2.host = u.host) (g5 : U2.port = none) (g6 : U2.decodedPort = 0) (g7 : U2.query = none) (g8 : U2.fragment = none)
    (hport : ∀ p, u.port = some p → p = itoa u.decodedPort) (c1 : u.port = none → u.decodedPort = 0) (ho : u.path.opq = false) :
    Same (setF (setQ { (portUrl U2 u.port u.decodedPort) with path := ⟨u.path.segs, false⟩ } u.query) u.fragment) u := by
  obtain ⟨f1, f2, f3, f4, f5, f6, f7, f8⟩ := portUrl_fields U2 u.port u.decodedPort hport g5 (fun hp => by rw [g6, c1 hp])
  apply Same_setQF
  · simp [f1, g1]
  · simp [f2, g2]
  · simp [f3, g3]
  · simp [f4, g4]
  · simp [f5]
  · simp [f6]
  · show (⟨u.path.segs, false⟩ : Path) = u.path
    rw [← ho]
  · intro _; simp [f7, g7]
  · intro _; simp [f8, g8]

theorem mem_credText {user pass : Bytes} {b : UInt8} (h : b ∈ credText user pass) : b ∈ user ∨ b ∈ pass ∨ b = 0x3a ∨ b = 0x40 := by
  unfold credText at h
  split at h
  · simp only [List.mem_append, List.mem_singleton] at h
    rcases h with (h | h) | h
    · exact Or.inl h
    · split at h
      · rcases List.mem_cons.mp h with h | h
        · exact Or.inr (Or.inr (Or.inl h))
        · exact Or.inr (Or.inl h)
      · simp at h
    · exact Or.inr (Or.inr (Or.inr h))
  · simp at h

theorem first_not_slash (A B : Bytes) (hA : A ≠ []) (hall : ∀ b ∈ A, bc b ≠ '/' ∧ bc b ≠ '\\') :
    ∃ c tl, asStr (A ++ B) = c :: tl ∧ c ≠ '/' ∧ c ≠ '\\' := by
  cases A with
  | nil => exact absurd rfl hA
  | cons b t => exact ⟨bc b, asStr (t ++ B), rfl, hall b (by simp)⟩

/-- Plan: the record the run ends in is prepared first (`hsame`); then the scheme (`steps_scheme_ok`), the colon and slashes up
    to the authority state (`Run.steps_colon_auth`), the credentials (`steps_auth`), and
    host, port, path, query, fragment (`run_host`). -/
theorem roundtrip_authority (I : Idna) (u : Url) (hwf : WFs {} u) (hc : RTc u) (hstab : HostStable I u)
    (h : Bytes) (hhost : u.host = some h) (hnfile : u.scheme ≠ lit "file") :
    ∃ u', parse {} I (href u false) = ⟨u', .url⟩ ∧ Same u' u := by
  obtain ⟨hq, hf⟩ := qf_of_RTc hc
  obtain ⟨hs, h2, h3, h4, h5, h6⟩ := hwf
  obtain ⟨c1, c2, c3, c4, c5, c6, c7, c8⟩ := hc
  have ho : u.path.opq = false := by
    cases hopq : u.path.opq
    · rfl
    · have := (h3 hopq).1; rw [hhost] at this; cases this
  obtain ⟨l1, l2, l3⟩ := c5 ho
  obtain ⟨hB, hscan, _⟩ := c8 h (by simp [hhost])
  have hstable : ∀ v : Url, (parseHost {} I v h (!Cfg.isSpecial {} u.scheme)).out = .ok h :=
    fun v => parseHost_ok_indep I v {} h _ h (hstab h (by simp [hhost]))
  have hport := portOk_PortOk h5
  have hnf : (u.scheme == lit "file") = false := by simpa using hnfile
  have hhne : Cfg.isSpecial {} u.scheme = true ∨ u.port ≠ none ∨ u.username ≠ [] ∨ u.password ≠ [] → h ≠ [] := by
    intro hx hnil
    subst hnil
    rcases hx with hx | hx | hx | hx
    · exact hnfile ((h2 hx).2.1 hhost)
    · exact (h4 (Or.inr (Or.inr hx))).2.1 hhost
    · exact (h4 (Or.inl hx)).2.1 hhost
    · exact (h4 (Or.inr (Or.inl hx))).2.1 hhost
  have hne : Cfg.isSpecial {} u.scheme = true → u.path.segs ≠ [] := fun hx => (h2 hx).2.2.2
  have hsame : Same (setF (setQ { (portUrl (hostUrl I (!Cfg.isSpecial {} u.scheme)
        { ({ ({} : Url) with scheme := u.scheme }) with username := u.username, password := u.password } h) u.port u.decodedPort)
          with path := ⟨u.path.segs, false⟩ } u.query) u.fragment) u := by
    apply same_final
    · simp [hostUrl, Machine.parseHost_scheme]
    · simp [hostUrl, Machine.parseHost_username]
    · simp [hostUrl, Machine.parseHost_password]
    · simp [hostUrl, hhost]
    · simp [hostUrl, Machine.parseHost_port]
    · simp [hostUrl, Machine.parseHost_decodedPort]
    · simp [hostUrl, Machine.parseHost_query]
    · simp [hostUrl, Machine.parseHost_fragment]
    · exact fun p hp => (hport p hp).1
    · exact c1
    · exact ho
  refine roundtrip_of_run_graphic I u hs _ (href_host u h hhost ho)
    (Graphic.cons (by decide) (Graphic.cons (by decide) ((cred_graphic _ _ c6 c7).append
      ((hostport_graphic _ h u.port u.decodedPort hB (fun p hp => (hport p hp).1)).append
        ((path_graphic _ _ l1).append ((qTail_graphic _ _ hq).append (fTail_graphic _ hf)))))))
    (fun src rs p0 hc1 => ⟨_, ?_, hsame⟩)
  have hc1 := hc1.cast (show _ = ':' :: '/' :: '/' :: (asStr (credText u.username u.password) ++
      (asStr (h ++ portText u.port) ++ (asStr (pathText u.path.segs) ++ asStr (qTail u.query ++ fTail u.fragment)))) by
    simp [asStr]; rfl)
  have hXB : ∀ b ∈ h ++ portText u.port, authB (Cfg.isSpecial {} u.scheme) b = true :=
    hp_authB _ h u.port u.decodedPort hB (fun p hp => (hport p hp).1)
  have hXne : u.username ≠ [] ∨ u.password ≠ [] → h ++ portText u.port ≠ [] := fun hx => by
    have := hhne (Or.inr (Or.inr hx)); simp [this]
  -- behind `//` of a special scheme stands the first byte of the credentials or of the (then non-empty) host
  have hhd : Cfg.isSpecial {} u.scheme = true → ∃ c tl, asStr (credText u.username u.password) ++
      (asStr (h ++ portText u.port) ++ (asStr (pathText u.path.segs) ++ asStr (qTail u.query ++ fTail u.fragment))) = c :: tl ∧
        c ≠ '/' ∧ c ≠ '\\' := by
    intro hsp
    obtain ⟨c, tl, e1, n1, n2⟩ := first_not_slash (credText u.username u.password ++ h)
      (portText u.port ++ (pathText u.path.segs ++ (qTail u.query ++ fTail u.fragment))) (by simp [hhne (Or.inl hsp)]) (by
        intro b hb
        rcases List.mem_append.mp hb with hb | hb
        · rcases mem_credText hb with hb | hb | hb | hb
          · have := authB_spec b true (cred_byte b (c6 b hb)).2.2
            exact ⟨this.2.2.1, this.2.2.2.2.2 rfl⟩
          · have := authB_spec b true (cred_byte b (c7 b hb)).2.2
            exact ⟨this.2.2.1, this.2.2.2.2.2 rfl⟩
          · subst hb; decide
          · subst hb; decide
        · rw [hsp] at hB
          have := hostB_spec b true (hB b hb)
          exact ⟨this.2.1, this.2.2.2.2.1 rfl⟩)
    exact ⟨c, tl, by rw [← e1]; simp [asStr_append], n1, n2⟩
  obtain ⟨tA, hcA⟩ := Run.steps_colon_auth _ hc1 rfl rfl hnf hhd
  obtain ⟨psH, preH, tH, hcH, hpsH⟩ := steps_auth I _ _ (Cfg.isSpecial {} u.scheme) u.username u.password (h ++ portText u.port) _
    hXB (delim_rest u.path.segs u.query u.fragment) hXne c6 c7 _ _ hcA rfl rfl rfl rfl rfl rfl rfl
  rw [asStr_append, List.append_assoc] at hcH
  have hrun := run_host I _ _ (Cfg.isSpecial {} u.scheme) h u.port u.decodedPort u.path.segs u.query u.fragment hq hf l1 hne hB hscan
    hstable (fun hx => hhne (by rcases hx with hx | hx; exact Or.inl hx; exact Or.inr (Or.inl hx)))
    psH preH (by rw [hpsH]; exact hport) hcH (by rw [hpsH]) (by rw [hpsH]) (by rw [hpsH]) (by rw [hpsH])
    (by rw [hpsH]) (by rw [hpsH]; exact hnf)
  have hU : psH.url = { ({ ({} : Url) with scheme := u.scheme }) with username := u.username, password := u.password } := by
    rw [hpsH]
  rw [hU] at hrun
  exact (tA.trans tH).runs hrun

end WhatwgUrl.Proofs.RoundTrip
