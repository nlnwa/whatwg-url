import WhatwgUrl.Proofs.PipelineRel
import WhatwgUrl.Proofs.HostTr
/-
  C18d: `HostOk` for EVERY configuration whose host hooks read the record only through the fields two
  agreeing records share (in particular: every configuration without hooks).

  An instance of `HostTr.parseHost_tr`: `g` overwrites path, query and fragment and prepends fixed lists to `verrs` and
  `qlog`; the hooks do not see it.
-/
namespace WhatwgUrl.Proofs.Pipeline
open WhatwgUrl WhatwgUrl.Impl WhatwgUrl.Proofs.HostTr

/-- overwrite path, query and fragment; PREPEND to the recorded errors and to the oracle log — the host parser only appends
    there, which is why it commutes with `gT` (the fields `rcd`, `qlog` of `tr_gT`) -/
def gT (P : Path) (Q F : Option Bytes) (V : List VErr) (L : List Bytes) (u : Url) : Url :=
  { u with path := P, query := Q, fragment := F, verrs := V ++ u.verrs, qlog := L ++ u.qlog }

/-- the host hooks of the configuration read the record only through the fields two agreeing records share (scheme, user
    name, password, host, port, decoded port); in particular: no hooks -/
def HooksOk (c : Cfg) : Prop :=
  (∀ f, c.preHost = some f → ∀ a b h, Ag false false false a b → f a h = f b h) ∧
  (∀ f, c.postHost = some f → ∀ a b h, Ag false false false a b → f a h = f b h)

theorem hooksOk_none (c : Cfg) (h1 : c.preHost = none) (h2 : c.postHost = none) : HooksOk c :=
  ⟨fun f hf => (by rw [h1] at hf; cases hf), fun f hf => (by rw [h2] at hf; cases hf)⟩

theorem ag_gT (P : Path) (Q F : Option Bytes) (V : List VErr) (L : List Bytes) (u : Url) :
    Ag false false false (gT P Q F V L u) u :=
  ⟨rfl, rfl, rfl, rfl, rfl, rfl, Bool.noConfusion, Bool.noConfusion, Bool.noConfusion⟩

theorem tr_gT (c : Cfg) (hc : HooksOk c) (P : Path) (Q F : Option Bytes) (V : List VErr) (L : List Bytes) :
    Tr2 c c (gT P Q F V L) where
  rcd := by
    intro u t f
    unfold record
    split
    · simp [gT, List.append_assoc]
    · rfl
  stops _ := rfl
  lax := rfl
  enc := rfl
  pct _ := rfl
  preH := rfl
  postH := rfl
  qlog := by intro u x; simp [gT, List.append_assoc]
  pre := fun f hf u h => hc.1 f hf _ _ h (ag_gT P Q F V L u)
  post := fun f hf u h => hc.2 f hf _ _ h (ag_gT P Q F V L u)

theorem hostOk_of_hooks (c : Cfg) (I : Idna) (hc : HooksOk c) : HostOk c I := by
  intro a b buf ns h hab hout
  obtain ⟨h1, h2, h3, h4, h5, h6, _, _, _⟩ := hab
  have ea : a = gT a.path a.query a.fragment a.verrs a.qlog { a with verrs := [], qlog := [] } := by
    cases a; simp [gT]
  have eb : b = gT b.path b.query b.fragment b.verrs b.qlog { a with verrs := [], qlog := [] } := by
    cases a; cases b; simp only at h1 h2 h3 h4 h5 h6; subst h1 h2 h3 h4 h5 h6; simp [gT]
  have ta := parseHost_tr (tr_gT c hc a.path a.query a.fragment a.verrs a.qlog) I { a with verrs := [], qlog := [] } buf ns
  have tb := parseHost_tr (tr_gT c hc b.path b.query b.fragment b.verrs b.qlog) I { a with verrs := [], qlog := [] } buf ns
  rw [← ea] at ta
  rw [← eb] at tb
  rw [← ta] at hout
  rw [← tb]
  exact hout

end WhatwgUrl.Proofs.Pipeline
