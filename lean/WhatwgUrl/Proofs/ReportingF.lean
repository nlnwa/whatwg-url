import WhatwgUrl.Proofs.ReportingBase
import WhatwgUrl.Proofs.HostTr
/-
  C15, the two configurations: `c1` has `failOnVErr = true`, `c2` is the same configuration with `failOnVErr = false`
  (and the same `report`).  Under `c1` every `handleError` call returns the error; the routines of the host
  parser that never look at the result of such a call are the same function under `c1` and `c2`: the `_congr` lemmas
  of `HostTr` at `FH.tr`.
-/
namespace WhatwgUrl.Proofs.Reporting
open WhatwgUrl WhatwgUrl.Impl

structure FH (c1 c2 : Cfg) : Prop where
  rel : CfgRel c1 c2
  fo : c1.failOnVErr = true
  fo2 : c2.failOnVErr = false
  rep : c1.report = c2.report

theorem FH.of_cfg (cfg : Cfg) : FH { cfg with failOnVErr := true } { cfg with failOnVErr := false } :=
  ⟨CfgRel.failOnVErr cfg true false, rfl, rfl, rfl⟩

section
variable {c1 c2 : Cfg} (F : FH c1 c2)
include F

theorem FH.stops (f : Bool) : stops c1 f = true := by simp [Impl.stops, F.fo]
theorem FH.rcd : record c1 = record c2 := by
  funext u t f; simp [record, F.rep]

theorem FH.tr : HostTr.TrR c1 c2 id := ⟨fun u t f => congrFun (congrFun (congrFun F.rcd u) t) f⟩

theorem toASCII_F : toASCII c1 = toASCII c2 := by
  funext I u s; simp only [toASCII, F.rel.laxHost, F.rel.encOverride]

theorem forbiddenLoop_F (a : Bytes) (rs : Str) (u : Url) : forbiddenLoop c1 a rs u = forbiddenLoop c2 a rs u :=
  HostTr.forbiddenLoop_tr F.tr F.rel.laxHost (fun _ => F.rel.percentEncodeString) a rs u

end

end WhatwgUrl.Proofs.Reporting
