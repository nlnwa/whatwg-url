import WhatwgUrl.Proofs.Lifting
import WhatwgUrl.Proofs.HeapInvNP
/-
  For C02b and C02c: `PathOk` ("an opaque path has its element", what `HeapInvNP.setU_np` asks) is an invariant of the parser
  and of the setters, for EVERY configuration, and it asks of the base `PathOk` only. It is the second clause of
  `SaneInv.SaneC`; the first clause needs "file" to be a special scheme and is the subject of `Proofs/SaneInv.lean`, which
  takes this clause from here.
  In a fresh parse the path may be broken (`opq ∧ segs = []`, produced by `shorten` on an opaque base path) only while the
  machine is in the path state, and the path state repairs it before it is left / before the loop ends.
-/
namespace WhatwgUrl.Proofs.HeapInvPath
open WhatwgUrl WhatwgUrl.Impl WhatwgUrl.Proofs.Machine
open WhatwgUrl.Proofs.NoPanic (ovSt)
open WhatwgUrl.Proofs.HeapInvNP (PathOk)

/-- `PathOk` looks at the path only -/
def POk (p : Path) : Prop := p.opq = true → p.segs ≠ []

theorem PathOk_iff (u : Url) : PathOk u ↔ POk u.path := Iff.rfl
theorem POk_of_list {p : Path} (h : p.opq = false) : POk p := fun h' => by rw [h] at h'; cases h'
theorem POk_addSegment (p : Path) (s : Bytes) : POk (p.addSegment s) := POk_of_list rfl
theorem POk_setOpaque (s : Bytes) : POk (Path.setOpaque s) := fun _ => by simp [Path.setOpaque]
theorem POk_init : POk Path.init := POk_of_list rfl

/-- the invariant: fresh parse — `PathOk` outside the path state; under a state override — `PathOk` all the time (the path
    states then have a list path: `NoPanic.OvL`) -/
def Kp (ov : Option State) (ps : PS) : Prop :=
  (ov = none → ps.state ≠ .path → PathOk ps.url) ∧ (ov.isSome = true → PathOk ps.url)

def DKp (ov : Option State) (x : Res) : Prop := (x.ret = .url ∨ ov.isSome = true) → PathOk x.url

theorem segEnd_pk (e : Env) (r : Char) (p : PS) (hst : p.state = .path)
    (hov : e.ov.isSome = true → p.url.path.opq = false) (hrepl : p.eof = true → r = repl) :
    Sh (Owes (Kp e.ov) (DKp e.ov)) (DKp e.ov) (segEnd e r p) := by
  have h1 := segPath_opq e p r
  have h2 : (r == '/' || spBackslash e p.url r) = false → POk (segPath e p r) := fun hs _ => segPath_ne e p r hs
  have hs : repl ≠ '/' ∧ repl ≠ '\\' := ⟨repl_class.2.2.2.1, repl_class.2.2.2.2.1⟩
  rcases Classical.em (r = '?') with rfl | hq
  · simp [segEnd, Sh_cont, Owes, Kp, DKp, PathOk_iff, spBackslash] at h2 hov ⊢
    grind
  rcases Classical.em (r = '#') with rfl | hh
  · simp [segEnd, Sh_cont, Owes, Kp, DKp, PathOk_iff, spBackslash] at h2 hov ⊢
    grind
  · simp [segEnd, Sh_cont, Owes, Kp, DKp, PathOk_iff, hst, hq, hh, spBackslash] at h2 hov ⊢
    grind [POk_of_list]

/-- the states that write the path -/
def pathW : State → Bool
  | .scheme | .noScheme | .file | .fileSlash | .relative | .path | .opaquePath | .pathStart => true
  | _ => false

theorem pathW_table (ov : Bool) (s : State) (h : pathW s = false) :
    Field.path ∉ writes ov s ∧ s ≠ .path := by
  revert h; cases ov <;> cases s <;> decide

attribute [local grind .] POk_of_list in
/-- every state function keeps the invariant; `hO`: the lifting has it from `NoPanic.body_ovSt`; `hrepl`: at the end of the
    input the code point is U+FFFD -/
theorem body_pk (e : Env) (q : PS) (r : Char) (hO : NoPanic.OvL e.ov q) (hK : Kp e.ov q)
    (hB : ∀ b, e.base = some b → PathOk b) (hrepl : q.eof = true → r = repl) : Sh (Owes (Kp e.ov) (DKp e.ov)) (DKp e.ov) (body e q r) := by
  by_cases hw : pathW q.state = true
  case neg =>
    -- the path is as it was, and `PathOk` held of it
    obtain ⟨hw1, hw2⟩ := pathW_table e.ov.isSome _ (by simpa using hw)
    have hpo : PathOk q.url := by
      cases ho : e.ov with
      | none => exact hK.1 ho hw2
      | some s => exact hK.2 (by rw [ho]; rfl)
    refine (body_eff e q r fun _ => hrepl).mono (fun ps' h' => ?_) (fun x h' _ => ?_)
    · have hp : PathOk ps'.url := by rw [PathOk_iff, h'.2.2.2 .path hw1]; exact hpo
      exact (Owes_iff _).2 ⟨fun _ _ => hp, fun _ => ⟨fun _ _ => hp, fun _ => hp⟩⟩
    · rw [PathOk_iff, h'.2.2 .path hw1]; exact hpo
  have hs : repl ≠ '/' ∧ repl ≠ '\\' := ⟨repl_class.2.2.2.1, repl_class.2.2.2.2.1⟩
  unfold body
  split <;> rename_i hst <;> simp [Kp, NoPanic.OvL, hst, ovSt, pathSt, PathOk_iff] at hK hO <;>
    simp [hst, pathW] at hw
  case h_16 =>
    have hs : ∀ u : Url, u.path = q.url.path → Sh (Owes (Kp e.ov) (DKp e.ov)) (DKp e.ov) (segEnd e r { q with url := u }) := fun u hu =>
      segEnd_pk e r _ hst (by simpa [hu] using hO) hrepl
    simp [stPath_eq, Sh_unitChecks, Sh_ite, Sh_herr, Sh_cont, hs, Owes, Kp, DKp, record_eq, PathOk_iff, hst]
    grind
  all_goals obtain ⟨cfg, I, src, runes, base, ov⟩ := e
  -- scheme, noScheme, file, fileSlash, relative: the states that look at the base
  case' h_2 | h_3 | h_12 | h_14 | h_20 =>
    cases base <;> simp only [reduceCtorEq, false_implies, implies_true, Option.some.injEq, forall_eq', PathOk_iff] at hB
  -- the two modes apart
  all_goals
    cases ov <;> simp [stScheme, stNoScheme, stOpaquePath, stFile, stFileSlash, stPathStart, stRelative, Sh_unitChecks, Sh_ite, Sh_herr,
      Sh_cont, Sh_done, Sh_retUrl, Owes, Kp, DKp, rewindLast, resetInput, writeRune, ite_url, ite_eof, ite_state,
      record_eq, cleanDefaultPort_path, next_fst, PathOk_iff, POk_addSegment, POk_setOpaque, POk_init, hst, hK, hB] <;>
    try grind

theorem basicParser_pk (cfg : Cfg) (I : Idna) (input : Bytes) (base url : Option Url) (ov : Option State)
    (hB : ∀ b, base = some b → PathOk b) (hS : ov.isSome = true → PathOk (url.getD {}))
    (hO : NoPanic.OvL ov (start (ov.getD .schemeStart) (url.getD {})))
    (h0 : ∀ u : Url, u.path = (url.getD {}).path → Kp ov (start (ov.getD .schemeStart) u)) :
    DKp ov (basicParser cfg I input base url ov) := by
  refine NoPanic.basicParser_of_body_ov (K := Kp ov) cfg I input base url ov ?_
    (fun ps q r h R hq => body_pk _ q r hq (by rw [R.eq]; exact h) hB R.repl) hO
    (fun u hu => h0 u hu.path)
  rintro _ u hu (h | h)
  · cases h
  · simpa [PathOk_iff, record_eq, hu.path] using hS h

theorem parse_pathOk (cfg : Cfg) (I : Idna) (input : Bytes) (base : Option Url)
    (hB : ∀ b, base = some b → PathOk b) (h : (basicParser cfg I input base none none).ret = .url) :
    PathOk (basicParser cfg I input base none none).url :=
  basicParser_pk cfg I input base none none hB nofun nofun
    (fun u hu => ⟨fun _ _ => POk_of_list (by rw [hu]; rfl), nofun⟩) (Or.inl h)

theorem ov_pathOk (cfg : Cfg) (I : Idna) (input : Bytes) (u : Url) (s : State)
    (hs : ovSt s = true) (hu : PathOk u) (hp : pathSt s = true → u.path.opq = false) :
    PathOk (basicParser cfg I input none (some u) (some s)).url := by
  exact basicParser_pk cfg I input none (some u) (some s) (by intro b hb; cases hb) (fun _ => hu) (fun _ => ⟨hs, hp⟩)
    (fun u' hu' => ⟨nofun, fun _ => by rwa [PathOk_iff, hu']⟩) (Or.inr rfl)

theorem setU_pathOk (cfg : Cfg) (I : Idna) (s : Setter) (u : Url) (v : Bytes) (hu : PathOk u) :
    PathOk (setU cfg I s u v).url := by
  have hstrip : ∀ (u' : Url) (p : Path), stripTrailingSpacesIfOpaque u'.path = some p → PathOk { u' with path := p } := by
    intro u' p hp
    rcases (Setters.strip_eq_some_iff _ _).1 hp with ⟨ho, rfl⟩ | ⟨_, _, _, _, rfl⟩
    · exact POk_of_list ho
    · intro _; simp
  refine Setters.setU_cases cfg I s u v (R := fun r => PathOk r.url) (fun r h => ?_) (fun st u' input h => ?_)
  · cases h
    case searchStrip p h => exact hstrip { u with query := none } p h
    case hashStrip p h => exact hstrip { u with fragment := none } p h
    all_goals exact hu
  · cases h
    case pathname => exact ov_pathOk _ _ _ _ _ rfl (POk_of_list rfl) (fun _ => rfl)
    all_goals exact ov_pathOk _ _ _ _ _ rfl hu nofun

end WhatwgUrl.Proofs.HeapInvPath
