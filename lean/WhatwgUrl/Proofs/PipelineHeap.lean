import WhatwgUrl.Impl.Canon
import WhatwgUrl.Proofs.IndepHist
/-
  C18d: `canonicalize` on a heap object is a VALUE-level pipeline on (record, own list).

  The value state `VS` is the url record of the object together with the list of its own `SearchParams` object, if that
  object has been created (`Shape`: the object points at a list that points back, the local view `IndepHist.Loc` on the
  pair).  Every heap step of `canonicalize` (a setter other than `search`: `vSet`; `SearchParams()` followed by a mutation:
  `vMut`) is a function on `VS` that computes what `IndepHist.stepV` does on the pair (`shape_set`, `vMut_stepV`); `canonV` is
  the pipeline.
-/
namespace WhatwgUrl.Proofs.Pipeline
open WhatwgUrl WhatwgUrl.Impl WhatwgUrl.Proofs.IndepHist

structure VS where
  u : Url
  sp : Option Pairs

/-- object `i` of the heap holds the record `x.u` with parser options `cfg`; it has no list (`x.sp = none`), or its list
    is an object that points back at `i` and holds `x.sp` -/
def Shape (i : Nat) (cfg : Cfg) (H : Heap) (x : VS) : Prop := Loc H i cfg (x.u, x.sp)

/-- a setter other than `search` -/
def vSet (cfg : Cfg) (I : Idna) (s : Setter) (v : Bytes) (x : VS) : VS × Ret :=
  (⟨(setU cfg I s x.u v).url, x.sp⟩, (setU cfg I s x.u v).ret)

theorem vSet_eq {cfg : Cfg} {I : Idna} {s : Setter} {v : Bytes} {x : VS} {u' : Url} {r : Ret} (h : setU cfg I s x.u v = ⟨u', r⟩) :
    vSet cfg I s v x = (⟨u', x.sp⟩, r) := by
  unfold vSet; rw [h]

/-- the list `SearchParams()` hands out -/
def vList (cfg : Cfg) (x : VS) : Pairs :=
  match x.sp with
  | some l => l
  | none => initP cfg x.u

theorem vList_congr (cfg : Cfg) {x y : VS} (hsp : x.sp = y.sp) (hq : x.u.query = y.u.query) : vList cfg x = vList cfg y := by
  unfold vList initP; rw [hsp, hq]

/-- `SearchParams()` followed by a mutating method -/
def vMut (cfg : Cfg) (m : Heap.SpMut) (x : VS) : VS :=
  ⟨updQ cfg x.u (Heap.applyMut m (vList cfg x)), some (Heap.applyMut m (vList cfg x))⟩

theorem vMut_stepV (I : Idna) (cfg : Cfg) (m : Heap.SpMut) (x : VS) :
    ((vMut cfg m x).u, (vMut cfg m x).sp) = stepV I cfg (stepV I cfg (x.u, x.sp) .sp) (.mut m) := rfl

theorem vMut_u (cfg : Cfg) (m : Heap.SpMut) (x : VS) :
    (vMut cfg m x).u = { x.u with query := Heap.updQuery x.u.query (spString cfg (Heap.applyMut m (vList cfg x))) } :=
  updQ_eq _ _ _

theorem shape_getU {i : Nat} {cfg : Cfg} {H : Heap} {x : VS} (h : Shape i cfg H x) :
    ((H.urls[i]?).map (·.u)).getD {} = x.u := by
  obtain ⟨o, ho, hu, _, _⟩ := h
  rw [ho]; exact hu

theorem shape_set {i : Nat} {cfg : Cfg} {H : Heap} {x : VS} (h : Shape i cfg H x) (I : Idna) (s : Setter) (v : Bytes)
    (hs : s ≠ .search) :
    (H.set I i s v).2 = (vSet cfg I s v x).2 ∧ Shape i cfg (H.set I i s v).1 (vSet cfg I s v x).1 := by
  have hl : Loc H i cfg (x.u, x.sp) := h
  refine ⟨?_, ?_⟩
  · obtain ⟨o, ho, hu, hc, -⟩ := hl
    change o.u = x.u at hu
    rw [Heap.set_eq_of_ne_search I H i s v hs]; simp only [ho, vSet]; rw [← hu, ← hc]
  · have := loc_set I s v hl
    simp only [stepV, if_neg hs] at this
    exact this

theorem searchParams_snd (H : Heap) (i : Nat) : (H.searchParams i).2 = ((H.searchParams i).1.urls[i]?).bind (·.sp) := by
  unfold Heap.searchParams
  cases ho : H.urls[i]? with
  | none => simp only [ho]; rfl
  | some o =>
    cases hs : o.sp with
    | none => simp only [hs]
    | some s => simp only [hs, ho, Option.bind_some]

def thenV (x : VS × Ret) (k : VS → VS × Ret) : VS × Ret :=
  match x.2 with
  | .panic n => (x.1, .panic n)
  | _ => k x.1

/-! the eight steps of `(*profile).Canonicalize` (`canonicalizer/canonicalizer.go`; `Impl.canonicalize`) at value level:
    repeated decoding of host, path, query, fragment; removal of port, user info, fragment; the sort -/

def step1 (I : Idna) (p : Profile) (x : VS) : VS × Ret :=
  if p.repeatedPercentDecoding && hostname x.u != [] then
    vSet p.cfg I .hostname (decodeEncode hostSet (hostname x.u)) x
  else (x, .url)

def step2 (I : Idna) (p : Profile) (x : VS) : VS × Ret :=
  if p.repeatedPercentDecoding && pathname x.u != [] then
    vSet p.cfg I .pathname (decodeEncode laxPathSet (pathname x.u)) x
  else (x, .url)

def step3 (p : Profile) (x : VS) : VS × Ret :=
  if p.repeatedPercentDecoding && search x.u != [] then
    (vMut p.cfg (.iterate fun nv => (decodeEncode repeatedQuerySet nv.1, decodeEncode repeatedQuerySet nv.2)) x, .url)
  else (x, .url)

def step4 (I : Idna) (p : Profile) (x : VS) : VS × Ret :=
  if p.repeatedPercentDecoding && hashG x.u != [] then
    vSet p.cfg I .hash (decodeEncode hostSet (trimPrefix1 (hashG x.u) [0x23])) x
  else (x, .url)

def step5 (I : Idna) (p : Profile) (x : VS) : VS × Ret := if p.removePort then vSet p.cfg I .port [] x else (x, .url)

def step6 (I : Idna) (p : Profile) (x : VS) : VS × Ret :=
  if p.removeUserInfo then thenV (vSet p.cfg I .username [] x) fun x => vSet p.cfg I .password [] x else (x, .url)

def step7 (I : Idna) (p : Profile) (x : VS) : VS × Ret := if p.removeFragment then vSet p.cfg I .hash [] x else (x, .url)

def step8 (p : Profile) (x : VS) : VS × Ret :=
  match p.sortQuery with
  | .noSort => (x, .url)
  | .sortKeys => (vMut p.cfg .sort x, .url)
  | .sortParameter => (vMut p.cfg .sortAbs x, .url)

/-- `canonicalize` at value level -/
def canonV (I : Idna) (p : Profile) (x : VS) : VS × Ret :=
  thenV (step1 I p x) fun x => thenV (step2 I p x) fun x => thenV (step3 p x) fun x => thenV (step4 I p x) fun x =>
  thenV (step5 I p x) fun x => thenV (step6 I p x) fun x => thenV (step7 I p x) fun x =>
  match step8 p x with
  | (x', .panic n) => (x', .panic n)
  | (x', _) => (x', .url)

/-- a heap-level result and a value-level result of the same step on object `i`: the same return value, and the heap has the
    `Shape` of the value state (not the conformance simulation of `Proofs/Sim*.lean`) -/
def Sim (i : Nat) (cfg : Cfg) (a : Heap × Ret) (b : VS × Ret) : Prop := a.2 = b.2 ∧ Shape i cfg a.1 b.1

theorem Sim_then {i : Nat} {cfg : Cfg} {a : Heap × Ret} {b : VS × Ret} {k : Heap → Heap × Ret} {k' : VS → VS × Ret}
    (h : Sim i cfg a b) (hk : ∀ H x, Shape i cfg H x → Sim i cfg (k H) (k' x)) : Sim i cfg (thenH a k) (thenV b k') := by
  obtain ⟨h1, h2⟩ := h
  unfold thenH thenV
  rw [← h1]
  cases a.2 with
  | panic n => exact ⟨rfl, h2⟩
  | url => exact hk _ _ h2
  | nilNil => exact hk _ _ h2
  | err e w => exact hk _ _ h2
  | outOfFuel => exact hk _ _ h2

theorem Sim_ite {i : Nat} {cfg : Cfg} (c : Prop) [Decidable c] {a : Heap × Ret} {b : VS × Ret} {H : Heap} {x : VS}
    (h : Shape i cfg H x) (h1 : c → Sim i cfg a b) : Sim i cfg (if c then a else (H, .url)) (if c then b else (x, .url)) := by
  by_cases hc : c
  · rw [if_pos hc, if_pos hc]; exact h1 hc
  · rw [if_neg hc, if_neg hc]; exact ⟨rfl, h⟩

theorem Sim_mut {i : Nat} {cfg : Cfg} {H : Heap} {x : VS} (h : Shape i cfg H x) (m : Heap.SpMut) :
    Sim i cfg (match H.searchParams i with | (H', some s) => (H'.spMutate s m, Ret.url) | (H', none) => (H', Ret.url))
      (vMut cfg m x, .url) := by
  -- `SearchParams()` and the mutating methods do not consult the oracle: `loc_mut` and `applyOp` take one for the setters' sake
  have h1 := loc_sp h
  have h2 := loc_mut (fun b => (b, false)) m h1
  obtain ⟨o, ho, -, -, ⟨-, hx⟩ | ⟨s, so, hs, -, -, -⟩⟩ := id h1
  · cases hx
  · have he := applyOp_mut (fun b => (b, false)) m ho hs
    have : H.searchParams i = ((H.searchParams i).1, some s) := by
      rw [← show (H.searchParams i).2 = some s by rw [searchParams_snd, ho]; exact hs]
    rw [this]
    rw [he] at h2
    refine ⟨rfl, ?_⟩
    show Loc _ i cfg ((vMut cfg m x).u, (vMut cfg m x).sp)
    rw [vMut_stepV (fun b => (b, false))]
    exact h2

theorem Sim_final {i : Nat} {cfg : Cfg} {a : Heap × Ret} {b : VS × Ret} :
    Sim i cfg a b → Sim i cfg (match a with | (H', .panic n) => (H', .panic n) | (H', _) => (H', .url))
      (match b with | (x', .panic n) => (x', .panic n) | (x', _) => (x', .url)) := by
  intro h
  obtain ⟨A1, A2⟩ := a
  obtain ⟨B1, B2⟩ := b
  obtain ⟨e1, e2⟩ := h
  dsimp only at e1 e2
  subst e1
  cases A2 <;> exact ⟨rfl, e2⟩

theorem canonicalize_shape (I : Idna) (p : Profile) (i : Nat) (H : Heap) (x : VS) (h : Shape i p.cfg H x) :
    Sim i p.cfg (canonicalize I p H i) (canonV I p x) := by
  unfold canonicalize canonV step1 step2 step3 step4 step5 step6 step7 step8
  dsimp only
  refine Sim_then ?_ (fun H x h => Sim_then ?_ (fun H x h => Sim_then ?_ (fun H x h => Sim_then ?_ (fun H x h =>
    Sim_then ?_ (fun H x h => Sim_then ?_ (fun H x h => Sim_then ?_ (fun H x h => ?_)))))))
  · simp only [shape_getU h]
    exact Sim_ite _ h fun _ => shape_set h I _ _ (by decide)
  · simp only [shape_getU h]
    exact Sim_ite _ h fun _ => shape_set h I _ _ (by decide)
  · simp only [shape_getU h]
    exact Sim_ite _ h fun _ => Sim_mut h _
  · simp only [shape_getU h]
    exact Sim_ite _ h fun _ => shape_set h I _ _ (by decide)
  · exact Sim_ite _ h fun _ => shape_set h I _ _ (by decide)
  · exact Sim_ite _ h fun _ => Sim_then (shape_set h I _ _ (by decide)) (fun H x h => shape_set h I _ _ (by decide))
  · exact Sim_ite _ h fun _ => shape_set h I _ _ (by decide)
  · have h8 : Sim i p.cfg
        (match p.sortQuery with
          | .noSort => (H, .url)
          | .sortKeys => (match H.searchParams i with | (H', some s) => (H'.spMutate s .sort, .url) | (H', none) => (H', .url))
          | .sortParameter => (match H.searchParams i with | (H', some s) => (H'.spMutate s .sortAbs, .url) | (H', none) => (H', .url)))
        (match p.sortQuery with
          | .noSort => (x, .url)
          | .sortKeys => (vMut p.cfg .sort x, .url)
          | .sortParameter => (vMut p.cfg .sortAbs x, .url)) := by
      cases p.sortQuery with
      | noSort => exact ⟨rfl, h⟩
      | sortKeys => exact Sim_mut h _
      | sortParameter => exact Sim_mut h _
    exact Sim_final h8

end WhatwgUrl.Proofs.Pipeline
