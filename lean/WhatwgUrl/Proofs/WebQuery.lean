import WhatwgUrl.Proofs.WebParse
import WhatwgUrl.Proofs.IdemDecode
/-
  C18e: spellings (`Tok`, `Seg`, `Proofs/PipelineSpelled.lean`) as web texts, and the query list of the canonicalizer under
  a configuration with an encoding override: `DecodePercentEncoded` with a charmap that is the identity on the bytes of a
  spelling is the canonicalizer's own decoder (`Idem.decodePercent_tok`, `Proofs/IdemDecode.lean`).
-/
namespace WhatwgUrl.Proofs.Web
open WhatwgUrl WhatwgUrl.Impl WhatwgUrl.Proofs.IPv4 WhatwgUrl.Proofs.Canon WhatwgUrl.Proofs.RoundTrip WhatwgUrl.Proofs.Spelling
open WhatwgUrl.Proofs.Pipeline
open WhatwgUrl.Props.C18 (Spelled nest esc1 escPct nest_succ')

theorem seg_segC {p s : Bytes} (h : Seg p s) : SegC s := by
  obtain ⟨_, h1, h2⟩ := segOk_spec (seg_segOk h)
  exact ⟨tok_spB h.1, tok_pctOk h.1, h1, h2⟩

/-- a query list whose names and values are spellings of plain texts -/
def TokPairs (l : List (Bytes × Bytes)) : Prop := ∀ nv ∈ l, (∃ p, Tok p nv.1) ∧ (∃ p, Tok p nv.2)

theorem tokPairs_sp {l : List (Bytes × Bytes)} (h : TokPairs l) : SpPairs l := by
  intro nv hnv
  obtain ⟨⟨p1, h1⟩, ⟨p2, h2⟩⟩ := h nv hnv
  exact ⟨tok_spB h1, tok_spB h2⟩

theorem qText_qB (l : List (Bytes × Bytes)) (h : SpPairs l) : ∀ b ∈ qText l, qB b = true := by
  intro b hb
  rcases mem_intercalate _ _ b hb with hb | ⟨x, hx, hb⟩
  · simp only [List.mem_cons, List.not_mem_nil, or_false] at hb; subst hb; decide
  · obtain ⟨nv, hnv, rfl⟩ := List.mem_map.mp hx
    rcases List.mem_append.mp hb with hb | hb
    · exact spB_qB b ((h nv hnv).1 b hb)
    · rcases List.mem_cons.mp hb with rfl | hb
      · decide
      · exact spB_qB b ((h nv hnv).2 b hb)

theorem pctOk_intercalate (sep : UInt8) (hsep : sep ≠ 0x25) : ∀ (l : List Bytes), (∀ x ∈ l, pctOk x = true) →
    pctOk (intercalate [sep] l) = true
  | [], _ => rfl
  | [x], h => by simpa [intercalate] using h x (by simp)
  | x :: y :: ys, h => by
    simp only [intercalate]
    rw [List.append_assoc]
    refine pctOk_append _ _ (h x (by simp)) ?_
    exact pctOk_cons_ne sep _ hsep (pctOk_intercalate sep hsep (y :: ys) (fun z hz => h z (by simp only [List.mem_cons] at hz ⊢; exact Or.inr hz)))

theorem pctOk_qText (l : List (Bytes × Bytes)) (h : TokPairs l) : pctOk (qText l) = true := by
  unfold qText
  refine pctOk_intercalate 0x26 (by decide) _ ?_
  intro x hx
  obtain ⟨nv, hnv, rfl⟩ := List.mem_map.mp hx
  obtain ⟨⟨p1, h1⟩, ⟨p2, h2⟩⟩ := h nv hnv
  exact pctOk_append _ _ (tok_pctOk h1) (pctOk_cons_ne _ _ (by decide) (tok_pctOk h2))

/-- what `SearchParams.init` makes of a spelled query text, under a configuration with `WebCfg` -/
theorem spInit_qText_c (cfg : Cfg) (hW : WebCfg cfg) (l : List (Bytes × Bytes)) (h : TokPairs l) :
    spInit cfg (qText l) = l.map fun nv => (canonDecode nv.1, canonDecode nv.2) :=
  spInit_qText_g cfg l (tokPairs_sp h) fun nv hnv => by
    obtain ⟨⟨p1, t1⟩, ⟨p2, t2⟩⟩ := h nv hnv
    exact ⟨Idem.decodePercent_tok cfg hW.dec t1, Idem.decodePercent_tok cfg hW.dec t2⟩

theorem pairSame_tok {l₁ l₂ : List (Bytes × Bytes)} (h : All2 PairSame l₁ l₂) : TokPairs l₁ ∧ TokPairs l₂ := by
  constructor
  · intro nv hnv
    obtain ⟨b, _, ⟨p1, h1, _⟩, ⟨p2, h2, _⟩⟩ := All2.mem_left h nv hnv
    exact ⟨⟨p1, h1⟩, ⟨p2, h2⟩⟩
  · intro nv hnv
    obtain ⟨a, _, ⟨p1, _, h1⟩, ⟨p2, _, h2⟩⟩ := All2.mem_right h nv hnv
    exact ⟨⟨p1, h1⟩, ⟨p2, h2⟩⟩

theorem queryEq_of_pairs_c (cfg : Cfg) (hW : WebCfg cfg) {l₁ l₂ : List (Bytes × Bytes)} (h : All2 PairSame l₁ l₂) :
    QueryEq cfg (some (qText l₁)) (some (qText l₂)) := by
  obtain ⟨s1, s2⟩ := pairSame_tok h
  have hm := map_dq_eq h
  cases h with
  | nil => exact Or.inl rfl
  | @cons a b t₁ t₂ hab ht =>
    refine Or.inr ⟨_, _, rfl, rfl, qText_ne_nil _ (by simp), qText_ne_nil _ (by simp), ?_⟩
    rw [spInit_qText_c cfg hW _ s1, spInit_qText_c cfg hW _ s2, List.map_map, List.map_map]
    exact hm

end WhatwgUrl.Proofs.Web
