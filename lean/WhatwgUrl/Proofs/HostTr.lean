import WhatwgUrl.Proofs.HostWF
/-
  The host parser uses its url argument as a sink: it appends to `verrs` (through `record`) and to `qlog`, and hands it to
  the two hooks; nothing else.  Hence one theorem for two runs, `mapHR g (f c1 u args) = f c2 (g u) args`, for every routine
  `f` of hostparser.go, every `g` that commutes with recording and logging and that the hooks do not see, and every pair of
  configurations that stop at the same `handleError` calls and agree in what the host parser reads.  `g := erase` with `c2`
  not reporting, `g` overwriting fields the hooks do not read, `g := id` under a change of the configuration are instances.

  Two corollaries of `parseHost_tr` with `g := behind w` are stated at the end of the file under the namespaces of their
  users: `Idem.parseHost_out_indep` (with `Idem.HooksIgnore`, `Idem.tr_behind`) and `RoundTrip.parseHost_ok_indep`.
-/
namespace WhatwgUrl.Proofs.HostTr
open WhatwgUrl WhatwgUrl.Impl WhatwgUrl.Proofs.HostWF

/-- `g` commutes with recording: all that the routines which record only when they return need -/
structure TrR (c1 c2 : Cfg) (g : Url → Url) : Prop where
  rcd : ∀ u t f, g (record c1 u t f) = record c2 (g u) t f

/-- … and `handleError` stops at the same calls: what the routines that go on after a non-fatal `handleError` need -/
structure TrS (c1 c2 : Cfg) (g : Url → Url) : Prop extends TrR c1 c2 g where
  stops : ∀ f, stops c1 f = stops c2 f

/-- the configurations agree in what the host parser reads besides what `record` and `stops` read: `laxHost`, `encOverride`,
    the two hooks, and under lax host parsing `pctSingle`; logging commutes with `g`; the hooks do not see `g` -/
structure Tr2 (c1 c2 : Cfg) (g : Url → Url) : Prop extends TrS c1 c2 g where
  lax : c1.laxHost = c2.laxHost
  enc : c1.encOverride = c2.encOverride
  pct : c2.laxHost = true → c1.pctSingle = c2.pctSingle
  preH : c1.preHost = c2.preHost
  postH : c1.postHost = c2.postHost
  qlog : ∀ u x, g { u with qlog := u.qlog ++ [x] } = { g u with qlog := (g u).qlog ++ [x] }
  pre : ∀ f, c2.preHost = some f → ∀ u h, f (g u) h = f u h
  post : ∀ f, c2.postHost = some f → ∀ u h, f (g u) h = f u h

def mapHR (g : Url → Url) (r : HR) : HR := { r with url := g r.url }
def mapNumR (g : Url → Url) (r : NumR) : NumR := { r with url := g r.url }
def mapNumsR (g : Url → Url) (r : NumsR) : NumsR := { r with url := g r.url }
/-- `g` on the url of what the two inner loops of the IPv6 parser hand on -/
def map4 {α β γ : Type} (g : Url → Url) (x : α × β × γ × Url) : α × β × γ × Url := (x.1, x.2.1, x.2.2.1, g x.2.2.2)
def mapS6 (g : Url → Url) (s : S6) : S6 := { s with url := g s.url }
def mapR6 (g : Url → Url) : R6 → R6
  | .cont s => .cont (mapS6 g s)
  | .brk s => .brk (mapS6 g s)
  | .done r => .done (mapHR g r)

variable {c1 c2 : Cfg} {g : Url → Url}

theorem mapHR_mk (u : Url) (o : HOut) : mapHR g ⟨u, o⟩ = ⟨g u, o⟩ := rfl
theorem mapNumR_mk (u : Url) (n : Nat) (v : Bool) (e : NumErr) : mapNumR g ⟨u, n, v, e⟩ = ⟨g u, n, v, e⟩ := rfl
theorem mapNumsR_mk (u : Url) (n : List Nat) (e : Option VErr) : mapNumsR g ⟨u, n, e⟩ = ⟨g u, n, e⟩ := rfl
theorem mapR6_cont (s : S6) : mapR6 g (.cont s) = .cont (mapS6 g s) := rfl
theorem mapR6_brk (s : S6) : mapR6 g (.brk s) = .brk (mapS6 g s) := rfl
theorem mapR6_done (r : HR) : mapR6 g (.done r) = .done (mapHR g r) := rfl

theorem start6_tr (rs : Str) (u : Url) : start6 rs (g u) = (start6 rs u).map (mapS6 g) := by
  unfold start6
  dsimp only
  split
  · split <;> rfl
  · rfl

/-! ### under `TrR` -/

section
variable (T : TrR c1 c2 g)
include T

theorem fail6_tr (u : Url) (t : ErrT) : mapHR g (fail6 c1 u t) = fail6 c2 (g u) t := by
  simp only [fail6, mapHR_mk, T.rcd]

theorem parseIPv4Number_tr (u : Url) (i : Bytes) : mapNumR g (parseIPv4Number c1 u i) = parseIPv4Number c2 (g u) i := by
  unfold parseIPv4Number
  simp only [T.rcd, apply_ite (mapNumR g), mapNumR_mk]

theorem endsInANumber_tr (u : Url) (i : Bytes) : endsInANumber c1 u i = endsInANumber c2 (g u) i := by
  unfold endsInANumber
  simp only [← parseIPv4Number_tr T, mapNumR]

theorem digitLoop6_tr (rs : Str) : ∀ (fuel : Nat) (cu : C6) (ch : Char) (p : Int) (u : Url),
    Sum.map (map4 g) (mapHR g) (digitLoop6 c1 rs fuel cu ch p u) = digitLoop6 c2 rs fuel cu ch p (g u)
  | 0, _, _, _, _ => rfl
  | n + 1, cu, ch, p, u => by
    unfold digitLoop6
    simp only [digitLoop6_tr rs n, T.rcd, apply_ite (Sum.map (map4 g) (mapHR g)), Sum.map_inl, Sum.map_inr, mapHR_mk, map4]

theorem v4Loop6_tr (rs : Str) : ∀ (fuel : Nat) (cu : C6) (ch : Char) (a : List Nat) (pi ns : Nat) (u : Url),
    Sum.map (map4 g) (mapHR g) (v4Loop6 c1 rs fuel cu ch a pi ns u) = v4Loop6 c2 rs fuel cu ch a pi ns (g u)
  | 0, _, _, _, _, _, _ => rfl
  | n + 1, cu, ch, a, pi, ns, u => by
    unfold v4Loop6
    simp only [← digitLoop6_tr T, ← fail6_tr T, apply_ite (Sum.map (map4 g) (mapHR g)), Sum.map_inl, Sum.map_inr]
    generalize digitLoop6 c1 rs (rs.length + 2) _ _ (-1) u = d
    rcases d with ⟨cu2, ch2, p, u2⟩ | r <;> simp only [Sum.map_inl, Sum.map_inr, map4]
    cases setPiece a pi ((a[pi]! * 0x100 + p.toNat) % 0x10000) <;>
      simp only [v4Loop6_tr rs n, Sum.map_inr, mapHR_mk]

theorem iter6_tr (rs : Str) (s : S6) : mapR6 g (iter6 c1 rs s) = iter6 c2 rs (mapS6 g s) := by
  unfold iter6
  simp only [← v4Loop6_tr T, ← fail6_tr T, mapS6, apply_ite (mapR6 g), mapR6_cont, mapR6_done]
  generalize v4Loop6 c1 rs (rs.length + 2) _ _ s.address s.pieceIdx 0 s.url = d
  rcases d with ⟨a, pi, ns, u⟩ | r <;>
    simp only [Sum.map_inl, Sum.map_inr, map4, apply_ite (mapR6 g), mapR6_brk, mapR6_done, mapS6]
  all_goals
    cases setPiece s.address s.pieceIdx ((hexLoop6 rs 5 s.cur s.c 0 0).2.2.1 % 0x10000) <;>
      simp only [mapR6_cont, mapR6_done, mapS6, mapHR_mk, fail6_tr T]

theorem loop6_tr (rs : Str) : ∀ (fuel : Nat) (s : S6),
    Sum.map (mapS6 g) (mapHR g) (loop6 c1 rs fuel s) = loop6 c2 rs fuel (mapS6 g s)
  | 0, _ => rfl
  | n + 1, s => by
    unfold loop6
    simp only [← iter6_tr T, apply_ite (Sum.map (mapS6 g) (mapHR g)), Sum.map_inl]
    generalize iter6 c1 rs s = d
    rcases d with s' | s' | r <;>
      simp only [mapR6_cont, mapR6_brk, mapR6_done, loop6_tr rs n, Sum.map_inl, Sum.map_inr] <;> rfl

theorem fin6_tr (x : Sum S6 HR) : mapHR g (fin6 c1 x) = fin6 c2 (Sum.map (mapS6 g) (mapHR g) x) := by
  rcases x with s | r
  · simp only [fin6, Sum.map_inl, mapS6, apply_ite (mapHR g), mapHR_mk, fail6_tr T]
    cases swap6 8 s.address 7 s.compress (s.pieceIdx - s.compress.toNat) <;> simp only [mapHR_mk]
  · rfl

theorem parseIPv6_tr (u : Url) (i : Bytes) : mapHR g (parseIPv6 c1 u i) = parseIPv6 c2 (g u) i := by
  rw [parseIPv6_eq, parseIPv6_eq, run6, run6, start6_tr]
  cases start6 (goRunes i) u with
  | none => exact fail6_tr T _ _
  | some s0 => exact (fin6_tr T _).trans (by rw [loop6_tr T]; rfl)

theorem forbiddenLoop_tr (hl : c1.laxHost = c2.laxHost) (hp : c2.laxHost = true → percentEncodeString c1 = percentEncodeString c2)
    (a : Bytes) : ∀ (rs : Str) (u : Url), Prod.map g id (forbiddenLoop c1 a rs u) = forbiddenLoop c2 a rs (g u)
  | [], _ => rfl
  | ch :: rest, u => by
    unfold forbiddenLoop
    simp only [forbiddenLoop_tr hl hp a rest, T.rcd, hl, apply_ite (Prod.map g id), Prod.map_apply, id]
    split
    · split
      · rw [hp ‹_›]
      · rfl
    · rfl

end

/-! ### under `TrS` -/

section
variable (T : TrS c1 c2 g)
include T

/-- `if cond { if err := handleError(…); err != nil { return } }` in front of `k` -/
theorem guard_tr (cond : Prop) [Decidable cond] (u : Url) (t : ErrT) (f : Bool) (k k' : Url → HR)
    (hk : ∀ u, mapHR g (k u) = k' (g u)) :
    mapHR g (if cond then hErr c1 u t f k else k u) = if cond then hErr c2 (g u) t f k' else k' (g u) := by
  simp only [hErr, apply_ite (mapHR g), mapHR_mk, hk, T.rcd, T.stops]

theorem parseIPv4Parts_tr : ∀ (parts : List Bytes) (u : Url) (acc : List Nat),
    mapNumsR g (parseIPv4Parts c1 u parts acc) = parseIPv4Parts c2 (g u) parts acc
  | [], _, _ => rfl
  | p :: rest, u, acc => by
    unfold parseIPv4Parts
    simp only [← parseIPv4Number_tr T.toTrR, parseIPv4Parts_tr rest, T.rcd, T.stops, apply_ite (mapNumsR g), apply_ite g,
      mapNumsR_mk, mapNumR]

theorem ipv4RangeWarn_tr : ∀ (ns : List Nat) (u : Url),
    Prod.map g id (ipv4RangeWarn c1 u ns) = ipv4RangeWarn c2 (g u) ns
  | [], _ => rfl
  | n :: rest, u => by
    unfold ipv4RangeWarn
    simp only [ipv4RangeWarn_tr rest, T.rcd, T.stops, apply_ite (Prod.map g id), Prod.map_apply, id]

theorem ipv4AfterCount_tr (parts : List Bytes) (u : Url) :
    mapHR g (ipv4AfterCount c1 parts u) = ipv4AfterCount c2 parts (g u) := by
  unfold ipv4AfterCount ipv4AfterWarn
  simp only [← parseIPv4Parts_tr T]
  generalize parseIPv4Parts c1 u _ [] = pr
  simp only [mapNumsR, ← ipv4RangeWarn_tr T, ← T.rcd, Prod.map_fst, Prod.map_snd, id]
  generalize ipv4RangeWarn c1 pr.url pr.nums = w
  split
  · rfl
  · cases hl : pr.nums.getLast? <;> simp only [apply_ite (mapHR g), mapHR_mk]

theorem parseIPv4_tr (u : Url) (i : Bytes) : mapHR g (parseIPv4 c1 u i) = parseIPv4 c2 (g u) i := by
  rw [parseIPv4_eq, parseIPv4_eq]
  exact guard_tr T _ _ _ _ _ _ fun u => guard_tr T _ _ _ _ _ _ (ipv4AfterCount_tr T _)

theorem opaqueLoop_tr (hl : c1.laxHost = c2.laxHost) (hp : percentEncodeRune c1 = percentEncodeRune c2) (i : Bytes) :
    ∀ (rs : Str) (u : Url) (out : Bytes), mapHR g (opaqueLoop c1 i rs u out) = opaqueLoop c2 i rs (g u) out
  | [], _, _ => rfl
  | ch :: rest, u, out => by
    unfold opaqueLoop
    simp only [opaqueLoop_tr hl hp i rest, T.rcd, T.stops, hl, hp, apply_ite (mapHR g), apply_ite g, mapHR_mk]

end

theorem Tr2.dec (T : Tr2 c1 c2 g) : decodePercent c1 = decodePercent c2 := Percent.decodePercent_congr T.enc

theorem Tr2.per (T : Tr2 c1 c2 g) : percentEncodeRune c1 = percentEncodeRune c2 := Percent.percentEncodeRune_congr T.enc

theorem Tr2.pes (T : Tr2 c1 c2 g) (h : c2.laxHost = true) : percentEncodeString c1 = percentEncodeString c2 :=
  Percent.percentEncodeString_congr T.enc (T.pct h)

section
variable (T : Tr2 c1 c2 g)
include T

theorem toASCII_tr (I : Idna) (u : Url) (s : Bytes) : Prod.map id g (toASCII c1 I u s) = toASCII c2 I (g u) s := by
  unfold toASCII
  simp only [T.lax, T.enc, ← T.qlog, apply_ite (Prod.map id g), Prod.map_apply, id]

theorem parseHost_tr (I : Idna) (u : Url) (i : Bytes) (ns : Bool) :
    mapHR g (parseHost c1 I u i ns) = parseHost c2 I (g u) i ns := by
  unfold parseHost
  have hpre := T.pre
  have hpost := T.post
  rw [T.preH]
  cases h : c2.preHost <;> dsimp only
  case' some f => rw [hpre f h]; generalize f u i = i
  all_goals
    simp only [T.lax, T.dec, T.postH, ← parseIPv6_tr T.toTrR, parseOpaqueHost, ← opaqueLoop_tr T.toTrS T.lax T.per, ← toASCII_tr T,
      ← forbiddenLoop_tr T.toTrR T.lax T.pes, ← endsInANumber_tr T.toTrR, ← parseIPv4_tr T.toTrS,
      ← fail6_tr T.toTrR, Prod.map_fst, Prod.map_snd, id]
    split
    · rfl
    · simp only [apply_ite (mapHR g), mapHR_mk]
      generalize toASCII c1 I u (decodePercent c2 _) = ta
      rcases ta with ⟨a | a, u1⟩ <;> simp only [apply_ite (mapHR g), mapHR_mk]
      generalize forbiddenLoop c1 a (goRunes a) u1 = fl
      rcases fl with ⟨u2, _ | o⟩ <;> simp only [apply_ite (mapHR g), mapHR_mk]
      cases hp : c2.postHost with
      | none => rfl
      | some f => simp only [mapHR_mk, hpost f hp]

end

/-! ### `g := id`: the routine is the same function under both configurations -/

theorem fail6_congr (T : TrR c1 c2 id) : fail6 c1 = fail6 c2 := funext fun u => funext fun t => fail6_tr T u t
theorem parseIPv4Number_congr (T : TrR c1 c2 id) : parseIPv4Number c1 = parseIPv4Number c2 :=
  funext fun u => funext fun i => parseIPv4Number_tr T u i
theorem endsInANumber_congr (T : TrR c1 c2 id) : endsInANumber c1 = endsInANumber c2 :=
  funext fun u => funext fun i => endsInANumber_tr T u i
theorem parseIPv6_congr (T : TrR c1 c2 id) : parseIPv6 c1 = parseIPv6 c2 := funext fun u => funext fun i => parseIPv6_tr T u i
theorem parseIPv4_congr (T : TrS c1 c2 id) : parseIPv4 c1 = parseIPv4 c2 := funext fun u => funext fun i => parseIPv4_tr T u i
theorem parseHost_congr (T : Tr2 c1 c2 id) (I : Idna) : parseHost c1 I = parseHost c2 I :=
  funext fun u => funext fun i => funext fun ns => parseHost_tr T I u i ns

/-- the diagnostics of `x` behind those of the fixed record `w` -/
def behind (w x : Url) : Url := { w with verrs := w.verrs ++ x.verrs, qlog := w.qlog ++ x.qlog }

theorem behind_blank (w : Url) : behind w {} = w := by cases w; simp [behind]

end WhatwgUrl.Proofs.HostTr

namespace WhatwgUrl.Proofs.Idem
open WhatwgUrl WhatwgUrl.Impl WhatwgUrl.Proofs.HostTr

/-- the host hooks of the configuration do not look at the record (in particular: no hooks; the hooks of the
    GoogleSafeBrowsing and Semantic profiles) -/
def HooksIgnore (c : Cfg) : Prop :=
  (∀ f, c.preHost = some f → ∀ a b h, f a h = f b h) ∧ (∀ f, c.postHost = some f → ∀ a b h, f a h = f b h)

theorem tr_behind (c : Cfg) (hc : HooksIgnore c) (w : Url) : Tr2 c c (behind w) where
  rcd u t f := by
    unfold record
    split
    · simp [behind, List.append_assoc]
    · rfl
  stops _ := rfl
  lax := rfl
  enc := rfl
  pct _ := rfl
  preH := rfl
  postH := rfl
  qlog u x := by simp [behind, List.append_assoc]
  pre f hf u h := hc.1 f hf _ _ h
  post f hf u h := hc.2 f hf _ _ h

theorem parseHost_out_indep (c : Cfg) (I : Idna) (hc : HooksIgnore c) (w w' : Url) (v : Bytes) (ns : Bool) :
    (parseHost c I w v ns).out = (parseHost c I w' v ns).out := by
  have key : ∀ w : Url, (parseHost c I w v ns).out = (parseHost c I {} v ns).out := fun w => by
    have t := parseHost_tr (tr_behind c hc w) I {} v ns
    rw [behind_blank] at t
    rw [← t]; rfl
  rw [key w, key w']

end WhatwgUrl.Proofs.Idem

namespace WhatwgUrl.Proofs.RoundTrip
open WhatwgUrl WhatwgUrl.Impl

theorem parseHost_ok_indep (I : Idna) (v w : Url) (b : Bytes) (ns : Bool) (h : Bytes)
    (hw : (parseHost {} I w b ns).out = .ok h) : (parseHost {} I v b ns).out = .ok h :=
  (Idem.parseHost_out_indep {} I ⟨nofun, nofun⟩ v w b ns).trans hw

end WhatwgUrl.Proofs.RoundTrip
