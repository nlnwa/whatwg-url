import WhatwgUrl.Impl.Parser
/-
  Evaluating a run of the state machine in the kernel up to a chosen step: `loop` on `n + m` units of fuel is `n` steps
  (`runTo`, closed by `decide +kernel` on a literal input) followed by `loop` on `m` from the state reached.  Used where a
  run has to be cut at a step whose value the kernel cannot compute (the host parser's percent-decoder is compiled by
  well-founded recursion).
-/
namespace WhatwgUrl.Proofs
open WhatwgUrl WhatwgUrl.Impl

deriving instance DecidableEq for PS
deriving instance DecidableEq for StepR

/-- `n` iterations of the loop body -/
def runTo (e : Env) : Nat → PS → StepR
  | 0, ps => .cont ps
  | n + 1, ps =>
    match step e ps with
    | .cont ps' => runTo e n ps'
    | .done r => .done r

theorem loop_runTo (e : Env) : ∀ (n m : Nat) (ps : PS),
    loop e (n + m) ps = match runTo e n ps with | .cont ps' => loop e m ps' | .done r => r := by
  intro n
  induction n with
  | zero => intro m ps; simp [runTo]
  | succ n ih =>
    intro m ps
    rw [Nat.add_right_comm]
    simp only [loop, runTo]
    cases step e ps with
    | cont ps' => exact ih m ps'
    | done r => rfl

end WhatwgUrl.Proofs
