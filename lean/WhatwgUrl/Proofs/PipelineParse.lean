import WhatwgUrl.Proofs.WebPort
/-
  `hostU`, `webRes`: the record the host parser starts from, and the result in which `C18d_parse_render` is stated.
  `parse_web`: what the parser makes of `scheme://host/seg/…/seg?query#fragment` (no base, special scheme other than `file`,
  a host text) under the default configuration, over all copied bytes (`segOk`, `QOk`, `FOk`) — a result of its own: the
  C18d theorems go through `Web.parse_web_c` (`Proofs/WebParse.lean`), whose driver `Web.parse_web_of_auth` /
  `Web.runs_from_host` makes the same run scheme → authority → host → host exit for every `WebParseCfg`; `parse_web_g`
  is that run with the part from the path start state on as a hypothesis.
-/
namespace WhatwgUrl.Proofs.Pipeline
open WhatwgUrl WhatwgUrl.Impl WhatwgUrl.Proofs.IPv4 WhatwgUrl.Proofs.Trim WhatwgUrl.Proofs.RoundTrip WhatwgUrl.Proofs.Spelling
open WhatwgUrl.Proofs.Web (mkEC SpecialSchemeC specialSchemeC_default prefix_graphic_c parse_graphic_c steps_host_state step_host_end_special
  step_host_end_fail)
open WhatwgUrl.Proofs.Run WhatwgUrl.Proofs.Resolve

/-- the record the parser starts the host parser with -/
def hostU (s : Bytes) : Url := { ({} : Url) with scheme := s }

/-- the record after a successful host parse (host `h`) -/
def hostV (I : Idna) (s a h : Bytes) : Url := { (parseHost {} I (hostU s) a false).url with host := some h }

/-- what `scheme://host/seg…?q#f` parses to under the default configuration (`Web.webResC {}`, `Proofs/WebParse.lean`, by `rfl`);
    the statement of `C18d_parse_render` is written with it -/
def webRes (I : Idna) (s a : Bytes) (segs : List Bytes) (q f : Option Bytes) : Res :=
  match (parseHost {} I (hostU s) a false).out with
  | .ok h => ⟨setF (setQ { hostV I s a h with path := ⟨segs, false⟩ } q) f, .url⟩
  | _ => hostFail (parseHost {} I (hostU s) a false)

theorem parse_web_g (cfg : Cfg) (I : Idna) (s a T : Bytes) (hs : SpecialSchemeC cfg s) (ha : hostText a = true)
    (gT : Graphic T) (hT : Delim (asStr T)) (W : Bytes → Url)
    (hrun : ∀ (src : Bytes) (rs : Str) (h' : Bytes) (pre : Str), (parseHost cfg I (hostU s) a false).out = .ok h' →
      Cur (mkEC cfg I src rs) ⟨.pathStart, (s.length : Int) + 2 + (a.length : Int), false, [], false, false, false,
        { (parseHost cfg I (hostU s) a false).url with host := some h' }⟩ pre (asStr T) →
      Runs (mkEC cfg I src rs) ⟨.pathStart, (s.length : Int) + 2 + (a.length : Int), false, [], false, false, false,
        { (parseHost cfg I (hostU s) a false).url with host := some h' }⟩ ⟨W h', .url⟩) :
    parse cfg I (s ++ lit "://" ++ a ++ T) =
      match (parseHost cfg I (hostU s) a false).out with
      | .ok h => ⟨W h, .url⟩
      | _ => hostFail (parseHost cfg I (hostU s) a false) := by
  have hane : a ≠ [] := (hostText_spec ha).1
  generalize hraw : s ++ lit "://" ++ a ++ T = raw
  have graw : Graphic raw := by rw [← hraw]; exact (prefix_graphic_c cfg s a hs ha).append gT
  have hrne : raw ≠ [] := by
    rw [← hraw]
    intro h
    have := congrArg List.length h
    simp [lit_css] at this
  rw [parse_graphic_c cfg I raw hrne graw]
  have hrs : asStr raw = asStr s ++ ':' :: '/' :: '/' :: (asStr a ++ asStr T) := by
    rw [← hraw, lit_css]; simp [bc_colon, bc_slash, asStr]
  obtain ⟨p, S, C⟩ := steps_host_state cfg I raw (asStr raw) s a [] (asStr T) hs ha (fun _ h => nomatch h) hT {}
    (by simpa using hrs)
  obtain rfl : p = (s.length : Int) + 2 + (a.length : Int) := by have : p + 1 = _ := C.ptr; simp at this; omega
  have hU : ({ ({} : Url) with scheme := s }) = hostU s := rfl
  rw [hU] at S C
  have hsp : cfg.isSpecial (hostU s).scheme = true := hs.special
  cases hout : (parseHost cfg I (hostU s) a false).out with
  | ok h' =>
    dsimp only
    obtain ⟨S1, C1⟩ := C.stay (step_host_end_special C hT rfl rfl hsp hane hout) rfl rfl
    exact ((S.trans S1).runs (hrun raw (asStr raw) h' _ hout C1)).loop_fuelFor rfl rfl
  | err er =>
    dsimp only
    have hno : ∀ h, (parseHost cfg I (hostU s) a false).out ≠ .ok h := by intro h; rw [hout]; simp
    exact (S.done (step_host_end_fail C hT rfl rfl hsp hane hno)).loop_fuelFor rfl rfl
  | panic n =>
    dsimp only
    have hno : ∀ h, (parseHost cfg I (hostU s) a false).out ≠ .ok h := by intro h; rw [hout]; simp
    exact (S.done (step_host_end_fail C hT rfl rfl hsp hane hno)).loop_fuelFor rfl rfl

/-- **the parse of an ordinary web url**, default configuration, over every byte the path, query and fragment states copy:
    `segOk`, `QOk`, `FOk` admit bytes the spelling classes of `Web.parse_web_c` do not (`!`, `|`, `@`, a `%` before a non-hex
    byte) and empty inner segments, so this run is not an instance of that one -/
theorem parse_web (I : Idna) (s dp a : Bytes) (hsd : Cfg.special? {} s = some dp) (hdp : dp ≠ []) (ha : hostText a = true)
    (segs : List Bytes) (hsegs : ∀ x ∈ segs, segOk true x = true) (hne : segs ≠ []) (q f : Option Bytes)
    (hq : QOk true q) (hf : FOk f) :
    parse {} I (s ++ lit "://" ++ a ++ (pathText segs ++ (qTail q ++ fTail f))) = webRes I s a segs q f := by
  have hs := specialSchemeC_default s dp hsd hdp
  refine parse_web_g {} I s a _ hs ha ((path_graphic true segs hsegs).append ((qTail_graphic true q hq).append (fTail_graphic f hf))) (pathText_delim segs hne _) _ ?_
  intro src rs h' pre hout hc
  have hVs : (hostV I s a h').scheme = s := by
    show (parseHost {} I (hostU s) a false).url.scheme = _; rw [Machine.parseHost_scheme]; rfl
  have hVp : (hostV I s a h').path = ⟨[], false⟩ := by
    show (parseHost {} I (hostU s) a false).url.path = _; rw [Machine.parseHost_path]; rfl
  exact run_pathStart I src rs true segs q f hq hf hsegs (fun _ => hne) _ pre (by rw [← asStr_append]; exact hc) rfl
    (by show Cfg.isSpecial {} (hostV I s a h').scheme = true; rw [hVs]; exact hs.special) rfl hVp
    (fun x _ => DriveOk_notfile _ _ (by show ((hostV I s a h').scheme == lit "file") = false; rw [hVs]; exact hs.notFile))

end WhatwgUrl.Proofs.Pipeline
#print axioms WhatwgUrl.Proofs.Pipeline.parse_web
