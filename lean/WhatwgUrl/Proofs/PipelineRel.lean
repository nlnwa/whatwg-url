import WhatwgUrl.Impl.Parser
/-
  C18d: two runs of the state machine on url records that agree on the fields the machine reads (`Ag`: scheme, user name,
  password, host, port, decoded port, and — when the flag is set — path / query / fragment; the diagnostic fields `verrs`,
  `qlog` are never compared).  From states that differ in the url only the runs stay in lock-step
  (`Proofs/PipelineRelStates.lean`): the returned records agree in the same sense, the return values are equal or both errors.
-/
namespace WhatwgUrl.Proofs.Pipeline
open WhatwgUrl WhatwgUrl.Impl

def Ag (wp wq wf : Bool) (a b : Url) : Prop :=
  a.scheme = b.scheme ∧ a.username = b.username ∧ a.password = b.password ∧ a.host = b.host ∧ a.port = b.port ∧
  a.decodedPort = b.decodedPort ∧ (wp = true → a.path = b.path) ∧ (wq = true → a.query = b.query) ∧
  (wf = true → a.fragment = b.fragment)

theorem Ag.refl (wp wq wf : Bool) (a : Url) : Ag wp wq wf a a :=
  ⟨rfl, rfl, rfl, rfl, rfl, rfl, fun _ => rfl, fun _ => rfl, fun _ => rfl⟩

theorem Ag.symm {wp wq wf : Bool} {a b : Url} (h : Ag wp wq wf a b) : Ag wp wq wf b a := by
  unfold Ag at *; grind

theorem Ag.trans {wp wq wf : Bool} {a b c : Url} (h : Ag wp wq wf a b) (h' : Ag wp wq wf b c) : Ag wp wq wf a c := by
  unfold Ag at *; grind

theorem Ag.exists {wp wq wf : Bool} {a b : Url} (h : Ag wp wq wf a b) :
    ∃ pa qu fr ve ql, b = { a with path := pa, query := qu, fragment := fr, verrs := ve, qlog := ql } ∧
      (wp = true → a.path = pa) ∧ (wq = true → a.query = qu) ∧ (wf = true → a.fragment = fr) := by
  obtain ⟨_, _, _, _, _, _, _, _, _, _, _⟩ := a
  obtain ⟨_, _, _, _, _, _, pa, qu, fr, ve, ql⟩ := b
  obtain ⟨rfl, rfl, rfl, rfl, rfl, rfl, hp, hq, hf⟩ := h
  exact ⟨pa, qu, fr, ve, ql, rfl, hp, hq, hf⟩

def PSAg (wp wq wf : Bool) (p q : PS) : Prop :=
  p.state = q.state ∧ p.pointer = q.pointer ∧ p.eof = q.eof ∧ p.buffer = q.buffer ∧ p.atFlag = q.atFlag ∧
  p.bracketFlag = q.bracketFlag ∧ p.pwSeen = q.pwSeen ∧ Ag wp wq wf p.url q.url

def RetAg (r s : Ret) : Prop := r = s ∨ ((∃ e w, r = .err e w) ∧ (∃ e w, s = .err e w))

theorem RetAg.rfl' (r : Ret) : RetAg r r := Or.inl rfl

def ResAg (wp wq wf : Bool) (x y : Res) : Prop := Ag wp wq wf x.url y.url ∧ RetAg x.ret y.ret

theorem Ag_record {wp wq wf : Bool} {a b : Url} (cfg : Cfg) (t : ErrT) (f : Bool) (h : Ag wp wq wf a b) :
    Ag wp wq wf (record cfg a t f) (record cfg b t f) := by
  unfold record; split <;> exact h

/-- the outcome of the host parser does not depend on the record it is handed (as far as success goes) -/
def HostOk (cfg : Cfg) (I : Idna) : Prop :=
  ∀ (a b : Url) (buf : Bytes) (ns : Bool) (h : Bytes), Ag false false false a b →
    (parseHost cfg I a buf ns).out = .ok h → (parseHost cfg I b buf ns).out = .ok h

end WhatwgUrl.Proofs.Pipeline
