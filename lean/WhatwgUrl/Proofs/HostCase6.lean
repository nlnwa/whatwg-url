import WhatwgUrl.Proofs.HostWF
import WhatwgUrl.Proofs.AsciiCase
import WhatwgUrl.Proofs.HostCase

/-
  `parseIPv6` does not depend on the ASCII letter case of its input runes.  One-sided simulation: running the parser model
  on `rs.map lowerC` is the same as running it on `rs`, with the "current rune" component of every state lower-cased
  (`mapD`, `mapS`, `mapR`, `mapL`: that map on what each loop hands on).  The two-sided congruence follows, and with it the
  bracketed branch of the host parser up to ASCII case (`hostOf_bracket_congr`).
-/

namespace WhatwgUrl.Proofs.HostCase6
open WhatwgUrl WhatwgUrl.Impl WhatwgUrl.Proofs.AsciiCase

theorem isHex_lowerC (c : Char) : isHexN (lowerC c).toNat = isHexN c.toNat := by rw [lowerC_toNat, isHexN_lowerN]

theorem isDigit_lowerC (c : Char) : isDigitN (lowerC c).toNat = isDigitN c.toNat := by rw [lowerC_toNat, isDigitN_lowerN]

theorem hexVal_lowerC (c : Char) : hexVal (lowerC c).toNat = hexVal c.toNat := by rw [lowerC_toNat, hexVal_lowerN]

theorem lowerC_of_digit (c : Char) (h : isDigitN c.toNat = true) : lowerC c = c := by
  apply lowerC_of_not_upper
  rw [isDigitN_iff] at h
  rw [Bool.eq_false_iff, ne_eq, isUpperN_iff]; omega

theorem colon_lowerC (c : Char) : (lowerC c == ':') = (c == ':') := lowerC_beq_of_not_alpha (by decide) c

theorem dot_lowerC (c : Char) : (lowerC c == '.') = (c == '.') := lowerC_beq_of_not_alpha (by decide) c

theorem cur6_map (rs : Str) (p : Int) : cur6 (rs.map lowerC) p = (cur6 rs p).map lowerC := by
  unfold cur6
  split
  · exact List.getElem?_map
  · rfl

theorem next6_map (rs : Str) (cu : C6) :
    next6 (rs.map lowerC) cu = ((next6 rs cu).1, lowerC (next6 rs cu).2) := by
  unfold next6
  rw [cur6_map]
  cases cur6 rs (cu.pointer + 1) with
  | none => simp only [Option.map_none, show lowerC repl = repl by decide]
  | some ch => simp only [Option.map_some]

theorem startsWithColon6_map (rs : Str) (cu : C6) :
    startsWithColon6 (rs.map lowerC) cu = startsWithColon6 rs cu := by
  unfold startsWithColon6
  rw [cur6_map]
  cases cur6 rs (cu.pointer + 1) with
  | none => rfl
  | some ch =>
    simp only [Option.map_some]
    exact congrArg (!cu.eof && ·) (colon_lowerC ch)

theorem hexLoop6_map (rs : Str) (fuel : Nat) (cu : C6) (c : Char) (v l : Nat) :
    hexLoop6 (rs.map lowerC) fuel cu (lowerC c) v l =
      ((hexLoop6 rs fuel cu c v l).1, lowerC (hexLoop6 rs fuel cu c v l).2.1,
       (hexLoop6 rs fuel cu c v l).2.2.1, (hexLoop6 rs fuel cu c v l).2.2.2) := by
  induction fuel generalizing cu c v l with
  | zero => rfl
  | succ fuel ih =>
    unfold hexLoop6
    rw [isHex_lowerC, hexVal_lowerC, next6_map]
    split
    · exact ih _ _ _ _
    · rfl

def mapD (x : Sum (C6 × Char × Int × Url) HR) : Sum (C6 × Char × Int × Url) HR :=
  match x with
  | .inl (cu, c, p, u) => .inl (cu, lowerC c, p, u)
  | .inr r => .inr r

theorem digitLoop6_map (cfg : Cfg) (rs : Str) (fuel : Nat) (cu : C6) (c : Char) (p : Int) (u : Url) :
    digitLoop6 cfg (rs.map lowerC) fuel cu (lowerC c) p u = mapD (digitLoop6 cfg rs fuel cu c p u) := by
  induction fuel generalizing cu c p u with
  | zero => rfl
  | succ fuel ih =>
    unfold digitLoop6
    rw [isDigit_lowerC]
    by_cases hd : isDigitN c.toNat = true
    · rw [lowerC_of_digit c hd]
      simp only [hd, if_true, next6_map]
      split
      · split
        · rfl
        · exact ih _ _ _ _
      · split
        · rfl
        · split
          · rfl
          · exact ih _ _ _ _
    · simp only [hd, Bool.false_eq_true, if_false]
      rfl

theorem v4Loop6_map (cfg : Cfg) (rs : Str) (fuel : Nat) (cu : C6) (c : Char) (a : List Nat) (pi ns : Nat) (u : Url) :
    v4Loop6 cfg (rs.map lowerC) fuel cu (lowerC c) a pi ns u = v4Loop6 cfg rs fuel cu c a pi ns u := by
  induction fuel generalizing cu c a pi ns u with
  | zero => rfl
  | succ fuel ih =>
    unfold v4Loop6
    simp only [dot_lowerC, next6_map, List.length_map]
    have hc : (if ns > 0 then lowerC (next6 rs cu).2 else lowerC c) =
        lowerC (if ns > 0 then (next6 rs cu).2 else c) := by split <;> rfl
    rw [hc, isDigit_lowerC, digitLoop6_map]
    generalize digitLoop6 cfg rs (rs.length + 2) _ _ (-1) u = d
    cases d with
    | inr r => rfl
    | inl x =>
      obtain ⟨cu2, c2, p, u2⟩ := x
      simp only [mapD, ih]

def mapS (s : S6) : S6 := { s with c := lowerC s.c }

def mapR : R6 → R6
  | .cont s => .cont (mapS s)
  | .brk s => .brk (mapS s)
  | .done r => .done r

theorem iter6_map (cfg : Cfg) (rs : Str) (s : S6) :
    iter6 cfg (rs.map lowerC) (mapS s) = mapR (iter6 cfg rs s) := by
  unfold iter6
  simp only [mapS, colon_lowerC, dot_lowerC, next6_map, hexLoop6_map, v4Loop6_map, List.length_map]
  repeat' split
  all_goals rfl

def mapL : Sum S6 HR → Sum S6 HR
  | .inl s => .inl (mapS s)
  | .inr r => .inr r

theorem loop6_map (cfg : Cfg) (rs : Str) (fuel : Nat) (s : S6) :
    loop6 cfg (rs.map lowerC) fuel (mapS s) = mapL (loop6 cfg rs fuel s) := by
  induction fuel generalizing s with
  | zero => rfl
  | succ fuel ih =>
    unfold loop6
    rw [iter6_map]
    have he : (mapS s).cur.eof = s.cur.eof := rfl
    rw [he]
    split
    · rfl
    · generalize iter6 cfg rs s = r
      cases r with
      | cont s' => exact ih s'
      | brk s' => rfl
      | done r => rfl

theorem start6_map (rs : Str) (u : Url) : HostWF.start6 (rs.map lowerC) u = (HostWF.start6 rs u).map mapS := by
  unfold HostWF.start6
  simp only [next6_map, colon_lowerC, startsWithColon6_map]
  split
  · split <;> rfl
  · rfl

theorem run6_map (cfg : Cfg) (u : Url) (rs : Str) : HostWF.run6 cfg u (rs.map lowerC) = HostWF.run6 cfg u rs := by
  unfold HostWF.run6
  rw [start6_map]
  cases HostWF.start6 rs u with
  | none => rfl
  | some s0 => simp only [Option.map_some]; rw [loop6_map, List.length_map]; cases loop6 cfg rs (rs.length + 2) s0 <;> rfl

/-- The Go IPv6 parser model does not depend on the ASCII letter case of its input runes:
the whole result (url with recorded validation errors, and outcome) is the same. -/
theorem parseIPv6_congr (cfg : Cfg) (u : Url) (s t : Bytes)
    (h : (goRunes s).map lowerC = (goRunes t).map lowerC) :
    parseIPv6 cfg u s = parseIPv6 cfg u t := by
  rw [HostWF.parseIPv6_eq, HostWF.parseIPv6_eq, ← run6_map cfg u (goRunes s), ← run6_map cfg u (goRunes t), h]

/-- the hypothesis is satisfiable by genuinely different inputs -/
example : (goRunes (lit "2001:DB8::Ff")).map lowerC = (goRunes (lit "2001:db8::fF")).map lowerC
    ∧ lit "2001:DB8::Ff" ≠ lit "2001:db8::fF" := by decide +kernel

/-! ### the bracketed branch of the host parser up to ASCII case -/

/-- `parseIPv6_congr` for two texts that agree up to ASCII case -/
theorem parseIPv6_case (cfg : Cfg) (u : Url) (s t : Bytes) (h : asciiLower s = asciiLower t) :
    parseIPv6 cfg u s = parseIPv6 cfg u t :=
  parseIPv6_congr cfg u s t (HostCase.goRunes_map_congr lowerC
    (fun x y _ _ e => by rw [← AsciiCase.bc_lowerB, ← AsciiCase.bc_lowerB, e]) _ _ h)

theorem trimSuffix_lower (l : Bytes) : asciiLower (trimSuffix1 l [0x5d]) = trimSuffix1 (asciiLower l) [0x5d] := by
  unfold trimSuffix1
  rw [AsciiCase.endsWith_lower]
  split
  · simp [asciiLower, List.map_take]
  · rfl

/-- the test for the closing bracket and the text between the brackets are read up to ASCII case only -/
theorem bracketHost_congr (cfg : Cfg) (u : Url) (s t : Bytes) (h : asciiLower s = asciiLower t) :
    HostWF.bracketHost cfg u (0x5b :: s) = HostWF.bracketHost cfg u (0x5b :: t) := by
  have hc : asciiLower (0x5b :: s) = asciiLower (0x5b :: t) := congrArg (lowerB 0x5b :: ·) h
  rw [HostWF.bracketHost_cons, HostWF.bracketHost_cons, ← AsciiCase.endsWith_lower (0x5b :: s), hc, AsciiCase.endsWith_lower,
    parseIPv6_case cfg u (trimSuffix1 s [0x5d]) (trimSuffix1 t [0x5d]) (by rw [trimSuffix_lower, trimSuffix_lower, h])]

/-- … on what the `preHost` hook hands the parser: two texts that agree up to ASCII case, the first starting with `[`
    (which has no other case, so the second starts with it too) -/
theorem hostOf_bracket_congr (cfg : Cfg) (I : Idna) (u : Url) (ns : Bool) (s t : Bytes) (h : asciiLower s = asciiLower t)
    (hb : s.head? = some 0x5b) : HostWF.hostOf cfg I u ns s = HostWF.hostOf cfg I u ns t := by
  cases s with
  | nil => simp at hb
  | cons x xs =>
    simp only [List.head?_cons, Option.some.injEq] at hb
    subst hb
    obtain ⟨y, ys, rfl, ey, hxs⟩ := cons_of_asciiLower_cons h
    obtain rfl := eq_of_lowerB_eq_of_not_alpha (d := 0x5b) (by decide) ey.symm
    rw [HostWF.hostOf_bracket, HostWF.hostOf_bracket]
    exact bracketHost_congr cfg u xs ys hxs

end WhatwgUrl.Proofs.HostCase6

#print axioms WhatwgUrl.Proofs.HostCase6.parseIPv6_congr
