import WhatwgUrl.Basic
/-
  UTF-8: the model of Go's decoder (`decode1`, `goDecode`, `goRunes`, `validUtf8`) against core Lean's encoder `utf8Char`.
  The two directions meet in `seq1` … `seq4`; `decode1_spec` says that the decoder accepts shortest forms only.
  Shared by the base modules besides: `forall_uint8` at the head; lists, `splitOn`, `replaceByte` after the ASCII section.
-/
namespace WhatwgUrl.Proofs

theorem forall_uint8 {P : UInt8 → Prop} (h : ∀ i : Fin 256, P (UInt8.ofFin i)) : ∀ x, P x := fun x => by
  have := h x.toFin
  simpa using this

end WhatwgUrl.Proofs

namespace WhatwgUrl.Proofs.Utf8
open WhatwgUrl

theorem toNat_ofNat_valid (n : Nat) (h : n.isValidChar) : (Char.ofNat n).toNat = n := by
  unfold Char.ofNat
  simp only [h, dite_true]
  simp [Char.ofNatAux, Char.toNat]

theorem u8_ofNat_eq (b : UInt8) (n : Nat) (h : n = b.toNat) : UInt8.ofNat n = b := by
  subst h; exact UInt8.ofNat_toNat

theorem u8_toNat (n : Nat) (h : n < 256) : (UInt8.ofNat n).toNat = n := UInt8.toNat_ofNat_of_lt' h

theorem bc_toNat (b : UInt8) : (bc b).toNat = b.toNat :=
  toNat_ofNat_valid _ (Or.inl (by have := b.toNat_lt; omega))

/-- the bounds on the second byte depend on the first: as implications, for `omega` -/
private theorem ite_le_iff {p : Prop} [Decidable p] {a b x : Nat} :
    (if p then a else b) ≤ x ↔ (p → a ≤ x) ∧ (¬p → b ≤ x) := by
  split <;> simp [*]

private theorem le_ite_iff {p : Prop} [Decidable p] {a b x : Nat} :
    x ≤ (if p then a else b) ↔ (p → x ≤ a) ∧ (¬p → x ≤ b) := by
  split <;> simp [*]

local macro "bool_omega" : tactic =>
  `(tactic| (simp only [Bool.and_eq_true, decide_eq_true_eq, beq_iff_eq, ite_le_iff, le_ite_iff]; omega))

theorem utf8Char_eq (c : Char) :
    utf8Char c =
      if c.toNat ≤ 127 then [UInt8.ofNat c.toNat]
      else if c.toNat ≤ 2047 then [UInt8.ofNat (c.toNat / 64 % 32 + 192), UInt8.ofNat (c.toNat % 64 + 128)]
      else if c.toNat ≤ 65535 then
        [UInt8.ofNat (c.toNat / 4096 % 16 + 224), UInt8.ofNat (c.toNat / 64 % 64 + 128), UInt8.ofNat (c.toNat % 64 + 128)]
      else [UInt8.ofNat (c.toNat / 262144 % 8 + 240), UInt8.ofNat (c.toNat / 4096 % 64 + 128),
          UInt8.ofNat (c.toNat / 64 % 64 + 128), UInt8.ofNat (c.toNat % 64 + 128)] := by
  have hcv : c.val.toNat = c.toNat := rfl
  unfold utf8Char String.utf8EncodeChar
  simp only [hcv]

theorem utf8Char_ofNat (n : Nat) (h : n < 0xD800 ∨ (0xDFFF < n ∧ n < 0x110000)) :
    utf8Char (Char.ofNat n) =
      if n ≤ 127 then [UInt8.ofNat n]
      else if n ≤ 2047 then [UInt8.ofNat (n / 64 % 32 + 192), UInt8.ofNat (n % 64 + 128)]
      else if n ≤ 65535 then [UInt8.ofNat (n / 4096 % 16 + 224), UInt8.ofNat (n / 64 % 64 + 128), UInt8.ofNat (n % 64 + 128)]
      else [UInt8.ofNat (n / 262144 % 8 + 240), UInt8.ofNat (n / 4096 % 64 + 128), UInt8.ofNat (n / 64 % 64 + 128),
          UInt8.ofNat (n % 64 + 128)] := by
  rw [utf8Char_eq, toNat_ofNat_valid n h]

theorem utf8Char_length (c : Char) :
    (utf8Char c).length = if c.toNat ≤ 0x7f then 1 else if c.toNat ≤ 0x7ff then 2 else if c.toNat ≤ 0xffff then 3 else 4 := by
  rw [utf8Char_eq]
  repeat' split
  all_goals rfl

theorem utf8Char_length_bounds (c : Char) : 1 ≤ (utf8Char c).length ∧ (utf8Char c).length ≤ 4 := by
  rw [utf8Char_length]; repeat' split
  all_goals omega

theorem utf8Char_repl_length : (utf8Char repl).length = 3 := by decide

theorem utf8Char_length_eq_one (c : Char) : (utf8Char c).length = 1 ↔ c.toNat < 0x80 := by
  rw [utf8Char_length]; repeat' split
  all_goals omega

/-! ### `decode1` by class of the lead byte -/

theorem decode1_1 (b0 : UInt8) (rest : Bytes) (h : b0.toNat < 0xC2 ∨ 0xF5 ≤ b0.toNat) :
    decode1 b0 rest = (if b0.toNat < 0x80 then Char.ofNat b0.toNat else repl, 1) := by
  unfold decode1
  dsimp only
  rcases h with h | h
  · by_cases h0 : b0.toNat < 0x80
    · rw [if_pos h0, if_pos h0]
    · rw [if_neg h0, if_pos h, if_neg h0]
  · rw [if_neg (by omega), if_neg (by omega), if_neg (by omega), if_neg (by omega), if_neg (by omega), if_neg (by omega)]

theorem decode1_2 (b0 : UInt8) (rest : Bytes) (h1 : 0xC2 ≤ b0.toNat) (h2 : b0.toNat < 0xE0) :
    decode1 b0 rest = match rest with
      | b1 :: _ => if isCont b1 then (Char.ofNat (((b0.toNat % 0x20) * 0x40) + (b1.toNat % 0x40)), 2) else (repl, 1)
      | [] => (repl, 1) := by
  unfold decode1
  dsimp only
  rw [if_neg (by omega), if_neg (by omega), if_pos h2]
  rfl

/-- the second and third byte fit the lead byte `n0` of a three-byte sequence -/
def ok3 (n0 : Nat) (b1 b2 : UInt8) : Bool :=
  (if n0 == 0xE0 then 0xA0 else 0x80) ≤ b1.toNat && b1.toNat ≤ (if n0 == 0xED then 0x9F else 0xBF) && isCont b2

def ok4 (n0 : Nat) (b1 b2 b3 : UInt8) : Bool :=
  (if n0 == 0xF0 then 0x90 else 0x80) ≤ b1.toNat && b1.toNat ≤ (if n0 == 0xF4 then 0x8F else 0xBF) && isCont b2 && isCont b3

theorem decode1_3 (b0 : UInt8) (rest : Bytes) (h1 : 0xE0 ≤ b0.toNat) (h2 : b0.toNat < 0xF0) :
    decode1 b0 rest = match rest with
      | b1 :: b2 :: _ =>
        if ok3 b0.toNat b1 b2 then
          (Char.ofNat (((b0.toNat % 0x10) * 0x1000) + ((b1.toNat % 0x40) * 0x40) + (b2.toNat % 0x40)), 3)
        else (repl, 1)
      | _ => (repl, 1) := by
  unfold decode1
  dsimp only
  rw [if_neg (by omega), if_neg (by omega), if_neg (by omega), if_pos h2]
  rfl

theorem decode1_4 (b0 : UInt8) (rest : Bytes) (h1 : 0xF0 ≤ b0.toNat) (h2 : b0.toNat < 0xF5) :
    decode1 b0 rest = match rest with
      | b1 :: b2 :: b3 :: _ =>
        if ok4 b0.toNat b1 b2 b3 then
          (Char.ofNat (((b0.toNat % 0x08) * 0x40000) + ((b1.toNat % 0x40) * 0x1000) + ((b2.toNat % 0x40) * 0x40) + (b3.toNat % 0x40)), 4)
        else (repl, 1)
      | _ => (repl, 1) := by
  unfold decode1
  dsimp only
  rw [if_neg (by omega), if_neg (by omega), if_neg (by omega), if_neg (by omega), if_pos h2]
  rfl

theorem decode1_ascii (b0 : UInt8) (rest : Bytes) (h : b0.toNat < 0x80) : decode1 b0 rest = (bc b0, 1) := by
  rw [decode1_1 b0 rest (.inl (by omega)), if_pos h]; rfl

/-! ### a code point and its bytes, by the base-64 digits

  `seq1` … `seq4`: the scalar value `v` with digits `x y z` (most significant first, the first in shortest form) is encoded as
  the lead byte carrying `x` followed by the continuation bytes carrying `y`, `z`, and these bytes decode to `v`. -/

theorem isCont_ascii (x : UInt8) (h : x.toNat < 0x80) : isCont x = false := by
  simp only [isCont, Bool.and_eq_false_iff, decide_eq_false_iff_not]; omega

theorem isCont_ofNat (y : Nat) (h : y < 64) : isCont (UInt8.ofNat (y + 128)) = true := by
  rw [isCont, u8_toNat _ (by omega)]; bool_omega

theorem seq1 (v : Nat) (h : v < 128) (rest : Bytes) :
    utf8Char (Char.ofNat v) = [UInt8.ofNat v] ∧ decode1 (UInt8.ofNat v) rest = (Char.ofNat v, 1) := by
  have e0 := u8_toNat v (by omega)
  constructor
  · rw [utf8Char_ofNat v (by omega), if_pos (by omega)]
  · rw [decode1_1 _ _ (.inl (by omega)), e0, if_pos h]

theorem seq2 (v x y : Nat) (hv : v = x * 64 + y) (hx : 2 ≤ x) (hx' : x < 32) (hy : y < 64) (rest : Bytes) :
    utf8Char (Char.ofNat v) = [UInt8.ofNat (x + 192), UInt8.ofNat (y + 128)] ∧
      decode1 (UInt8.ofNat (x + 192)) (UInt8.ofNat (y + 128) :: rest) = (Char.ofNat v, 2) := by
  have e0 := u8_toNat (x + 192) (by omega)
  have e1 := u8_toNat (y + 128) (by omega)
  constructor
  · rw [utf8Char_ofNat v (by omega), if_neg (by omega), if_pos (by omega),
      show v / 64 % 32 = x by omega, show v % 64 = y by omega]
  · rw [decode1_2 _ _ (by omega) (by omega)]
    dsimp only
    rw [if_pos (isCont_ofNat y hy), e0, e1, show (x + 192) % 32 = x by omega, show (y + 128) % 64 = y by omega, hv]

theorem seq3 (v x y z : Nat) (hv : v = x * 4096 + y * 64 + z) (hx : x < 16) (hy : y < 64) (hz : z < 64)
    (hlo : 2048 ≤ v) (hs : v < 0xD800 ∨ 0xDFFF < v) (rest : Bytes) :
    utf8Char (Char.ofNat v) = [UInt8.ofNat (x + 224), UInt8.ofNat (y + 128), UInt8.ofNat (z + 128)] ∧
      decode1 (UInt8.ofNat (x + 224)) (UInt8.ofNat (y + 128) :: UInt8.ofNat (z + 128) :: rest) = (Char.ofNat v, 3) := by
  have e0 := u8_toNat (x + 224) (by omega)
  have e1 := u8_toNat (y + 128) (by omega)
  have e2 := u8_toNat (z + 128) (by omega)
  constructor
  · rw [utf8Char_ofNat v (by omega), if_neg (by omega), if_neg (by omega), if_pos (by omega),
      show v / 4096 % 16 = x by omega, show v / 64 % 64 = y by omega, show v % 64 = z by omega]
  · rw [decode1_3 _ _ (by omega) (by omega)]
    dsimp +instances only [ok3]
    rw [isCont_ofNat z hz, Bool.and_true, e0, e1, e2, if_pos (by bool_omega), show (x + 224) % 16 = x by omega, show (y + 128) % 64 = y by omega,
      show (z + 128) % 64 = z by omega, hv]

theorem seq4 (v w x y z : Nat) (hv : v = w * 262144 + x * 4096 + y * 64 + z) (hx : x < 64) (hy : y < 64) (hz : z < 64)
    (hlo : 65536 ≤ v) (hhi : v < 0x110000) (rest : Bytes) :
    utf8Char (Char.ofNat v) =
        [UInt8.ofNat (w + 240), UInt8.ofNat (x + 128), UInt8.ofNat (y + 128), UInt8.ofNat (z + 128)] ∧
      decode1 (UInt8.ofNat (w + 240)) (UInt8.ofNat (x + 128) :: UInt8.ofNat (y + 128) :: UInt8.ofNat (z + 128) :: rest) =
        (Char.ofNat v, 4) := by
  have e0 := u8_toNat (w + 240) (by omega)
  have e1 := u8_toNat (x + 128) (by omega)
  have e2 := u8_toNat (y + 128) (by omega)
  have e3 := u8_toNat (z + 128) (by omega)
  constructor
  · rw [utf8Char_ofNat v (by omega), if_neg (by omega), if_neg (by omega), if_neg (by omega),
      show v / 262144 % 8 = w by omega, show v / 4096 % 64 = x by omega, show v / 64 % 64 = y by omega,
      show v % 64 = z by omega]
  · rw [decode1_4 _ _ (by omega) (by omega)]
    dsimp +instances only [ok4]
    rw [isCont_ofNat y hy, isCont_ofNat z hz, Bool.and_true, Bool.and_true, e0, e1, e2, e3, if_pos (by bool_omega), show (w + 240) % 8 = w by omega, show (x + 128) % 64 = x by omega,
      show (y + 128) % 64 = y by omega, show (z + 128) % 64 = z by omega, hv]

theorem decode1_utf8Char' (c : Char) (rest : Bytes) :
    ∃ b0 tl, utf8Char c = b0 :: tl ∧ decode1 b0 (tl ++ rest) = (c, tl.length + 1) := by
  have hv : c.toNat < 0xD800 ∨ (0xDFFF < c.toNat ∧ c.toNat < 0x110000) := c.valid
  rw [← Char.ofNat_toNat c]
  generalize c.toNat = n at hv ⊢
  rcases Nat.lt_or_ge n 128 with h1 | h1
  · exact ⟨_, _, seq1 n h1 rest⟩
  rcases Nat.lt_or_ge n 2048 with h2 | h2
  · exact ⟨_, _, seq2 n (n / 64) (n % 64) (by omega) (by omega) (by omega) (by omega) rest⟩
  rcases Nat.lt_or_ge n 65536 with h3 | h3
  · exact ⟨_, _, seq3 n (n / 4096) (n / 64 % 64) (n % 64) (by omega) (by omega) (by omega) (by omega) h2 (by omega) rest⟩
  · exact ⟨_, _, seq4 n (n / 262144) (n / 4096 % 64) (n / 64 % 64) (n % 64) (by omega) (by omega) (by omega) (by omega)
      h3 (by omega) rest⟩

/-! ### the converse: what `decode1` accepts is the shortest-form encoding of its result -/

/-- what `decode1 b0 rest` may return: `(U+FFFD, 1)` (ill-formed), or a scalar value together with the length of its
    encoding, the encoding being a prefix of `b0 :: rest`; the size is 1..4 and never exceeds the input -/
def Dspec (b0 : UInt8) (rest : Bytes) (d : Char × Nat) : Prop :=
  (d = (repl, 1) ∨ utf8Char d.1 = (b0 :: rest).take d.2) ∧ 1 ≤ d.2 ∧ d.2 ≤ 4 ∧ d.2 ≤ rest.length + 1

private theorem dspec_repl (b0 : UInt8) (rest : Bytes) : Dspec b0 rest (repl, 1) := ⟨Or.inl rfl, by simp⟩

private theorem dspec_ite {b0 : UInt8} {rest : Bytes} {p : Prop} [Decidable p] {d : Char × Nat} (h : p → Dspec b0 rest d) :
    Dspec b0 rest (if p then d else (repl, 1)) := by
  split
  · exact h ‹_›
  · exact dspec_repl _ _

private theorem dspec_seq {b0 : UInt8} {rest : Bytes} {c : Char} {k : Nat} (e : utf8Char c = (b0 :: rest).take k)
    (h1 : 1 ≤ k) (h4 : k ≤ 4) (hl : k ≤ rest.length + 1) : Dspec b0 rest (c, k) := ⟨Or.inr e, h1, h4, hl⟩

theorem decode1_spec (b0 : UInt8) (rest : Bytes) : Dspec b0 rest (decode1 b0 rest) := by
  have hb := b0.toNat_lt
  -- an accepted sequence is `seqk` at the digits its bytes carry
  rcases Nat.lt_or_ge b0.toNat 0x80 with h0 | h0
  · have e := (seq1 b0.toNat h0 rest).1
    rw [UInt8.ofNat_toNat] at e
    rw [decode1_1 _ _ (.inl (by omega)), if_pos h0]
    exact dspec_seq e (by decide) (by decide) (Nat.le_add_left 1 _)
  rcases Nat.lt_or_ge b0.toNat 0xC2 with h1 | h1
  · rw [decode1_1 _ _ (.inl h1), if_neg (by omega)]; exact dspec_repl _ _
  rcases Nat.lt_or_ge b0.toNat 0xE0 with h2 | h2
  · rw [decode1_2 _ _ h1 h2]
    rcases rest with _ | ⟨b1, tl⟩
    · exact dspec_repl _ _
    refine dspec_ite fun hc => ?_
    simp only [isCont, Bool.and_eq_true, decide_eq_true_eq] at hc
    have e := (seq2 _ (b0.toNat % 32) (b1.toNat % 64) rfl (by omega) (by omega) (by omega) tl).1
    rw [u8_ofNat_eq b0 _ (by omega), u8_ofNat_eq b1 _ (by omega)] at e
    exact dspec_seq e (by decide) (by decide) (Nat.le_add_left 2 _)
  rcases Nat.lt_or_ge b0.toNat 0xF0 with h3 | h3
  · rw [decode1_3 _ _ h2 h3]
    rcases rest with _ | ⟨b1, _ | ⟨b2, tl⟩⟩
    · exact dspec_repl _ _
    · exact dspec_repl _ _
    refine dspec_ite fun hc => ?_
    simp only [ok3, isCont, Bool.and_eq_true, decide_eq_true_eq, beq_iff_eq, ite_le_iff, le_ite_iff] at hc
    have e := (seq3 _ (b0.toNat % 16) (b1.toNat % 64) (b2.toNat % 64) rfl (by omega) (by omega) (by omega) (by omega)
      (by omega) tl).1
    rw [u8_ofNat_eq b0 _ (by omega), u8_ofNat_eq b1 _ (by omega), u8_ofNat_eq b2 _ (by omega)] at e
    exact dspec_seq e (by decide) (by decide) (Nat.le_add_left 3 _)
  rcases Nat.lt_or_ge b0.toNat 0xF5 with h4 | h4
  · rw [decode1_4 _ _ h3 h4]
    rcases rest with _ | ⟨b1, _ | ⟨b2, _ | ⟨b3, tl⟩⟩⟩
    · exact dspec_repl _ _
    · exact dspec_repl _ _
    · exact dspec_repl _ _
    refine dspec_ite fun hc => ?_
    simp only [ok4, isCont, Bool.and_eq_true, decide_eq_true_eq, beq_iff_eq, ite_le_iff, le_ite_iff] at hc
    have e := (seq4 _ (b0.toNat % 8) (b1.toNat % 64) (b2.toNat % 64) (b3.toNat % 64) rfl (by omega) (by omega) (by omega)
      (by omega) (by omega) tl).1
    rw [u8_ofNat_eq b0 _ (by omega), u8_ofNat_eq b1 _ (by omega), u8_ofNat_eq b2 _ (by omega),
      u8_ofNat_eq b3 _ (by omega)] at e
    exact dspec_seq e (by decide) (by decide) (Nat.le_add_left 4 _)
  · rw [decode1_1 _ _ (.inr h4), if_neg (by omega)]; exact dspec_repl _ _

theorem decode1_size_pos (b0 : UInt8) (rest : Bytes) : 1 ≤ (decode1 b0 rest).2 := (decode1_spec b0 rest).2.1
theorem decode1_size_le (b0 : UInt8) (rest : Bytes) : (decode1 b0 rest).2 ≤ 4 := (decode1_spec b0 rest).2.2.1
theorem decode1_size_le_length (b0 : UInt8) (rest : Bytes) : (decode1 b0 rest).2 ≤ rest.length + 1 :=
  (decode1_spec b0 rest).2.2.2

/-- the result is U+FFFD or a scalar value whose encoding starts with `b0`, and a one-byte encoding is its own code point -/
theorem decode1_high (b0 : UInt8) (rest : Bytes) (h : 0x80 ≤ b0.toNat) : 0x80 ≤ (decode1 b0 rest).1.toNat := by
  rcases (decode1_spec b0 rest).1 with e | e
  · rw [e]; decide
  · have hp := (decode1_spec b0 rest).2.1
    false_or_by_contra
    rename_i hc
    have h1 : (utf8Char (decode1 b0 rest).1).length = 1 := (utf8Char_length_eq_one _).mpr (by omega)
    rw [utf8Char_eq, if_pos (by omega)] at e
    obtain ⟨n, hn⟩ := Nat.exists_eq_succ_of_ne_zero (by omega : (decode1 b0 rest).2 ≠ 0)
    rw [hn, List.take_succ_cons] at e
    have := congrArg (fun l => (l.head?.map UInt8.toNat)) e
    simp only [List.head?_cons, Option.map_some, Option.some.injEq, UInt8.toNat_ofNat'] at this
    omega

theorem goDecodeAux_nil (fuel : Nat) : goDecodeAux fuel [] = [] := by
  cases fuel <;> rfl

theorem goDecodeAux_fuel : ∀ (n : Nat) (s : Bytes) (f1 f2 : Nat), s.length ≤ n → s.length ≤ f1 → s.length ≤ f2 →
    goDecodeAux f1 s = goDecodeAux f2 s := by
  intro n
  induction n with
  | zero =>
    intro s f1 f2 h _ _
    have : s = [] := List.length_eq_zero_iff.mp (by omega)
    subst this
    rw [goDecodeAux_nil, goDecodeAux_nil]
  | succ n ih =>
    intro s f1 f2 h h1 h2
    cases s with
    | nil => rw [goDecodeAux_nil, goDecodeAux_nil]
    | cons b0 rest =>
      simp only [List.length_cons] at h h1 h2
      cases f1 with
      | zero => omega
      | succ f1 =>
        cases f2 with
        | zero => omega
        | succ f2 =>
          simp only [goDecodeAux]
          congr 1
          have := List.length_drop (i := (decode1 b0 rest).2 - 1) (l := rest)
          apply ih <;> omega

@[simp] theorem goDecode_nil : goDecode [] = [] := rfl
@[simp] theorem goRunes_nil : goRunes [] = [] := rfl
@[simp] theorem validUtf8_nil : validUtf8 [] = true := rfl

theorem goDecode_cons (b0 : UInt8) (rest : Bytes) :
    goDecode (b0 :: rest) = decode1 b0 rest :: goDecode (rest.drop ((decode1 b0 rest).2 - 1)) := by
  unfold goDecode
  simp only [List.length_cons, goDecodeAux]
  congr 1
  have := List.length_drop (i := (decode1 b0 rest).2 - 1) (l := rest)
  apply goDecodeAux_fuel rest.length <;> omega

theorem goRunes_cons (b0 : UInt8) (rest : Bytes) :
    goRunes (b0 :: rest) = (decode1 b0 rest).1 :: goRunes (rest.drop ((decode1 b0 rest).2 - 1)) := by
  simp only [goRunes, goDecode_cons, List.map_cons]

theorem validUtf8_cons (b0 : UInt8) (rest : Bytes) :
    validUtf8 (b0 :: rest) =
      (!((decode1 b0 rest).1 == repl && (decode1 b0 rest).2 == 1) &&
        validUtf8 (rest.drop ((decode1 b0 rest).2 - 1))) := by
  simp only [validUtf8, goDecode_cons, List.all_cons]

/-! ### whole strings, and a well-formed prefix -/

private theorem utf8_nil : utf8 [] = [] := rfl
theorem utf8_cons (c : Char) (s : Str) : utf8 (c :: s) = utf8Char c ++ utf8 s := by simp [utf8]
private theorem utf8_append (a b : Str) : utf8 (a ++ b) = utf8 a ++ utf8 b := by simp [utf8]

/-- the `rest.drop (size - 1)` of the definition drops exactly the remaining bytes of the encoding -/
theorem goDecode_utf8Char_append (c : Char) (rest : Bytes) :
    goDecode (utf8Char c ++ rest) = (c, (utf8Char c).length) :: goDecode rest := by
  obtain ⟨b0, tl, e, hd⟩ := decode1_utf8Char' c rest
  rw [e, List.cons_append, goDecode_cons, hd]
  simp

theorem goDecode_utf8_append (s : Str) (b : Bytes) :
    goDecode (utf8 s ++ b) = (s.map fun c => (c, (utf8Char c).length)) ++ goDecode b := by
  induction s with
  | nil => rfl
  | cons c s ih =>
    rw [utf8_cons, List.append_assoc, goDecode_utf8Char_append, ih]
    rfl

theorem goDecode_utf8 (s : Str) : goDecode (utf8 s) = s.map fun c => (c, (utf8Char c).length) := by
  have := goDecode_utf8_append s []
  simpa using this

theorem goRunes_utf8_append (s : Str) (b : Bytes) : goRunes (utf8 s ++ b) = s ++ goRunes b := by
  simp [goRunes, goDecode_utf8_append, List.map_map, Function.comp_def]

theorem goRunes_utf8 (s : Str) : goRunes (utf8 s) = s := by
  have := goRunes_utf8_append s []
  simpa using this

theorem goRunes_utf8Char_append (c : Char) (b : Bytes) : goRunes (utf8Char c ++ b) = c :: goRunes b := by
  simp [goRunes, goDecode_utf8Char_append]

private theorem size_ne_one_of_repl (c : Char) : (!(c == repl && (utf8Char c).length == 1)) = true := by
  by_cases h : c = repl
  · subst h; rw [utf8Char_repl_length]; rfl
  · simp [h]

theorem validUtf8_utf8_append (s : Str) (b : Bytes) : validUtf8 (utf8 s ++ b) = validUtf8 b := by
  unfold validUtf8
  rw [goDecode_utf8_append, List.all_append, List.all_map]
  have : (s.all ((fun d : Char × Nat => !(d.1 == repl && d.2 == 1)) ∘ fun c => (c, (utf8Char c).length))) = true := by
    rw [List.all_eq_true]
    intro c _
    exact size_ne_one_of_repl c
  rw [this, Bool.true_and]

/-- a well-formed U+FFFD has size 3, not 1 -/
theorem validUtf8_utf8 (s : Str) : validUtf8 (utf8 s) = true := by
  have := validUtf8_utf8_append s []
  simpa using this

theorem take_drop_pred (b0 : UInt8) (rest : Bytes) (n : Nat) (h : 1 ≤ n) :
    (b0 :: rest).take n ++ rest.drop (n - 1) = b0 :: rest := by
  obtain ⟨k, rfl⟩ : ∃ k, n = k + 1 := ⟨n - 1, by omega⟩
  simp

theorem goDecode_ind (P : Bytes → Prop) (h0 : P [])
    (hs : ∀ b0 rest, P (rest.drop ((decode1 b0 rest).2 - 1)) → P (b0 :: rest)) : ∀ b, P b := by
  have : ∀ (n : Nat) (b : Bytes), b.length ≤ n → P b := by
    intro n
    induction n with
    | zero =>
      intro b h
      have : b = [] := List.length_eq_zero_iff.mp (by omega)
      subst this; exact h0
    | succ n ih =>
      intro b h
      cases b with
      | nil => exact h0
      | cons b0 rest =>
        have hl := List.length_drop (i := (decode1 b0 rest).2 - 1) (l := rest)
        simp only [List.length_cons] at h
        exact hs b0 rest (ih _ (by omega))
  exact fun b => this b.length b (Nat.le_refl _)

theorem utf8_goRunes (b : Bytes) (h : validUtf8 b = true) : utf8 (goRunes b) = b := by
  induction b using goDecode_ind with
  | h0 => rfl
  | hs b0 rest ih =>
    rw [validUtf8_cons, Bool.and_eq_true] at h
    rw [goRunes_cons, utf8_cons, ih h.2]
    rcases (decode1_spec b0 rest).1 with e | e
    · rw [e] at h; simp at h
    · rw [e]; exact take_drop_pred _ _ _ (decode1_spec b0 rest).2.1

theorem goDecode_sizes_sum (b : Bytes) : ((goDecode b).map (·.2)).sum = b.length := by
  induction b using goDecode_ind with
  | h0 => rfl
  | hs b0 rest ih =>
    have h1 := decode1_size_pos b0 rest
    have h2 := decode1_size_le_length b0 rest
    rw [goDecode_cons, List.map_cons, List.sum_cons, ih, List.length_drop, List.length_cons]
    omega

theorem goDecode_size_pos (b : Bytes) : ∀ d ∈ goDecode b, 1 ≤ d.2 ∧ d.2 ≤ 4 := by
  induction b using goDecode_ind with
  | h0 => intro d hd; simp at hd
  | hs b0 rest ih =>
    intro d hd
    rw [goDecode_cons, List.mem_cons] at hd
    rcases hd with rfl | hd
    · exact ⟨decode1_size_pos b0 rest, decode1_size_le b0 rest⟩
    · exact ih d hd

/-! ### ASCII -/

theorem utf8Char_ascii (c : Char) (h : c.toNat < 0x80) : utf8Char c = [c.toNat.toUInt8] := by
  rw [utf8Char_eq, if_pos (by omega)]

theorem utf8Char_high (c : Char) (h : 0x80 ≤ c.toNat) : ∀ b ∈ utf8Char c, 0x80 ≤ b.toNat := by
  intro b hb
  rw [utf8Char_eq, if_neg (by omega)] at hb
  split at hb
  · simp only [List.mem_cons, List.not_mem_nil, or_false] at hb
    rcases hb with rfl | rfl <;> (rw [UInt8.toNat_ofNat']; omega)
  split at hb
  · simp only [List.mem_cons, List.not_mem_nil, or_false] at hb
    rcases hb with rfl | rfl | rfl <;> (rw [UInt8.toNat_ofNat']; omega)
  · simp only [List.mem_cons, List.not_mem_nil, or_false] at hb
    rcases hb with rfl | rfl | rfl | rfl <;> (rw [UInt8.toNat_ofNat']; omega)

theorem utf8_ascii (s : Str) (h : ∀ c ∈ s, c.toNat < 0x80) : utf8 s = s.map fun c => c.toNat.toUInt8 := by
  induction s with
  | nil => rfl
  | cons c s ih =>
    rw [utf8_cons, utf8Char_ascii c (h c (by simp)), ih (fun d hd => h d (by simp [hd]))]
    rfl

/-- an ASCII code point among Go's `[]rune(s)` is a byte of `s`: it is not U+FFFD and not part of a multi-byte rune -/
theorem ascii_mem_goRunes (s : Bytes) (c : Char) (hc : c.toNat < 0x80) : c ∈ goRunes s → c.toNat.toUInt8 ∈ s := by
  induction s using goDecode_ind with
  | h0 => intro h; simp at h
  | hs b0 rest ih =>
    intro h
    rw [goRunes_cons, List.mem_cons] at h
    rcases h with rfl | h
    · by_cases h0 : b0.toNat < 0x80
      · rw [decode1_ascii b0 rest h0, bc_toNat, Nat.toUInt8, UInt8.ofNat_toNat]; exact List.mem_cons_self
      · exact absurd (decode1_high b0 rest (by omega)) (by omega)
    · exact List.mem_cons_of_mem _ (List.mem_of_mem_drop (ih h))

example : (∀ c ∈ "a/%7e".toList, c.toNat < 0x80) ∧ utf8 "a/%7e".toList = [0x61, 0x2F, 0x25, 0x37, 0x65] := by decide

theorem utf8_length_bounds (s : Str) : s.length ≤ (utf8 s).length ∧ (utf8 s).length ≤ 4 * s.length := by
  induction s with
  | nil => simp [utf8_nil]
  | cons c s ih =>
    have := utf8Char_length_bounds c
    rw [utf8_cons, List.length_append, List.length_cons]
    omega

theorem utf8_eq_nil {s : Str} : utf8 s = [] ↔ s = [] := by
  constructor
  · intro h
    have := (utf8_length_bounds s).1
    rw [h] at this
    exact List.length_eq_zero_iff.mp (Nat.le_zero.mp this)
  · rintro rfl; rfl

theorem goRunes_ne_nil {s : Bytes} (h : s ≠ []) : goRunes s ≠ [] := by
  match s, h with
  | b0 :: rest, _ => rw [goRunes_cons]; exact List.cons_ne_nil _ _

theorem mem_takeWhile_imp {α : Type} {p : α → Bool} {l : List α} {x : α} (h : x ∈ l.takeWhile p) : p x = true := by
  induction l with
  | nil => simp at h
  | cons y l ih =>
    rw [List.takeWhile_cons] at h
    split at h
    · rw [List.mem_cons] at h
      rcases h with rfl | h
      · assumption
      · exact ih h
    · simp at h

theorem splitOn_cons_sep (sep : UInt8) (s : Bytes) : splitOn sep (sep :: s) = [] :: splitOn sep s := by
  simp [splitOn]

theorem splitOn_pre (sep : UInt8) (pre r h : Bytes) (t : List Bytes) (hp : ∀ y ∈ pre, y ≠ sep)
    (hs : splitOn sep r = h :: t) : splitOn sep (pre ++ r) = (pre ++ h) :: t := by
  induction pre with
  | nil => exact hs
  | cons y pre ih => simp [splitOn, beq_false_of_ne (hp y (by simp)), ih fun z hz => hp z (by simp [hz])]

theorem replaceByte_none (old new : UInt8) (s : Bytes) (h : ∀ x ∈ s, x ≠ old) : replaceByte old new s = s :=
  (List.map_congr_left fun x hx => if_neg (by simpa using h x hx)).trans (List.map_id' s)

theorem splitOn_ne_nil (sep : UInt8) (s : Bytes) : splitOn sep s ≠ [] := by
  cases s with
  | nil => simp [splitOn]
  | cons x xs =>
    unfold splitOn
    split
    · simp
    · split <;> simp

/-- induction along `splitOn`: the empty text, a separator in front, another byte in front (it joins the first piece) -/
theorem splitOn_induction (sep : UInt8) {P : Bytes → List Bytes → Prop} (nil : P [] [[]])
    (atSep : ∀ s, P s (splitOn sep s) → P (sep :: s) ([] :: splitOn sep s))
    (cons : ∀ x s h t, x ≠ sep → splitOn sep s = h :: t → P s (h :: t) → P (x :: s) ((x :: h) :: t)) :
    ∀ s, P s (splitOn sep s) := by
  intro s
  induction s with
  | nil => exact nil
  | cons x s ih =>
    by_cases hx : x = sep
    · subst hx; rw [splitOn_cons_sep]; exact atSep s ih
    · obtain ⟨h, t, hs⟩ := List.exists_cons_of_ne_nil (splitOn_ne_nil sep s)
      rw [show splitOn sep (x :: s) = (x :: h) :: t from splitOn_pre sep [x] s h t (by simpa using hx) hs]
      exact cons x s h t hx hs (hs ▸ ih)

/-! ### the shapes of `decode1` -/

theorem decode1_lt_C2 (b0 : UInt8) (rest : Bytes) (h0 : 0x80 ≤ b0.toNat) (h1 : b0.toNat < 0xC2) :
    decode1 b0 rest = (repl, 1) := by
  rw [Utf8.decode1_1 b0 rest (Or.inl h1), if_neg (by omega)]

theorem decode1_ge_F5 (b0 : UInt8) (rest : Bytes) (h0 : 0xF5 ≤ b0.toNat) : decode1 b0 rest = (repl, 1) := by
  rw [Utf8.decode1_1 b0 rest (Or.inr h0), if_neg (by omega)]

theorem isCont_ge (b : UInt8) (h : isCont b = true) : 0x80 ≤ b.toNat := by
  simp only [isCont, Bool.and_eq_true, decide_eq_true_eq] at h; exact h.1

theorem ok3_ge (n0 : Nat) (b1 b2 : UInt8) (h : ok3 n0 b1 b2 = true) : 0x80 ≤ b1.toNat ∧ 0x80 ≤ b2.toNat := by
  simp only [ok3, Bool.and_eq_true, decide_eq_true_eq] at h
  refine ⟨?_, isCont_ge _ h.2⟩
  have := h.1.1
  split at this <;> omega

theorem ok4_ge (n0 : Nat) (b1 b2 b3 : UInt8) (h : ok4 n0 b1 b2 b3 = true) :
    0x80 ≤ b1.toNat ∧ 0x80 ≤ b2.toNat ∧ 0x80 ≤ b3.toNat := by
  simp only [ok4, Bool.and_eq_true, decide_eq_true_eq] at h
  refine ⟨?_, isCont_ge _ h.1.2, isCont_ge _ h.2⟩
  have := h.1.1.1
  split at this <;> omega

/-- `decode1` on a lead byte: ASCII; or `(repl, 1)`; or a multi-byte rune whose continuation bytes `pre` are all ≥ 0x80 and
    alone decide the result, whatever follows them -/
theorem decode1_shape (b0 : UInt8) (rest : Bytes) :
    (b0.toNat < 0x80 ∧ decode1 b0 rest = (bc b0, 1)) ∨ decode1 b0 rest = (repl, 1) ∨
    (0x80 ≤ b0.toNat ∧ ∃ pre rest' ch, rest = pre ++ rest' ∧ (∀ x ∈ pre, 0x80 ≤ x.toNat) ∧
      ∀ t, decode1 b0 (pre ++ t) = (ch, pre.length + 1)) := by
  by_cases h0 : b0.toNat < 0x80
  · left; exact ⟨h0, decode1_ascii b0 rest h0⟩
  · right
    by_cases h1 : b0.toNat < 0xC2
    · left; exact decode1_lt_C2 _ _ (by omega) h1
    by_cases h2 : b0.toNat < 0xE0
    · match rest with
      | [] => left; rw [decode1_2 _ _ (by omega) h2]
      | b1 :: t =>
        by_cases hc : isCont b1 = true
        · right
          refine ⟨by omega, [b1], t, (decode1 b0 (b1 :: t)).1, rfl, ?_, fun t' => ?_⟩
          · intro x hx; simp only [List.mem_singleton] at hx; subst hx; exact isCont_ge _ hc
          · rw [decode1_2 _ _ (by omega) h2, decode1_2 _ _ (by omega) h2]; simp only [List.cons_append, List.nil_append, hc, if_true]; rfl
        · left; rw [decode1_2 _ _ (by omega) h2]; simp only [hc]; rfl
    by_cases h3 : b0.toNat < 0xF0
    · match rest with
      | [] => left; rw [decode1_3 _ _ (by omega) h3]
      | [_] => left; rw [decode1_3 _ _ (by omega) h3]
      | b1 :: b2 :: t =>
        by_cases hc : ok3 b0.toNat b1 b2 = true
        · right
          refine ⟨by omega, [b1, b2], t, (decode1 b0 (b1 :: b2 :: t)).1, rfl, ?_, fun t' => ?_⟩
          · intro x hx
            have := ok3_ge _ _ _ hc
            simp only [List.mem_cons, List.not_mem_nil, or_false] at hx
            rcases hx with hx | hx <;> subst hx <;> omega
          · rw [decode1_3 _ _ (by omega) h3, decode1_3 _ _ (by omega) h3]; simp only [List.cons_append, List.nil_append, hc, if_true]; rfl
        · left; rw [decode1_3 _ _ (by omega) h3]; simp only [hc]; rfl
    by_cases h4 : b0.toNat < 0xF5
    · match rest with
      | [] => left; rw [decode1_4 _ _ (by omega) h4]
      | [_] => left; rw [decode1_4 _ _ (by omega) h4]
      | [_, _] => left; rw [decode1_4 _ _ (by omega) h4]
      | b1 :: b2 :: b3 :: t =>
        by_cases hc : ok4 b0.toNat b1 b2 b3 = true
        · right
          refine ⟨by omega, [b1, b2, b3], t, (decode1 b0 (b1 :: b2 :: b3 :: t)).1, rfl, ?_, fun t' => ?_⟩
          · intro x hx
            have := ok4_ge _ _ _ _ hc
            simp only [List.mem_cons, List.not_mem_nil, or_false] at hx
            rcases hx with hx | hx | hx <;> subst hx <;> omega
          · rw [decode1_4 _ _ (by omega) h4, decode1_4 _ _ (by omega) h4]; simp only [List.cons_append, List.nil_append, hc, if_true]; rfl
        · left; rw [decode1_4 _ _ (by omega) h4]; simp only [hc]; rfl
    · left; exact decode1_ge_F5 _ _ (by omega)

theorem goDecode_drop : ∀ (k : Nat) (s : Bytes),
    (goDecode s).drop k = goDecode (s.drop (((goDecode s).take k).map (·.2)).sum) := by
  intro k
  induction k with
  | zero => intro s; simp
  | succ k ih =>
    intro s
    match s with
    | [] => simp [goDecode_nil]
    | b0 :: rest =>
      have hp := decode1_size_pos b0 rest
      rw [goDecode_cons]
      simp only [List.drop_succ_cons, List.take_succ_cons, List.map_cons, List.sum_cons]
      rw [ih]
      congr 1
      generalize (List.map (fun x => x.2) (List.take k (goDecode (List.drop ((decode1 b0 rest).2 - 1) rest)))).sum = m
      have : (decode1 b0 rest).2 + m = ((decode1 b0 rest).2 - 1 + m) + 1 := by omega
      rw [this, List.drop_succ_cons, List.drop_drop]

/-! ### statements about the codec that nothing in the development rests on, kept for their own sake -/

theorem toNat_ofNat_scalar (n : Nat) (h : n < 0xD800 ∨ (0xDFFF < n ∧ n < 0x110000)) : (Char.ofNat n).toNat = n :=
  toNat_ofNat_valid n h

theorem decode1_utf8Char (c : Char) (rest : Bytes) :
    match utf8Char c ++ rest with
    | b0 :: tl => decode1 b0 tl = (c, (utf8Char c).length)
    | [] => False := by
  obtain ⟨b0, tl, e, hd⟩ := decode1_utf8Char' c rest
  rw [e]
  simpa using hd

theorem utf8Char_decode1 (b0 : UInt8) (rest : Bytes) (c : Char) (n : Nat) (h : decode1 b0 rest = (c, n))
    (hn : 1 < n ∨ c ≠ repl) : utf8Char c = (b0 :: rest).take n := by
  have := (decode1_spec b0 rest).1
  rw [h] at this
  rcases this with e | e
  · simp only [Prod.mk.injEq] at e
    rcases hn with hn | hn
    · omega
    · exact absurd e.1 hn
  · exact e

theorem goDecodeAux_eq_goDecode (fuel : Nat) (s : Bytes) (h : s.length ≤ fuel) : goDecodeAux fuel s = goDecode s :=
  goDecodeAux_fuel s.length s fuel s.length (Nat.le_refl _) h (Nat.le_refl _)

theorem goRunes_append_of_valid (a b : Bytes) (h : validUtf8 a = true) : goRunes (a ++ b) = goRunes a ++ goRunes b := by
  conv => lhs; rw [← utf8_goRunes a h]
  exact goRunes_utf8_append _ _

theorem goDecode_append_of_valid (a b : Bytes) (h : validUtf8 a = true) : goDecode (a ++ b) = goDecode a ++ goDecode b := by
  conv => lhs; rw [← utf8_goRunes a h]
  rw [goDecode_utf8_append]
  conv => rhs; rw [← utf8_goRunes a h, goDecode_utf8]

theorem validUtf8_append_of_valid (a b : Bytes) (h : validUtf8 a = true) : validUtf8 (a ++ b) = validUtf8 b := by
  conv => lhs; rw [← utf8_goRunes a h]
  exact validUtf8_utf8_append _ _

theorem goDecode_length_le (b : Bytes) : (goDecode b).length ≤ b.length := by
  induction b using goDecode_ind with
  | h0 => simp
  | hs b0 rest ih =>
    rw [goDecode_cons, List.length_cons, List.length_cons]
    rw [List.length_drop] at ih
    omega

theorem goRunes_length_le (b : Bytes) : (goRunes b).length ≤ b.length := by
  simp only [goRunes, List.length_map]; exact goDecode_length_le b

theorem goDecode_entry (b : Bytes) : ∀ d ∈ goDecode b, d = (repl, 1) ∨ d.2 = (utf8Char d.1).length := by
  induction b using goDecode_ind with
  | h0 => intro d hd; simp at hd
  | hs b0 rest ih =>
    intro d hd
    rw [goDecode_cons, List.mem_cons] at hd
    rcases hd with rfl | hd
    · have hs := decode1_spec b0 rest
      rcases hs.1 with e | e
      · exact Or.inl e
      · right
        rw [e, List.length_take, List.length_cons]
        have := hs.2.2.2
        omega
    · exact ih d hd

theorem utf8_length_ascii (s : Str) (h : ∀ c ∈ s, c.toNat < 0x80) : (utf8 s).length = s.length := by
  rw [utf8_ascii s h, List.length_map]

/-! ### non-vacuity / concrete evaluations -/

example : goRunes [0xF0, 0x9F, 0x98, 0x80] = [Char.ofNat 0x1F600] := by decide +kernel
example : goDecode [0xF0, 0x9F, 0x98, 0x80] = [(Char.ofNat 0x1F600, 4)] := by decide +kernel
example : utf8 [Char.ofNat 0x1F600] = [0xF0, 0x9F, 0x98, 0x80] := by decide +kernel
example : goRunes [0xC3] = [repl] := by decide +kernel
example : goRunes [0xED, 0xA0, 0x80] = [repl, repl, repl] := by decide +kernel
/-- overlong forms are rejected byte by byte -/
example : goRunes [0xC0, 0x80] = [repl, repl] ∧ goRunes [0xE0, 0x80, 0x80] = [repl, repl, repl] ∧
    goRunes [0xF0, 0x80, 0x80, 0x80] = [repl, repl, repl, repl] := by decide +kernel
/-- above U+10FFFF -/
example : goRunes [0xF4, 0x90, 0x80, 0x80] = [repl, repl, repl, repl] := by decide +kernel
example : goDecode (utf8 [repl]) = [(repl, 3)] ∧ validUtf8 (utf8 [repl]) = true ∧ validUtf8 [0x61, 0xE9] = false := by
  decide +kernel
/-- a valid string with 1-, 2-, 3- and 4-byte code points; on ill-formed input re-encoding does not give the input back -/
example : validUtf8 [0x61, 0xC3, 0xA9, 0xE2, 0x82, 0xAC, 0xF0, 0x9F, 0x98, 0x80] = true ∧
    utf8 (goRunes [0x61, 0xC3, 0xA9, 0xE2, 0x82, 0xAC, 0xF0, 0x9F, 0x98, 0x80]) =
      [0x61, 0xC3, 0xA9, 0xE2, 0x82, 0xAC, 0xF0, 0x9F, 0x98, 0x80] := by decide +kernel
example : utf8 (goRunes [0xC3]) = [0xEF, 0xBF, 0xBD] := by decide +kernel
/-- without validity of the prefix `goRunes` is not additive: the halves of `é` -/
example : goRunes ([0xC3] ++ [0xA9]) = [Char.ofNat 0xE9] ∧ goRunes [0xC3] ++ goRunes [0xA9] = [repl, repl] := by
  decide +kernel
example : decode1 0xE2 [0x82, 0xAC, 0x41] = (Char.ofNat 0x20AC, 3) ∧
    utf8Char (Char.ofNat 0x20AC) = ([0xE2, 0x82, 0xAC, 0x41] : Bytes).take 3 := by decide +kernel

end WhatwgUrl.Proofs.Utf8
