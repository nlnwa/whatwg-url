import WhatwgUrl.Proofs.Trim
import WhatwgUrl.Proofs.WellFormed
import WhatwgUrl.Proofs.SpellingShift
/-
  The prologue of `basicParser`, for spellings (C18c) and resolution (C06; `Resolve.pro` is the text it hands to the
  machine): on `A ++ rest` it leaves a clean prefix `A` (no byte ≤ 0x20 at either end, no
  tab / newline) alone, and the shift lemma for two texts `A₁ ++ Z`, `A₂ ++ Z` with ASCII prefixes.
-/
namespace WhatwgUrl.Proofs.Resolve
open WhatwgUrl WhatwgUrl.Impl

/-- the text the machine sees -/
def pro (ref : Bytes) : Bytes := (removeTabNl (trim c0OrSpaceSet ref).1).1

end WhatwgUrl.Proofs.Resolve

namespace WhatwgUrl.Proofs.Spelling
open WhatwgUrl WhatwgUrl.Impl WhatwgUrl.Proofs.IPv4 WhatwgUrl.Proofs.Trim

/-- the environment of a `basicParser` call on the (already trimmed and filtered) text `src` -/
def envOf (cfg : Cfg) (I : Idna) (base : Option Url) (ov : Option State) (src : Bytes) : Env :=
  ⟨cfg, I, src, goRunes src, base, ov⟩

theorem record_verrs (cfg : Cfg) (vs : List VErr) (t : ErrT) (f : Bool) :
    ∃ vs', record cfg ({ verrs := vs } : Url) t f = { verrs := vs' } ∧ (cfg.report = false → vs' = vs) := by
  unfold record
  split
  · rename_i h; exact ⟨_, rfl, fun h' => by rw [h'] at h; cases h⟩
  · exact ⟨vs, rfl, fun _ => rfl⟩

/-- two inputs with the same prologue flags: it is enough to compare the loops, from a fresh record carrying any list of
    validation errors (the empty one if the configuration does not report them) -/
theorem basicParser_congr (cfg : Cfg) (I : Idna) (x y : Bytes) (base : Option Url) (ov : Option State)
    (ht : (trim c0OrSpaceSet x).2 = (trim c0OrSpaceSet y).2)
    (hr : (removeTabNl (trim c0OrSpaceSet x).1).2 = (removeTabNl (trim c0OrSpaceSet y).1).2)
    (hloop : ∀ vs : List VErr, (cfg.report = false → vs = []) →
      loop (envOf cfg I base ov (Resolve.pro x)) (fuelFor (goRunes (Resolve.pro x))) (ps0 (ov.getD .schemeStart) { verrs := vs }) =
      loop (envOf cfg I base ov (Resolve.pro y)) (fuelFor (goRunes (Resolve.pro y))) (ps0 (ov.getD .schemeStart) { verrs := vs })) :
    basicParser cfg I x base none ov = basicParser cfg I y base none ov := by
  unfold basicParser
  simp only [Option.isNone_none, Bool.true_and, if_true, Option.getD_none, ht, hr]
  split
  · rfl
  · split
    · rfl
    · obtain ⟨vs1, h1, q1⟩ : ∃ vs1, (if (trim c0OrSpaceSet y).2 = true then record cfg ({} : Url) .InvalidURLUnit false else {}) = { verrs := vs1 } ∧
          (cfg.report = false → vs1 = []) := by
        split
        · exact record_verrs cfg [] _ _
        · exact ⟨[], rfl, fun _ => rfl⟩
      rw [h1]
      obtain ⟨vs2, h2, q2⟩ : ∃ vs2, (if (removeTabNl (trim c0OrSpaceSet y).1).2 = true then record cfg ({ verrs := vs1 } : Url) .InvalidURLUnit false else { verrs := vs1 }) = { verrs := vs2 } ∧
          (cfg.report = false → vs2 = vs1) := by
        split
        · exact record_verrs cfg vs1 _ _
        · exact ⟨vs1, rfl, fun _ => rfl⟩
      rw [h2]
      exact hloop vs2 fun h => (q2 h).trans (q1 h)

/-! ### the prologue on `A ++ rest` for a clean `A` -/

/-- no byte ≤ 0x20 (so no tab / newline either) -/
def NoWs (A : Bytes) : Prop := ∀ b ∈ A, isWs b = false

theorem dropWsR_clean (A rest : Bytes) (hl : ∀ a, A.getLast? = some a → isWs a = false) :
    dropWsR (A ++ rest) = A ++ dropWsR rest := by
  unfold dropWsR
  rw [List.reverse_append, List.dropWhile_append]
  have hAr : A.reverse.dropWhile isWs = A.reverse := by
    cases h : A.reverse with
    | nil => rfl
    | cons x r =>
      have : A.getLast? = some x := by rw [← List.head?_reverse, h]; rfl
      simp [hl x this]
  split
  · rename_i he
    have : List.dropWhile isWs rest.reverse = [] := by simpa using he
    rw [hAr, this]; simp
  · simp

theorem trim_clean (A rest : Bytes) (hA : A ≠ []) (hh : ∀ a, A.head? = some a → isWs a = false)
    (hl : ∀ a, A.getLast? = some a → isWs a = false) :
    trim c0OrSpaceSet (A ++ rest) = (A ++ dropWsR rest, decide ((dropWsR rest).length < rest.length)) := by
  have hne : (A ++ rest).isEmpty = false := by cases A with | nil => exact absurd rfl hA | cons _ _ => rfl
  have hp : (fun x : UInt8 => c0OrSpaceSet.inSet x.toNat) = isWs := by
    funext x; simp [inSet_c0, isWs]
  have h1 : trimPrefix c0OrSpaceSet (A ++ rest) = (A ++ rest, false) := by
    cases A with
    | nil => exact absurd rfl hA
    | cons a A' =>
      have ha : 0x21 ≤ a.toNat := by
        have := hh a rfl
        simp [isWs] at this; omega
      have hd := decode1_notws a (A' ++ rest) ha
      unfold trimPrefix
      simp only [List.cons_append, List.isEmpty_cons, Bool.false_eq_true, if_false]
      have : goDecode (a :: (A' ++ rest)) = decode1 a (A' ++ rest) :: goDecode ((A' ++ rest).drop ((decode1 a (A' ++ rest)).2 - 1)) :=
        Utf8.goDecode_cons a (A' ++ rest)
      rw [this]
      have hin : c0OrSpaceSet.inSet (decode1 a (A' ++ rest)).1.toNat = false := by
        rw [inSet_c0]; simp; omega
      simp [trimPrefixAux, hin]
  have hk : dropWsR (A ++ rest) = A ++ dropWsR rest := dropWsR_clean A rest hl
  have h2 : trimPostfix c0OrSpaceSet (A ++ rest) = (A ++ dropWsR rest, decide ((dropWsR rest).length < rest.length)) := by
    unfold trimPostfix
    simp only [hne, Bool.false_eq_true, if_false, hp]
    have : (List.dropWhile isWs (A ++ rest).reverse).reverse = A ++ dropWsR rest := hk
    rw [this]
    have hne2 : (A ++ dropWsR rest).isEmpty = false := by cases A with | nil => exact absurd rfl hA | cons _ _ => rfl
    simp only [hne2, Bool.false_eq_true, if_false, List.length_append]
    congr 1
    simp
  unfold trim
  rw [h1]
  simp only [h2, Bool.false_or]

theorem removeTabNl_clean (A rest : Bytes) (hA : NoWs A) :
    removeTabNl (A ++ rest) = (A ++ (removeTabNl rest).1, (removeTabNl rest).2) := by
  have hf : A.filter (fun x => !isTabNl x) = A := by
    apply List.filter_eq_self.mpr
    intro b hb
    have := notTabNl_of_not_ws b (hA b hb)
    simpa [notTabNl] using this
  have ha : A.any isTabNl = false := by
    rw [List.any_eq_false]
    intro b hb
    have := notTabNl_of_not_ws b (hA b hb)
    simpa [notTabNl] using this
  unfold removeTabNl
  simp only [List.filter_append, hf, List.any_append, ha, Bool.false_or]

/-- what is left of `rest` after the prologue -/
def restText (rest : Bytes) : Bytes := (removeTabNl (dropWsR rest)).1

theorem text_clean (A rest : Bytes) (hA : A ≠ []) (hn : NoWs A) : Resolve.pro (A ++ rest) = A ++ restText rest := by
  unfold Resolve.pro restText
  rw [trim_clean A rest hA (fun a h => hn a (List.mem_of_mem_head? h)) (fun a h => hn a (List.mem_of_getLast? h))]
  simp only [removeTabNl_clean A _ hn]

theorem flags_clean (A A' rest : Bytes) (hA : A ≠ []) (hn : NoWs A) (hA' : A' ≠ []) (hn' : NoWs A') :
    (trim c0OrSpaceSet (A ++ rest)).2 = (trim c0OrSpaceSet (A' ++ rest)).2 ∧
    (removeTabNl (trim c0OrSpaceSet (A ++ rest)).1).2 = (removeTabNl (trim c0OrSpaceSet (A' ++ rest)).1).2 := by
  rw [trim_clean A rest hA (fun a h => hn a (List.mem_of_mem_head? h)) (fun a h => hn a (List.mem_of_getLast? h)),
    trim_clean A' rest hA' (fun a h => hn' a (List.mem_of_mem_head? h)) (fun a h => hn' a (List.mem_of_getLast? h))]
  simp only [removeTabNl_clean A _ hn, removeTabNl_clean A' _ hn', and_self]

theorem goRunes_clean (A rest : Bytes) (hA : Ascii A) : goRunes (A ++ rest) = asStr A ++ goRunes rest := by
  have := Utf8.goRunes_utf8_append (asStr A) rest
  rwa [utf8_asStr A hA] at this

/-! ### the shift lemma for two texts with ASCII prefixes -/

/-- two texts with ASCII prefixes in front of the same bytes; `envWith` of the first environment over the second text is
    `envOf` of the second text, by `rfl` -/
theorem Shift.of_prefixes (cfg : Cfg) (I : Idna) (base : Option Url) (ov : Option State) (A₁ A₂ Z : Bytes)
    (hA₁ : Ascii A₁) (hA₂ : Ascii A₂) :
    Shift (envOf cfg I base ov (A₁ ++ Z)) (A₂ ++ Z) (goRunes (A₂ ++ Z)) (A₁.length : Int) ((A₂.length : Int) - (A₁.length : Int)) := by
  have S := Shift.of_append (envOf cfg I base ov (A₁ ++ Z)) (asStr A₁) (asStr A₂) Z
    (by simp [envOf, utf8_asStr A₁ hA₁]) (by simp only [envOf]; exact goRunes_clean A₁ Z hA₁)
  rwa [utf8_asStr A₂ hA₂, ← goRunes_clean A₂ Z hA₂, asStr_length, asStr_length] at S

/-- two texts `A₁ ++ Z`, `A₂ ++ Z` with ASCII prefixes; the machines stand at the end of either prefix (pointer on its last
    byte) in states that differ in the pointer only, past the scheme and not before the authority: the same result for
    every fuel -/
theorem loop_shift_prefixes (cfg : Cfg) (I : Idna) (base : Option Url) (ov : Option State) (A₁ A₂ Z : Bytes)
    (hA₁ : Ascii A₁) (hA₂ : Ascii A₂) (F₁ F₂ : PS) (hp₁ : F₁.pointer + 1 = (A₁.length : Int)) (hp₂ : F₂.pointer + 1 = (A₂.length : Int))
    (hF : F₂ = { F₁ with pointer := F₂.pointer }) (h1 : F₁.state ≠ .schemeStart) (h2 : F₁.state ≠ .scheme)
    (h3 : AuthReach F₁.state = false) (n : Nat) :
    loop (envOf cfg I base ov (A₂ ++ Z)) n F₂ = loop (envOf cfg I base ov (A₁ ++ Z)) n F₁ := by
  have L := loop_shift (Shift.of_prefixes cfg I base ov A₁ A₂ Z hA₁ hA₂) n F₁ ⟨by omega, h1, h2, fun h => by rw [h3] at h; cases h⟩
  have hsh : sh ((A₂.length : Int) - (A₁.length : Int)) F₁ = F₂ := by
    rw [hF]
    apply ps_ext <;> first | rfl | (simp only [sh]; omega)
  rw [hsh] at L
  exact L

theorem loopEq_prefixes (cfg : Cfg) (I : Idna) (base : Option Url) (ov : Option State) (A₁ A₂ Z : Bytes)
    (hA₁ : Ascii A₁) (hA₂ : Ascii A₂) (F₁ F₂ : PS)
    (C₁ : Run.Cur (envOf cfg I base ov (A₁ ++ Z)) F₁ (asStr A₁) (goRunes Z))
    (C₂ : Run.Cur (envOf cfg I base ov (A₂ ++ Z)) F₂ (asStr A₂) (goRunes Z))
    (hF : F₂ = { F₁ with pointer := F₂.pointer }) (h1 : F₁.state ≠ .schemeStart) (h2 : F₁.state ≠ .scheme)
    (h3 : AuthReach F₁.state = false) :
    LoopEq (envOf cfg I base ov (A₁ ++ Z)) F₁ (envOf cfg I base ov (A₂ ++ Z)) F₂ :=
  .of_loop_eq C₁.inv (loop_shift_prefixes cfg I base ov A₁ A₂ Z hA₁ hA₂ F₁ F₂ (by simpa using C₁.ptr) (by simpa using C₂.ptr)
    hF h1 h2 h3)

/-! ### kept for its own sake; no proof rests on it

`Reach e ps ps'` says `Run.Steps e ps ps'` with the fuelled loop (`Run.Steps.loop_add`). -/

/-- the loop started in `ps` gets to `ps'` after finitely many continuing iterations -/
def Reach (e : Env) (ps ps' : PS) : Prop := ∃ n : Nat, ∀ m, loop e (n + m) ps = loop e m ps'

theorem Reach.one {e : Env} {ps ps' : PS} (h : step e ps = .cont ps') : Reach e ps ps' := (Run.Steps.one h).loop_add

end WhatwgUrl.Proofs.Spelling
