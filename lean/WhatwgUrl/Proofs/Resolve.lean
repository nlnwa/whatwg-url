import WhatwgUrl.Impl.Api
import WhatwgUrl.Proofs.Termination
import WhatwgUrl.Proofs.Trim
import WhatwgUrl.Proofs.RunScan
import WhatwgUrl.Proofs.SpellingRun
/-
  Helper lemmas for C06b (laws of reference resolution): symbolic execution of the `BasicParser` machine for the default
  configuration, as runs (`Runs`, `Proofs/Run.lean`) along the reference.  `E I src rs b` is the default
  configuration with base `b` over any text (`envOf I b ref`, at the text of `ref`, is the environment of
  `urlParse {} I b ref`), `Eo I src rs ob` the same with an optional base, `P s p buf u` a parser state with clear flags.
-/
namespace WhatwgUrl.Proofs.Resolve
open WhatwgUrl WhatwgUrl.Impl WhatwgUrl.Proofs.Run

/-! ### the states and the environment of `urlParse {} I b ref` -/

/-- parser state with clear flags -/
def P (s : State) (p : Int) (buf : Bytes) (u : Url) : PS :=
  { state := s, pointer := p, eof := false, buffer := buf, atFlag := false, bracketFlag := false, pwSeen := false, url := u }

/-- default configuration, base `b`, no override -/
def E (I : Idna) (src : Bytes) (rs : Str) (b : Url) : Env := { cfg := {}, I := I, src := src, runes := rs, base := some b, ov := none }

@[simp] theorem E_cfg (I : Idna) (src : Bytes) (rs : Str) (b : Url) : (E I src rs b).cfg = {} := rfl
@[simp] theorem E_runes (I : Idna) (src : Bytes) (rs : Str) (b : Url) : (E I src rs b).runes = rs := rfl
@[simp] theorem E_base (I : Idna) (src : Bytes) (rs : Str) (b : Url) : (E I src rs b).base = some b := rfl
@[simp] theorem E_ov (I : Idna) (src : Bytes) (rs : Str) (b : Url) : (E I src rs b).ov = none := rfl
@[simp] theorem E_I (I : Idna) (src : Bytes) (rs : Str) (b : Url) : (E I src rs b).I = I := rfl

/-- default configuration, optional base, no override -/
def Eo (I : Idna) (src : Bytes) (rs : Str) (ob : Option Url) : Env :=
  { cfg := {}, I := I, src := src, runes := rs, base := ob, ov := none }

@[simp] theorem Eo_cfg (I : Idna) (src : Bytes) (rs : Str) (ob : Option Url) : (Eo I src rs ob).cfg = {} := rfl
@[simp] theorem Eo_runes (I : Idna) (src : Bytes) (rs : Str) (ob : Option Url) : (Eo I src rs ob).runes = rs := rfl
@[simp] theorem Eo_base (I : Idna) (src : Bytes) (rs : Str) (ob : Option Url) : (Eo I src rs ob).base = ob := rfl
@[simp] theorem Eo_ov (I : Idna) (src : Bytes) (rs : Str) (ob : Option Url) : (Eo I src rs ob).ov = none := rfl
@[simp] theorem Eo_I (I : Idna) (src : Bytes) (rs : Str) (ob : Option Url) : (Eo I src rs ob).I = I := rfl

def envOf (I : Idna) (b : Url) (ref : Bytes) : Env := E I (pro ref) (goRunes (pro ref)) b

/-- `Spelling.ps0 .schemeStart {}`, the state in which `basicParser` enters the loop without override and record -/
def ps0 : PS := P .schemeStart (-1) [] {}

theorem urlParse_of_runs {I : Idna} {b : Url} {ref : Bytes} {r : Res} (h : Runs (envOf I b ref) ps0 r) :
    urlParse {} I b ref = r := basicParser_of_runs Mute.default (base := some b) (url := none) (ov := none) h

theorem step_first {e : Env} {s : State} {buf : Bytes} {u : Url} {c : Char} {rest : Str} (h : e.runes = c :: rest) :
    step e (P s (-1) buf u) = bottom (body e (P s 0 buf u) c) :=
  Cur.step_cons (pre := []) ⟨h, rfl, rfl⟩

theorem step_first_nil {e : Env} {s : State} {buf : Bytes} {u : Url} (h : e.runes = []) :
    step e (P s (-1) buf u) = bottom (body e { P s 0 buf u with eof := true } repl) :=
  Cur.step_nil (pre := []) ⟨h, rfl, rfl⟩

theorem runs_fragment (I : Idna) (src : Bytes) (rs : Str) (b : Url) (pre rest : Str) (p : Int) (buf : Bytes) (u : Url)
    (hc : Cur (E I src rs b) (P .fragment p buf u) pre rest) :
    Runs (E I src rs b) (P .fragment p buf u)
      ⟨{ u with fragment := some (buf ++ rest.flatMap (percentEncodeRune {} fragmentSet)) }, .url⟩ := by
  have := run_fragment hc rfl (QuietOn.of_mute Mute.default rfl _ _)
  rwa [fragSetOf_same _ rfl] at this

/-- the query encode set of the default configuration; `RoundTrip.qset (Cfg.isSpecial {} scheme)` -/
def qSet (scheme : Bytes) : PSet := if ({} : Cfg).isSpecial scheme then specialQuerySet else querySet

theorem querySetOf_E (I : Idna) (src : Bytes) (rs : Str) (b u : Url) : querySetOf (E I src rs b) u = qSet u.scheme := rfl

theorem runs_query (I : Idna) (src : Bytes) (rs : Str) (b : Url) (pre rest : Str) (p : Int) (buf : Bytes) (u : Url)
    (hc : Cur (E I src rs b) (P .query p buf u) pre rest) (hn : '#' ∉ rest) :
    Runs (E I src rs b) (P .query p buf u)
      ⟨{ u with query := some (buf ++ rest.flatMap (percentEncodeRune {} (qSet u.scheme))) }, .url⟩ :=
  querySetOf_E I src rs b u ▸ run_query hc rfl hn (QuietOn.of_mute Mute.default rfl _ _)

/-! ### the short steps -/

theorem step_schemeStart_na (I : Idna) (src : Bytes) (rs : Str) (b : Url) (u : Url)
    (h : ∀ c rest, rs = c :: rest → isAlphaN c.toNat = false) :
    step (E I src rs b) (P .schemeStart (-1) [] u) = .cont (P .noScheme (-1) [] u) := by
  cases rs with
  | nil =>
    rw [step_first_nil rfl]
    simp [body, P, stSchemeStart, bottom, Machine.repl_class.1, rewindLast]
  | cons c rest =>
    rw [step_first rfl]
    simp [body, P, stSchemeStart, bottom, h c rest rfl, rewindLast]

theorem step_noScheme_opq_fail (I : Idna) (src : Bytes) (rs : Str) (b : Url) (buf : Bytes) (u : Url)
    (ho : b.path.opq = true) (h : rs.head? ≠ some '#') :
    step (E I src rs b) (P .noScheme (-1) buf u) = .done ⟨u, .err ⟨.MissingSchemeNonRelativeURL, true⟩ false⟩ := by
  cases rs with
  | nil =>
    rw [step_first_nil rfl]
    simp [body, P, stNoScheme, bottom, ho, repl, Termination.herr_true, record]
  | cons c rest =>
    have hc : c ≠ '#' := fun hc => h (by rw [hc]; rfl)
    rw [step_first rfl]
    simp [body, P, stNoScheme, bottom, ho, hc, Termination.herr_true, record]

theorem step_noScheme_opq_hash (I : Idna) (src : Bytes) (fr : Str) (b : Url) (buf : Bytes) (u : Url)
    (ho : b.path.opq = true) :
    step (E I src ('#' :: fr) b) (P .noScheme (-1) buf u) =
      .cont (P .fragment 0 buf { u with scheme := b.scheme, path := b.path, query := b.query, fragment := some [] }) := by
  rw [step_first rfl]
  simp [body, P, stNoScheme, bottom, ho]

theorem step_noScheme_rel (I : Idna) (src : Bytes) (rs : Str) (b : Url) (buf : Bytes) (u : Url)
    (ho : b.path.opq = false) :
    step (E I src rs b) (P .noScheme (-1) buf u) =
      .cont (P (if b.scheme = lit "file" then .file else .relative) (-1) buf u) := by
  cases rs with
  | nil =>
    rw [step_first_nil rfl]
    by_cases hf : b.scheme = lit "file" <;> simp [body, P, stNoScheme, bottom, ho, hf, rewindLast]
  | cons c rest =>
    rw [step_first rfl]
    by_cases hf : b.scheme = lit "file" <;> simp [body, P, stNoScheme, bottom, ho, hf, rewindLast]

/-- what the relative state copies from the base -/
def relCopy (b u : Url) : Url :=
  { u with scheme := b.scheme, username := b.username, password := b.password, host := b.host, port := b.port,
           decodedPort := b.decodedPort, path := b.path, query := b.query }

/-- what the file state copies from a file base -/
def fileCopy (b u : Url) : Url := { u with scheme := lit "file", host := b.host, path := b.path, query := b.query }

/-- what the state that `step_noScheme_rel` hands over to copies from a base with a list path, at the end of the text, on
    `#` and on `?` -/
def listCopy (b u : Url) : Url := if b.scheme = lit "file" then fileCopy b u else relCopy b u

theorem listCopy_scheme (b u : Url) : (listCopy b u).scheme = b.scheme := by
  unfold listCopy
  split
  · next hf => exact hf.symm
  · rfl

theorem step_list_nil (I : Idna) (src : Bytes) (b : Url) (buf : Bytes) (u : Url) :
    step (E I src [] b) (P (if b.scheme = lit "file" then .file else .relative) (-1) buf u) = .done ⟨listCopy b u, .url⟩ := by
  rw [step_first_nil rfl]
  by_cases hf : b.scheme = lit "file" <;>
    simp [body, P, stFile, stRelative, bottom, repl, spBackslash, hf, listCopy, fileCopy, relCopy]

theorem step_list_hash (I : Idna) (src : Bytes) (fr : Str) (b : Url) (buf : Bytes) (u : Url) :
    step (E I src ('#' :: fr) b) (P (if b.scheme = lit "file" then .file else .relative) (-1) buf u) =
      .cont (P .fragment 0 buf { listCopy b u with fragment := some [] }) := by
  rw [step_first rfl]
  by_cases hf : b.scheme = lit "file" <;>
    simp [body, P, stFile, stRelative, bottom, spBackslash, hf, listCopy, fileCopy, relCopy]

theorem step_list_qm (I : Idna) (src : Bytes) (q : Str) (b : Url) (buf : Bytes) (u : Url) :
    step (E I src ('?' :: q) b) (P (if b.scheme = lit "file" then .file else .relative) (-1) buf u) =
      .cont (P .query 0 buf { listCopy b u with query := some [] }) := by
  rw [step_first rfl]
  by_cases hf : b.scheme = lit "file" <;>
    simp [body, P, stFile, stRelative, bottom, spBackslash, hf, listCopy, fileCopy, relCopy]

/-! ### references with / without a scheme; bulk: the scheme state -/

/-- scheme characters up to a `:` -/
def schemeTail : Str → Bool
  | [] => false
  | c :: rest => if isSchemeChar c then schemeTail rest else c == ':'

/-- ASCII alpha, then alnum / `+` / `-` / `.`, then `:` -/
def hasSchemeR : Str → Bool
  | [] => false
  | c :: rest => isAlphaN c.toNat && schemeTail rest

theorem runs_scheme_no (I : Idna) (src : Bytes) (rs : Str) (b : Url) (u : Url) (r : Res)
    (hr : Runs (E I src rs b) (P .noScheme (-1) [] u) r) :
    ∀ (rest pre : Str) (p : Int) (buf : Bytes), Cur (E I src rs b) (P .scheme p buf u) pre rest → schemeTail rest = false →
      Runs (E I src rs b) (P .scheme p buf u) r := by
  intro rest
  induction rest with
  | nil =>
    intro pre p buf hc _
    refine Runs.cont ?_ hr
    rw [hc.step_nil]
    have h1 : isSchemeChar repl = false := by decide
    have h2 : (repl == ':') = false := beq_eq_false_iff_ne.mpr Machine.repl_class.2.2.2.2.2.2.2.1
    simp only [isSchemeChar] at h1
    simp [body, P, stScheme, bottom, h1, h2, resetInput]
  | cons c rest ih =>
    intro pre p buf hc ht
    by_cases hcc : isSchemeChar c = true
    · have ht' : schemeTail rest = false := by simpa [schemeTail, hcc] using ht
      exact Runs.cont (step_scheme hc rfl hcc) (ih _ (p + 1) _ (hc.adv rfl rfl) ht')
    · have hcol : (c == ':') = false := by simpa [schemeTail, hcc] using ht
      refine Runs.cont ?_ hr
      rw [hc.step_cons]
      simp only [isSchemeChar] at hcc
      simp [body, P, stScheme, bottom, hcc, hcol, resetInput]

theorem runs_no_scheme (I : Idna) (src : Bytes) (rs : Str) (b : Url) (u : Url) (r : Res) (h : hasSchemeR rs = false)
    (hr : Runs (E I src rs b) (P .noScheme (-1) [] u) r) : Runs (E I src rs b) (P .schemeStart (-1) [] u) r := by
  by_cases ha : ∀ c rest, rs = c :: rest → isAlphaN c.toNat = false
  · exact Runs.cont (step_schemeStart_na I src rs b u ha) hr
  · match rs, h, ha, hr with
    | [], _, ha, _ => exact absurd (by intro c rest h; cases h) ha
    | c :: rest, h, ha, hr =>
      have hc : isAlphaN c.toNat = true := by
        cases hx : isAlphaN c.toNat
        · exact absurd (by intro c' rest' h; cases h; exact hx) ha
        · rfl
      have ht : schemeTail rest = false := by simpa [hasSchemeR, hc] using h
      exact Runs.cont (step_schemeStart (pre := []) ⟨rfl, rfl, rfl⟩ rfl hc)
        (runs_scheme_no I src (c :: rest) b u r hr rest [c] 0 _ ⟨rfl, rfl, rfl⟩ ht)

/-! ### the prologue on a reference that starts with visible bytes -/

/-- the rest of the reference as the machine sees it: tab / newline removed, trailing bytes ≤ 0x20 trimmed -/
def proTail (f : Bytes) : Bytes := Trim.dropWsR (f.filter Trim.notTabNl)

theorem proTail_append (s t : Bytes) (hs : ∀ x ∈ s, Trim.isWs x = false) : proTail (s ++ t) = s ++ proTail t := by
  unfold proTail
  rw [List.filter_append, List.filter_eq_self.mpr (fun x hx => Trim.notTabNl_of_not_ws x (hs x hx)),
    Spelling.dropWsR_clean s _ (fun a ha => hs a (List.mem_of_getLast? ha))]

theorem proTail_eq_restText (f : Bytes) : proTail f = Spelling.restText f := (Trim.filter_dropWsR f).symm

theorem pro_append (s t : Bytes) (hs : ∀ x ∈ s, Trim.isWs x = false) (hne : s ≠ []) : pro (s ++ t) = s ++ proTail t := by
  rw [Spelling.text_clean s t hne hs, proTail_eq_restText]

theorem pro_cons (x : UInt8) (f : Bytes) (hw : Trim.isWs x = false) : pro (x :: f) = x :: proTail f :=
  pro_append [x] f (fun _ hy => List.mem_singleton.mp hy ▸ hw) (List.cons_ne_nil _ _)

theorem goRunes_cons_ascii (x : UInt8) (s : Bytes) (h : x.toNat < 0x80) : goRunes (x :: s) = bc x :: goRunes s :=
  Spelling.goRunes_clean [x] s (fun b hb => by simp at hb; subst hb; exact h)

theorem runes_hash (f : Bytes) : goRunes (pro (0x23 :: f)) = '#' :: goRunes (proTail f) := by
  rw [pro_cons _ _ (by decide), goRunes_cons_ascii _ _ (by decide)]; rfl

theorem runes_qm (f : Bytes) : goRunes (pro (0x3f :: f)) = '?' :: goRunes (proTail f) := by
  rw [pro_cons _ _ (by decide), goRunes_cons_ascii _ _ (by decide)]; rfl

theorem pro_nil : pro [] = [] := by decide

theorem hash_of_goRunes (s : Bytes) (h : '#' ∈ goRunes s) : (0x23 : UInt8) ∈ s :=
  Utf8.ascii_mem_goRunes s '#' (by decide) h

theorem mem_of_mem_proTail (x : UInt8) (q : Bytes) (h : x ∈ proTail q) : x ∈ q := by
  unfold proTail Trim.dropWsR at h
  rw [List.mem_reverse] at h
  have h2 := (List.dropWhile_suffix (p := Trim.isWs) (l := (q.filter Trim.notTabNl).reverse)).subset h
  rw [List.mem_reverse] at h2
  exact (List.mem_filter.mp h2).1

theorem no_hash_runes (q : Bytes) (h : (0x23 : UInt8) ∉ q) : '#' ∉ goRunes (proTail q) :=
  fun hm => h (mem_of_mem_proTail _ _ (hash_of_goRunes _ hm))

/-! ### statements kept for their own sake; no proof rests on them

`runs_det`: a state runs to at most one result.  `E_eq_Eo`: `E` is `Eo` with a base.  `runs_urlParse`: the converse of
`urlParse_of_runs`, from `Run.runs_basicParser`. -/

theorem runs_det {e : Env} {ps : PS} {r r' : Res} (h : Runs e ps r) (h' : Runs e ps r') : r = r' := by
  induction h with
  | done hs =>
    cases h' with
    | done hs' => rw [hs] at hs'; cases hs'; rfl
    | cont hs' _ => rw [hs] at hs'; cases hs'
  | cont hs _ ih =>
    cases h' with
    | done hs' => rw [hs] at hs'; cases hs'
    | cont hs' h'' => rw [hs] at hs'; cases hs'; exact ih h''

theorem E_eq_Eo (I : Idna) (src : Bytes) (rs : Str) (b : Url) : E I src rs b = Eo I src rs (some b) := rfl

theorem runs_urlParse (I : Idna) (b : Url) (ref : Bytes) : Runs (envOf I b ref) ps0 (urlParse {} I b ref) :=
  runs_basicParser Mute.default I ref (some b) none none

end WhatwgUrl.Proofs.Resolve
