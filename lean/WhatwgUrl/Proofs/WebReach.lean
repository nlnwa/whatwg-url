import WhatwgUrl.Proofs.SpellingDots
import WhatwgUrl.Proofs.WebDefs
/-
  C18e: the path start, path, query and fragment states over a web text under a configuration with `WebParseCfg`, for any
  environment without a state override: the bytes are those of spellings (outside the three percent-encode sets, so
  copied), and no `%` stands alone, so the code-point branch reports nothing whatever the configuration reports
  (`quietOn_of`); then `Run.run_pathStart` does the rest (`runs_pathStart`).
-/
namespace WhatwgUrl.Proofs.Web
open WhatwgUrl WhatwgUrl.Impl WhatwgUrl.Proofs.IPv4 WhatwgUrl.Proofs.RoundTrip WhatwgUrl.Proofs.Spelling
open WhatwgUrl.Proofs.Pipeline WhatwgUrl.Proofs.Run WhatwgUrl.Proofs.Resolve

theorem quietOn_of (e : Env) (w : Bytes) (tl : Str) (hw : ∀ b ∈ w, isUrlCp (bc b).toNat = true ∨ bc b = '%')
    (hp : ∀ a b, asStr w = a ++ b → b ≠ [] → invalidPct (b ++ tl) = false) : QuietOn e (asStr w) tl := by
  intro a b hab hb
  have hi := hp a b hab hb
  refine ⟨Or.inr ⟨fun c hc => ?_, hi⟩, fun h => by rw [hi] at h; cases h⟩
  cases b with
  | nil => exact absurd rfl hb
  | cons x t =>
    simp only [List.cons_append, List.head?_cons, Option.mem_def, Option.some.injEq] at hc
    subst hc
    have hm : x ∈ asStr w := by rw [hab]; simp
    obtain ⟨y, hy, rfl⟩ := List.mem_map.mp hm
    exact hw y hy

/-- the components of a web text as the parse theorems take them: bytes of spellings (`&`, `=` too in the query) in which
    no `%` stands alone, a segment no dot segment (`segW_spec`: the Boolean test `segW` of `Proofs/WebDots.lean` yields `SegC`) -/
def SegC (s : Bytes) : Prop := (∀ b ∈ s, spB b = true) ∧ pctOk s = true ∧ isSingleDot s = false ∧ isDoubleDot s = false
def QOkC (q : Option Bytes) : Prop := ∀ x, q = some x → (∀ b ∈ x, qB b = true) ∧ pctOk x = true
def FOkC (f : Option Bytes) : Prop := ∀ x, f = some x → (∀ b ∈ x, spB b = true) ∧ pctOk x = true

/-- what the path state asks of the bytes it copies, for the bytes of a spelling -/
theorem spB_copy {cfg : Cfg} (hW : WebParseCfg cfg) (sp : Bool) {w : Bytes} (hw : ∀ b ∈ w, spB b = true) :
    ∀ b ∈ w, cfg.pathSet.has b.toNat = false ∧ bc b ≠ '/' ∧ bc b ≠ '?' ∧ bc b ≠ '#' ∧ (sp = true → bc b ≠ '\\') := fun b hb => by
  obtain ⟨g1, g2, g3, g4, _⟩ := qB_char b (spB_qB b (hw b hb))
  exact ⟨hW.path_has b (hw b hb), g1, g2, g3, fun _ => g4⟩

theorem segCopied_web {e : Env} (hW : WebParseCfg e.cfg) {s : Bytes} (hs : SegC s) : SegCopied e true s :=
  ⟨spB_copy hW true hs.1, hs.2.2.1, hs.2.2.2⟩

/-- a block of query bytes whose escapes are complete: quiet whatever follows, since a suffix of it has complete escapes too -/
theorem quietOn_pctOk (e : Env) (w : Bytes) (tl : Str) (hw : ∀ b ∈ w, qB b = true) (hp : pctOk w = true) :
    QuietOn e (asStr w) tl :=
  quietOn_of e w tl (fun b hb => (qB_char b (hw b hb)).2.2.2.2.1) fun a b hab hb => by
    obtain ⟨w1, w2, rfl, rfl, rfl⟩ : ∃ w1 w2 : Bytes, w = w1 ++ w2 ∧ a = asStr w1 ∧ b = asStr w2 :=
      ⟨w.take a.length, w.drop a.length, (List.take_append_drop _ _).symm, by
        have := congrArg (List.take a.length) hab; simpa [asStr, List.map_take] using this.symm, by
        have := congrArg (List.drop a.length) hab; simpa [asStr, List.map_drop] using this.symm⟩
    cases w2 with
    | nil => exact absurd rfl hb
    | cons x w2 =>
      have := pctOk_of_append w1 (x :: w2) hp
      simp only [pctOk, Bool.and_eq_true] at this
      exact invalidPct_head x w2 tl this.1

/-- the path start, path, query and fragment states over the rest of a web text (at least one segment; every segment but
    the last is non-empty, so that collapsing consecutive slashes, if enabled, has nothing to do) -/
theorem runs_pathStart {e : Env} (hW : WebParseCfg e.cfg) (hov : e.ov = none) (segs : List Bytes) (q f : Option Bytes)
    (hq : QOkC q) (hf : FOkC f) (hsegs : ∀ s ∈ segs, SegC s) (hne : segs ≠ []) (hnn : ∀ s ∈ segs.dropLast, s ≠ [])
    {ps : PS} {pre : Str} (hc : Cur e ps pre (asStr (pathText segs ++ (qTail q ++ fTail f))))
    (hst : ps.state = .pathStart) (hsp : e.cfg.isSpecial ps.url.scheme = true) (hnf : (ps.url.scheme == lit "file") = false)
    (hb : ps.buffer = []) (hp : ps.url.path = ⟨[], false⟩) :
    Runs e ps ⟨setF (setQ { ps.url with path := ⟨segs, false⟩ } q) f, .url⟩ := by
  refine run_pathStart hov true q f segs (by rw [← asStr_append]; exact hc) hst hb hp hsp (fun h => absurd h hne)
    (fun s hs => segCopied_web hW (hsegs s hs)) (fun s _ => DriveOk_notfile _ _ hnf)
    (fun a s b hs => by
      have h := hsegs s (by rw [hs]; simp)
      exact quietOn_pctOk e s _ (fun x hx => spB_qB x (h.1 x hx)) h.2.1)
    (Or.inr hnn)
    (fun x hx => ⟨fun b hb => by simp only [querySetOf, isSp, hsp, if_true]; exact hW.query_has b ((hq x hx).1 b hb), fun hm => by
      obtain ⟨b, hb, he⟩ := List.mem_map.mp hm
      exact (qB_char b ((hq x hx).1 b hb)).2.2.1 he⟩)
    (fun x hx b hb => by simp only [fragSetOf, isSp, hsp, if_true]; exact hW.frag_has b ((hf x hx).1 b hb))
    (fun x hx => quietOn_pctOk e x _ (hq x hx).1 (hq x hx).2)
    (fun x hx => quietOn_pctOk e x _ (fun b hb => spB_qB b ((hf x hx).1 b hb)) (hf x hx).2)

end WhatwgUrl.Proofs.Web
