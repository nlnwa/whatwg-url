import WhatwgUrl.Proofs.RoundTripC2
/-
  Round trip (C03b), stage D: the file scheme, and the union of the four stages.
-/
namespace WhatwgUrl.Proofs.RoundTrip
open WhatwgUrl WhatwgUrl.Impl WhatwgUrl.Proofs.IPv4 WhatwgUrl.Proofs.Trim
open WhatwgUrl.Props.C04b (schemeOk okB WFs)
open WhatwgUrl.Proofs.HostWF (Same)

/-- From the scheme state in front of the colon, with `file` in the buffer, to the end of the text `://host/path?q#f`:
    file, file slash, file host, path start.  The url the path is added to is the one of `ps` with the scheme, up to what
    the host parser records. -/
theorem run_file (I : Idna) (src : Bytes) (rs : Str) (h : Bytes) (segs : List Bytes) (q f : Option Bytes)
    (hq : QOk true q) (hf : FOk f) (hsegs : ∀ s ∈ segs, segOk true s = true) (hne : segs ≠ [])
    (hB : ∀ b ∈ h, hostB true b = true) (hstable : ∀ v : Url, (parseHost {} I v h false).out = .ok h)
    (hloc : h ≠ lit "localhost") (hwdl : isWindowsDriveLetter h = false) (hdrv : ∀ (U : Url), ∀ s ∈ segs.head?, DriveOk U s)
    (ps : PS) (pre : Str)
    (hc : Run.Cur (mkE I src rs) ps pre
      (':' :: '/' :: '/' :: (asStr h ++ (asStr (pathText segs) ++ asStr (qTail q ++ fTail f)))))
    (hst : ps.state = .scheme) (hb : ps.buffer = lit "file") (hp : ps.url.path = ⟨[], false⟩) :
    ∃ U : Url, Same { ps.url with scheme := lit "file", host := some [] } U ∧
      Resolve.Runs (mkE I src rs) ps ⟨setF (setQ { U with host := some h, path := ⟨segs, false⟩ } q) f, .url⟩ := by
  obtain ⟨t2, hc2⟩ := hc.one (Run.step_colon_file hc hst rfl Run.Mute.default hb) rfl hc.eof
  obtain ⟨t3, hc3⟩ := hc2.one (Run.step_file_slash hc2 rfl) rfl hc.eof
  obtain ⟨t4, hc4⟩ := hc3.one (Run.step_fileSlash_slash hc3 rfl) rfl hc.eof
  obtain ⟨t5, hc5⟩ := Run.scan_fileHost h _ hc4 rfl (fun b hb => by
    obtain ⟨_, g1, g2, g3, g4, g5, _⟩ := hostB_spec b true (hB b hb)
    exact ⟨authB_ascii true b g5, g1, g4 rfl, g2, g3⟩)
  rw [List.nil_append] at t5 hc5
  obtain ⟨tl, htl⟩ : ∃ tl, asStr (pathText segs) ++ asStr (qTail q ++ fTail f) = '/' :: tl := by
    cases segs with
    | nil => exact absurd rfl hne
    | cons a b => exact ⟨_, by simp only [pathText, List.flatMap_cons, asStr_cons, List.cons_append]; rfl⟩
  have hc5' := hc5.cast htl
  by_cases hh0 : h = []
  · subst hh0
    obtain ⟨t6, hc6⟩ := hc5'.stay (Run.step_fileHost_empty hc5' rfl rfl rfl) rfl hc.eof
    have hrun := run_pathStart I src rs true segs q f hq hf hsegs (fun _ => hne) _ _ (hc6.cast htl.symm) rfl isSpecial_file rfl hp
      (hdrv _)
    exact ⟨_, .refl _, (((((t2.trans t3).trans t4).trans t5).trans t6)).runs hrun⟩
  · have e1 : (!isSp (mkE I src rs) { ps.url with scheme := lit "file", host := some [] }) = false := by
      simp [isSp, isSpecial_file]
    have hs6 := Run.step_fileHost_end (e := mkE I src rs) (h' := h) hc5' rfl rfl hh0 hwdl (by rw [e1]; exact hstable _) hloc
    rw [e1] at hs6
    obtain ⟨t6, hc6⟩ := hc5'.stay hs6 rfl hc.eof
    have hrun := run_pathStart I src rs true segs q f hq hf hsegs (fun _ => hne) _ _ (hc6.cast htl.symm) rfl
      (by simp only [mkE_cfg, Machine.parseHost_scheme]; exact isSpecial_file) rfl
      (by simp only [mkE_cfg, Machine.parseHost_path]; exact hp) (hdrv _)
    exact ⟨(parseHost {} I { ps.url with scheme := lit "file", host := some [] } h false).url,
      HostWF.parseHost_frame _ _ _ _ _, (((((t2.trans t3).trans t4).trans t5).trans t6)).runs hrun⟩

theorem roundtrip_file (I : Idna) (u : Url) (hwf : WFs {} u) (hc : RTc u) (hstab : HostStable I u) (hfile : u.scheme = lit "file") :
    ∃ u', parse {} I (href u false) = ⟨u', .url⟩ ∧ Same u' u := by
  obtain ⟨huser, hpass, hport⟩ := bare_of_WFs hwf (Or.inr (Or.inr hfile))
  obtain ⟨hq, hf⟩ := qf_of_RTc hc
  obtain ⟨hs, h2, h3, h4, h5, h6⟩ := hwf
  obtain ⟨c1, c2, c3, c4, c5, c6, c7, c8⟩ := hc
  have hsp : Cfg.isSpecial {} u.scheme = true := by rw [hfile]; exact isSpecial_file
  rw [hsp] at hq
  obtain ⟨_, _, ho, hsne⟩ := h2 hsp
  have hdp := c1 hport
  cases hhost : u.host with
  | none => exact absurd hhost (h6 hfile)
  | some h =>
    obtain ⟨l1, l2, l3⟩ := c5 ho
    obtain ⟨hB, hscan, hfh⟩ := c8 h (by simp [hhost])
    obtain ⟨hloc, hwdl⟩ := hfh hfile
    rw [hsp] at l1 hB
    have hstable : ∀ v : Url, (parseHost {} I v h false).out = .ok h := fun v => by
      have := parseHost_ok_indep I v {} h _ h (hstab h (by simp [hhost]))
      rwa [hsp] at this
    have hhref : href u false = u.scheme ++ 0x3a :: 0x2f :: 0x2f :: (h ++ (pathText u.path.segs ++ (qTail u.query ++ fTail u.fragment))) := by
      rw [href_host u h hhost ho, huser, hpass, hport]
      simp [credText, Web.portText]
    have hhg : Graphic h := fun b hb => (hostB_spec b true (hB b hb)).2.2.2.2.2.2
    have hdrv : ∀ (U : Url), ∀ s ∈ u.path.segs.head?, DriveOk U s := by
      intro U s hs hcond
      simp only [Bool.and_eq_true] at hcond
      exact l3 hfile s hs hcond.2
    refine roundtrip_of_run_graphic I u hs _ hhref
      (Graphic.cons (by decide) (Graphic.cons (by decide)
        (hhg.append ((path_graphic _ _ l1).append ((qTail_graphic _ _ hq).append (fTail_graphic _ hf))))))
      (fun src rs p0 hc1 => ?_)
    have hc1 := hc1.cast (show _ = ':' :: '/' :: '/' ::
        (asStr h ++ (asStr (pathText u.path.segs) ++ asStr (qTail u.query ++ fTail u.fragment))) by simp [asStr]; rfl)
    obtain ⟨U, hU, hrun⟩ := run_file I _ _ h u.path.segs u.query u.fragment hq hf l1 hsne hB hstable hloc hwdl hdrv _ _ hc1 rfl
      hfile rfl
    obtain ⟨a1, a2, a3, _, a5, a6, _, a8, a9⟩ := hU
    refine ⟨_, hrun, ?_⟩
    apply Same_setQF
    · exact a1.trans hfile.symm
    · exact a2.trans huser.symm
    · exact a3.trans hpass.symm
    · exact hhost.symm
    · exact a5.trans hport.symm
    · exact a6.trans hdp.symm
    · show (⟨u.path.segs, false⟩ : Path) = u.path
      rw [← ho]
    · exact fun _ => a8
    · exact fun _ => a9

theorem roundtrip_record (I : Idna) (u : Url) (hwf : WFs {} u) (hc : RTc u) (hh : HostStable I u) :
    ∃ u', parse {} I (href u false) = ⟨u', .url⟩ ∧ Same u' u := by
  by_cases ho : u.path.opq = true
  · exact roundtrip_opaque I u hwf hc ho
  · have ho' : u.path.opq = false := by simpa using ho
    cases hhost : u.host with
    | none => exact roundtrip_nohost I u hwf hc hhost ho'
    | some h =>
      by_cases hfile : u.scheme = lit "file"
      · exact roundtrip_file I u hwf hc hh hfile
      · exact roundtrip_authority I u hwf hc hh h hhost hfile

end WhatwgUrl.Proofs.RoundTrip
