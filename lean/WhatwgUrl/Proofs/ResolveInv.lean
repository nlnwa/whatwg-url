import WhatwgUrl.Proofs.RunScan
import WhatwgUrl.Proofs.Lifting
/-
  Helper lemmas for C06b: once the machine is past the no-scheme state, the scheme of the url under construction is
  the scheme of the base and stays so (the state-indexed invariant `SInv`).
  Any configuration; the only hypotheses are that there is a base and no state override.
-/
namespace WhatwgUrl.Proofs.Resolve
open WhatwgUrl WhatwgUrl.Impl WhatwgUrl.Proofs.Machine

/-- the invariant from the no-scheme state on: the relative state assigns the base scheme first thing; the file state (entered
    from the no-scheme state only for a file base) assigns "file"; the states that are only reachable from the scheme state
    do not occur; everywhere else the scheme is already that of the base -/
def SInv (b : Url) (ps : PS) : Prop :=
  match ps.state with
  | .noScheme | .relative => True
  | .file => b.scheme = lit "file"
  | .schemeStart | .scheme | .specialRelativeOrAuthority | .specialAuthoritySlashes | .pathOrAuthority => False
  | .relativeSlash | .specialAuthorityIgnoreSlashes | .authority | .host | .hostname | .port | .fileSlash | .fileHost
  | .pathStart | .path | .opaquePath | .query | .fragment => ps.url.scheme = b.scheme

/-- returning outcome: a returned url has the scheme of the base -/
def DS (b : Url) (x : Res) : Prop := x.ret = .url → x.url.scheme = b.scheme

/-- the states in which the scheme is that of the base: the machine does not leave them and they do not write the scheme -/
def fixedSt : State → Bool
  | .relativeSlash | .specialAuthorityIgnoreSlashes | .authority | .host | .hostname | .port | .fileSlash | .fileHost
  | .pathStart | .path | .opaquePath | .query | .fragment => true
  | _ => false

theorem keeps_scheme : Keeps false fixedSt .scheme := fun s => by cases s <;> decide

theorem SInv_fixed {b : Url} {ps : PS} (h : fixedSt ps.state = true) : SInv b ps ↔ ps.url.scheme = b.scheme := by
  unfold SInv
  split <;> simp_all [fixedSt]

/-- every state function keeps the invariant (there is a base, no state override): the no-scheme, relative and file states
    assign the scheme; the others are in `fixedSt` -/
theorem body_si (e : Env) (b : Url) (q : PS) (r : Char) (hb : e.base = some b) (hov : e.ov = none) (hK : SInv b q) :
    Sh (Owes (SInv b) (DS b)) (DS b) (body e q r) := by
  by_cases hf : fixedSt q.state = true
  · refine (body_keeps keeps_scheme e (by rw [hov]; rfl) b q r nofun ⟨hf, (SInv_fixed hf).1 hK⟩).mono (fun ps' h' => ?_)
      (fun _ h' _ => h')
    exact (Owes_iff _).2 ⟨fun _ _ => h'.2, fun _ => (SInv_fixed h'.1).2 h'.2⟩
  · unfold body
    split <;> rename_i hst <;> simp [SInv, hst, fixedSt] at hK hf
    all_goals
      simp [stNoScheme, stFile, stRelative, Sh_ite, Sh_herr, Sh_cont, Owes, SInv, DS, rewindLast, record_eq, stops, *]

theorem runs_si {e : Env} (b : Url) (hb : e.base = some b) (hov : e.ov = none) {ps : PS} {x : Res} (h : Runs e ps x) :
    SInv b ps → DS b x :=
  h.inv fun ps hK => (Sh_step _ ps).2 (body_si _ b _ _ hb hov (by simpa [SInv, next_fst] using hK))

end WhatwgUrl.Proofs.Resolve
