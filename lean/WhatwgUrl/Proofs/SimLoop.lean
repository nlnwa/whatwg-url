import WhatwgUrl.Proofs.Run
import WhatwgUrl.Proofs.SimDefs
/-
  Conformance simulation: lifting the one-iteration simulation to the loops.

  Everything is stated for an arbitrary relation `RR` between final results and an arbitrary extra invariant `X`
  carried along the continuing steps, so that the same lifting serves the relation `RRes` of `SimDefs.lean` and the
  relation `RRes'` / invariant `XInv` of `SimDefs2.lean` (`RRes` has no case for `.nilNil` and says nothing
  about the urls on failure; `RPS` does not exclude some unreachable states in which the machines disagree).
-/
namespace WhatwgUrl.Proofs.Sim
open WhatwgUrl WhatwgUrl.Impl

/-- `RStep` with two parameters: the relation `RR` between final results, and an extra invariant `X` that continuing
    steps carry along -/
def RStepG (X : PS → Spec.PS → Prop) (RR : Res → Spec.SUrl × Bool → Prop) (a : StepR) (b : SStep) : Prop :=
  match a, b with
  | .cont pi, .cont ss => RPS pi ss ∧ X pi ss
  | .done r, .stop s => RR r s
  | _, _ => False

/-- `RStepG X RR` is the least relation that holds of two continuations related by `RPS` and `X` and of two results related
    by `RR` -/
theorem RStepG.imp {X : PS → Spec.PS → Prop} {RR : Res → Spec.SUrl × Bool → Prop} {T : StepR → SStep → Prop} {a : StepR}
    {b : SStep} (h : RStepG X RR a b) (hc : ∀ p s, RPS p s → X p s → T (.cont p) (.cont s))
    (hd : ∀ r s, RR r s → T (.done r) (.stop s)) : T a b := by
  cases a <;> cases b <;> first | exact hc _ _ h.1 h.2 | exact hd _ _ h | exact False.elim h

def StepSimG (X : Env → PS → Spec.PS → Prop) (RR : Res → Spec.SUrl × Bool → Prop) (I : Idna) (ov : Option Spec.St) : Prop :=
  ∀ (e : Env) (input : Str) (base : Option Spec.SUrl), REnv e input base ov I →
    ∀ (pi : PS) (ss : Spec.PS), RPS pi ss → X e pi ss →
      RStepG (X e) RR (step e pi) (afterRun input (Spec.run (specIdna I) input base ov ss))

/-- `Spec.machine` inlines `afterRun` -/
theorem machine_succ (I : Spec.SIdna) (input : Str) (base : Option Spec.SUrl) (ov : Option Spec.St) (f : Nat) (ss : Spec.PS) :
    Spec.machine I input base ov (f + 1) ss =
      match afterRun input (Spec.run I input base ov ss) with
      | .stop r => r
      | .cont ss' => Spec.machine I input base ov f ss' := by
  rw [Spec.machine]
  cases Spec.run I input base ov ss with
  | ret u => rfl
  | failure u => rfl
  | cont ps' =>
    simp only [afterRun]
    split <;> rfl

/-- Loop lifting. If the Go loop finishes within `f` iterations, the standard's machine finishes within the same number
    of iterations (every iteration of one is exactly one iteration of the other): with any fuel `g ≥ f` it returns one and
    the same result `s`, and the results correspond. -/
theorem loop_sim_ex (X : Env → PS → Spec.PS → Prop) (RR : Res → Spec.SUrl × Bool → Prop) (I : Idna)
    (ov : Option Spec.St) (hS : StepSimG X RR I ov)
    (e : Env) (input : Str) (base : Option Spec.SUrl) (hE : REnv e input base ov I) :
    ∀ (f : Nat) (pi : PS) (ss : Spec.PS), RPS pi ss → X e pi ss → (loop e f pi).ret ≠ .outOfFuel →
      ∃ s, RR (loop e f pi) s ∧ ∀ g, f ≤ g → Spec.machine (specIdna I) input base ov g ss = s := by
  intro f
  induction f with
  | zero => intro pi ss _ _ h; exact absurd rfl h
  | succ f ih =>
    intro pi ss hp hx hf
    have hs := hS e input base hE pi ss hp hx
    have hm : ∀ g, f + 1 ≤ g → Spec.machine (specIdna I) input base ov g ss =
        match afterRun input (Spec.run (specIdna I) input base ov ss) with
        | .stop r => r
        | .cont ss' => Spec.machine (specIdna I) input base ov (g - 1) ss' := by
      intro g hg
      obtain ⟨g, rfl⟩ : ∃ g', g = g' + 1 := ⟨g - 1, by omega⟩
      exact machine_succ ..
    rw [Machine.loop_succ] at hf ⊢
    cases hgo : step e pi with
    | cont pi' =>
      rw [hgo] at hs hf
      cases hsp : afterRun input (Spec.run (specIdna I) input base ov ss) with
      | cont ss' =>
        rw [hsp] at hs hm
        obtain ⟨s, h1, h2⟩ := ih pi' ss' hs.1 hs.2 hf
        exact ⟨s, h1, fun g hg => (hm g hg).trans (h2 _ (by omega))⟩
      | stop s => rw [hsp] at hs; exact hs.elim
    | done r =>
      rw [hgo] at hs
      cases hsp : afterRun input (Spec.run (specIdna I) input base ov ss) with
      | cont ss' => rw [hsp] at hs; exact hs.elim
      | stop s => rw [hsp] at hs hm; exact ⟨s, hs, hm⟩

theorem loop_sim_gen (X : Env → PS → Spec.PS → Prop) (RR : Res → Spec.SUrl × Bool → Prop) (I : Idna)
    (ov : Option Spec.St) (hS : StepSimG X RR I ov)
    (e : Env) (input : Str) (base : Option Spec.SUrl) (hE : REnv e input base ov I) :
    ∀ (f g : Nat) (pi : PS) (ss : Spec.PS), RPS pi ss → X e pi ss → (loop e f pi).ret ≠ .outOfFuel → f ≤ g →
      RR (loop e f pi) (Spec.machine (specIdna I) input base ov g ss) := by
  intro f g pi ss hp hx hf hg
  obtain ⟨s, h1, h2⟩ := loop_sim_ex X RR I ov hS e input base hE f pi ss hp hx hf
  rw [h2 g hg]; exact h1

theorem RUrl_empty : RUrl {} {} :=
  ⟨rfl, rfl, rfl, rfl, rfl, ⟨rfl, rfl⟩, rfl, rfl⟩

/-- the initial state of `basicParser` (without a state override, or with one that is not query / fragment / opaque
    path) corresponds to the initial state of `Spec.basicParse`. `Spelling.ps0 st u` (`Run.lean`) is the state the loop
    starts in; `ps0Of url ov` of `SimParse.lean` unfolds to it. -/
theorem RPS_init (st : State) (ui : Url) (us : Spec.SUrl) (hu : RUrl ui us)
    (h1 : st ≠ .query) (h2 : st ≠ .fragment) (h3 : st ≠ .opaquePath) :
    RPS (Spelling.ps0 st ui) { state := stateMap st, url := us } := by
  refine ⟨rfl, rfl, rfl, rfl, rfl, rfl, ?_, ?_, ?_, ?_, ?_⟩
  · cases st <;> first | rfl | exact absurd rfl h1 | exact absurd rfl h2 | exact absurd rfl h3
  · cases st <;> first | exact hu | exact absurd rfl h1 | exact absurd rfl h2
  · intro h; exact absurd h h2
  · intro h; exact absurd h h3
  · intro h; exact absurd h h1

/-! ### off the chain to `SimFinal.lean`

The fuel-independence by itself, and the lifting for the first form of the one-iteration statement (`StepSim`,
`StepSimFor`: relation `RRes`, no invariant — a hypothesis nobody can supply, since `RPS` alone is not preserved: the
counterexamples at the end of `SimA.lean` and `SimB.lean`). `SimParse.lean` calls `loop_sim_gen` only, with `g = f`. -/

/-- the standard's machine with more fuel than a Go run that ends gives the same result (`loop_sim_ex` has it built in) -/
theorem machine_fuel_irrel (X : Env → PS → Spec.PS → Prop) (RR : Res → Spec.SUrl × Bool → Prop) (I : Idna)
    (ov : Option Spec.St) (hS : StepSimG X RR I ov)
    (e : Env) (input : Str) (base : Option Spec.SUrl) (hE : REnv e input base ov I) :
    ∀ (f g : Nat) (pi : PS) (ss : Spec.PS), RPS pi ss → X e pi ss → (loop e f pi).ret ≠ .outOfFuel → f ≤ g →
      Spec.machine (specIdna I) input base ov g ss = Spec.machine (specIdna I) input base ov f ss := by
  intro f g pi ss hp hx hf hg
  obtain ⟨s, _, h2⟩ := loop_sim_ex X RR I ov hS e input base hE f pi ss hp hx hf
  rw [h2 g hg, h2 f (Nat.le_refl f)]

/-- the one-iteration simulation for every state under the one state override `ov` -/
def StepSimFor (I : Idna) (ov : Option Spec.St) : Prop :=
  ∀ (e : Env) (input : Str) (base : Option Spec.SUrl), REnv e input base ov I →
    ∀ (pi : PS) (ss : Spec.PS), RPS pi ss → RStep (step e pi) (afterRun input (Spec.run (specIdna I) input base ov ss))

/-- the one-iteration simulation for every state and every state override -/
def StepSim (I : Idna) : Prop :=
  ∀ (e : Env) (input : Str) (base : Option Spec.SUrl) (ov : Option Spec.St), REnv e input base ov I →
    ∀ (pi : PS) (ss : Spec.PS), RPS pi ss → RStep (step e pi) (afterRun input (Spec.run (specIdna I) input base ov ss))

/-- no extra invariant (the environment is an argument because `StepSimG` takes `X e`) -/
def XTrue : Env → PS → Spec.PS → Prop := fun _ _ _ => True

theorem RStepG_of_RStep (e : Env) (a : StepR) (b : SStep) : RStep a b → RStepG (XTrue e) RRes a b := by
  cases a <;> cases b <;> first | exact id | exact fun h => ⟨h, trivial⟩

theorem StepSim.for {I : Idna} (h : StepSim I) (ov : Option Spec.St) : StepSimFor I ov :=
  fun e input base hE => h e input base ov hE

theorem StepSimFor.toG {I : Idna} {ov : Option Spec.St} (h : StepSimFor I ov) : StepSimG XTrue RRes I ov :=
  fun e input base hE pi ss hp _ => RStepG_of_RStep e _ _ (h e input base hE pi ss hp)

theorem loop_sim_for (I : Idna) (ov : Option Spec.St) (hS : StepSimFor I ov) (e : Env) (input : Str)
    (base : Option Spec.SUrl) (hE : REnv e input base ov I) :
    ∀ (f g : Nat) (pi : PS) (ss : Spec.PS), RPS pi ss → (loop e f pi).ret ≠ .outOfFuel → f ≤ g →
      RRes (loop e f pi) (Spec.machine (specIdna I) input base ov g ss) :=
  fun f g pi ss hp => loop_sim_gen XTrue RRes I ov hS.toG e input base hE f g pi ss hp trivial

/-- Loop lifting for the relation of `SimDefs.lean` ("fuel `g` suffices on the Spec side" is `f ≤ g`). -/
theorem loop_sim (I : Idna) (hS : StepSim I) (e : Env) (input : Str) (base : Option Spec.SUrl) (ov : Option Spec.St)
    (hE : REnv e input base ov I) :
    ∀ (f g : Nat) (pi : PS) (ss : Spec.PS), RPS pi ss → (loop e f pi).ret ≠ .outOfFuel → f ≤ g →
      RRes (loop e f pi) (Spec.machine (specIdna I) input base ov g ss) :=
  loop_sim_for I ov (hS.for ov) e input base hE

end WhatwgUrl.Proofs.Sim
