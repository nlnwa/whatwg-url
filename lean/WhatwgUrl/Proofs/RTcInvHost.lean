import WhatwgUrl.Proofs.RoundTripC2
import WhatwgUrl.Proofs.Domain
import WhatwgUrl.Proofs.Frame
import WhatwgUrl.Proofs.SimDefs
import WhatwgUrl.Props.C07
/-
  C03c: `HostStable` (the host text is a fixed point of the host parser) for the domain hosts on which
  the IDNA oracle is consulted only through law L1 ("pure ASCII without `xn--` label ↦ ASCII lower-casing"):
  pure ASCII, lower case, no forbidden domain code point, no ACE label, and — if the text ends in a number — a fixed point
  of the IPv4 parser.  In particular the serialization of every IPv4 address.
-/
namespace WhatwgUrl.Proofs.RTcInv
open WhatwgUrl WhatwgUrl.Impl WhatwgUrl.Proofs.IPv4 WhatwgUrl.Proofs.Domain WhatwgUrl.Proofs.RoundTrip

/-- a domain host in stored form whose re-parse needs only law L1 of the oracle (decidable).  Clause 4 is stated in the
    default configuration on the blank url so that it can be decided; neither routine's outcome depends on the url
    (`Domain.endsInANumber_url`, `HostTr.parseIPv4_tr`) -/
def AsciiDomain (h : Bytes) : Prop :=
  (∀ b ∈ h, b.toNat < 0x80 ∧ forbiddenDomain b.toNat = false) ∧ asciiLower h = h ∧
  (∀ l ∈ splitOn 0x2e h, ¬ (lit "xn--").isPrefixOf l = true) ∧
  (endsInANumber {} {} h = true → (parseIPv4 {} {} h).out = .ok h)

instance (h : Bytes) : Decidable (AsciiDomain h) := by unfold AsciiDomain; infer_instance

theorem L1_of_laws (I : Idna) (hI : WhatwgUrl.Proofs.Sim.IdnaLaws I) : L1 I :=
  fun s hs => hI.ascii_lower s hs.1 (asciiOrMisc_pure s hs)

theorem forbidden_pct : forbiddenDomain (0x25 : UInt8).toNat = true ∧ forbiddenDomain (0x5b : UInt8).toNat = true := by decide

/-- a text without forbidden domain code point has no escape and is not bracketed -/
theorem no_pct_no_bracket {h : Bytes} (hnf : ∀ b ∈ h, forbiddenDomain b.toNat = false) :
    (0x25 : UInt8) ∉ h ∧ h.head? ≠ some 0x5b := by
  constructor
  · intro hm
    have := hnf _ hm
    rw [forbidden_pct.1] at this; cases this
  · intro e
    have := hnf _ (List.mem_of_mem_head? e)
    rw [forbidden_pct.2] at this; cases this

theorem parseHost_asciiDomain (I : Idna) (hL : L1 I) (h : Bytes) (hd : AsciiDomain h) :
    (parseHost {} I {} h false).out = .ok h := by
  by_cases hne : h = []
  · subst hne; rfl
  obtain ⟨hpct, hb⟩ := no_pct_no_bracket fun b hb => (hd.1 b hb).2
  have hdec : decodePercent {} h = h := decodePercent_no_pct {} h hpct
  have hasc : Ascii h := fun x hx => (hd.1 x hx).1
  have hpa : PureAsciiNoAce (decodePercent {} h) := by
    rw [hdec]
    exact ⟨hasc, by rw [hd.2.1]; exact hd.2.2.1⟩
  rw [Domain.parseHost_ascii_out {} rfl rfl rfl I hL {} h hne hb hpa, hdec, hd.2.1,
    finishDomain_ascii {} rfl {} h hasc fun b hb => (hd.1 b hb).2]
  split
  · rename_i he; exact hd.2.2.2 he
  · rfl

theorem HostStable_asciiDomain (I : Idna) (hL : L1 I) (u : Url) (hsp : Cfg.isSpecial {} u.scheme = true)
    (hd : ∀ h ∈ u.host, AsciiDomain h) : HostStable I u := by
  intro h hh
  rw [hsp]
  exact parseHost_asciiDomain I hL h (hd h hh)

theorem itoa_no_ace : ∀ k : Fin 256, ¬ (lit "xn--").isPrefixOf (itoa k.val) = true := by decide +kernel

theorem asStr_ipv4String (n : Nat) : asStr (ipv4String n) = Spec.serializeIPv4 n := by
  rw [← goRunes_ascii _ (ipv4String_host n).1, WhatwgUrl.Props.C07.C07_serialize, WhatwgUrl.Proofs.Utf8.goRunes_utf8]

/-- the Go IPv4 parser on the serialization of an address -/
theorem parseIPv4_ipv4String (cfg : Cfg) (hf : cfg.failOnVErr = false) (u : Url) (n : Nat) (hn : n < 2 ^ 32) :
    (parseIPv4 cfg u (ipv4String n)).out = .ok (ipv4String n) :=
  WhatwgUrl.Props.C07.parseIPv4_of_spec cfg u _ n hf
    (by rw [asStr_ipv4String]; exact (WhatwgUrl.Props.C07.C07_fixed_point n hn).2)

theorem asciiDomain_ipv4 (n : Nat) (hn : n < 2 ^ 32) : AsciiDomain (ipv4String n) := by
  obtain ⟨h1, h2, h3⟩ := ipv4String_host n
  refine ⟨fun b hb => ⟨h1 b hb, h3 b hb⟩, h2, ?_, ?_⟩
  · rw [WhatwgUrl.Proofs.Frame.ipv4String_split]
    intro l hl
    simp only [List.mem_cons, List.not_mem_nil, or_false] at hl
    rcases hl with rfl | rfl | rfl | rfl <;> exact itoa_no_ace ⟨_, Nat.mod_lt _ (by decide)⟩
  · exact fun _ => parseIPv4_ipv4String {} rfl {} n hn

example : AsciiDomain (lit "example.com") ∧ AsciiDomain (lit "127.0.0.1") ∧ AsciiDomain (lit "a.b-c.d9x") := by decide +kernel
example : ¬ AsciiDomain (lit "Example.com") ∧ ¬ AsciiDomain (lit "xn--bcher-kva.de") ∧ ¬ AsciiDomain (lit "0x7f.1") ∧
    ¬ AsciiDomain (lit "a%41") := by decide +kernel

end WhatwgUrl.Proofs.RTcInv
