import WhatwgUrl.Proofs.IdemPipeline
/-
  C17c / C17f: the canonical text of `scheme://host[:port]/seg…?q#f` in closed form (`canonText_web`) and its idempotence
  (`canonText_web_fixed`), relative to WHAT THE TEXT PARSES TO (the record `Web.webResU`) and, for hooks that read the record
  only through scheme, credentials, host and port (`HooksOk`), to what the host parser makes of the host when step 1 of the
  pipeline hands it a record with this scheme, host and port (`portRec`).  The port-less statements of `Props/C17c.lean` (the
  parse from `HalfB`) and the statements with a port of `Props/C17f.lean` (the parse from `WebParseCfg`, hooks that ignore the
  record) are the instances.  With it: the port the parser keeps (`portKept`).
-/
namespace WhatwgUrl.Props.C17f
open WhatwgUrl WhatwgUrl.Impl

/-- the port the parser stores for the port text `po` when the default port of the scheme is `dp`: none for no port, the
    empty port and the default port; the canonical decimal otherwise -/
def portKept (dp : Bytes) : Option Bytes → Option Bytes
  | none => none
  | some p => if p = [] ∨ itoa (digitsVal 10 p) = dp then none else some (itoa (digitsVal 10 p))

end WhatwgUrl.Props.C17f

namespace WhatwgUrl.Proofs.Idem
open WhatwgUrl WhatwgUrl.Impl WhatwgUrl.Proofs.Pipeline
open WhatwgUrl.Props.C17b (canonText)
open WhatwgUrl.Props.C17f (portKept)
open WhatwgUrl.Props.C18d (render WebText canonOut)
open WhatwgUrl.Proofs.Spelling (hostText)
open WhatwgUrl.Proofs.Web (portText portU PortOk WebParseCfg)

/-- the decoded port the parser stores beside `portKept dp po` -/
def portNum (dp : Bytes) (po : Option Bytes) : Nat := ((portKept dp po).map (digitsVal 10)).getD 0

theorem portU_port (cfg : Cfg) (V : Url) (dp : Bytes) (hsd : cfg.special? V.scheme = some dp) (hVp : V.port = none)
    (po : Option Bytes) :
    (portU cfg V po).port = portKept dp po ∧ (V.decodedPort = 0 → (portU cfg V po).decodedPort = portNum dp po) := by
  cases po with
  | none => exact ⟨hVp, fun h => h⟩
  | some p =>
    by_cases hp : p = []
    · rw [Web.portU_empty cfg V p hp]
      simp [portKept, portNum, hp, hVp]
    · rw [Web.portU_digits cfg V p hp]
      unfold cleanDefaultPort
      simp only [hsd]
      by_cases he : itoa (digitsVal 10 p) = dp
      · simp [portKept, portNum, hp, he]
      · simp [portKept, portNum, hp, he, RoundTrip.digitsVal_itoa]

theorem portOk_kept (dp : Bytes) (po : Option Bytes) (hpo : PortOk po) : PortOk (portKept dp po) := by
  intro p hp
  cases po with
  | none => cases hp
  | some p0 =>
    simp only [portKept] at hp
    split at hp
    · cases hp
    · cases hp
      refine ⟨RoundTrip.itoa_digits _, ?_⟩
      rw [RoundTrip.digitsVal_itoa]
      exact (hpo p0 rfl).2

theorem portKept_idem (dp : Bytes) (po : Option Bytes) : portKept dp (portKept dp po) = portKept dp po := by
  cases po with
  | none => rfl
  | some p0 =>
    by_cases h : p0 = [] ∨ itoa (digitsVal 10 p0) = dp
    · simp only [portKept, if_pos h]
    · have h2 : ¬ (itoa (digitsVal 10 p0) = [] ∨ itoa (digitsVal 10 p0) = dp) :=
        fun hh => hh.elim (RoundTrip.itoa_ne _) fun e => h (Or.inr e)
      simp only [portKept, if_neg h, RoundTrip.digitsVal_itoa, if_neg h2]

/-- the record of the successful parse, from any record `U` handed to the host parser -/
theorem webResU_ok (cfg : Cfg) (I : Idna) (U : Url) (dp a h : Bytes) (hsd : cfg.special? U.scheme = some dp)
    (e5 : U.port = none) (e8 : U.query = none) (e9 : U.fragment = none) (po : Option Bytes)
    (segs : List Bytes) (q f : Option Bytes) (hout : (parseHost cfg I U a false).out = .ok h) :
    ∃ u d, Web.webResU cfg I U a po segs q f = ⟨u, .url⟩ ∧
      WebRecX u U.scheme U.username U.password h (portKept dp po) d segs q f := by
  obtain ⟨a1, a2, a3, a4, a5, a6, a7, a8, a9⟩ := HostWF.parseHost_frame cfg I U a false
  obtain ⟨b1, b2, b3, b4, b5, b6, b7⟩ :=
    Web.portU_frame cfg { (parseHost cfg I U a false).url with host := some h } po
  unfold Web.webResU
  simp only [hout]
  rw [Web.setF_setQ]
  · exact ⟨_, _, rfl, b1.trans a1, b2.trans a2, b3.trans a3, b4,
      (portU_port cfg { (parseHost cfg I U a false).url with host := some h } dp (a1 ▸ hsd) (a5.trans e5) po).1, rfl, rfl, rfl, rfl⟩
  · exact b6.trans (a8.trans e8)
  · exact b7.trans (a9.trans e9)

theorem parse_render_port (cfg : Cfg) (hW : WebParseCfg cfg) (I : Idna) (s dp a : Bytes) (hsd : cfg.special? s = some dp)
    (hdp : dp ≠ []) (ha : hostText a = true) (po : Option Bytes) (hpo : PortOk po)
    (segs : List Bytes) (q : Option Pairs) (f : Option Bytes) (hw : WebText segs q f) :
    parse cfg I (render (s ++ lit "://" ++ a ++ portText po) segs q f) =
      Web.webResU cfg I (hostU s) a po segs (q.map qText) f :=
  Web.parse_web_port_c cfg hW I s dp a hsd hdp ha po hpo segs (Web.wt_segC hw) hw.hne
    (fun x hx => Web.wt_nonempty hw x (List.dropLast_subset segs hx)) (q.map qText) f (Web.wt_qOkC hw) (Web.wt_fOkC hw)

theorem webResU_dport (cfg : Cfg) (I : Idna) (U : Url) (dp a h : Bytes) (hsd : cfg.special? U.scheme = some dp)
    (e5 : U.port = none) (e6 : U.decodedPort = 0) (po : Option Bytes) (segs : List Bytes) (q f : Option Bytes)
    (hout : (parseHost cfg I U a false).out = .ok h) :
    (Web.webResU cfg I U a po segs q f).url.decodedPort = portNum dp po := by
  obtain ⟨a1, -, -, -, a5, a6, -⟩ := HostWF.parseHost_frame cfg I U a false
  have e : ∀ (v : Url) (q f : Option Bytes), (RoundTrip.setF (RoundTrip.setQ v q) f).decodedPort = v.decodedPort :=
    fun v q f => by cases q <;> cases f <;> rfl
  unfold Web.webResU
  simp only [hout]
  rw [e]
  exact (portU_port cfg { (parseHost cfg I U a false).url with host := some h } dp (a1 ▸ hsd) (a5.trans e5) po).2 (a6.trans e6)

/-- the record of `scheme://host[:port]…` as far as the host hooks may read it (`HooksOk`): scheme, no credentials, host, the
    port the parser keeps; without a port it is `hostRec s (some h)` -/
def portRec (s h dp : Bytes) (po : Option Bytes) : Url :=
  { scheme := s, host := some h, port := portKept dp po, decodedPort := portNum dp po }

/-- **the closed form of the canonical text**: the host text parses to `h`, step 1 of the pipeline maps `h` to `hc' ≠ ""`.
    The canonical text is the plain url with host `hc'`; the port is removed, or kept in canonical decimal form unless empty
    or the default port -/
theorem canonText_web (I : Idna) (p : Profile) (hp : p.repeatedPercentDecoding = true) (hk : HooksOk p.cfg) (hc : CfgWeb p.cfg)
    (H : Heap) (s dp a h hc' : Bytes) (hsd : p.cfg.special? s = some dp) (hdp : dp ≠ []) (po : Option Bytes)
    (segs psegs : List Bytes) (q pq : Option Pairs) (f pf : Option Bytes)
    (hparse : parse p.cfg I (render (s ++ lit "://" ++ a ++ portText po) segs q f) =
      Web.webResU p.cfg I (hostU s) a po segs (q.map qText) f)
    (hsp : Spells psegs pq pf segs q f) (hout : (parseHost p.cfg I (hostU s) a false).out = .ok h)
    (hv : hostText (decodeEncode hostSet h) = true)
    (hout' : (parseHost p.cfg I (portRec s h dp po) (decodeEncode hostSet h) false).out = .ok hc') (hcne : hc' ≠ []) :
    canonText (canonParse I p H (render (s ++ lit "://" ++ a ++ portText po) segs q f)) =
      some (render (s ++ lit "://" ++ hc' ++ portText (if p.removePort = true then none else portKept dp po))
        psegs (pq.map (sortOf p)) (if p.removeFragment = true then none else pf)) := by
  obtain ⟨u, d, hu, (w : WebRecX u s [] [] h (portKept dp po) d segs (q.map qText) f)⟩ :=
    webResU_ok p.cfg I (hostU s) dp a h hsd rfl rfl rfl po segs (q.map qText) f hout
  have hd := webResU_dport p.cfg I (hostU s) dp a h hsd rfl rfl po segs (q.map qText) f hout
  rw [hu] at hd
  -- the parsed record agrees with `portRec` in all that the hooks may read
  have hag : Ag false false false (portRec s h dp po) u :=
    ⟨w.scheme.symm, w.username.symm, w.password.symm, w.host.symm, w.port.symm, hd.symm, Bool.noConfusion, Bool.noConfusion,
      Bool.noConfusion⟩
  rw [canonText_of_parse I p H _ (by rw [hparse, hu]; exact fun _ _ h => nomatch h), hparse, hu,
    canonOut_closed I p hp hc u ⟨dp, hsd, hdp⟩ w hsp hv (hostOk_of_hooks p.cfg I hk _ _ _ _ _ hag hout') hcne]
  have e : credText (if p.removeUserInfo = true then [] else []) (if p.removeUserInfo = true then [] else []) = [] := by
    split <;> rfl
  rw [e, List.append_nil]

/-- when the host parser rejects the host text there is no canonical text -/
theorem canonText_web_none (I : Idna) (p : Profile) (H : Heap) (s a : Bytes) (po : Option Bytes)
    (segs : List Bytes) (q : Option Pairs) (f : Option Bytes)
    (hparse : parse p.cfg I (render (s ++ lit "://" ++ a ++ portText po) segs q f) =
      Web.webResU p.cfg I (hostU s) a po segs (q.map qText) f)
    (hno : ∀ h, (parseHost p.cfg I (hostU s) a false).out ≠ .ok h) :
    canonText (canonParse I p H (render (s ++ lit "://" ++ a ++ portText po) segs q f)) = none := by
  obtain ⟨_, f1, f2⟩ := Web.webResU_fail p.cfg I (hostU s) a po segs (q.map qText) f hno
  rw [canonText_of_parse I p H _ (hparse ▸ f2), hparse]
  unfold canonOut
  rw [if_neg f1]

/-- **idempotence**: the canonical text `t` of `scheme://host[:port]/…` is its own canonical text (any two heaps).  `hB`: what
    the parser makes of a text with the port of the input and of one with the port of the canonical text.  `hst`, host
    stability: if the host text parses (to `h`), step 1 of the pipeline writes a host `hc'` which is a host text, parses (to
    some `h'`), and which step 1 writes again for `h'`.  The canonical text spells itself (`Spells.canonical`), so the closed
    form applies to it and gives it back -/
theorem canonText_web_fixed (I : Idna) (p : Profile) (hp : p.repeatedPercentDecoding = true) (hk : HooksOk p.cfg)
    (hc : CfgWeb p.cfg) (s dp a : Bytes) (hsd : p.cfg.special? s = some dp) (hdp : dp ≠ []) (ha : hostText a = true)
    (po : Option Bytes)
    (hB : ∀ po', (po' = po ∨ po' = if p.removePort = true then none else portKept dp po) →
      ∀ (a : Bytes) (segs : List Bytes) (q : Option Pairs) (f : Option Bytes), hostText a = true → WebText segs q f →
        parse p.cfg I (render (s ++ lit "://" ++ a ++ portText po') segs q f) =
          Web.webResU p.cfg I (hostU s) a po' segs (q.map qText) f)
    (segs : List Bytes) (q : Option Pairs) (f : Option Bytes) (hw : WebText segs q f)
    (hst : ∀ h, (parseHost p.cfg I (hostU s) a false).out = .ok h →
      ∃ hc', (hostText (decodeEncode hostSet h) = true ∧
          (parseHost p.cfg I (portRec s h dp po) (decodeEncode hostSet h) false).out = .ok hc') ∧ hostText hc' = true ∧
        ∃ h', (parseHost p.cfg I (hostU s) hc' false).out = .ok h' ∧ hostText (decodeEncode hostSet h') = true ∧
          (parseHost p.cfg I (portRec s h' dp (if p.removePort = true then none else portKept dp po))
            (decodeEncode hostSet h') false).out = .ok hc')
    (H H' : Heap) (t : Bytes)
    (ht : canonText (canonParse I p H (render (s ++ lit "://" ++ a ++ portText po) segs q f)) = some t) :
    canonText (canonParse I p H' t) = some t := by
  by_cases hok : ∃ h, (parseHost p.cfg I (hostU s) a false).out = .ok h
  · obtain ⟨h, hout⟩ := hok
    obtain ⟨hc', ⟨hv, ho⟩, hct, h', hout', hv', ho'⟩ := hst h hout
    have hcne : hc' ≠ [] := (Spelling.hostText_spec hct).1
    obtain ⟨psegs, pq, pf, hsp⟩ := webText_spells hw
    rw [canonText_web I p hp hk hc H s dp a h hc' hsd hdp po segs psegs q pq f pf (hB po (Or.inl rfl) a segs q f ha hw) hsp
      hout hv ho hcne] at ht
    cases ht
    obtain ⟨hsp2, e1, e2⟩ := hsp.canonical p
    have e3 : (if p.removePort = true then none else portKept dp (if p.removePort = true then none else portKept dp po)) =
        (if p.removePort = true then none else portKept dp po) := by
      split
      · rfl
      · exact portKept_idem dp po
    rw [canonText_web I p hp hk hc H' s dp hc' h' hc' hsd hdp _ psegs psegs _ _ _ _
      (hB _ (Or.inr rfl) hc' _ _ _ hct hsp2.webText) hsp2 hout' hv' ho' hcne, e1, e2, e3]
  · rw [canonText_web_none I p H s a po segs q f (hB po (Or.inl rfl) a segs q f ha hw) fun h hh => hok ⟨h, hh⟩] at ht
    cases ht

end WhatwgUrl.Proofs.Idem
