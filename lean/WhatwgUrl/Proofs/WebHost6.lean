import WhatwgUrl.Proofs.WebHost
import WhatwgUrl.Proofs.HostCase6
import WhatwgUrl.Proofs.HostCase
/-
  C18e: the IPv6 parser does not see the ASCII letter case of its input (`HostCase6.parseIPv6_congr`, the lock-step
  simulation of `Proofs/HostCase6.lean`), hence neither does the host parser on the host texts of the web grammar
  (`host_case`).
-/
namespace WhatwgUrl.Proofs.Web
open WhatwgUrl WhatwgUrl.Impl WhatwgUrl.Proofs.IPv4

theorem parseHost_pre_bracket (cfg : Cfg) (I : Idna) (u : Url) (a : Bytes) (ns : Bool) (tl : Bytes)
    (hin : preIn cfg u a = 0x5b :: tl) : parseHost cfg I u a ns = HostWF.bracketHost cfg u (0x5b :: tl) := by
  rw [HostWF.parseHost_eq, hin, HostWF.hostOf_bracket]

/-- the input of the host parser (after the hook) for which the letter case provably does not matter: a domain input
    (`DomainInput`), or an ASCII text that starts with `[` (the IPv6 parser; `host_case` makes no use of `Ascii`) -/
def HostInput (i : Bytes) : Prop := DomainInput i ∨ (i.head? = some 0x5b ∧ Ascii i)

instance (i : Bytes) : Decidable (HostInput i) := by unfold HostInput Ascii; infer_instance

theorem host_case (cfg : Cfg) (hpost : cfg.postHost = none) (hcase : HookCase cfg) (henc : EncAscii cfg) (I : Idna) (hI : Domain.L1 I)
    (u : Url) (a₁ a₂ : Bytes) (hl : asciiLower a₁ = asciiLower a₂) (hD : HostInput (preIn cfg u a₁)) :
    (parseHost cfg I u a₁ false).out = (parseHost cfg I u a₂ false).out := by
  rcases hD with hD | ⟨hb, _⟩
  · exact host_case_domain cfg hpost hcase henc I hI u a₁ a₂ hl hD
  · rw [HostWF.parseHost_eq, HostWF.parseHost_eq]
    exact congrArg HR.out (HostCase6.hostOf_bracket_congr cfg I u false _ _ (preIn_lower cfg hcase u a₁ a₂ hl) hb)

end WhatwgUrl.Proofs.Web
