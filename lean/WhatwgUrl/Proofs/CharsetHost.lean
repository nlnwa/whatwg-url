import WhatwgUrl.Proofs.Charset
/-
  C04c helper lemmas: the host parser's output satisfies `hostCharsOk`
  (IPv6 serializer: `[` lower-case hex / `:` `]`; IPv4 serializer: digits and dots; opaque host: the C0-control encoder on
  non-forbidden host code points; domain: the oracle's ASCII output after the forbidden-domain-code-point loop).
-/
namespace WhatwgUrl.Props.C04c
open WhatwgUrl WhatwgUrl.Impl WhatwgUrl.Proofs.HostWF WhatwgUrl.Proofs.IPv4
open WhatwgUrl.Proofs (forall_uint8)

theorem digit_host : ∀ b : UInt8, (isDigitN b.toNat = true ∨ b = 0x2e) →
    hostByteOk true b = true ∧ hostByteOk false b = true := forall_uint8 (by decide +kernel)

theorem itoa_ok (sp : Bool) (n : Nat) : (itoa n).all (hostByteOk sp) = true :=
  List.all_eq_true.mpr fun b hb => by
    have := digit_host b (.inl (WhatwgUrl.Proofs.IPv6.itoa_digits n b hb))
    cases sp <;> simp [this]

theorem ipv4String_ok (sp : Bool) (n : Nat) : (ipv4String n).all (hostByteOk sp) = true := by
  have hdot : hostByteOk sp 0x2e = true := by cases sp <;> decide
  simp [ipv4String, itoa_ok, hdot]

theorem hexStr_ok (n : Nat) : (hexStr n).all isV6Byte = true := by
  rw [List.all_eq_true]
  intro b hb
  unfold hexStr at hb
  rw [List.mem_map] at hb
  obtain ⟨d, hd, rfl⟩ := hb
  have := WhatwgUrl.Proofs.IPv6.toDigits_lt 16 (by omega) n d hd
  have h : ∀ d : Fin 16, isV6Byte (hexLower d.val) = true := by decide
  exact h ⟨d, this⟩

theorem serStep6_ok (a : List Nat) (c : Int) (st : Bytes × Bool) (i : Nat) (h : st.1.all isV6Byte = true) :
    (serStep6 a c st i).1.all isV6Byte = true := by
  unfold serStep6
  split
  · exact h
  · split
    · dsimp only
      split <;> simp [h, isV6Byte]
    · dsimp only
      split <;> simp [h, hexStr_ok, isV6Byte]

theorem foldl_serStep6_ok (a : List Nat) (c : Int) : ∀ (l : List Nat) (st : Bytes × Bool), st.1.all isV6Byte = true →
    (l.foldl (serStep6 a c) st).1.all isV6Byte = true := by
  intro l
  induction l with
  | nil => intro st h; exact h
  | cons i t ih => intro st h; exact ih _ (serStep6_ok a c st i h)

theorem ipv6String_ok (a : List Nat) : (ipv6String a).all isV6Byte = true :=
  foldl_serStep6_ok a _ _ _ rfl

theorem v6_literal (m : Bytes) (h : m.all isV6Byte = true) : isV6Literal ([0x5b] ++ m ++ [0x5d]) = true := by
  unfold isV6Literal
  have h1 : ([0x5b] ++ m ++ [0x5d] : Bytes).getLast? = some 0x5d := by
    rw [List.getLast?_append]; simp
  have h2 : (([0x5b] ++ m ++ [0x5d] : Bytes).drop 1).dropLast = m := by simp
  rw [h1, h2, h]
  simp

theorem opaque_lit : ∀ c : Fin 128, forbiddenHost c.val = false → c0Set.has c.val = false →
    hostByteOk false c.val.toUInt8 = true := by decide

theorem pct_host : ∀ b : UInt8, isPctByte b = true → hostByteOk false b = true := forall_uint8 (by decide +kernel)

theorem domain_byte : ∀ b : UInt8, b.toNat < 0x80 → forbiddenDomain b.toNat = false → hostByteOk true b = true :=
  forall_uint8 (by decide +kernel)

theorem parseHost_chars (cfg : Cfg) (I : Idna) (u : Url) (input : Bytes) (sp : Bool) (hpre : cfg.preHost = none)
    (hpost : cfg.postHost = none) (henc : cfg.encOverride = none) (hlax : cfg.laxHost = false)
    (hIa : ∀ s, ∀ x ∈ (I s).1, x.toNat < 0x80) :
    ∀ h, (parseHost cfg I u input (!sp)).out = .ok h → hostCharsOk sp h = true := by
  have hall : ∀ h : Bytes, h.all (hostByteOk sp) = true → hostCharsOk sp h = true := by
    intro h hh; simp only [hostCharsOk, hh, Bool.or_true]
  refine fun h hh => parseHost_strict_ok (Q := fun h => hostCharsOk sp h = true) cfg hpre hpost hlax I u input (!sp)
    (fun _ => by simp [hostCharsOk]) (fun _ a => by rw [hostCharsOk, v6_literal _ (ipv6String_ok a)]; rfl)
    (fun _ _ n => hall _ (ipv4String_ok sp n)) (fun _ hsp _ hf => ?_) (fun _ a hsp _ ha hf => ?_) hh
  · -- opaque host: each code point is not forbidden and goes through the C0-control encoder
    obtain rfl : sp = false := by simpa using hsp
    refine hall _ (List.all_flatMap.trans (List.all_eq_true.mpr fun c hc => ?_))
    exact pe_all cfg henc _ c _ pct_host fun h1 _ => opaque_lit ⟨c.toNat, by omega⟩ (hf c hc) h1
  · -- domain: the oracle's output is ASCII, so the loop has looked at each of its bytes
    obtain rfl : sp = true := by simpa using hsp
    have hasc : Ascii a := toASCII_ok_of nofun hIa ha
    rw [goRunes_ascii a hasc] at hf
    refine hall _ (List.all_eq_true.mpr fun b hb => domain_byte b (hasc b hb) ?_)
    have := hf (bc b) (by unfold asStr; exact List.mem_map_of_mem hb)
    rwa [Proofs.Utf8.bc_toNat] at this

end WhatwgUrl.Props.C04c
