import WhatwgUrl.Spec.Url
import WhatwgUrl.Proofs.SkipEquals
/-
  C11 (SearchParams): the compaction loop of `Set`; `spInit` under the default configuration is the standard's
  urlencoded parser.
-/
namespace WhatwgUrl.Proofs.SearchParams
open WhatwgUrl WhatwgUrl.Impl

theorem spSetAux_true (n v : Bytes) (l : Pairs) :
    spSetAux n v l true = (l.filter (·.1 != n), true) := by
  induction l with
  | nil => rfl
  | cons p rest ih =>
    unfold spSetAux
    by_cases h : p.1 == n
    · have hn : p.1 = n := by simpa using h
      simp [hn, ih]
    · have hn : p.1 ≠ n := by simpa using h
      simp [hn, ih]

theorem spSetAux_false (n v : Bytes) (l : Pairs) :
    spSetAux n v l false =
      if l.any (·.1 == n) then
        (l.take ((l.findIdx? (·.1 == n)).getD 0) ++ [(n, v)] ++
          (l.drop ((l.findIdx? (·.1 == n)).getD 0 + 1)).filter (·.1 != n), true)
      else (l, false) := by
  induction l with
  | nil => rfl
  | cons p rest ih =>
    unfold spSetAux
    by_cases h : p.1 == n
    · have hn : p.1 = n := by simpa using h
      simp [spSetAux_true, List.findIdx?_cons, hn]
    · simp only [h, Bool.false_eq_true, ↓reduceIte, ih, List.any_cons, Bool.false_or, List.findIdx?_cons]
      by_cases ha : rest.any (·.1 == n)
      · simp only [ha, ↓reduceIte]
        obtain ⟨i, hi⟩ : ∃ i, rest.findIdx? (·.1 == n) = some i := by
          cases hf : rest.findIdx? (·.1 == n) with
          | some i => exact ⟨i, rfl⟩
          | none =>
            rw [List.findIdx?_eq_none_iff] at hf
            simp only [List.any_eq_true] at ha
            obtain ⟨x, hx, hx'⟩ := ha
            have := hf x hx
            simp [hx'] at this
        simp [hi]
      · simp [ha]

theorem spSet_eq (l : Pairs) (n v : Bytes) : spSet l n v = Spec.spSet l n v := by
  unfold spSet Spec.spSet
  rw [spSetAux_false]
  by_cases ha : l.any (·.1 == n)
  · simp only [ha, ↓reduceIte]
  · simp only [ha, Bool.false_eq_true, ↓reduceIte]

theorem spInit_default (q : Bytes) : spInit Cfg.default q = Spec.urlencodedParse q := by
  unfold spInit Spec.urlencodedParse
  congr 1
  funext seq
  split
  · rfl
  · simp only [Percent.decodePercent_default]
    cases (splitFirst 0x3d seq).2
    · simp [replaceByte]
    · rfl

/-- what `QueryEscape` writes for the ASCII byte `x` (default configuration), by way of its rune; kept for its own sake:
    the proofs use `SpExact.enc` -/
def encB (x : UInt8) : Bytes :=
  if (bc x).toNat == 0x20 then [0x2b] else percentEncodeRune Cfg.default Cfg.default.querySet (bc x)

theorem encB_ne_nil : ∀ x : UInt8, encB x ≠ [] := by
  apply forall_uint8
  decide +kernel

end WhatwgUrl.Proofs.SearchParams
