import WhatwgUrl.Impl.Api
import WhatwgUrl.Proofs.Trim
import WhatwgUrl.Proofs.Lifting
import WhatwgUrl.Proofs.SkipEquals
import WhatwgUrl.Proofs.Setters
/-
  Helper lemmas for C12b (frame properties of the parser under a state override) and C19b.

  Part A.  `query`, `fragment`, `path` are not written by a parser run under a state override whose start state lies in
  `qSt`, `fSt`, `pSt` respectively, each a set of states that the machine does not leave when `e.ov.isSome`.
  Each is a fact about the tables of `Proofs/Effect.lean` (`Machine.Keeps`: the set is closed under the transitions, and
  none of its states writes the component), as is "a list path stays a list path" in {pathStart, path} for the pathname
  setter (`Machine.keeps_list`); `Machine.basicParser_keeps` lifts them to the parser, and `Setters.setU_cases` to the setters (`setU_query`,
  `setU_fragment`, `setU_path`: the components a setter leaves alone).
-/
namespace WhatwgUrl.Proofs.Frame
set_option linter.unusedSimpArgs false
open WhatwgUrl WhatwgUrl.Impl WhatwgUrl.Proofs.HostWF WhatwgUrl.Proofs.Machine

def qSt : State → Bool
  | .schemeStart | .scheme | .host | .hostname | .fileHost | .port | .pathStart | .path | .fragment => true
  | _ => false

def fSt : State → Bool
  | .schemeStart | .scheme | .host | .hostname | .fileHost | .port | .pathStart | .path | .query => true
  | _ => false

def pSt : State → Bool
  | .schemeStart | .scheme | .host | .hostname | .fileHost | .port | .query | .fragment => true
  | _ => false

theorem keeps_query : Keeps true qSt .query := fun s => by cases s <;> decide
theorem keeps_fragment : Keeps true fSt .fragment := fun s => by cases s <;> decide
theorem keeps_path : Keeps true pSt .path := fun s => by cases s <;> decide

theorem basicParser_query (cfg : Cfg) (I : Idna) (input : Bytes) (base : Option Url) (u : Url) (s : State)
    (hs : qSt s = true) : (basicParser cfg I input base (some u) (some s)).url.query = u.query :=
  basicParser_keeps keeps_query cfg I input base u s hs

theorem basicParser_fragment (cfg : Cfg) (I : Idna) (input : Bytes) (base : Option Url) (u : Url) (s : State)
    (hs : fSt s = true) : (basicParser cfg I input base (some u) (some s)).url.fragment = u.fragment :=
  basicParser_keeps keeps_fragment cfg I input base u s hs

theorem basicParser_path (cfg : Cfg) (I : Idna) (input : Bytes) (base : Option Url) (u : Url) (s : State)
    (hs : pSt s = true) : (basicParser cfg I input base (some u) (some s)).url.path = u.path :=
  basicParser_keeps keeps_path cfg I input base u s hs

theorem basicParser_pathStart_list (cfg : Cfg) (I : Idna) (input : Bytes) (base : Option Url) (u : Url)
    (hu : u.path.opq = false) : (basicParser cfg I input base (some u) (some .pathStart)).url.path.opq = false :=
  basicParser_keeps keeps_list cfg I input base u .pathStart rfl hu

theorem setU_query (cfg : Cfg) (I : Idna) (s : Setter) (u : Url) (v : Bytes) (hs : s ≠ .search) :
    (setU cfg I s u v).url.query = u.query := by
  refine Setters.setU_cases cfg I s u v (R := fun r => r.url.query = u.query) (fun r h => ?_) (fun st u' input h => ?_)
  · cases h
    case searchStrip | searchNone => exact absurd rfl hs
    all_goals rfl
  · cases h
    case search => exact absurd rfl hs
    all_goals exact basicParser_query _ _ _ _ _ _ rfl

theorem setU_fragment (cfg : Cfg) (I : Idna) (s : Setter) (u : Url) (v : Bytes) (hs : s ≠ .hash) :
    (setU cfg I s u v).url.fragment = u.fragment := by
  refine Setters.setU_cases cfg I s u v (R := fun r => r.url.fragment = u.fragment) (fun r h => ?_) (fun st u' input h => ?_)
  · cases h
    case hashStrip | hashNone => exact absurd rfl hs
    all_goals rfl
  · cases h
    case hash => exact absurd rfl hs
    all_goals exact basicParser_fragment _ _ _ _ _ _ rfl

/-- the path: the setters for protocol / username / password / host / hostname / port never touch it (pathname
    replaces it; search and hash with an empty value strip trailing spaces of an opaque path) -/
theorem setU_path (cfg : Cfg) (I : Idna) (s : Setter) (u : Url) (v : Bytes)
    (hs : s ≠ .pathname ∧ s ≠ .search ∧ s ≠ .hash) : (setU cfg I s u v).url.path = u.path := by
  obtain ⟨h1, h2, h3⟩ := hs
  refine Setters.setU_cases cfg I s u v (R := fun r => r.url.path = u.path) (fun r h => ?_) (fun st u' input h => ?_)
  · cases h
    case searchStrip | searchNone => exact absurd rfl h2
    case hashStrip | hashNone => exact absurd rfl h3
    all_goals rfl
  · cases h
    case pathname => exact absurd rfl h1
    case search => exact absurd rfl h2
    case hash => exact absurd rfl h3
    all_goals exact basicParser_path _ _ _ _ _ _ rfl

/-! ## Part B (C19b): helper lemmas about the derived accessors -/

theorem splitOn_append (sep : UInt8) (l r : Bytes) (h : sep ∉ l) :
    splitOn sep (l ++ sep :: r) = l :: splitOn sep r := by
  simpa using Utf8.splitOn_pre sep l _ [] _ (fun y hy e => h (e ▸ hy)) (Utf8.splitOn_cons_sep sep r)

theorem octet_facts (k : Nat) (h : k < 256) : isCanonicalOctet (itoa k) = true ∧ (0x2e : UInt8) ∉ itoa k :=
  (by decide +kernel : ∀ k : Fin 256, isCanonicalOctet (itoa k.val) = true ∧ (0x2e : UInt8) ∉ itoa k.val) ⟨k, h⟩

theorem ipv4String_split (n : Nat) : splitOn 0x2e (ipv4String n) =
    [itoa (n / 2 ^ 24 % 256), itoa (n / 2 ^ 16 % 256), itoa (n / 2 ^ 8 % 256), itoa (n % 256)] := by
  have hA := (octet_facts (n / 2 ^ 24 % 256) (Nat.mod_lt _ (by decide))).2
  have hB := (octet_facts (n / 2 ^ 16 % 256) (Nat.mod_lt _ (by decide))).2
  have hC := (octet_facts (n / 2 ^ 8 % 256) (Nat.mod_lt _ (by decide))).2
  have hD := (octet_facts (n % 256) (Nat.mod_lt _ (by decide))).2
  unfold ipv4String
  simp only [List.append_assoc, List.cons_append, List.nil_append]
  rw [splitOn_append _ _ _ hA, splitOn_append _ _ _ hB, splitOn_append _ _ _ hC, SkipEquals.splitOn_no_sep _ _ fun x hx e => hD (by rw [← e]; exact hx)]

theorem ipv4String_octets (n : Nat) :
    (splitOn 0x2e (ipv4String n)).length = 4 ∧ (splitOn 0x2e (ipv4String n)).all isCanonicalOctet = true := by
  rw [ipv4String_split]
  refine ⟨rfl, ?_⟩
  simp only [List.all_cons, List.all_nil, Bool.and_true, Bool.and_eq_true]
  exact ⟨(octet_facts _ (Nat.mod_lt _ (by decide))).1, (octet_facts _ (Nat.mod_lt _ (by decide))).1,
    (octet_facts _ (Nat.mod_lt _ (by decide))).1, (octet_facts _ (Nat.mod_lt _ (by decide))).1⟩

theorem endsInANumber_of_octets (cfg : Cfg) (u : Url) (h : Bytes) (hl : (splitOn 0x2e h).length = 4)
    (ha : (splitOn 0x2e h).all isCanonicalOctet = true) : endsInANumber cfg u h = true := by
  unfold endsInANumber
  generalize splitOn 0x2e h = L at *
  match L, hl with
  | [a, b, c, d], _ =>
    simp only [List.all_cons, List.all_nil, Bool.and_true, Bool.and_eq_true] at ha
    obtain ⟨-, -, -, hd⟩ := ha
    simp only [isCanonicalOctet, Bool.and_eq_true, Bool.not_eq_true'] at hd
    obtain ⟨⟨⟨⟨hne, hdig⟩, -⟩, -⟩, -⟩ := hd
    have hne' : d ≠ [] := by intro e; subst e; simp at hne
    have : (some d == some ([] : Bytes)) = false := by simpa using hne'
    simp only [List.getLast?_cons_cons, List.getLast?_singleton, this, Bool.false_eq_true, if_false, hne, hdig, if_true]

theorem enc_first (cfg : Cfg) (tr : PSet) (c : Char) (t : Bytes) (x : UInt8)
    (h : (percentEncodeRune cfg tr c ++ t).head? = some x) : x = 0x25 ∨ c.toNat = x.toNat := by
  unfold percentEncodeRune at h
  split at h
  · rename_i hh
    have hle : c.toNat ≤ 0x7E := by
      simp only [Bool.not_eq_true', PSet.has, Bool.or_eq_false_iff, decide_eq_false_iff_not] at hh
      omega
    rw [WhatwgUrl.Proofs.Utf8.utf8Char_ascii c (by omega)] at h
    simp only [List.cons_append, List.nil_append, List.head?_cons, Option.some.injEq] at h
    right
    rw [← h]
    simp only [Nat.toUInt8, UInt8.toNat_ofNat']
    omega
  · left
    match hr : runeBytes cfg c, runeBytes_ne cfg c with
    | y :: tl, _ =>
      rw [hr] at h
      simpa [pctByte] using h.symm

theorem pe_head (cfg : Cfg) (c : Char) (hc : forbiddenHost c.toNat = false) (t : Bytes) :
    (percentEncodeRune cfg c0Set c ++ t).head? ≠ some 0x5b := by
  intro h
  rcases enc_first cfg c0Set c t _ h with h | h
  · cases h
  · rw [h] at hc
    exact absurd hc (by decide)

theorem goRunes_bracket (rest : Bytes) : ∃ rs, goRunes (0x5b :: rest) = '[' :: rs := by
  rw [WhatwgUrl.Proofs.Utf8.goRunes_cons, WhatwgUrl.Proofs.Utf8.decode1_ascii _ _ (by decide)]
  exact ⟨_, rfl⟩

/-! ## statements kept for their own sake

  Nothing in the development calls what follows: `ShF P D`, the shape predicate `Machine.Sh P D` in ∀-form, with its rule
  for `retUrl`; U+FFFD is neither `?` nor `#` (`Machine.repl_class` has both); an instance of `List.foldl_append`. -/

def ShF (P : PS → Prop) (D : Res → Prop) (r : StepR) : Prop :=
  (∀ ps', r = .cont ps' → P ps') ∧ (∀ x, r = .done x → D x)

theorem ShF_retUrl (P : PS → Prop) (D : Res → Prop) (ps : PS) (hx : D ⟨ps.url, .url⟩) : ShF P D (retUrl ps) :=
  ⟨(by intro ps' h; cases h), (by intro y h; cases h; exact hx)⟩

theorem repl_ne_qm : (repl == '?') = false := by decide
theorem repl_ne_hash : (repl == '#') = false := by decide

theorem foldl_dec_append (xs ys : List Nat) (v : Nat) :
    (xs ++ ys).foldl (fun a d => a * 10 + d) v = ys.foldl (fun a d => a * 10 + d) (xs.foldl (fun a d => a * 10 + d) v) :=
  List.foldl_append

end WhatwgUrl.Proofs.Frame
