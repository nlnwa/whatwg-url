import WhatwgUrl.Proofs.WebHost6
import WhatwgUrl.Proofs.RTcInv
/-
  C17e: the dot normalizer of the pre-parse-host hooks of the GoogleSafeBrowsing and Semantic profiles (`gsbPre`,
  `semanticPre`: trim leading / trailing dots, collapse runs of dots) as a function `norm` of the text: its output is
  `clean` (no leading, trailing or adjacent dots) unless empty, it is the identity on clean texts (so idempotent), and the
  `xn--` automaton of the ASCII fallback of `ToASCII` does not see it.
-/
namespace WhatwgUrl.Proofs.IdemGsb
open WhatwgUrl WhatwgUrl.Impl WhatwgUrl.Proofs.IPv4 WhatwgUrl.Proofs.Domain

/-- `strings.Trim(host, ".")` then collapse `\.\.+` to `.` -/
def norm (a : Bytes) : Bytes := collapseDots (trimRightByte 0x2e (trimLeftByte 0x2e a))

theorem gsbPre_eq (u : Url) (a : Bytes) : gsbPre u a = norm a := rfl

theorem semanticPre_eq (u : Url) (a : Bytes) (h1 : a ≠ []) (h2 : norm a ≠ []) : semanticPre u a = norm a := by
  unfold semanticPre
  have e1 : a.isEmpty = false := by cases a <;> simp_all
  have e2 : (norm a).isEmpty = false := by cases h : norm a <;> simp_all
  simp only [e1, Bool.false_eq_true, if_false]
  show (if (norm a).isEmpty = true then lit "0.0.0.0" else norm a) = norm a
  rw [e2]; rfl

theorem dropWhile_nil_all (p : UInt8 → Bool) : ∀ (l : Bytes), l.dropWhile p = [] → ∀ x ∈ l, p x = true
  | [], _, x, hx => by cases hx
  | y :: t, h, x, hx => by
    rw [List.dropWhile_cons] at h
    split at h
    · rename_i hy
      rcases List.mem_cons.mp hx with rfl | hx
      · exact hy
      · exact dropWhile_nil_all p t h x hx
    · cases h

/-- no leading dot (`p = true`: we are at the start or just after a dot), no trailing dot, no two adjacent dots -/
def clean : Bool → Bytes → Bool
  | p, [] => !p
  | p, x :: r => if x == 0x2e then !p && clean true r else clean false r

theorem clean_cDA : ∀ (s : Bytes) (p : Bool), s ≠ [] → s.getLast? ≠ some 0x2e → clean p (collapseDotsAux p s) = true
  | [], _, h, _ => absurd rfl h
  | x :: r, p, _, hl => by
    by_cases hx : (x == 0x2e) = true
    · have hr : r ≠ [] := by
        intro e; subst e
        simp only [List.getLast?_singleton, ne_eq, Option.some.injEq] at hl
        exact hl (by simpa using hx)
      have hl' : r.getLast? ≠ some 0x2e := by rwa [List.getLast?_cons_of_ne_nil hr] at hl
      cases p
      · simp only [collapseDotsAux, hx, if_true, Bool.false_eq_true, if_false, clean, Bool.not_false, Bool.true_and]
        exact clean_cDA r true hr hl'
      · simp only [collapseDotsAux, hx, if_true]
        exact clean_cDA r true hr hl'
    · simp only [collapseDotsAux, hx, if_false, Bool.false_eq_true, clean]
      by_cases hr : r = []
      · subst hr; rfl
      · exact clean_cDA r false hr (by rwa [List.getLast?_cons_of_ne_nil hr] at hl)

theorem cDA_head_ne (x : UInt8) (r : Bytes) (hx : (x == 0x2e) = false) (p : Bool) :
    collapseDotsAux p (x :: r) = x :: collapseDotsAux false r := by
  simp [collapseDotsAux, hx]

theorem trimLeft_head (a : Bytes) : (trimLeftByte 0x2e a).head? ≠ some 0x2e := by
  unfold trimLeftByte
  intro h
  have := List.head?_dropWhile_not (· == (0x2e : UInt8)) a
  rw [h] at this
  simp at this

theorem trimRight_prefix (l : Bytes) : trimRightByte 0x2e l <+: l :=
  (OpaqueSlash.trimRightByte_prefix 0x2e l).imp fun _ h => h.symm

theorem prefix_head {t l : Bytes} (h : t <+: l) (hne : t ≠ []) : t.head? = l.head? := by
  obtain ⟨s, rfl⟩ := h
  cases t with
  | nil => exact absurd rfl hne
  | cons x t' => rfl

/-- **the normalizer's output is clean**, unless it is empty (the input consisted of dots) -/
theorem clean_norm (a : Bytes) (h : norm a ≠ []) : clean true (norm a) = true := by
  unfold norm collapseDots at h ⊢
  generalize ht : trimRightByte 0x2e (trimLeftByte 0x2e a) = t at h ⊢
  have hne : t ≠ [] := by intro e; subst e; exact h rfl
  have hl : t.getLast? ≠ some 0x2e := by rw [← ht]; exact RTcInv.trimRight_last _ _
  have hh : t.head? ≠ some 0x2e := by
    rw [← ht, prefix_head (trimRight_prefix _) (by rw [ht]; exact hne)]
    exact trimLeft_head a
  cases t with
  | nil => exact absurd rfl hne
  | cons x r =>
    have hx : (x == 0x2e) = false := by
      simp only [List.head?_cons, ne_eq, Option.some.injEq] at hh
      simpa using hh
    rw [cDA_head_ne x r hx false, ← cDA_head_ne x r hx true]
    exact clean_cDA _ true (by simp) hl

theorem cDA_of_clean : ∀ (d : Bytes) (p : Bool), clean p d = true → collapseDotsAux p d = d
  | [], _, _ => rfl
  | x :: r, p, h => by
    by_cases hx : (x == 0x2e) = true
    · simp only [clean, hx, if_true, Bool.and_eq_true, Bool.not_eq_true'] at h
      obtain ⟨rfl, h⟩ := h
      simp only [collapseDotsAux, hx, if_true, Bool.false_eq_true, if_false]
      rw [cDA_of_clean r true h]
    · simp only [clean, hx, if_false, Bool.false_eq_true] at h
      simp only [collapseDotsAux, hx, if_false, Bool.false_eq_true]
      rw [cDA_of_clean r false h]

theorem clean_last : ∀ (d : Bytes) (p : Bool), clean p d = true → d.getLast? ≠ some 0x2e
  | [], _, _ => by simp
  | x :: r, p, h => by
    by_cases hr : r = []
    · subst hr
      by_cases hx : (x == 0x2e) = true
      · simp [clean, hx] at h
      · simp only [List.getLast?_singleton, ne_eq, Option.some.injEq]
        intro e; apply hx; simp [e]
    · rw [List.getLast?_cons_of_ne_nil hr]
      by_cases hx : (x == 0x2e) = true
      · simp only [clean, hx, if_true, Bool.and_eq_true] at h
        exact clean_last r true h.2
      · simp only [clean, hx, if_false, Bool.false_eq_true] at h
        exact clean_last r false h

theorem clean_ne_nil {d : Bytes} (h : clean true d = true) : d ≠ [] := by
  intro e; subst e; simp [clean] at h

theorem norm_of_clean (d : Bytes) (h : clean true d = true) : norm d = d := by
  unfold norm collapseDots
  have h1 : trimLeftByte 0x2e d = d := by
    unfold trimLeftByte
    cases d with
    | nil => rfl
    | cons x r =>
      have hx : (x == 0x2e) = false := by
        by_cases hx : (x == 0x2e) = true
        · simp [clean, hx] at h
        · simpa using hx
      rw [List.dropWhile_cons]
      simp [hx]
  rw [h1, RTcInv.trimRight_fix _ d (clean_last d true h)]
  have h2 : clean false d = true := by
    cases d with
    | nil => rfl
    | cons x r =>
      by_cases hx : (x == 0x2e) = true
      · simp [clean, hx] at h
      · simp only [clean, hx, if_false, Bool.false_eq_true] at h ⊢
        exact h
  exact cDA_of_clean d false h2

theorem norm_idem (a : Bytes) : norm (norm a) = norm a := by
  by_cases h : norm a = []
  · rw [h]; rfl
  · exact norm_of_clean _ (clean_norm a h)

theorem clean_of_no_dot : ∀ (d : Bytes) (p : Bool), d ≠ [] → (0x2e : UInt8) ∉ d → clean p d = true
  | [], _, h, _ => absurd rfl h
  | x :: r, p, _, hd => by
    have hx : (x == 0x2e) = false := by
      simp only [beq_eq_false_iff_ne, ne_eq]
      intro e; exact hd (by simp [e])
    simp only [clean, hx, Bool.false_eq_true, if_false]
    by_cases hr : r = []
    · subst hr; rfl
    · exact clean_of_no_dot r false hr (fun hm => hd (List.mem_cons_of_mem _ hm))

theorem clean_lower : ∀ (d : Bytes) (p : Bool), clean p (asciiLower d) = clean p d
  | [], _ => rfl
  | x :: r, p => by
    simp only [asciiLower, List.map_cons, clean, AsciiCase.lowerB_beq_of_not_alpha (d := 0x2e) (by decide)]
    simp only [← asciiLower.eq_1]
    rw [clean_lower r true, clean_lower r false]

theorem norm_lower (a : Bytes) : asciiLower (norm a) = norm (asciiLower a) :=
  WhatwgUrl.Proofs.Web.gsbPre_lower {} a

theorem clean_append_nodot : ∀ (s : Bytes) (p : Bool) (rest : Bytes), s ≠ [] → (0x2e : UInt8) ∉ s →
    clean p (s ++ rest) = clean false rest
  | [], _, _, h, _ => absurd rfl h
  | x :: r, p, rest, _, hd => by
    have hx : (x == 0x2e) = false := by
      simp only [beq_eq_false_iff_ne, ne_eq]
      intro e; exact hd (by simp [e])
    simp only [List.cons_append, clean, hx, Bool.false_eq_true, if_false]
    by_cases hr : r = []
    · subst hr; rfl
    · exact clean_append_nodot r false rest hr (fun hm => hd (List.mem_cons_of_mem _ hm))

theorem cDA_mem : ∀ (s : Bytes) (p : Bool) (b : UInt8), b ∈ collapseDotsAux p s → b ∈ s
  | [], _, _, h => by simp [collapseDotsAux] at h
  | x :: r, p, b, h => by
    simp only [collapseDotsAux] at h
    split at h
    · split at h
      · exact List.mem_cons_of_mem _ (cDA_mem r true b h)
      · rcases List.mem_cons.mp h with rfl | h
        · simp
        · exact List.mem_cons_of_mem _ (cDA_mem r true b h)
    · rcases List.mem_cons.mp h with rfl | h
      · simp
      · exact List.mem_cons_of_mem _ (cDA_mem r false b h)

theorem norm_mem (a : Bytes) (b : UInt8) (h : b ∈ norm a) : b ∈ a := by
  unfold norm collapseDots at h
  have h1 := cDA_mem _ _ _ h
  have h2 := (trimRight_prefix _).subset h1
  unfold trimLeftByte at h2
  exact (List.dropWhile_sublist _).subset h2

theorem norm_head (x : UInt8) (r : Bytes) (hx : x ≠ 0x2e) : ∃ tl, norm (x :: r) = x :: tl := by
  have hx' : (x == 0x2e) = false := by simpa using hx
  unfold norm collapseDots
  have h1 : trimLeftByte 0x2e (x :: r) = x :: r := by
    unfold trimLeftByte; rw [List.dropWhile_cons]; simp [hx']
  rw [h1]
  have hp := trimRight_prefix (x :: r)
  have hne : trimRightByte 0x2e (x :: r) ≠ [] := by
    unfold trimRightByte
    intro e
    have := List.reverse_eq_nil_iff.mp e
    have := dropWhile_nil_all _ _ this x (by simp)
    simp [hx'] at this
  have hh := prefix_head hp hne
  cases ht : trimRightByte 0x2e (x :: r) with
  | nil => exact absurd ht hne
  | cons y t =>
    rw [ht] at hh
    simp only [List.head?_cons, Option.some.injEq] at hh
    subst hh
    exact ⟨_, cDA_head_ne y t hx' false⟩

theorem norm_ne_nil (a : Bytes) (h : ∃ b ∈ a, b ≠ 0x2e) : norm a ≠ [] := by
  obtain ⟨b, hb, hne⟩ := h
  have key : ∃ x r, trimLeftByte 0x2e a = x :: r ∧ x ≠ 0x2e := by
    unfold trimLeftByte
    induction a with
    | nil => cases hb
    | cons y t ih =>
      rw [List.dropWhile_cons]
      split
      · rename_i hy
        rcases List.mem_cons.mp hb with rfl | hb'
        · exact absurd (by simpa using hy) hne
        · exact ih hb'
      · rename_i hy
        exact ⟨y, t, rfl, by intro e; apply hy; simp [e]⟩
  obtain ⟨x, r, e, hx⟩ := key
  have : norm a = norm (x :: r) := by
    unfold norm
    rw [e]
    have : trimLeftByte 0x2e (x :: r) = x :: r := by
      unfold trimLeftByte; rw [List.dropWhile_cons]
      have : (x == 0x2e) = false := by simpa using hx
      simp [this]
    rw [this]
  rw [this]
  obtain ⟨tl, htl⟩ := norm_head x r hx
  rw [htl]; simp

theorem autB_dot (r : Bytes) (q : Int) : autB (0x2e :: r) q = autB r 0 := by simp [autB]

theorem autB_cDA : ∀ (s : Bytes), (∀ q, autB (collapseDotsAux false s) q = autB s q) ∧
    autB (collapseDotsAux true s) 0 = autB s 0
  | [] => ⟨fun _ => rfl, rfl⟩
  | x :: r => by
    obtain ⟨ih1, ih2⟩ := autB_cDA r
    by_cases hx : (x == 0x2e) = true
    · have : x = 0x2e := by simpa using hx
      subst this
      refine ⟨fun q => ?_, ?_⟩
      · simp only [collapseDotsAux, beq_self_eq_true, if_true, Bool.false_eq_true, if_false]
        rw [autB_dot, autB_dot, ih2]
      · simp only [collapseDotsAux, beq_self_eq_true, if_true]
        rw [autB_dot, ih2]
    · have hx' : (x == 0x2e) = false := by simpa using hx
      have step : ∀ (t t' : Bytes), (∀ q, autB t q = autB t' q) → ∀ q, autB (x :: t) q = autB (x :: t') q := by
        intro t t' h q
        simp only [autB, hx', Bool.false_eq_true, if_false, h]
      refine ⟨fun q => ?_, ?_⟩
      · rw [cDA_head_ne x r hx' false]
        exact step _ _ ih1 q
      · rw [cDA_head_ne x r hx' true]
        exact step _ _ ih1 0

theorem autB_trimLeft (s : Bytes) : autB (trimLeftByte 0x2e s) 0 = autB s 0 := by
  unfold trimLeftByte
  induction s with
  | nil => rfl
  | cons x r ih =>
    rw [List.dropWhile_cons]
    split
    · rename_i hx
      have : x = 0x2e := by simpa using hx
      subst this
      rw [autB_dot, ih]
    · rfl

theorem autB_append_dots (ds : Bytes) (hd : ∀ b ∈ ds, b = 0x2e) : ∀ (s : Bytes) (q : Int), autB (s ++ ds) q = autB s q
  | [], q => by
    induction ds generalizing q with
    | nil => rfl
    | cons y t ih =>
      have : y = 0x2e := hd y (by simp)
      subst this
      rw [List.nil_append, autB_dot]
      have := ih (fun b hb => hd b (List.mem_cons_of_mem _ hb)) 0
      rw [List.nil_append] at this
      rw [this]; rfl
  | x :: r, q => by
    have ih := autB_append_dots ds hd r
    simp only [List.cons_append, autB, ih]

theorem trimRight_decomp (l : Bytes) : ∃ ds, (∀ b ∈ ds, b = 0x2e) ∧ l = trimRightByte 0x2e l ++ ds := by
  unfold trimRightByte
  refine ⟨(l.reverse.takeWhile (· == (0x2e : UInt8))).reverse, ?_, ?_⟩
  · intro b hb
    have := Utf8.mem_takeWhile_imp (List.mem_reverse.mp hb)
    simpa using this
  · rw [← List.reverse_append, List.takeWhile_append_dropWhile, List.reverse_reverse]

theorem autB_trimRight (s : Bytes) (q : Int) : autB (trimRightByte 0x2e s) q = autB s q := by
  obtain ⟨ds, hd, e⟩ := trimRight_decomp s
  conv => rhs; rw [e]
  rw [autB_append_dots ds hd]

theorem autB_norm (a : Bytes) : autB (norm a) 0 = autB a 0 := by
  unfold norm collapseDots
  rw [(autB_cDA _).1, autB_trimRight, autB_trimLeft]

end WhatwgUrl.Proofs.IdemGsb
