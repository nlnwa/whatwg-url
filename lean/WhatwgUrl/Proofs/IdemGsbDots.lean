import WhatwgUrl.Proofs.IdemGsbHost
import WhatwgUrl.Proofs.RunTo
/-
  C17e: the parser of the GoogleSafeBrowsing options reads the text `http:///x/y` (the canonical text of
  `http://.../x/y`) exactly as `http://x/y` — kernel-checked, although the host `x` is a domain (the percent-decoder of the host
  parser is compiled by well-founded recursion and does not evaluate in the kernel): the run of the state machine is cut at
  the one step that calls the host parser (`step_host_end_special`), whose value is supplied by a lemma (`parseHost_x`); the steps
  before and after are evaluated.
-/
namespace WhatwgUrl.Proofs.IdemGsb
open WhatwgUrl WhatwgUrl.Impl WhatwgUrl.Proofs.IPv4 WhatwgUrl.Proofs.Domain
open WhatwgUrl.Proofs.Web (preIn parseHost_pre_cons mkEC step_host_end_special parse_graphic_c)
open WhatwgUrl.Proofs.Sim (I0 I0_laws IdnaLaws)
open WhatwgUrl.Proofs.RoundTrip (Graphic Delim)
open WhatwgUrl.Proofs.Pipeline (hostU)

theorem parseHost_x (I : Idna) (hI : IdnaLaws I) (u : Url) :
    parseHost gsbCfg I u (lit "x") false = ⟨{ u with qlog := u.qlog ++ [lit "x"] }, .ok (lit "x")⟩ := by
  have hin : preIn gsbCfg u (lit "x") = 0x78 :: [] := rfl
  have hasc : Ascii ([0x78] : Bytes) := by unfold Ascii; decide
  simp only [parseHost_pre_cons gsbCfg I u (lit "x") 0x78 [] hin (by decide), HostWF.domainHost]
  rw [decodePercent_no_pct gsbCfg _ (by decide)]
  have hv := validUtf8_ascii _ hasc
  have haut : asciiOrMiscNoPuny (goRunes [0x78]) 0 = true := by
    rw [goRunes_ascii _ hasc]; decide
  rw [WhatwgUrl.Proofs.Web.toASCII_lower gsbCfg dotCfg_gsb.enc I u _ hasc haut (hI.ascii_lower _ hasc haut) (by simp)]
  simp only [hv, Bool.not_true, Bool.false_and, Bool.false_eq_true, if_false]
  rw [Domain.finishDomain_ascii gsbCfg rfl _ _ (by unfold Ascii; decide) (by decide),
    WhatwgUrl.Props.C07.C07_ends_in_number_conforms]
  have : Spec.endsInANumber (asStr (asciiLower [0x78])) = false := by decide
  rw [this]
  rfl

def rawD : Bytes := lit "http:///x/y"

/-- what both texts parse to -/
def recD : Url := { scheme := lit "http", host := some (lit "x"), path := ⟨[lit "y"], false⟩, qlog := [lit "x"] }

/-- **`http:///x/y` under the GoogleSafeBrowsing options: host `x`, path `/y`** -/
theorem parse_slash3 : parse gsbCfg I0 rawD = ⟨recD, .url⟩ := by
  rw [parse_graphic_c gsbCfg I0 rawD (by decide) (by unfold Graphic; decide +kernel)]
  have hf : fuelFor (asStr rawD) = 11 + (300 + 1) := by decide
  -- 11 steps reach the host state at pointer 8 (the `/` after `http:///x`) with buffer `x`; the twelfth calls the host parser
  have hps : runTo (mkEC gsbCfg I0 rawD (asStr rawD)) 11 ⟨.schemeStart, -1, false, [], false, false, false, {}⟩ =
      .cont ⟨.host, 8, false, lit "x", false, false, false, hostU (lit "http")⟩ := by decide +kernel
  rw [hf, loop_runTo, hps]
  dsimp only
  have hc : Run.Cur (mkEC gsbCfg I0 rawD (asStr rawD)) ⟨.host, 8, false, lit "x", false, false, false, hostU (lit "http")⟩
      (asStr (lit "http:///x")) ['/', 'y'] := ⟨by decide, by decide, rfl⟩
  have hstep := step_host_end_special (h' := lit "x") hc (Or.inr ⟨'/', ['y'], rfl, Or.inl rfl⟩) rfl rfl (by decide) (by decide)
    (by show (parseHost gsbCfg I0 _ _ false).out = _; rw [parseHost_x I0 I0_laws])
  rw [Machine.loop_succ, hstep]
  simp only [Web.mkEC_cfg, Web.mkEC_I]
  rw [parseHost_x I0 I0_laws]
  decide +kernel

end WhatwgUrl.Proofs.IdemGsb
