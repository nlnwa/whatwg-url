import WhatwgUrl.Proofs.NoPanic
import WhatwgUrl.Proofs.PipelineRel
import WhatwgUrl.Proofs.Machine2
/-
  C18d: the two runs stay in lock-step — one lemma for the switch (`body_ag`), lifted to `basicParser`.
-/
namespace WhatwgUrl.Proofs.Pipeline
open WhatwgUrl WhatwgUrl.Impl WhatwgUrl.Proofs.Machine

/-- the state of the second run is that of the first with path, query, fragment and the diagnostics replaced: every
    condition the machine evaluates reads the same in both runs -/
theorem PSAg.exists {wp wq wf : Bool} {p q : PS} (h : PSAg wp wq wf p q) :
    ∃ pa qu fr ve ql, q = { p with url := { p.url with path := pa, query := qu, fragment := fr, verrs := ve, qlog := ql } } ∧
      (wp = true → p.url.path = pa) ∧ (wq = true → p.url.query = qu) ∧ (wf = true → p.url.fragment = fr) := by
  obtain ⟨_, _, _, _, _, _, _, u⟩ := p
  obtain ⟨_, _, _, _, _, _, _, u'⟩ := q
  obtain ⟨rfl, rfl, rfl, rfl, rfl, rfl, rfl, hu⟩ := h
  obtain ⟨pa, qu, fr, ve, ql, rfl, h⟩ := Ag.exists hu
  exact ⟨pa, qu, fr, ve, ql, rfl, h⟩

/-- the two families of states: the path family reads the path, so the records agree on it; the host family is what a run
    under the override `hostname` visits, and needs the host parser to succeed on both records or on neither -/
def Fam (cfg : Cfg) (I : Idna) (ov : Option State) (wp : Bool) : State → Prop
  | .pathStart | .path | .query | .fragment => wp = true
  | .hostname | .fileHost => ov = some .hostname ∧ HostOk cfg I
  | _ => False

/-- in lock-step: the states differ in the url only and stay in their family; in the query state (which reads whether the
    query is nil) the queries agree -/
def Pag (e : Env) (wp wq wf : Bool) (p q : PS) : Prop :=
  PSAg wp wq wf p q ∧ Fam e.cfg e.I e.ov wp p.state ∧ (p.state = .query → p.url.query = q.url.query)

theorem Sh2_afterHost_ag {P : PS → PS → Prop} {D : Res → Res → Prop} {A : Res → PS → Prop} {cfg : Cfg} {I : Idna}
    (hH : HostOk cfg I) (u : Url) (pa : Path) (qu fr : Option Bytes) (ve : List VErr) (ql : List Bytes) (buf : Bytes) (ns : Bool)
    (p p' : PS) (k k' : PS → Bytes → StepR) :
    Sh2 P D A (afterHost (parseHost cfg I u buf ns) p k)
        (afterHost (parseHost cfg I { u with path := pa, query := qu, fragment := fr, verrs := ve, qlog := ql } buf ns) p' k') ↔
      (∀ b, (parseHost cfg I u buf ns).out = .ok b →
        Sh2 P D A (k { p with url := (parseHost cfg I u buf ns).url } b)
          (k' { p' with url := (parseHost cfg I { u with path := pa, query := qu, fragment := fr, verrs := ve, qlog := ql } buf ns).url } b)) ∧
      (∀ er er', (parseHost cfg I u buf ns).out = .err er →
        (parseHost cfg I { u with path := pa, query := qu, fragment := fr, verrs := ve, qlog := ql } buf ns).out = .err er' →
        D ⟨(parseHost cfg I u buf ns).url, .err er true⟩
          ⟨(parseHost cfg I { u with path := pa, query := qu, fragment := fr, verrs := ve, qlog := ql } buf ns).url, .err er' true⟩) := by
  have hu : Ag false false false u { u with path := pa, query := qu, fragment := fr, verrs := ve, qlog := ql } :=
    ⟨rfl, rfl, rfl, rfl, rfl, rfl, Bool.noConfusion, Bool.noConfusion, Bool.noConfusion⟩
  have h1 := fun b => hH _ _ buf ns b hu
  have h2 := fun b => hH _ _ buf ns b hu.symm
  have n1 := NoPanic.parseHost_np cfg I u buf ns
  have n2 := NoPanic.parseHost_np cfg I { u with path := pa, query := qu, fragment := fr, verrs := ve, qlog := ql } buf ns
  unfold afterHost
  generalize parseHost cfg I u buf ns = hr at *
  generalize parseHost cfg I _ buf ns = hr' at *
  obtain ⟨v, o⟩ := hr
  obtain ⟨v', o'⟩ := hr'
  cases o <;> cases o' <;> simp_all [NoPanic.NP, Sh2_done]

theorem body_ag (e : Env) (wp wq wf : Bool) (r : Char) (p q : PS) (h : Pag e wp wq wf p q) :
    Sh2 (Pag e wp wq wf) (ResAg wp wq wf) (fun _ _ => False) (body e p r) (body e q r) := by
  obtain ⟨hA, hF, hQ⟩ := h
  obtain ⟨pa, qu, fr, ve, ql, rfl, hp, hq, hf⟩ := hA.exists
  -- what the conditions read, as hypotheses: rewriting with a hypothesis (unlike unfolding a definition) makes `simp` rebuild
  -- the `Decidable` instance of the condition, and `Sh2_ite` then finds the same `if` in both runs
  have e1 : ∀ u : Url, isSp e u = e.cfg.isSpecial u.scheme := fun _ => rfl
  have e2 : ∀ (u : Url) (c : Char), spBackslash e u c = (e.cfg.isSpecial u.scheme && c == '\\') := fun _ _ => rfl
  have e3 : ∀ ps : PS, remainingInvalidPct e.runes ps = invalidPct (runesFrom e.runes ps.pointer) := fun _ => rfl
  have e4 : ∀ ps : PS, currentIsInvalid e ps = (cur e.runes ps.pointer == some repl &&
      match e.src.drop (byteOffset e.src ps.pointer) with | b0 :: rest => (decode1 b0 rest).2 == 1 | [] => false) := fun _ => rfl
  have e5 : ∀ ps : PS, currentAsByte e ps = e.src[byteOffset e.src ps.pointer]? := fun _ => rfl
  unfold body
  dsimp only at hQ ⊢
  split <;> rename_i hst <;> simp only [Fam, hst] at hF
  -- `h_11` = hostname, `h_13` = fileHost (the arms of `Impl.body` in order): the second line of `Fam`
  case h_11 | h_13 =>
    simp [stHost_eq, hostChar_eq, stFileHost, herr, e1, e2, e4, e5, rewindLast, writeRune, retUrl,
      Sh2_ite, Sh2_elim, Sh2_afterHost_ag hF.2, Sh2_cont, Sh2_done, Pag, PSAg, Ag, ResAg, RetAg, Fam, record_eq,
      parseHost_scheme, parseHost_username, parseHost_password, parseHost_host, parseHost_port,
      parseHost_decodedPort, parseHost_path, parseHost_query, parseHost_fragment, stops, hst, hF,
      show (State.hostname == State.hostname) = true from rfl, eq_true hp, eq_true hq, eq_true hf]
  all_goals
    subst hF
    obtain rfl := hp rfl
    simp only [hst, reduceCtorEq, false_implies, true_implies] at hQ
    try subst hQ
    simp [stPath_eq, stQuery_eq, segEnd, segPath, stPathStart, stFragment, unitChecks, herr, e1, e2, e3,
      rewindLast, Sh2_ite, Sh2_cont, Sh2_done, Pag, PSAg, Ag, ResAg, RetAg, Fam, record_eq, ite_url, ite_eof, ite_pointer,
      ite_buffer, apply_ite PS.atFlag, apply_ite PS.bracketFlag, apply_ite PS.pwSeen, hst, eq_true hq, eq_true hf]

theorem step_ag (e : Env) (wp wq wf : Bool) (p q : PS) (h : Pag e wp wq wf p q) :
    Sh2 (Pag e wp wq wf) (ResAg wp wq wf) (fun _ _ => False) (step e p) (step e q) := by
  obtain ⟨hA, hF, hQ⟩ := h
  obtain ⟨pa, qu, fr, ve, ql, rfl, hp, hq, hf⟩ := hA.exists
  unfold step
  simp only [next_fst, next_snd]
  exact Sh2_bottom _ _ (fun _ _ h => h.1.2.2.1) (Sh2.mono
    (body_ag e wp wq wf _ _ _ ⟨⟨rfl, rfl, rfl, rfl, rfl, rfl, rfl, rfl, rfl, rfl, rfl, rfl, rfl, hp, hq, hf⟩, hF, hQ⟩)
    (fun _ _ h => ⟨h, fun _ => ⟨h.1.2.2.2.2.2.2.2, Or.inl rfl⟩⟩) (fun _ _ h => h) (fun _ _ h => h.elim))

theorem basicParser_ag (cfg : Cfg) (I : Idna) (input : Bytes) (ov : State) (wp wq wf : Bool) (u u' : Url)
    (hu : Ag wp wq wf u u') (hS : Fam cfg I (some ov) wp ov) (hQ : ov = .query → u.query = u'.query) :
    ResAg wp wq wf (basicParser cfg I input none (some u) (some ov)) (basicParser cfg I input none (some u') (some ov)) := by
  refine Machine.basicParser_rel (A := fun _ _ => False) cfg cfg I input none (some u) (some u') (some ov) rfl ?_
    (step_ag _ wp wq wf) (fun _ _ _ h => h.elim) (fun _ _ h => ⟨h.1.2.2.2.2.2.2.2, Or.inl rfl⟩)
  simp only [Machine.prologue, Option.isNone_some, Bool.false_and, Bool.false_eq_true, if_false, Option.getD_some]
  refine (Sh2_ite _ _ _ _ _).2 ⟨fun _ => ⟨Ag_record _ _ _ hu, Or.inl rfl⟩, fun _ => ⟨⟨rfl, rfl, rfl, rfl, rfl, rfl, rfl, ?_⟩, hS, ?_⟩⟩
  · dsimp only; split
    · exact Ag_record _ _ _ hu
    · exact hu
  · intro h; dsimp only at h ⊢; split
    · rw [Machine.record_query, Machine.record_query]; exact hQ h
    · exact hQ h

end WhatwgUrl.Proofs.Pipeline
