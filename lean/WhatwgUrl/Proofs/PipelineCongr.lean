import WhatwgUrl.Proofs.PipelineRelStates
import WhatwgUrl.Proofs.CanonText
import WhatwgUrl.Proofs.Canon
import WhatwgUrl.Proofs.Frame
/-
  C18d: the value-level pipeline `canonV` is a congruence for "same record up to the spelling of path, query and fragment":
  each setter the pipeline uses depends on the record only through the fields it does not overwrite, and the stage
  relations `R0g`, `R2g`, `R3g`, `R4w` say what is already equal before the path step, the query step, the fragment step
  and after it (step 1 keeps `R0g`: there is no `R1`).  Their parameter `F` is what is asked of the two fragments: `FragEq`
  (the abbreviations `R0` … `R4`), or `True` for a profile that removes fragments (`canonV_congr_of`).
-/
namespace WhatwgUrl.Proofs.Pipeline
open WhatwgUrl WhatwgUrl.Impl WhatwgUrl.Proofs.Canon

theorem canonDecode_ne_nil (x : UInt8) (r : Bytes) : canonDecode (x :: r) ≠ [] := by
  by_cases h : x = 0x25 ∧ hex2 r = true
  · obtain ⟨hx, hr⟩ := h
    subst hx
    match r, hr with
    | h1 :: h2 :: r', hr =>
      simp only [hex2, Bool.and_eq_true] at hr
      rw [canonDecode_esc h1 h2 r' hr.1 hr.2]
      exact List.cons_ne_nil _ _
  · rw [canonDecode_cons_of_not x r h]
    exact List.cons_ne_nil _ _

theorem repeatedDecodeAux_ne_nil : ∀ (fuel : Nat) (s : Bytes), s ≠ [] → repeatedDecodeAux fuel s ≠ [] := by
  intro fuel
  induction fuel with
  | zero => intro s hs; exact hs
  | succ n ih =>
    intro s hs
    unfold repeatedDecodeAux
    split
    · exact hs
    · apply ih
      cases s with
      | nil => exact absurd rfl hs
      | cons x r => exact canonDecode_ne_nil x r

theorem repeatedDecode_eq_nil (s : Bytes) : repeatedDecode s = [] ↔ s = [] := by
  constructor
  · intro h
    by_cases hs : s = []
    · exact hs
    · exact absurd h (repeatedDecodeAux_ne_nil _ s hs)
  · intro h; subst h; exact repeatedDecode_of_fix [] canonDecode_nil

theorem decodeEncode_nil (tr : PSet) : decodeEncode tr [] = [] := by
  unfold decodeEncode
  rw [(repeatedDecode_eq_nil []).mpr rfl]
  rfl

/-- equal canonical forms have equal decoded texts (the encoding step is injective), which are empty together -/
theorem decodeEncode_nil_iff_of_eq (tr : PSet) (a b : Bytes) (h : decodeEncode tr a = decodeEncode tr b) : a = [] ↔ b = [] := by
  replace h := congrArg canonDecode h
  unfold decodeEncode at h
  rw [canonDecode_canonEncode, canonDecode_canonEncode] at h
  rw [← repeatedDecode_eq_nil a, ← repeatedDecode_eq_nil b, h]

theorem setHostname_congr (cfg : Cfg) (I : Idna) (hH : HostOk cfg I) (wp wq wf : Bool) (u u' : Url) (v : Bytes)
    (hu : Ag wp wq wf u u') (ho : u.path.opq = u'.path.opq) :
    ResAg wp wq wf (setU cfg I .hostname u v) (setU cfg I .hostname u' v) := by
  show ResAg wp wq wf (setHostname cfg I u v) (setHostname cfg I u' v)
  unfold setHostname keep
  rw [← ho]
  split
  · exact ⟨hu, Or.inl rfl⟩
  · exact basicParser_ag cfg I v .hostname wp wq wf u u' hu ⟨rfl, hH⟩ nofun

theorem setPathname_congr (cfg : Cfg) (I : Idna) (wp wq wf : Bool) (u u' : Url) (v : Bytes)
    (hu : Ag wp wq wf u u') (ho : u.path.opq = false) (ho' : u'.path.opq = false) :
    ResAg true wq wf (setU cfg I .pathname u v) (setU cfg I .pathname u' v) := by
  show ResAg true wq wf (setPathname cfg I u v) (setPathname cfg I u' v)
  unfold setPathname
  rw [ho, ho']
  simp only [Bool.false_eq_true, if_false]
  obtain ⟨h1, h2, h3, h4, h5, h6, h7, h8, h9⟩ := hu
  exact basicParser_ag cfg I v .pathStart true wq wf _ _ ⟨h1, h2, h3, h4, h5, h6, fun _ => rfl, h8, h9⟩ rfl nofun

theorem setHash_congr (cfg : Cfg) (I : Idna) (wf : Bool) (u u' : Url) (v : Bytes) (hu : Ag true true wf u u') :
    ResAg true true true (setU cfg I .hash u v) (setU cfg I .hash u' v) := by
  show ResAg true true true (setHash cfg I u v) (setHash cfg I u' v)
  obtain ⟨h1, h2, h3, h4, h5, h6, h7, h8, h9⟩ := hu
  have h7' := h7 rfl
  have h8' := h8 rfl
  unfold setHash keep
  split
  · dsimp only
    rw [h8', h7']
    split
    · split <;> exact ⟨⟨h1, h2, h3, h4, h5, h6, fun _ => rfl, fun _ => rfl, fun _ => rfl⟩, Or.inl rfl⟩
    · exact ⟨⟨h1, h2, h3, h4, h5, h6, fun _ => rfl, fun _ => rfl, fun _ => rfl⟩, Or.inl rfl⟩
  · exact basicParser_ag cfg I _ .fragment true true true _ _ ⟨h1, h2, h3, h4, h5, h6, h7, h8, fun _ => rfl⟩ rfl nofun

/-- port / user name / password with the empty value (which does not reach the parser): the records stay in agreement -/
theorem setEmpty_congr (cfg : Cfg) (I : Idna) (s : Setter) (hs : s = .port ∨ s = .username ∨ s = .password) (wp wq wf : Bool)
    (u u' : Url) (hu : Ag wp wq wf u u') : ResAg wp wq wf (setU cfg I s u []) (setU cfg I s u' []) := by
  have hc : cannotHaveUPP u' = cannotHaveUPP u := by unfold cannotHaveUPP; rw [hu.1, hu.2.2.2.1]
  obtain ⟨pa, qu, fr, ve, ql, rfl, h⟩ := hu.exists
  rcases hs with rfl | rfl | rfl <;> simp only [setU, setPort, setUsername, setPassword, keep, hc, List.isEmpty_nil, if_true] <;>
    split <;> exact ⟨⟨rfl, rfl, rfl, rfl, rfl, rfl, h⟩, Or.inl rfl⟩

/-- stage relations: before the path step, before the query step, before the fragment step, after it -/
def R0g (F : Option Bytes → Option Bytes → Prop) (cfg : Cfg) (x y : VS) : Prop :=
  Ag false false false x.u y.u ∧ PathEq x.u.path y.u.path ∧ QueryEq cfg x.u.query y.u.query ∧
    F x.u.fragment y.u.fragment ∧ x.sp = none ∧ y.sp = none
def R2g (F : Option Bytes → Option Bytes → Prop) (cfg : Cfg) (x y : VS) : Prop :=
  Ag true false false x.u y.u ∧ QueryEq cfg x.u.query y.u.query ∧ F x.u.fragment y.u.fragment ∧ x.sp = none ∧ y.sp = none
def R3g (F : Option Bytes → Option Bytes → Prop) (x y : VS) : Prop :=
  Ag true true false x.u y.u ∧ F x.u.fragment y.u.fragment ∧ x.sp = y.sp
/-- after the fragment step: agreement on everything (`wf = true`), or on everything but the fragment -/
def R4w (wf : Bool) (x y : VS) : Prop := Ag true true wf x.u y.u ∧ x.sp = y.sp
abbrev R0 (cfg : Cfg) (x y : VS) : Prop := R0g FragEq cfg x y
abbrev R2 (cfg : Cfg) (x y : VS) : Prop := R2g FragEq cfg x y
abbrev R3 (x y : VS) : Prop := R3g FragEq x y
abbrev R4 (x y : VS) : Prop := R4w true x y

/-- two value-level results: both panic at the same site, or neither panics and the states are related -/
def RRel (R : VS → VS → Prop) (a b : VS × Ret) : Prop :=
  (∃ n, a.2 = .panic n ∧ b.2 = .panic n) ∨ (R a.1 b.1 ∧ (∀ n, a.2 ≠ .panic n) ∧ (∀ n, b.2 ≠ .panic n))

theorem RRel_of {R : VS → VS → Prop} {a b : VS × Ret} (hR : R a.1 b.1) (hret : RetAg a.2 b.2) : RRel R a b := by
  rcases hret with h | ⟨⟨e1, w1, h1⟩, ⟨e2, w2, h2⟩⟩
  · cases ha : a.2 with
    | panic n => exact Or.inl ⟨n, ha, by rw [← h, ha]⟩
    | _ => exact Or.inr ⟨hR, (by intro n h'; rw [ha] at h'; cases h'), (by intro n h'; rw [← h, ha] at h'; cases h')⟩
  · exact Or.inr ⟨hR, (by intro n h'; rw [h1] at h'; cases h'), (by intro n h'; rw [h2] at h'; cases h')⟩

theorem RRel_url {R : VS → VS → Prop} {x y : VS} (hR : R x y) : RRel R (x, .url) (y, .url) :=
  Or.inr ⟨hR, (by intro n h; cases h), (by intro n h; cases h)⟩

theorem thenV_np (a : VS × Ret) (k : VS → VS × Ret) (h : ∀ n, a.2 ≠ .panic n) : thenV a k = k a.1 := by
  unfold thenV
  split
  · rename_i n hn; exact absurd hn (h n)
  · rfl

theorem thenV_panic (a : VS × Ret) (k : VS → VS × Ret) (n : Nat) (h : a.2 = .panic n) : thenV a k = (a.1, .panic n) := by
  unfold thenV; rw [h]

theorem RRel_then {R R' : VS → VS → Prop} {a b : VS × Ret} {k k' : VS → VS × Ret} (h : RRel R a b)
    (hk : ∀ x y, R x y → RRel R' (k x) (k' y)) : RRel R' (thenV a k) (thenV b k') := by
  rcases h with ⟨n, h1, h2⟩ | ⟨hR, h1, h2⟩
  · rw [thenV_panic a k n h1, thenV_panic b k' n h2]
    exact Or.inl ⟨n, rfl, rfl⟩
  · rw [thenV_np a k h1, thenV_np b k' h2]
    exact hk _ _ hR

/-! ### step 1: the host name -/

theorem s1_congr (I : Idna) (p : Profile) (hH : HostOk p.cfg I) {F : Option Bytes → Option Bytes → Prop} (x y : VS)
    (h : R0g F p.cfg x y) :
    RRel (R0g F p.cfg) (step1 I p x) (step1 I p y) := by
  obtain ⟨hA, hP, hQ, hF, hx, hy⟩ := h
  have hh : hostname x.u = hostname y.u := by unfold hostname; rw [hA.2.2.2.1]
  unfold step1
  rw [hh]
  split
  · have hr := setHostname_congr p.cfg I hH false false false x.u y.u (decodeEncode hostSet (hostname y.u)) hA (by rw [hP.1, hP.2.1])
    refine RRel_of ⟨hr.1, ?_, ?_, ?_, hx, hy⟩ hr.2
    · simpa only [vSet, Frame.setU_path _ _ .hostname _ _ (by decide)] using hP
    · simpa only [vSet, Frame.setU_query _ _ .hostname _ _ (by decide)] using hQ
    · simpa only [vSet, Frame.setU_fragment _ _ .hostname _ _ (by decide)] using hF
  · exact RRel_url ⟨hA, hP, hQ, hF, hx, hy⟩

/-! ### step 2: the path -/

theorem path_of_str_nil (a : Path) (ho : a.opq = false) (h : a.str = []) : a = ⟨[], false⟩ := by
  obtain ⟨segs, opq⟩ := a
  simp only at ho
  subst ho
  unfold Path.str Path.str? at h
  simp only [Bool.false_eq_true, if_false, Option.getD_some] at h
  cases segs with
  | nil => rfl
  | cons a t => simp at h

theorem s2_congr (I : Idna) (p : Profile) (hrpd : p.repeatedPercentDecoding = true)
    {F : Option Bytes → Option Bytes → Prop} (x y : VS) (h : R0g F p.cfg x y) :
    RRel (R2g F p.cfg) (step2 I p x) (step2 I p y) := by
  obtain ⟨hA, hP, hQ, hF, hx, hy⟩ := h
  have hiff := decodeEncode_nil_iff_of_eq laxPathSet _ _ hP.2.2
  simp only [step2, hrpd, Bool.true_and, pathname]
  by_cases hn : x.u.path.str = []
  · have hn' := hiff.mp hn
    simp only [hn, hn', bne_self_eq_false, Bool.false_eq_true, if_false]
    refine RRel_url ⟨?_, hQ, hF, hx, hy⟩
    obtain ⟨h1, h2, h3, h4, h5, h6, h7, h8, h9⟩ := hA
    refine ⟨h1, h2, h3, h4, h5, h6, fun _ => ?_, h8, h9⟩
    rw [path_of_str_nil _ hP.1 hn, path_of_str_nil _ hP.2.1 hn']
  · have hn' : ¬ y.u.path.str = [] := fun e => hn (hiff.mpr e)
    have e1 : (x.u.path.str != []) = true := by simpa using hn
    have e2 : (y.u.path.str != []) = true := by simpa using hn'
    simp only [e1, e2, if_true]
    rw [hP.2.2]
    have hr := setPathname_congr p.cfg I false false false x.u y.u (decodeEncode laxPathSet y.u.path.str) hA hP.1 hP.2.1
    refine RRel_of ⟨hr.1, ?_, ?_, hx, hy⟩ hr.2
    · simpa only [vSet, Frame.setU_query _ _ .pathname _ _ (by decide)] using hQ
    · simpa only [vSet, Frame.setU_fragment _ _ .pathname _ _ (by decide)] using hF

/-! ### step 3 (and 8): the list -/

theorem vMut_congr (cfg : Cfg) (m : Heap.SpMut) (wq wf : Bool) (x y : VS) (hA : Ag true wq wf x.u y.u)
    (hL : Heap.applyMut m (vList cfg x) = Heap.applyMut m (vList cfg y)) (hS : x.u.query.isSome = y.u.query.isSome) :
    Ag true true wf (vMut cfg m x).u (vMut cfg m y).u ∧ (vMut cfg m x).sp = (vMut cfg m y).sp ∧
      (vMut cfg m x).u.fragment = x.u.fragment ∧ (vMut cfg m y).u.fragment = y.u.fragment := by
  obtain ⟨h1, h2, h3, h4, h5, h6, h7, h8, h9⟩ := hA
  have hq : Heap.updQuery x.u.query (spString cfg (Heap.applyMut m (vList cfg x))) =
      Heap.updQuery y.u.query (spString cfg (Heap.applyMut m (vList cfg y))) := by
    rw [hL]; unfold Heap.updQuery
    cases hx : x.u.query <;> cases hy : y.u.query <;> simp_all
  rw [vMut_u, vMut_u]
  exact ⟨⟨h1, h2, h3, h4, h5, h6, h7, fun _ => hq, h9⟩, congrArg some hL, rfl, rfl⟩

theorem search_ne_of_some (u : Url) (q : Bytes) (h : u.query = some q) (hq : q ≠ []) : (search u != []) = true := by
  unfold search
  rw [h]
  cases q with
  | nil => exact absurd rfl hq
  | cons a t => rfl

theorem s3_congr (p : Profile) (hrpd : p.repeatedPercentDecoding = true) {F : Option Bytes → Option Bytes → Prop} (x y : VS)
    (h : R2g F p.cfg x y) :
    RRel (R3g F) (step3 p x) (step3 p y) := by
  obtain ⟨hA, hQ, hF, hx, hy⟩ := h
  simp only [step3, hrpd, Bool.true_and]
  rcases hQ with hQ | ⟨qa, qb, ha, hb, hna, hnb, hm⟩
  · have hs : search x.u = search y.u := by unfold search; rw [hQ]
    have hl : vList p.cfg x = vList p.cfg y := vList_congr p.cfg (hx.trans hy.symm) hQ
    rw [hs]
    split
    · obtain ⟨c1, c2, c3, c4⟩ := vMut_congr p.cfg (.iterate fun nv => (decodeEncode repeatedQuerySet nv.1, decodeEncode repeatedQuerySet nv.2))
        false false x y hA (by rw [hl]) (by rw [hQ])
      exact RRel_url ⟨c1, by rw [c3, c4]; exact hF, c2⟩
    · obtain ⟨h1, h2, h3, h4, h5, h6, h7, h8, h9⟩ := hA
      exact RRel_url ⟨⟨h1, h2, h3, h4, h5, h6, h7, fun _ => hQ, h9⟩, hF, by rw [hx, hy]⟩
  · rw [search_ne_of_some x.u qa ha hna, search_ne_of_some y.u qb hb hnb]
    simp only [if_true]
    have hlx : vList p.cfg x = spInit p.cfg qa := by unfold vList IndepHist.initP; rw [hx, ha]
    have hly : vList p.cfg y = spInit p.cfg qb := by unfold vList IndepHist.initP; rw [hy, hb]
    obtain ⟨c1, c2, c3, c4⟩ := vMut_congr p.cfg (.iterate fun nv => (decodeEncode repeatedQuerySet nv.1, decodeEncode repeatedQuerySet nv.2))
      false false x y hA (by rw [hlx, hly]; exact hm) (by rw [ha, hb]; rfl)
    exact RRel_url ⟨c1, by rw [c3, c4]; exact hF, c2⟩

/-! ### step 4: the fragment -/

theorem hashG_some (u : Url) (f : Bytes) (h : u.fragment = some f) (hf : f ≠ []) :
    (hashG u != []) = true ∧ trimPrefix1 (hashG u) [0x23] = f := by
  unfold hashG
  rw [h]
  cases f with
  | nil => exact absurd rfl hf
  | cons a t =>
    refine ⟨rfl, ?_⟩
    simp [trimPrefix1, startsWith]

theorem s4_congr (I : Idna) (p : Profile) (hrpd : p.repeatedPercentDecoding = true) (x y : VS) (h : R3 x y) :
    RRel R4 (step4 I p x) (step4 I p y) := by
  obtain ⟨hA, hF, hsp⟩ := h
  simp only [step4, hrpd, Bool.true_and]
  rcases hF with hF | ⟨fa, fb, ha, hb, hna, hnb, hm⟩
  · have hs : hashG x.u = hashG y.u := by unfold hashG; rw [hF]
    rw [hs]
    split
    · have hr := setHash_congr p.cfg I false x.u y.u (decodeEncode hostSet (trimPrefix1 (hashG y.u) [0x23])) hA
      exact RRel_of ⟨hr.1, hsp⟩ hr.2
    · obtain ⟨h1, h2, h3, h4, h5, h6, h7, h8, h9⟩ := hA
      exact RRel_url ⟨⟨h1, h2, h3, h4, h5, h6, h7, h8, fun _ => hF⟩, hsp⟩
  · obtain ⟨a1, a2⟩ := hashG_some x.u fa ha hna
    obtain ⟨b1, b2⟩ := hashG_some y.u fb hb hnb
    rw [a1, a2, b1, b2, hm]
    simp only [if_true]
    have hr := setHash_congr p.cfg I false x.u y.u (decodeEncode hostSet fb) hA
    exact RRel_of ⟨hr.1, hsp⟩ hr.2

/-! ### steps 5 – 8 -/

theorem s5_congr (I : Idna) (p : Profile) {wf : Bool} (x y : VS) (h : R4w wf x y) :
    RRel (R4w wf) (step5 I p x) (step5 I p y) := by
  unfold step5
  split
  · have hr := setEmpty_congr p.cfg I .port (Or.inl rfl) true true wf x.u y.u h.1
    exact RRel_of ⟨hr.1, h.2⟩ hr.2
  · exact RRel_url h

theorem s6_congr (I : Idna) (p : Profile) {wf : Bool} (x y : VS) (h : R4w wf x y) :
    RRel (R4w wf) (step6 I p x) (step6 I p y) := by
  unfold step6
  split
  · refine RRel_then (R := R4w wf) ?_ (fun x y h => ?_)
    · have hr := setEmpty_congr p.cfg I .username (Or.inr (Or.inl rfl)) true true wf x.u y.u h.1
      exact RRel_of ⟨hr.1, h.2⟩ hr.2
    · have hr := setEmpty_congr p.cfg I .password (Or.inr (Or.inr rfl)) true true wf x.u y.u h.1
      exact RRel_of ⟨hr.1, h.2⟩ hr.2
  · exact RRel_url h

theorem s7_congr (I : Idna) (p : Profile) {wf : Bool} (hw : wf = true ∨ p.removeFragment = true) (x y : VS) (h : R4w wf x y) :
    RRel R4 (step7 I p x) (step7 I p y) := by
  unfold step7
  split
  · have hr := setHash_congr p.cfg I wf x.u y.u [] h.1
    exact RRel_of ⟨hr.1, h.2⟩ hr.2
  · rename_i hn
    rcases hw with hw | hw
    · subst hw; exact RRel_url h
    · exact absurd hw hn

theorem vMut_R4 (cfg : Cfg) (m : Heap.SpMut) (x y : VS) (h : R4 x y) : R4 (vMut cfg m x) (vMut cfg m y) := by
  obtain ⟨hA, hsp⟩ := h
  have hq : x.u.query = y.u.query := hA.2.2.2.2.2.2.2.1 rfl
  have hl : vList cfg x = vList cfg y := vList_congr cfg hsp hq
  obtain ⟨c1, c2, c3, c4⟩ := vMut_congr cfg m true true x y hA (by rw [hl]) (by rw [hq])
  exact ⟨c1, c2⟩

theorem s8_congr (p : Profile) (x y : VS) (h : R4 x y) :
    RRel R4
      (match step8 p x with
        | (x', .panic n) => (x', .panic n)
        | (x', _) => (x', .url))
      (match step8 p y with
        | (x', .panic n) => (x', .panic n)
        | (x', _) => (x', .url)) := by
  unfold step8
  cases p.sortQuery with
  | noSort => exact RRel_url h
  | sortKeys => exact RRel_url (vMut_R4 p.cfg .sort x y h)
  | sortParameter => exact RRel_url (vMut_R4 p.cfg .sortAbs x y h)

/-- the value-level pipeline is a congruence as soon as its fourth step is: after it the fragments agree, or they do not and
    the profile removes them -/
theorem canonV_congr_of (I : Idna) (p : Profile) (hrpd : p.repeatedPercentDecoding = true) (hH : HostOk p.cfg I)
    {F : Option Bytes → Option Bytes → Prop} {wf : Bool} (h4 : ∀ x y, R3g F x y → RRel (R4w wf) (step4 I p x) (step4 I p y))
    (hw : wf = true ∨ p.removeFragment = true) (x y : VS) (h : R0g F p.cfg x y) : RRel R4 (canonV I p x) (canonV I p y) := by
  unfold canonV
  exact RRel_then (s1_congr I p hH x y h) fun x y h => RRel_then (s2_congr I p hrpd x y h) fun x y h =>
    RRel_then (s3_congr p hrpd x y h) fun x y h => RRel_then (h4 x y h) fun x y h =>
    RRel_then (s5_congr I p x y h) fun x y h => RRel_then (s6_congr I p x y h) fun x y h =>
    RRel_then (s7_congr I p hw x y h) fun x y h => s8_congr p x y h

theorem canonV_congr (I : Idna) (p : Profile) (hrpd : p.repeatedPercentDecoding = true) (hH : HostOk p.cfg I) (x y : VS)
    (h : R0 p.cfg x y) : RRel R4 (canonV I p x) (canonV I p y) :=
  canonV_congr_of I p hrpd hH (s4_congr I p hrpd) (Or.inl rfl) x y h

end WhatwgUrl.Proofs.Pipeline
