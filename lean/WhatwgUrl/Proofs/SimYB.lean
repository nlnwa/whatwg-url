import WhatwgUrl.Proofs.Run
/-
  One more Go-side invariant of the loop tops, needed by the simulation lemma of the port state and not part of `XInv`
  (`SimDefs2.lean`): in the port state the buffer holds ASCII digits only. (The Go code computes the port number from the
  BYTES of the buffer, the standard from its CODE POINTS: `digitsVal 10 (utf8 "1é") = 100`, `Spec.strVal 10 "1é" = 10`.)
  It holds initially (empty buffer) and is preserved in every configuration (`body_y`: no hypothesis on `e`).
-/
namespace WhatwgUrl.Proofs.Sim
open WhatwgUrl WhatwgUrl.Impl WhatwgUrl.Proofs.Machine

/-- the port buffer holds ASCII digits (`e` is not used: `YInv e pi` is written like `XInv e pi`, next to which it stands
    in `XIY`, `stepSim'_B_all`, `Loc.of_inv`) -/
def YInv (_e : Env) (pi : PS) : Prop := pi.state = .port → ∀ b ∈ pi.buffer, isDigitN b.toNat = true

theorem digit_utf8Char (r : Char) (h : isDigitN r.toNat = true) : ∀ b ∈ utf8Char r, isDigitN b.toNat = true := by
  have hlt : r.toNat < 0x80 := by simp [isDigitN] at h; omega
  rw [Utf8.utf8Char_ascii r hlt]
  intro b hb
  simp only [List.mem_singleton] at hb
  subst hb
  have : (r.toNat.toUInt8).toNat = r.toNat := by simp; omega
  rw [this]; exact h

/-- the port state is entered from the host, hostname and port states only: a fact about the table `succ` -/
theorem port_pred (ov : Bool) (s : State) (h : State.port ∈ succ ov s) : (s = .host ∨ s = .hostname) ∨ s = .port := by
  cases ov <;> cases s <;> simp [succ] at h ⊢

/-- every state function re-establishes `YInv`: by `body_eff` (the table `succ` of `Effect.lean`) only three states
    continue into the port state; the host states enter it with an empty buffer (at `:`), and the port state itself
    appends digits only -/
theorem body_y (e : Env) (q : PS) (r : Char) (hrepl : q.eof = true → r = repl) (hq : YInv e q) :
    Sh (YInv e) (fun _ => True) (body e q r) := by
  by_cases hp : State.port ∈ succ e.ov.isSome q.state
  · rcases port_pred _ _ hp with hst | hst
    · -- the host and hostname states: the state is kept or the buffer emptied
      have hb : body e q r = stHost e q r := by unfold body; rcases hst with h | h <;> rw [h]
      have hne : q.state ≠ .port := by rcases hst with h | h <;> rw [h] <;> nofun
      rw [hb]
      simp [stHost_eq, hostChar, Sh_afterHost, Sh_ite, Sh_herr, Sh_cont, Sh_done, Sh_retUrl, Sh_elim, YInv, rewindLast, writeRune,
        ite_state, ite_buffer, hne]
    · have hb : body e q r = stPort e q r := by unfold body; rw [hst]
      rw [hb]
      simp [YInv, hst] at hq
      simp [stPort, Sh_ite, Sh_herr, Sh_cont, Sh_done, Sh_retUrl, YInv, rewindLast, writeRune, stops, hst]
      exact fun hd b hb => hb.elim (hq b) (digit_utf8Char r hd b)
  · exact (body_eff e q r fun _ => hrepl).mono (fun ps' h hs => absurd (hs ▸ h.1) hp) (fun _ _ => trivial)

theorem YInv_step (e : Env) (pi pi' : PS) (he : pi.eof = false) (h : YInv e pi) (hs : step e pi = .cont pi') : YInv e pi' := by
  have hb := Sh_step_of_body (body_y e _ _ (next_repl e.runes pi he) (by simpa [YInv, next_fst] using h))
  rwa [hs] at hb

theorem YInv_of_nil (e : Env) (pi : PS) (h : pi.buffer = []) : YInv e pi := by
  intro _ b hb; rw [h] at hb; cases hb

theorem YInv_init (e : Env) (st : State) (u : Url) :
    YInv e (Spelling.ps0 st u) :=
  YInv_of_nil e _ rfl

/-- a port state with a non-empty digit buffer, and the step that appends one more digit -/
example :
    let e : Env := ⟨{}, fun s => (s, false), [0x38, 0x30], ['8', '0'], none, some .port⟩
    let pi : PS := ⟨.port, 0, false, [0x38], false, false, false, {}⟩
    YInv e pi ∧ step e pi = .cont ⟨.port, 1, false, [0x38, 0x30], false, false, false, {}⟩ := by
  intro e pi
  refine ⟨?_, rfl⟩
  intro _ b hb
  simp only [pi, List.mem_singleton] at hb
  subst hb; decide

/-- the invariant really restricts: a port state whose buffer is not digits -/
example (e : Env) : ¬ YInv e ⟨.port, 0, false, [0x61], false, false, false, {}⟩ := by
  intro h
  have := h rfl 0x61 (by simp)
  exact absurd this (by decide)

end WhatwgUrl.Proofs.Sim

open WhatwgUrl.Proofs.Sim in
#print axioms YInv_step
open WhatwgUrl.Proofs.Sim in
#print axioms YInv_init
