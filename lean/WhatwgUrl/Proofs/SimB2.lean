import WhatwgUrl.Proofs.SimB2Core
import WhatwgUrl.Proofs.SimHost
import WhatwgUrl.Proofs.SimInv
/-
  The one-iteration simulation for the nine states host, hostname, port, file host, path start, path, opaque path, query,
  fragment in the shape of `StepSim'` (`SimDefs2.lean`) with `YInv` as one more hypothesis: `stepSim'_B_all`. (`StepSim'` itself
  has no `YInv` and is not proved; `SimFinal.stepSimG_all` puts this theorem and `stepSim'_A` together as
  `StepSimG XIY (RRes' ov.isNone)`, which is what the loop lifting takes.) The state lemmas are in `SimB2Core.lean` (with
  the host-parser lemma `HostConforms I` as a hypothesis, `stB`: `SimBaseB.lean`); here it is discharged from
  `SimHost.lean`'s host-parser lemmas (`hostConforms_of_laws`), and the theorem is instantiated on concrete environments.
-/
namespace WhatwgUrl.Proofs.Sim
open WhatwgUrl WhatwgUrl.Impl

theorem hostConforms_of_laws {I : Idna} (hI : IdnaLaws I) : HostConforms I :=
  fun u sbuf ns hne => ⟨parseHost_conforms I hI u sbuf ns hne, parseHost_url I u (utf8 sbuf) ns⟩

/-- the frame of the host parser (`HostFrame`: it leaves the url record as it is) holds for every oracle: it is
    `parseHost_url`, and the laws are not used. Nothing asks for it: after a host parser error the simulation
    (`ShS_afterHost`) uses `HostWF.parseHost_frame`, the same fact field by field for every configuration. -/
theorem hostFrame_of_laws {I : Idna} (_hI : IdnaLaws I) : HostFrame I := parseHost_url I

/-- **The one-iteration simulation for the nine states of `stB`.** Hypotheses: the oracle laws (for the host parser), the
    environment relation, the well-formedness of the base (not used by these nine states; there so that the theorem is
    called like `stepSim'_A`), `RPS`, and the two Go-side invariants `XInv` (inductive: `XInv_step`) and `YInv`
    (inductive: `YInv_step`). -/
theorem stepSim'_B_all (I : Idna) (hI : IdnaLaws I) (ov : Option Spec.St) :
    ∀ (e : Env) (input : Str) (base : Option Spec.SUrl), REnv e input base ov I → EnvOk e →
      ∀ (pi : PS) (ss : Spec.PS), RPS pi ss → XInv e pi → YInv e pi → stB pi.state = true →
        RStep' ov.isNone (step e pi) (afterRun input (Spec.run (specIdna I) input base ov ss)) :=
  fun e input base hE _ pi ss h hx hy hs =>
    stepSim'_B_of_hostConforms I (hostConforms_of_laws hI) ov e input base hE pi ss h hx hy hs

/-! ## non-vacuity: the theorem instantiated on concrete environments -/

private def uHttp : Url := { scheme := [0x68, 0x74, 0x74, 0x70], host := some [0x68] }
private def sHttp : Spec.SUrl := { scheme := "http".toList, host := some ['h'] }
private theorem rHttp : RUrl uHttp sHttp := ⟨by decide, rfl, rfl, by decide, rfl, ⟨rfl, rfl⟩, rfl, rfl⟩

private theorem xinv_of (e : Env) (pi : PS) (hlt : pi.pointer < e.runes.length) (hp : -1 ≤ pi.pointer)
    (h1 : pi.state ≠ .authority) (h2 : bufEmptySt pi.state = false) (h3 : relSt pi.state = false) (h4 : pi.url.path.opq = false) :
    XInv e pi :=
  ⟨hlt, hp, fun h => absurd h h1, fun h => (by rw [h2] at h; cases h), fun h => (by rw [h3] at h; cases h),
    fun h => (by rw [h4] at h; cases h)⟩

/-- `http://h:80/` in the port state after the `8`: all hypotheses hold, both machines append the `0` and continue -/
example :
    let input := "http://h:80/".toList
    let e : Env := ⟨{}, I0, utf8 input, input, none, none⟩
    let pi : PS := ⟨.port, 9, false, [0x38], false, false, false, uHttp⟩
    let ss : Spec.PS := ⟨.port, 10, ['8'], false, false, false, sHttp⟩
    (REnv e input none none I0 ∧ EnvOk e ∧ RPS pi ss ∧ XInv e pi ∧ YInv e pi ∧ stB pi.state = true) ∧
    step e pi = .cont ⟨.port, 10, false, [0x38, 0x30], false, false, false, uHttp⟩ ∧
    afterRun input (Spec.run (specIdna I0) input none none ss) = .cont ⟨.port, 11, ['8', '0'], false, false, false, sHttp⟩ ∧
    RStep' true (step e pi) (afterRun input (Spec.run (specIdna I0) input none none ss)) := by
  intro input e pi ss
  have hE : REnv e input none none I0 := ⟨rfl, rfl, rfl, Utf8.goRunes_utf8 _, trivial, rfl⟩
  have hOk : EnvOk e := fun b hb => by cases hb
  have hR : RPS pi ss := RPS.ofOrdB rfl rfl rfl rfl rfl rfl rfl (by decide) rHttp
  have hX : XInv e pi := xinv_of e pi (by decide) (by decide) (by decide) rfl rfl rfl
  have hY : YInv e pi := by
    intro _ b hb
    simp only [pi, List.mem_singleton] at hb
    subst hb; decide
  exact ⟨⟨hE, hOk, hR, hX, hY, rfl⟩, rfl, rfl, stepSim'_B_all I0 I0_laws none e input none hE hOk pi ss hR hX hY rfl⟩

/-- `http://h:x` in the port state at the `x`: both machines fail, and the urls at that moment correspond (the
    clause of `RRes'` for a failure) -/
example :
    let input := "http://h:x".toList
    let e : Env := ⟨{}, I0, utf8 input, input, none, none⟩
    let pi : PS := ⟨.port, 8, false, [], false, false, false, uHttp⟩
    let ss : Spec.PS := ⟨.port, 9, [], false, false, false, sHttp⟩
    (REnv e input none none I0 ∧ EnvOk e ∧ RPS pi ss ∧ XInv e pi ∧ YInv e pi ∧ stB pi.state = true) ∧
    step e pi = .done ⟨uHttp, .err ⟨.PortInvalid, true⟩ false⟩ ∧
    afterRun input (Spec.run (specIdna I0) input none none ss) = .stop (sHttp, true) ∧
    RStep' true (step e pi) (afterRun input (Spec.run (specIdna I0) input none none ss)) := by
  intro input e pi ss
  have hE : REnv e input none none I0 := ⟨rfl, rfl, rfl, Utf8.goRunes_utf8 _, trivial, rfl⟩
  have hOk : EnvOk e := fun b hb => by cases hb
  have hR : RPS pi ss := RPS.ofOrdB rfl rfl rfl rfl rfl rfl rfl rfl rHttp
  have hX : XInv e pi := xinv_of e pi (by decide) (by decide) (by decide) rfl rfl rfl
  have hY : YInv e pi := YInv_of_nil e pi rfl
  exact ⟨⟨hE, hOk, hR, hX, hY, rfl⟩, rfl, rfl, stepSim'_B_all I0 I0_laws none e input none hE hOk pi ss hR hX hY rfl⟩

/-- the port setter with the value "x" on `http://h` (state override, empty buffer, a non-digit): Go fails with
    `PortMissing`, the standard returns; `RStep' false` holds (the urls correspond, the failure flags are not compared) -/
example :
    let e : Env := ⟨{}, I0, [0x78], ['x'], none, some .port⟩
    let pi : PS := ⟨.port, -1, false, [], false, false, false, uHttp⟩
    let ss : Spec.PS := ⟨.port, 0, [], false, false, false, sHttp⟩
    (REnv e ['x'] none (some .port) I0 ∧ EnvOk e ∧ RPS pi ss ∧ XInv e pi ∧ YInv e pi ∧ stB pi.state = true) ∧
    step e pi = .done ⟨uHttp, .err ⟨.PortMissing, true⟩ false⟩ ∧
    afterRun ['x'] (Spec.run (specIdna I0) ['x'] none (some .port) ss) = .stop (sHttp, false) ∧
    RStep' false (step e pi) (afterRun ['x'] (Spec.run (specIdna I0) ['x'] none (some .port) ss)) := by
  intro e pi ss
  have hE : REnv e ['x'] none (some .port) I0 := ⟨rfl, rfl, rfl, (by show goRunes [0x78] = _; decide), trivial, rfl⟩
  have hOk : EnvOk e := fun b hb => by cases hb
  have hR : RPS pi ss := RPS.ofOrdB rfl rfl rfl rfl rfl rfl rfl rfl rHttp
  have hX : XInv e pi := xinv_of e pi (by decide) (by decide) (by decide) rfl rfl rfl
  have hY : YInv e pi := YInv_of_nil e pi rfl
  exact ⟨⟨hE, hOk, hR, hX, hY, rfl⟩, rfl, rfl, stepSim'_B_all I0 I0_laws (some .port) e ['x'] none hE hOk pi ss hR hX hY rfl⟩

private def uFile : Url := { scheme := [0x66, 0x69, 0x6c, 0x65], host := some [0x68] }
private def sFile : Spec.SUrl := { scheme := "file".toList, host := some ['h'] }
private theorem rFile : RUrl uFile sFile := ⟨by decide, rfl, rfl, by decide, rfl, ⟨rfl, rfl⟩, rfl, rfl⟩

/-- the host setter with the empty value on `file://h` (file host state, override, empty buffer at EOF): Go returns
    `nil, nil`, the standard returns the url with the empty host; `RStep' false` holds -/
example :
    let e : Env := ⟨{}, I0, [], [], none, some .host⟩
    let pi : PS := ⟨.fileHost, -1, false, [], false, false, false, uFile⟩
    let ss : Spec.PS := ⟨.fileHost, 0, [], false, false, false, sFile⟩
    (REnv e [] none (some .host) I0 ∧ EnvOk e ∧ RPS pi ss ∧ XInv e pi ∧ YInv e pi ∧ stB pi.state = true) ∧
    step e pi = .done ⟨{ uFile with host := some [] }, .nilNil⟩ ∧
    afterRun [] (Spec.run (specIdna I0) [] none (some .host) ss) = .stop ({ sFile with host := some [] }, false) ∧
    RStep' false (step e pi) (afterRun [] (Spec.run (specIdna I0) [] none (some .host) ss)) := by
  intro e pi ss
  have hE : REnv e [] none (some .host) I0 := ⟨rfl, rfl, rfl, rfl, trivial, rfl⟩
  have hOk : EnvOk e := fun b hb => by cases hb
  have hR : RPS pi ss := RPS.ofOrdB rfl rfl rfl rfl rfl rfl rfl rfl rFile
  have hX : XInv e pi := xinv_of e pi (by decide) (by decide) (by decide) rfl rfl rfl
  have hY : YInv e pi := YInv_of_nil e pi rfl
  exact ⟨⟨hE, hOk, hR, hX, hY, rfl⟩, rfl, rfl, stepSim'_B_all I0 I0_laws (some .host) e [] none hE hOk pi ss hR hX hY rfl⟩

/-- `http://[::1` in the host state at EOF: the host parser fails on both sides; the Go url is the host parser's, which
    corresponds to the standard's url -/
example :
    let input := "http://[::1".toList
    let e : Env := ⟨{}, I0, utf8 input, input, none, none⟩
    let u : Url := { scheme := [0x68, 0x74, 0x74, 0x70] }
    let us : Spec.SUrl := { scheme := "http".toList }
    let pi : PS := ⟨.host, 10, false, utf8 "[::1".toList, false, true, false, u⟩
    let ss : Spec.PS := ⟨.host, 11, "[::1".toList, false, true, false, us⟩
    (REnv e input none none I0 ∧ EnvOk e ∧ RPS pi ss ∧ XInv e pi ∧ YInv e pi ∧ stB pi.state = true) ∧
    step e pi = .done ⟨u, .err ⟨.IPv6Unclosed, true⟩ true⟩ ∧
    afterRun input (Spec.run (specIdna I0) input none none ss) = .stop (us, true) ∧
    RStep' true (step e pi) (afterRun input (Spec.run (specIdna I0) input none none ss)) := by
  intro input e u us pi ss
  have hE : REnv e input none none I0 := ⟨rfl, rfl, rfl, Utf8.goRunes_utf8 _, trivial, rfl⟩
  have hOk : EnvOk e := fun b hb => by cases hb
  have hR : RPS pi ss := RPS.ofOrdB rfl rfl rfl rfl rfl rfl rfl rfl ⟨by decide, rfl, rfl, rfl, rfl, ⟨rfl, rfl⟩, rfl, rfl⟩
  have hX : XInv e pi := xinv_of e pi (by decide) (by decide) (by decide) rfl rfl rfl
  have hY : YInv e pi := fun h => by cases h
  exact ⟨⟨hE, hOk, hR, hX, hY, rfl⟩, rfl, rfl,
    stepSim'_B_all I0 I0_laws none e input none hE hOk pi ss hR hX hY rfl⟩

/-- why `NoOpq` (the last clause of `Loc`) asks for a list path in the host … port states only without a state override:
    under one, `XInv`, from which `Loc` is derived, allows an opaque path there (they return before any path state), e.g. the port setter's initial state on `mailto:x` -/
example :
    let e : Env := ⟨{}, I0, [0x38], ['8'], none, some .port⟩
    let u : Url := { scheme := [0x6d], path := ⟨[[0x78]], true⟩ }
    XInv e ⟨.port, -1, false, [], false, false, false, u⟩ ∧ u.path.opq = true :=
  ⟨XInv_init _ _ _ rfl (fun _ => Or.inr ⟨rfl, rfl⟩), rfl⟩

end WhatwgUrl.Proofs.Sim

open WhatwgUrl.Proofs.Sim in
#print axioms stepSim'_B_all
open WhatwgUrl.Proofs.Sim in
#print axioms hostConforms_of_laws
open WhatwgUrl.Proofs.Sim in
#print axioms hostFrame_of_laws
