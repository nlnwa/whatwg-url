import WhatwgUrl.Proofs.Run
import WhatwgUrl.Proofs.IPv4
/-
  Running the machine along a text of known shape.  `Cur e ps pre rest` is the zipper view of the cursor: the machine has
  read `pre` and is about to read `rest`.  A state that loops on itself folds its update over a block of code points
  (`Steps.scanJ`); the statements hold for every environment, and what a text-specific proof adds is that the encoder
  copies its bytes (`flatMap_pe_copy`) and that the code-point branch is quiet (`QuietOn`).
-/
namespace WhatwgUrl.Proofs.Resolve
open WhatwgUrl

def isSchemeChar (c : Char) : Bool := isAlnumN c.toNat || c == '+' || c == '-' || c == '.'

def baseHas (ob : Option Impl.Url) (sch : Bytes) : Bool :=
  match ob with
  | some b => b.scheme == sch
  | none => false

end WhatwgUrl.Proofs.Resolve

namespace WhatwgUrl.Proofs.RoundTrip
open WhatwgUrl WhatwgUrl.Impl WhatwgUrl.Proofs.IPv4

/-- the drive-letter quirk of the path state leaves the segment alone -/
def DriveOk (u : Url) (buf : Bytes) : Prop :=
  (u.scheme == lit "file" && u.path.isEmpty && isWindowsDriveLetter buf) = true → isNormalizedWindowsDriveLetter buf = true

/-- the condition under which the path state ADDS the buffer as a new segment -/
def AddsSeg (cfg : Cfg) (u : Url) : Prop :=
  (!cfg.collapse || !cfg.isSpecial u.scheme || u.path.isEmpty || decide ((u.path.segs.getLast?.getD []).length > 0)) = true

/-- what ends the authority / host / port states: end of input or one of `/ ? #` -/
def Delim (l : Str) : Prop := l = [] ∨ ∃ c tl, l = c :: tl ∧ (c = '/' ∨ c = '?' ∨ c = '#')

/-- the bracket automaton of the host state: `none` = a `:` outside brackets, otherwise the final flag -/
def hostScan : Bytes → Bool → Option Bool
  | [], fl => some fl
  | b :: rest, fl =>
    if b == 0x3a && !fl then none else hostScan rest (if b == 0x5b then true else if b == 0x5d then false else fl)

def nextFlag (b : UInt8) (fl : Bool) : Bool := if b == 0x5b then true else if b == 0x5d then false else fl

theorem hostScan_cons (b : UInt8) (rest : Bytes) (fl : Bool) :
    hostScan (b :: rest) fl = if (b == 0x3a && !fl) = true then none else hostScan rest (nextFlag b fl) := rfl

theorem currentIsInvalid_bc (e : Env) (ps : PS) (b : UInt8) (h : cur e.runes ps.pointer = some (bc b)) :
    currentIsInvalid e ps = false := by
  simp [currentIsInvalid, h, IPv4.bc_ne_repl]

theorem normalized_shape (s : Bytes) (h : isNormalizedWindowsDriveLetter s = true) : ∃ a, s = [a, 0x3a] := by
  match s, h with
  | [a, b], h =>
    simp only [isNormalizedWindowsDriveLetter, Bool.and_eq_true, beq_iff_eq] at h
    exact ⟨a, by rw [h.2]⟩

theorem DriveOk_nonempty (u : Url) (buf : Bytes) (h : u.path.segs ≠ []) : DriveOk u buf := by
  intro hc
  have : u.path.isEmpty = false := by
    unfold Path.isEmpty
    cases hs : u.path.segs with
    | nil => exact absurd hs h
    | cons a b => rfl
  simp [this] at hc

/-! ### the text of a serialization, piece by piece: `credText`, `Web.portText`, `pathText`, `qTail`, `fTail` -/

theorem asStr_append (a b : Bytes) : asStr (a ++ b) = asStr a ++ asStr b := by simp [asStr]

def fTail (f : Option Bytes) : Bytes := match f with | some f => 0x23 :: f | none => []
def qTail (q : Option Bytes) : Bytes := match q with | some q => 0x3f :: q | none => []
def setF (u : Url) (f : Option Bytes) : Url := match f with | none => u | some f => { u with fragment := some f }
def setQ (u : Url) (q : Option Bytes) : Url := match q with | none => u | some q => { u with query := some q }

theorem bc_hash : bc 35 = '#' := rfl
theorem bc_qm : bc 63 = '?' := rfl
theorem bc_slash : bc 47 = '/' := rfl
theorem bc_colon : bc 58 = ':' := rfl

def pathText (segs : List Bytes) : Bytes := segs.flatMap (fun s => 0x2f :: s)

def credText (user pass : Bytes) : Bytes :=
  if user != [] || pass != [] then user ++ (if pass != [] then 0x3a :: pass else []) ++ [0x40] else []

/-- a delimiter, as the exits of the authority, host and port states test it: it is none of `@`, `:`, a digit -/
theorem delim_char {c : Char} (h : c = '/' ∨ c = '?' ∨ c = '#') :
    ((c = '/' ∨ c = '?') ∨ c = '#') ∧ (c == '@') = false ∧ (c == ':') = false ∧ isDigitN c.toNat = false := by
  rcases h with h | h | h <;> subst h <;> decide

theorem pathText_delim (segs : List Bytes) (hne : segs ≠ []) (Y : Bytes) : Delim (asStr (pathText segs ++ Y)) := by
  cases segs with
  | nil => exact absurd rfl hne
  | cons x more => exact Or.inr ⟨'/', asStr (x ++ (pathText more ++ Y)), by simp [pathText, bc_slash, asStr], Or.inl rfl⟩

theorem isSpecial_file : Cfg.isSpecial {} (lit "file") = true := by decide

theorem not_file_of_nonspecial {s : Bytes} (hsp : Cfg.isSpecial {} s = false) : (s == lit "file") = false := by
  cases h : s == lit "file"
  · rfl
  · rw [eq_of_beq h, isSpecial_file] at hsp; cases hsp

end WhatwgUrl.Proofs.RoundTrip

namespace WhatwgUrl.Proofs.Web
open WhatwgUrl WhatwgUrl.Impl WhatwgUrl.Proofs.RoundTrip

def portText : Option Bytes → Bytes
  | none => []
  | some p => 0x3a :: p

/-- the record after the (optional) port part: nothing for no port or an empty port; otherwise the number is stored in
    canonical decimal form, and dropped again if it is the default port of the scheme -/
def portU (cfg : Cfg) (V : Url) : Option Bytes → Url
  | none => V
  | some p => if p = [] then V else
      cleanDefaultPort cfg { V with decodedPort := digitsVal 10 p, port := some (itoa (digitsVal 10 p)) }

theorem portU_empty (cfg : Cfg) (V : Url) (p : Bytes) (hp : p = []) : portU cfg V (some p) = V := by
  show (if p = [] then V else _) = V
  rw [if_pos hp]

theorem portU_digits (cfg : Cfg) (V : Url) (p : Bytes) (hp : p ≠ []) : portU cfg V (some p) =
    cleanDefaultPort cfg { V with decodedPort := digitsVal 10 p, port := some (itoa (digitsVal 10 p)) } := by
  show (if p = [] then V else _) = _
  rw [if_neg hp]

theorem addsSeg_of (cfg : Cfg) (u : Url) (h : cfg.collapse = false ∨ ∀ s ∈ u.path.segs, s ≠ []) : AddsSeg cfg u := by
  unfold AddsSeg
  rcases h with hc | h
  · simp [hc]
  cases hs : u.path.segs.getLast? with
  | none =>
    have : u.path.segs = [] := List.getLast?_eq_none_iff.mp hs
    simp [Path.isEmpty, this]
  | some x =>
    have hx := h x (List.mem_of_getLast? hs)
    have : x.length > 0 := by
      cases x with
      | nil => exact absurd rfl hx
      | cons _ _ => simp
    simp [this]

end WhatwgUrl.Proofs.Web

namespace WhatwgUrl.Proofs.Run
open WhatwgUrl WhatwgUrl.Impl WhatwgUrl.Proofs.Resolve WhatwgUrl.Proofs.IPv4 WhatwgUrl.Proofs.Machine
open WhatwgUrl.Proofs.RoundTrip (DriveOk AddsSeg normalized_shape DriveOk_nonempty Delim hostScan nextFlag hostScan_cons
  currentIsInvalid_bc delim_char asStr_append qTail fTail setQ setF pathText bc_hash bc_qm bc_slash bc_colon)

/-! ### the cursor -/

/-- `ps.pointer` is the index of the LAST code point read (`ptr`): the loop advances it before it reads, so the start
    state has pointer `-1` (`Cur.start`) -/
structure Cur (e : Env) (ps : PS) (pre rest : Str) : Prop where
  runes : e.runes = pre ++ rest
  ptr : ps.pointer + 1 = (pre.length : Int)
  eof : ps.eof = false

theorem Cur.start {e : Env} {ps : PS} (hp : ps.pointer = -1) (he : ps.eof = false) : Cur e ps [] e.runes :=
  ⟨rfl, by rw [hp]; rfl, he⟩

theorem Cur.cur_cons {e : Env} {ps : PS} {pre tl : Str} {c : Char} (h : Cur e ps pre (c :: tl)) :
    cur e.runes (ps.pointer + 1) = some c := by
  rw [h.ptr, h.runes]; unfold cur; simp

theorem Cur.step_cons {e : Env} {ps : PS} {pre tl : Str} {c : Char} (h : Cur e ps pre (c :: tl)) :
    step e ps = bottom (body e { ps with pointer := ps.pointer + 1 } c) := by
  unfold step next; rw [h.cur_cons]

theorem Cur.step_nil {e : Env} {ps : PS} {pre : Str} (h : Cur e ps pre []) :
    step e ps = bottom (body e { ps with pointer := ps.pointer + 1, eof := true } repl) := by
  have hn : cur e.runes (ps.pointer + 1) = none := by rw [h.ptr, h.runes]; unfold cur; simp
  unfold step next; rw [hn]

theorem Cur.runesFrom {e : Env} {ps : PS} {pre rest : Str} (h : Cur e ps pre rest) : runesFrom e.runes (ps.pointer + 1) = rest := by
  unfold Impl.runesFrom; rw [h.ptr, h.runes]; simp

theorem Cur.inv {e : Env} {ps : PS} {pre rest : Str} (h : Cur e ps pre rest) : Termination.Inv e.runes.length ps := by
  refine ⟨?_, h.eof⟩
  have := h.ptr
  rw [h.runes, List.length_append]
  omega

/-- the rest of the text in another form (without rewriting in the state) -/
theorem Cur.cast {e : Env} {ps : PS} {pre rest rest' : Str} (h : Cur e ps pre rest) (hr : rest = rest') : Cur e ps pre rest' :=
  hr ▸ h

theorem Cur.adv {e : Env} {ps ps' : PS} {pre tl : Str} {c : Char} (h : Cur e ps pre (c :: tl))
    (hp : ps'.pointer = ps.pointer + 1) (he : ps'.eof = false) : Cur e ps' (pre ++ [c]) tl :=
  ⟨by rw [h.runes]; simp, by rw [hp, h.ptr]; simp, he⟩

theorem Cur.one {e : Env} {ps ps' : PS} {pre tl : Str} {c : Char} (h : Cur e ps pre (c :: tl)) (hs : step e ps = .cont ps')
    (hp : ps'.pointer = ps.pointer + 1) (he : ps'.eof = false) : Steps e ps ps' ∧ Cur e ps' (pre ++ [c]) tl :=
  ⟨.one hs, h.adv hp he⟩

/-- an iteration that consumes two code points (the scheme state at `:/`, the slashes states at `//`) -/
theorem Cur.two {e : Env} {ps ps' : PS} {pre tl : Str} {c d : Char} (h : Cur e ps pre (c :: d :: tl)) (hs : step e ps = .cont ps')
    (hp : ps'.pointer = ps.pointer + 1 + 1) (he : ps'.eof = false) : Steps e ps ps' ∧ Cur e ps' (pre ++ [c, d]) tl :=
  ⟨.one hs, by rw [h.runes]; simp, by rw [hp, h.ptr]; simp; omega, he⟩

theorem Cur.stay {e : Env} {ps ps' : PS} {pre rest : Str} (h : Cur e ps pre rest) (hs : step e ps = .cont ps')
    (hp : ps'.pointer = ps.pointer) (he : ps'.eof = false) : Steps e ps ps' ∧ Cur e ps' pre rest :=
  ⟨.one hs, h.runes, by rw [hp]; exact h.ptr, he⟩

/-- an iteration that sets the pointer back over the code points `w` just read (the authority state, over its buffer) -/
theorem Cur.rewind {e : Env} {ps ps' : PS} {pre w rest : Str} (h : Cur e ps (pre ++ w) rest) (hs : step e ps = .cont ps')
    (hp : ps'.pointer = ps.pointer - (w.length : Int)) (he : ps'.eof = false) : Steps e ps ps' ∧ Cur e ps' pre (w ++ rest) :=
  ⟨.one hs, by rw [h.runes]; simp, by have := h.ptr; rw [hp]; simp at this ⊢; omega, he⟩

/-! ### a state that loops on itself -/

/-- `J ps w`: the machine is in `ps` with the block `w` still to read (`tl` follows the block).  If one iteration on the
    first code point of the block is `upd` and keeps `J`, the machine folds `upd` over the block. -/
theorem Steps.scanJ (e : Env) (tl : Str) (J : PS → Str → Prop) (upd : PS → Char → PS)
    (hptr : ∀ ps c, (upd ps c).pointer = ps.pointer + 1) (heof : ∀ ps c, (upd ps c).eof = ps.eof)
    (hstep : ∀ (ps : PS) (pre w : Str) (c : Char), J ps (c :: w) → Cur e ps pre (c :: w ++ tl) →
      step e ps = .cont (upd ps c) ∧ J (upd ps c) w) :
    ∀ (w : Str) (ps : PS) (pre : Str), J ps w → Cur e ps pre (w ++ tl) →
      Steps e ps (w.foldl upd ps) ∧ Cur e (w.foldl upd ps) (pre ++ w) tl := by
  intro w
  induction w with
  | nil => intro ps pre _ hc; exact ⟨.refl _, by simpa using hc⟩
  | cons c w ih =>
    intro ps pre hj hc
    obtain ⟨hs, hj'⟩ := hstep ps pre w c hj hc
    obtain ⟨h1, h3⟩ := ih (upd ps c) (pre ++ [c]) hj' (Cur.adv hc (hptr ps c) (by rw [heof, hc.eof]))
    exact ⟨.head hs h1, by simpa using h3⟩

/-- the instance "`J` of the machine state, `C` of what is left of the text at every position of the block" -/
theorem Steps.scan (e : Env) (C : Str → Prop) (J : PS → Prop) (upd : PS → Char → PS)
    (hptr : ∀ ps c, (upd ps c).pointer = ps.pointer + 1) (heof : ∀ ps c, (upd ps c).eof = ps.eof)
    (hJ : ∀ ps c, J ps → J (upd ps c))
    (hstep : ∀ (ps : PS) (pre tl : Str) (c : Char), J ps → Cur e ps pre (c :: tl) → C (c :: tl) → step e ps = .cont (upd ps c))
    (w tl : Str) (hC : ∀ a b, w = a ++ b → b ≠ [] → C (b ++ tl)) (ps : PS) (pre : Str) (hj : J ps) (hc : Cur e ps pre (w ++ tl)) :
    Steps e ps (w.foldl upd ps) ∧ Cur e (w.foldl upd ps) (pre ++ w) tl :=
  Steps.scanJ e tl (fun q v => J q ∧ ∀ a b, v = a ++ b → b ≠ [] → C (b ++ tl)) upd hptr heof
    (fun q pre v c hj hc => ⟨hstep q pre (v ++ tl) c hj.1 hc (hj.2 [] (c :: v) rfl (by simp)),
      hJ q c hj.1, fun a b hab hb => hj.2 (c :: a) b (by rw [hab]; rfl) hb⟩)
    w ps pre ⟨hj, hC⟩ hc

theorem foldl_buffer (g : Char → Bytes) (w : Str) (ps : PS) :
    w.foldl (fun ps c => { ps with pointer := ps.pointer + 1, buffer := ps.buffer ++ g c }) ps =
      { ps with pointer := ps.pointer + (w.length : Int), buffer := ps.buffer ++ w.flatMap g } := by
  induction w generalizing ps with
  | nil => simp
  | cons c w ih =>
    rw [List.foldl_cons, ih]
    simp only [List.length_cons, List.flatMap_cons, List.append_assoc, Int.natCast_succ]
    congr 1
    omega

/-- the usual self-loop: every code point of the block, encoded by `g`, is appended to the buffer; nothing else changes.
    `J` may speak of everything but the pointer and the buffer. -/
theorem scan_buffer (e : Env) (C : Str → Prop) (J : PS → Prop) (g : Char → Bytes)
    (hJ : ∀ ps p b, J ps → J { ps with pointer := p, buffer := b })
    (hstep : ∀ (ps : PS) (pre tl : Str) (c : Char), J ps → Cur e ps pre (c :: tl) → C (c :: tl) →
      step e ps = .cont { ps with pointer := ps.pointer + 1, buffer := ps.buffer ++ g c })
    (w tl : Str) (hC : ∀ a b, w = a ++ b → b ≠ [] → C (b ++ tl)) (ps : PS) (pre : Str) (hj : J ps) (hc : Cur e ps pre (w ++ tl)) :
    Steps e ps { ps with pointer := ps.pointer + (w.length : Int), buffer := ps.buffer ++ w.flatMap g } ∧
    Cur e { ps with pointer := ps.pointer + (w.length : Int), buffer := ps.buffer ++ w.flatMap g } (pre ++ w) tl := by
  have := Steps.scan e C J (fun ps c => { ps with pointer := ps.pointer + 1, buffer := ps.buffer ++ g c })
    (fun _ _ => rfl) (fun _ _ => rfl) (fun ps c h => hJ ps _ _ h) hstep w tl hC ps pre hj hc
  rwa [foldl_buffer] at this

theorem all_suffix {C : Char → Prop} {w : Str} (tl : Str) (h : ∀ c ∈ w, C c) :
    ∀ a b, w = a ++ b → b ≠ [] → ∀ c ∈ (b ++ tl).head?, C c := by
  intro a b hab hb c hc
  cases b with
  | nil => exact absurd rfl hb
  | cons x b' =>
    simp only [List.cons_append, List.head?_cons, Option.mem_def, Option.some.injEq] at hc
    subst hc
    exact h _ (by rw [hab]; simp)

/-- a text of bytes: a condition on its code points is asked of the bytes, and ASCII bytes are what `writeRune` makes of them -/
theorem chars_of_bytes {C : Char → Prop} {w : Bytes} (h : ∀ b ∈ w, C (bc b)) : ∀ c ∈ asStr w, C c := fun c hc => by
  obtain ⟨b, hb, rfl⟩ := List.mem_map.mp hc
  exact h b hb

theorem flatMap_utf8Char_asStr (w : Bytes) (h : Ascii w) : (asStr w).flatMap utf8Char = w := utf8_asStr w h

theorem digit_byte : ∀ b : UInt8, isDigitN b.toNat = true → isDigitN (bc b).toNat = true ∧ b.toNat < 0x80 :=
  forall_uint8 (by decide +kernel)

/-! ### bytes that a percent-encoder copies -/

theorem pe_copy (cfg : Cfg) (tr : PSet) (b : UInt8) (h : tr.has b.toNat = false) : percentEncodeRune cfg tr (bc b) = [b] := by
  have hb : b.toNat < 0x80 := by
    simp only [PSet.has, Bool.or_eq_false_iff, decide_eq_false_iff_not] at h
    omega
  simp [percentEncodeRune, Utf8.bc_toNat, h, utf8Char_bc b hb]

theorem flatMap_pe_copy (cfg : Cfg) (tr : PSet) (w : Bytes) (h : ∀ b ∈ w, tr.has b.toNat = false) :
    (asStr w).flatMap (percentEncodeRune cfg tr) = w := by
  induction w with
  | nil => rfl
  | cons b w ih =>
    rw [asStr_cons, List.flatMap_cons, pe_copy cfg tr b (h b (by simp)), ih (fun x hx => h x (by simp [hx]))]
    rfl

theorem peInvalid_of {cfg : Cfg} (h : cfg.pctSingle = false) (tr : PSet) (r : Char) :
    percentEncodeInvalidRune cfg tr r = percentEncodeRune cfg tr r := by
  simp [percentEncodeInvalidRune, h]

/-! ### the code-point branch of path / opaque path / query / fragment -/

/-- the branch reports nothing when the machine is about to read `l`: reports are switched off, or the code point is a URL
    code point or `%` and no lone `%` starts `l` (the negations of the two tests of `Impl.unitChecks`, in its order) -/
def Quiet (cfg : Cfg) (l : Str) : Prop :=
  Mute cfg ∨ ((∀ c ∈ l.head?, isUrlCp c.toNat = true ∨ c = '%') ∧ invalidPct l = false)

theorem unitChecks_quiet {e : Env} {ps : PS} {pre tl : Str} {c : Char} (hc : Cur e ps pre (c :: tl)) (hq : Quiet e.cfg (c :: tl))
    (ps' : PS) (hp : ps'.pointer = ps.pointer + 1) (k : PS → StepR) : unitChecks e ps' c k = k ps' := by
  unfold unitChecks
  rcases hq with hm | ⟨h1, h2⟩
  · simp only [herr_mute hm, ite_self]
  · have hr : remainingInvalidPct e.runes ps' = false := by
      unfold remainingInvalidPct; rw [hp, hc.runesFrom]; exact h2
    have hcp : (!isUrlCp c.toNat && c != '%') = false := by
      rcases h1 c rfl with h | h <;> simp [h]
    simp only [hcp, hr, Bool.false_eq_true, if_false]

/-- the branch is quiet when the machine is about to read `l`, and a lone `%` there is encoded like any other code point -/
def QuietAt (e : Env) (l : Str) : Prop := Quiet e.cfg l ∧ (invalidPct l = true → e.cfg.pctSingle = false)

def QuietOn (e : Env) (w tl : Str) : Prop := ∀ a b, w = a ++ b → b ≠ [] → QuietAt e (b ++ tl)

theorem QuietOn.of_mute {e : Env} (hm : Mute e.cfg) (hp : e.cfg.pctSingle = false) (w tl : Str) : QuietOn e w tl :=
  fun _ _ _ _ => ⟨Or.inl hm, fun _ => hp⟩

/-! ### fragment -/

def fragSetOf (e : Env) (u : Url) : PSet := if isSp e u then e.cfg.spFragSet else e.cfg.fragSet

theorem fragSetOf_same {e : Env} (u : Url) (h : e.cfg.spFragSet = e.cfg.fragSet) : fragSetOf e u = e.cfg.fragSet := by
  unfold fragSetOf; rw [h, ite_self]

theorem step_fragment {e : Env} {ps : PS} {pre tl : Str} {c : Char} (hc : Cur e ps pre (c :: tl)) (hst : ps.state = .fragment)
    (hq : Quiet e.cfg (c :: tl)) :
    step e ps = .cont { ps with pointer := ps.pointer + 1, buffer := ps.buffer ++ percentEncodeRune e.cfg (fragSetOf e ps.url) c } := by
  rw [hc.step_cons]
  simp [body, hst, stFragment, hc.eof, unitChecks_quiet hc hq, bottom, fragSetOf]

theorem step_fragment_eof {e : Env} {ps : PS} {pre : Str} (hc : Cur e ps pre []) (hst : ps.state = .fragment) :
    step e ps = .done ⟨{ ps.url with fragment := some ps.buffer }, .url⟩ := by
  rw [hc.step_nil]
  simp [body, hst, stFragment, bottom]

theorem run_fragment {e : Env} {ps : PS} {pre rest : Str} (hc : Cur e ps pre rest) (hst : ps.state = .fragment)
    (hQ : QuietOn e rest []) :
    Runs e ps ⟨{ ps.url with fragment := some (ps.buffer ++ rest.flatMap (percentEncodeRune e.cfg (fragSetOf e ps.url))) }, .url⟩ := by
  obtain ⟨h1, h2⟩ := scan_buffer e (QuietAt e) (fun q => q.state = .fragment ∧ q.url = ps.url)
    (percentEncodeRune e.cfg (fragSetOf e ps.url)) (fun _ _ _ h => h)
    (fun q pre tl c hj hc hq => by rw [step_fragment hc hj.1 hq.1, hj.2])
    rest [] hQ ps pre ⟨hst, rfl⟩ (by simpa using hc)
  exact h1.done (step_fragment_eof h2 hst)

/-! ### query -/

def querySetOf (e : Env) (u : Url) : PSet := if isSp e u then e.cfg.spQuerySet else e.cfg.querySet

theorem step_query {e : Env} {ps : PS} {pre tl : Str} {c : Char} (hc : Cur e ps pre (c :: tl)) (hst : ps.state = .query)
    (hne : c ≠ '#') (hq : Quiet e.cfg (c :: tl)) :
    step e ps = .cont { ps with pointer := ps.pointer + 1, buffer := ps.buffer ++ percentEncodeRune e.cfg (querySetOf e ps.url) c } := by
  rw [hc.step_cons]
  have h1 : (e.ov.isNone && c == '#') = false := by simp [hne]
  simp [body, hst, stQuery_eq, h1, hc.eof, unitChecks_quiet hc hq, bottom, querySetOf]

theorem step_query_eof {e : Env} {ps : PS} {pre : Str} (hc : Cur e ps pre []) (hst : ps.state = .query) :
    step e ps = .done ⟨{ ps.url with query := some ps.buffer }, .url⟩ := by
  rw [hc.step_nil]
  have : (repl == '#') = false := by decide
  simp [body, hst, stQuery_eq, bottom, this]

/-- `hq`: with `query = none` the model returns `.panic 15` here (`Machine.stQuery_eq`); the states that hand over to the query state on `?` set it -/
theorem step_query_hash {e : Env} {ps : PS} {pre tl : Str} (hc : Cur e ps pre ('#' :: tl)) (hst : ps.state = .query)
    (hov : e.ov = none) (hq : ps.url.query.isSome = true) :
    step e ps = .cont { ps with pointer := ps.pointer + 1, state := .fragment, buffer := [],
                                url := { ps.url with fragment := some [], query := some ps.buffer } } := by
  rw [hc.step_cons]
  have : ps.url.query.isNone = false := by cases h : ps.url.query <;> simp_all
  simp [body, hst, stQuery_eq, hov, this, bottom, hc.eof]

theorem scan_query {e : Env} {ps : PS} {pre : Str} (w tl : Str) (hc : Cur e ps pre (w ++ tl)) (hst : ps.state = .query)
    (hne : '#' ∉ w) (hQ : QuietOn e w tl) :
    Steps e ps { ps with pointer := ps.pointer + (w.length : Int),
                         buffer := ps.buffer ++ w.flatMap (percentEncodeRune e.cfg (querySetOf e ps.url)) } ∧
    Cur e { ps with pointer := ps.pointer + (w.length : Int),
                    buffer := ps.buffer ++ w.flatMap (percentEncodeRune e.cfg (querySetOf e ps.url)) } (pre ++ w) tl :=
  scan_buffer e (fun l => QuietAt e l ∧ ∀ c ∈ l.head?, c ≠ '#') (fun q => q.state = .query ∧ q.url = ps.url)
    (percentEncodeRune e.cfg (querySetOf e ps.url)) (fun _ _ _ h => h)
    (fun q pre tl c hj hc hC => by rw [step_query hc hj.1 (hC.2 c rfl) hC.1.1, hj.2])
    w tl (fun a b hab hb => ⟨hQ a b hab hb,
      all_suffix (C := fun c => c ≠ '#') tl (fun c hc hcc => hne (hcc ▸ hc)) a b hab hb⟩)
    ps pre ⟨hst, rfl⟩ hc

theorem run_query {e : Env} {ps : PS} {pre rest : Str} (hc : Cur e ps pre rest) (hst : ps.state = .query)
    (hne : '#' ∉ rest) (hQ : QuietOn e rest []) :
    Runs e ps ⟨{ ps.url with query := some (ps.buffer ++ rest.flatMap (percentEncodeRune e.cfg (querySetOf e ps.url))) }, .url⟩ := by
  obtain ⟨h1, h2⟩ := scan_query rest [] (by simpa using hc) hst hne hQ
  exact h1.done (step_query_eof h2 hst)

theorem run_query_fragment {e : Env} {ps : PS} {pre : Str} (w fr : Str) (hc : Cur e ps pre (w ++ '#' :: fr)) (hst : ps.state = .query)
    (hov : e.ov = none) (hne : '#' ∉ w) (hqs : ps.url.query.isSome = true) (hQ : QuietOn e w ('#' :: fr))
    (hQf : QuietOn e fr []) :
    Runs e ps ⟨{ ps.url with query := some (ps.buffer ++ w.flatMap (percentEncodeRune e.cfg (querySetOf e ps.url))),
                             fragment := some (fr.flatMap (percentEncodeRune e.cfg (fragSetOf e ps.url))) }, .url⟩ := by
  obtain ⟨h1, h2⟩ := scan_query w ('#' :: fr) hc hst hne hQ
  have h3 := step_query_hash h2 hst hov hqs
  have hc3 : Cur e
      { ps with
        pointer := ps.pointer + (w.length : Int) + 1, state := .fragment, buffer := [],
        url := { ps.url with
          fragment := some [], query := some (ps.buffer ++ w.flatMap (percentEncodeRune e.cfg (querySetOf e ps.url))) } }
      (pre ++ w ++ ['#']) fr := h2.adv rfl h2.eof
  exact (h1.trans (.one h3)).runs (run_fragment hc3 rfl hQf)

/-- From a machine state that on `?` starts the query, on `#` the fragment and at the end of the input returns, each time
    with the url `U`: the result on the text `?q#f`, when the encoders copy `q` and `f`.  Any environment without override. -/
theorem run_qf {e : Env} {ps : PS} {pre : Str} (hov : e.ov = none) (q f : Option Bytes) (U : Url)
    (hq : ∀ x, q = some x → (∀ b ∈ x, (querySetOf e U).has b.toNat = false) ∧ '#' ∉ asStr x)
    (hf : ∀ x, f = some x → ∀ b ∈ x, (fragSetOf e U).has b.toNat = false)
    (hc : Cur e ps pre (asStr (qTail q ++ fTail f)))
    (hQq : ∀ x, q = some x → QuietOn e (asStr x) (asStr (fTail f))) (hQf : ∀ x, f = some x → QuietOn e (asStr x) [])
    (hqm : ∀ tl, Cur e ps pre ('?' :: tl) → ∃ ps', step e ps = .cont ps' ∧ ps'.state = .query ∧ ps'.buffer = [] ∧
      ps'.pointer = ps.pointer + 1 ∧ ps'.eof = false ∧ ps'.url = { U with query := some [] })
    (hh : ∀ tl, Cur e ps pre ('#' :: tl) → ∃ ps', step e ps = .cont ps' ∧ ps'.state = .fragment ∧ ps'.buffer = [] ∧
      ps'.pointer = ps.pointer + 1 ∧ ps'.eof = false ∧ ps'.url = { U with fragment := some [] })
    (hend : Cur e ps pre [] → step e ps = .done ⟨U, .url⟩) :
    Runs e ps ⟨setF (setQ U q) f, .url⟩ := by
  cases q with
  | some x =>
    obtain ⟨hx, hnh⟩ := hq x rfl
    have hfx : (asStr x).flatMap (percentEncodeRune e.cfg (querySetOf e { U with query := some [] })) = x :=
      flatMap_pe_copy _ _ x hx
    cases f with
    | none =>
      have e1 : asStr (qTail (some x) ++ fTail none) = '?' :: asStr x := by simp [qTail, fTail, bc_qm]
      rw [e1] at hc
      obtain ⟨ps', hs, h1, h2, h3, h5, h4⟩ := hqm _ hc
      have hr := run_query (hc.adv h3 h5) h1 hnh (hQq x rfl)
      simp only [h2, h4, List.nil_append, hfx] at hr
      exact .cont hs hr
    | some y =>
      have e1 : asStr (qTail (some x) ++ fTail (some y)) = '?' :: (asStr x ++ '#' :: asStr y) := by
        simp [qTail, fTail, asStr_append, bc_qm, bc_hash]
      rw [e1] at hc
      obtain ⟨ps', hs, h1, h2, h3, h5, h4⟩ := hqm _ hc
      have hr := run_query_fragment (asStr x) (asStr y) (hc.adv h3 h5) h1 hov hnh (by rw [h4]; rfl)
        (by simpa [fTail, bc_hash] using hQq x rfl) (hQf y rfl)
      have hfy : (asStr y).flatMap (percentEncodeRune e.cfg (fragSetOf e { U with query := some [] })) = y :=
        flatMap_pe_copy _ _ y (hf y rfl)
      simp only [h2, h4, List.nil_append, hfx, hfy] at hr
      exact .cont hs hr
  | none =>
    cases f with
    | some y =>
      have e1 : asStr (qTail none ++ fTail (some y)) = '#' :: asStr y := by simp [qTail, fTail, bc_hash]
      rw [e1] at hc
      obtain ⟨ps', hs, h1, h2, h3, h5, h4⟩ := hh _ hc
      have hr := run_fragment (hc.adv h3 h5) h1 (hQf y rfl)
      have hfy : (asStr y).flatMap (percentEncodeRune e.cfg (fragSetOf e { U with fragment := some [] })) = y :=
        flatMap_pe_copy _ _ y (hf y rfl)
      simp only [h2, h4, List.nil_append, hfy] at hr
      exact .cont hs hr
    | none => exact .done (hend (by simpa [qTail, fTail] using hc))

/-! ### scheme start, scheme -/

theorem step_schemeStart {e : Env} {ps : PS} {pre tl : Str} {c : Char} (hc : Cur e ps pre (c :: tl)) (hst : ps.state = .schemeStart)
    (ha : isAlphaN c.toNat = true) :
    step e ps = .cont { ps with pointer := ps.pointer + 1, state := .scheme, buffer := ps.buffer ++ utf8Char (lowerC c) } := by
  rw [hc.step_cons]
  simp [body, hst, stSchemeStart, writeRune, ha, bottom, hc.eof]

theorem step_scheme {e : Env} {ps : PS} {pre tl : Str} {c : Char} (hc : Cur e ps pre (c :: tl)) (hst : ps.state = .scheme)
    (hs : isSchemeChar c = true) :
    step e ps = .cont { ps with pointer := ps.pointer + 1, buffer := ps.buffer ++ utf8Char (lowerC c) } := by
  rw [hc.step_cons]
  simp only [isSchemeChar] at hs
  simp [body, hst, stScheme, hs, writeRune, bottom, hc.eof]

theorem scan_scheme {e : Env} {ps : PS} {pre : Str} (w tl : Str) (hc : Cur e ps pre (w ++ tl)) (hst : ps.state = .scheme)
    (hw : ∀ c ∈ w, isSchemeChar c = true) :
    Steps e ps { ps with pointer := ps.pointer + (w.length : Int), buffer := ps.buffer ++ w.flatMap fun c => utf8Char (lowerC c) } ∧
    Cur e { ps with pointer := ps.pointer + (w.length : Int), buffer := ps.buffer ++ w.flatMap fun c => utf8Char (lowerC c) }
      (pre ++ w) tl :=
  scan_buffer e (fun l => ∀ c ∈ l.head?, isSchemeChar c = true) (fun q => q.state = .scheme) _ (fun _ _ _ h => h)
    (fun _ _ _ c hj hc hC => step_scheme hc hj (hC c rfl)) w tl (all_suffix tl hw) ps pre hst hc

theorem steps_scheme {e : Env} {ps : PS} {pre : Str} (c : Char) (w tl : Str) (hc : Cur e ps pre (c :: w ++ tl))
    (hst : ps.state = .schemeStart) (ha : isAlphaN c.toNat = true) (hw : ∀ x ∈ w, isSchemeChar x = true) :
    Steps e ps { ps with pointer := ps.pointer + ((c :: w).length : Int), state := .scheme,
                         buffer := ps.buffer ++ (c :: w).flatMap fun x => utf8Char (lowerC x) } ∧
    Cur e { ps with pointer := ps.pointer + ((c :: w).length : Int), state := .scheme,
                    buffer := ps.buffer ++ (c :: w).flatMap fun x => utf8Char (lowerC x) } (pre ++ c :: w) tl := by
  obtain ⟨s1, hc1⟩ := hc.one (step_schemeStart hc hst ha) rfl hc.eof
  obtain ⟨s2, hc2⟩ := scan_scheme w tl hc1 rfl hw
  have hptr : ps.pointer + 1 + (w.length : Int) = ps.pointer + ((c :: w).length : Int) := by
    simp only [List.length_cons, Int.natCast_succ]; omega
  rw [hptr] at s2 hc2
  exact ⟨by simpa [List.append_assoc] using s1.trans s2, by simpa [List.append_assoc] using hc2⟩

/-! ### the colon and what follows it (no state override) -/

theorem step_colon_opaque {e : Env} {ps : PS} {pre tl : Str} (hc : Cur e ps pre (':' :: tl)) (hst : ps.state = .scheme)
    (hov : e.ov = none) (hnf : (ps.buffer == lit "file") = false) (hsp : e.cfg.isSpecial ps.buffer = false)
    (hns : tl.head? ≠ some '/') :
    step e ps = .cont { ps with pointer := ps.pointer + 1, state := .opaquePath, buffer := [],
                                url := { ps.url with scheme := ps.buffer, path := Path.setOpaque [] } } := by
  rw [hc.step_cons]
  have hr : runesFrom e.runes (ps.pointer + 1 + 1) = tl :=
    (hc.adv (ps' := { ps with pointer := ps.pointer + 1 }) rfl hc.eof).runesFrom
  have hp : ['/'].isPrefixOf tl = false := by
    cases tl with
    | nil => rfl
    | cons x t => simpa [List.isPrefixOf] using fun h => hns (by rw [h]; rfl)
  have h1 : isAlnumN 58 = false := by decide
  simp [body, hst, stScheme, h1, hov, hnf, isSp, hsp, remainingStartsWith, hr, hp, bottom, hc.eof]

theorem step_colon_pOA {e : Env} {ps : PS} {pre tl : Str} (hc : Cur e ps pre (':' :: '/' :: tl)) (hst : ps.state = .scheme)
    (hov : e.ov = none) (hnf : (ps.buffer == lit "file") = false) (hsp : e.cfg.isSpecial ps.buffer = false) :
    step e ps = .cont { ps with pointer := ps.pointer + 1 + 1, state := .pathOrAuthority, buffer := [],
                                url := { ps.url with scheme := ps.buffer } } := by
  rw [hc.step_cons]
  have hc1 := hc.adv (ps' := { ps with pointer := ps.pointer + 1 }) rfl hc.eof
  have hr : runesFrom e.runes (ps.pointer + 1 + 1) = '/' :: tl := hc1.runesFrom
  have hn : cur e.runes (ps.pointer + 1 + 1) = some '/' := hc1.cur_cons
  have h1 : isAlnumN 58 = false := by decide
  simp [body, hst, stScheme, h1, hov, hnf, isSp, hsp, remainingStartsWith, hr, next, hn, bottom, hc.eof]

theorem step_colon_special {e : Env} {ps : PS} {pre tl : Str} (hc : Cur e ps pre (':' :: tl)) (hst : ps.state = .scheme)
    (hov : e.ov = none) (hnf : (ps.buffer == lit "file") = false) (hsp : e.cfg.isSpecial ps.buffer = true) :
    step e ps = .cont { ps with
      pointer := ps.pointer + 1, buffer := [], url := { ps.url with scheme := ps.buffer },
      state := if baseHas e.base ps.buffer then .specialRelativeOrAuthority else .specialAuthoritySlashes } := by
  rw [hc.step_cons]
  have h1 : isAlnumN 58 = false := by decide
  cases hb : e.base with
  | none => simp [body, hst, stScheme, h1, hov, hnf, isSp, hsp, hb, baseHas, bottom, hc.eof]
  | some b =>
    by_cases hbs : b.scheme = ps.buffer
    · simp [body, hst, stScheme, h1, hov, hnf, isSp, hsp, hb, baseHas, hbs, bottom, hc.eof]
    · simp [body, hst, stScheme, h1, hov, hnf, isSp, hsp, hb, baseHas, hbs, bottom, hc.eof]

/-- `file`: the file state, whatever follows (a missing solidus is reported, which a mute configuration ignores) -/
theorem step_colon_file {e : Env} {ps : PS} {pre tl : Str} (hc : Cur e ps pre (':' :: tl)) (hst : ps.state = .scheme)
    (hov : e.ov = none) (hm : Mute e.cfg) (hb : ps.buffer = lit "file") :
    step e ps = .cont { ps with pointer := ps.pointer + 1, state := .file, buffer := [],
                                url := { ps.url with scheme := lit "file" } } := by
  rw [hc.step_cons]
  have h1 : isAlnumN 58 = false := by decide
  simp [body, hst, stScheme, h1, hov, hb, herr_mute hm, bottom, hc.eof]

theorem step_slashes {e : Env} {ps : PS} {pre tl : Str} (hc : Cur e ps pre ('/' :: '/' :: tl))
    (hst : ps.state = .specialRelativeOrAuthority ∨ ps.state = .specialAuthoritySlashes) :
    step e ps = .cont { ps with pointer := ps.pointer + 1 + 1, state := .specialAuthorityIgnoreSlashes } := by
  rw [hc.step_cons]
  have hc1 := hc.adv (ps' := { ps with pointer := ps.pointer + 1 }) rfl hc.eof
  have hr : runesFrom e.runes (ps.pointer + 1 + 1) = '/' :: tl := hc1.runesFrom
  have hn : cur e.runes (ps.pointer + 1 + 1) = some '/' := hc1.cur_cons
  rcases hst with hst | hst <;>
    simp [body, hst, stSpecialRelativeOrAuthority, stSpecialAuthoritySlashes, remainingStartsWith, hr, next, hn, bottom, hc.eof]

theorem step_ignoreSlashes {e : Env} {ps : PS} {pre tl : Str} {c : Char} (hc : Cur e ps pre (c :: tl))
    (hst : ps.state = .specialAuthorityIgnoreSlashes) (h1 : c ≠ '/') (h2 : c ≠ '\\') :
    step e ps = .cont { ps with state := .authority } := by
  rw [hc.step_cons]
  simp [body, hst, stSpecialAuthorityIgnoreSlashes, h1, h2, rewindLast, bottom, hc.eof]

theorem step_pOA_slash {e : Env} {ps : PS} {pre tl : Str} (hc : Cur e ps pre ('/' :: tl)) (hst : ps.state = .pathOrAuthority) :
    step e ps = .cont { ps with pointer := ps.pointer + 1, state := .authority } := by
  rw [hc.step_cons]
  simp [body, hst, stPathOrAuthority, bottom, hc.eof]

/-- from the scheme state in front of `://` to the authority state: by the path-or-authority state when the scheme is not
    special, by the slashes states when it is (and is not `file`; what follows `//` is then no further slash) -/
theorem steps_colon_auth {e : Env} {ps : PS} {pre : Str} (tl : Str) (hc : Cur e ps pre (':' :: '/' :: '/' :: tl))
    (hst : ps.state = .scheme) (hov : e.ov = none) (hnf : (ps.buffer == lit "file") = false)
    (hhd : e.cfg.isSpecial ps.buffer = true → ∃ c t, tl = c :: t ∧ c ≠ '/' ∧ c ≠ '\\') :
    Steps e ps { ps with pointer := ps.pointer + 1 + 1 + 1, state := .authority, buffer := [],
                         url := { ps.url with scheme := ps.buffer } } ∧
    Cur e { ps with pointer := ps.pointer + 1 + 1 + 1, state := .authority, buffer := [],
                    url := { ps.url with scheme := ps.buffer } } (pre ++ [':', '/', '/']) tl := by
  cases hsp : e.cfg.isSpecial ps.buffer
  · obtain ⟨t1, hc1⟩ := hc.two (step_colon_pOA hc hst hov hnf hsp) rfl hc.eof
    obtain ⟨t2, hc2⟩ := hc1.one (step_pOA_slash hc1 rfl) rfl hc1.eof
    exact ⟨t1.trans t2, by simpa using hc2⟩
  · obtain ⟨c, t, rfl, h1, h2⟩ := hhd hsp
    obtain ⟨t1, hc1⟩ := hc.one (step_colon_special hc hst hov hnf hsp) rfl hc.eof
    obtain ⟨t2, hc2⟩ := hc1.two (step_slashes hc1 (by dsimp only; split <;> simp)) rfl hc1.eof
    obtain ⟨t3, hc3⟩ := hc2.stay (step_ignoreSlashes hc2 rfl h1 h2) rfl hc2.eof
    exact ⟨(t1.trans t2).trans t3, by simpa using hc3⟩

theorem step_pOA_path {e : Env} {ps : PS} {pre rest : Str} (hc : Cur e ps pre rest) (hst : ps.state = .pathOrAuthority)
    (h : rest.head? ≠ some '/') : step e ps = .cont { ps with state := .path } := by
  cases rest with
  | nil =>
    rw [hc.step_nil]
    have hx : (repl == '/') = false := by decide
    simp [body, hst, stPathOrAuthority, hx, rewindLast, bottom, hc.eof]
  | cons c tl =>
    rw [hc.step_cons]
    have hx : (c == '/') = false := by simpa using fun hc' => h (by rw [hc']; rfl)
    simp [body, hst, stPathOrAuthority, hx, rewindLast, bottom, hc.eof]

/-- the colon of a scheme that is not special and the `/` after it, when no second `/` follows: on to the path state, which
    reads from the code point after the `/` -/
theorem steps_colon_path {e : Env} {ps : PS} {pre tl : Str} (hc : Cur e ps pre (':' :: '/' :: tl)) (hst : ps.state = .scheme)
    (hov : e.ov = none) (hnf : (ps.buffer == lit "file") = false) (hsp : e.cfg.isSpecial ps.buffer = false)
    (hns : tl.head? ≠ some '/') :
    Steps e ps { ps with pointer := ps.pointer + 1 + 1, state := .path, buffer := [], url := { ps.url with scheme := ps.buffer } } ∧
    Cur e { ps with pointer := ps.pointer + 1 + 1, state := .path, buffer := [], url := { ps.url with scheme := ps.buffer } }
      (pre ++ [':', '/']) tl := by
  obtain ⟨s1, hc1⟩ := hc.two (step_colon_pOA hc hst hov hnf hsp) rfl hc.eof
  obtain ⟨s2, hc2⟩ := hc1.stay (step_pOA_path hc1 rfl hns) rfl hc.eof
  exact ⟨s1.trans s2, hc2⟩

theorem step_file_slash {e : Env} {ps : PS} {pre tl : Str} (hc : Cur e ps pre ('/' :: tl)) (hst : ps.state = .file) :
    step e ps = .cont { ps with pointer := ps.pointer + 1, state := .fileSlash,
                                url := { ps.url with scheme := lit "file", host := some [] } } := by
  rw [hc.step_cons]
  simp [body, hst, stFile, bottom, hc.eof]

theorem step_fileSlash_slash {e : Env} {ps : PS} {pre tl : Str} (hc : Cur e ps pre ('/' :: tl)) (hst : ps.state = .fileSlash) :
    step e ps = .cont { ps with pointer := ps.pointer + 1, state := .fileHost } := by
  rw [hc.step_cons]
  simp [body, hst, stFileSlash, bottom, hc.eof]

/-! ### authority -/

theorem step_auth_cp {e : Env} {ps : PS} {pre tl : Str} {c : Char} (hc : Cur e ps pre (c :: tl)) (hst : ps.state = .authority)
    (h : c ≠ '@' ∧ c ≠ '/' ∧ c ≠ '?' ∧ c ≠ '#' ∧ spBackslash e ps.url c = false) :
    step e ps = .cont { ps with pointer := ps.pointer + 1, buffer := ps.buffer ++ utf8Char c } := by
  rw [hc.step_cons]
  simp [body, hst, stAuthority, hc.eof, h.1, h.2.1, h.2.2.1, h.2.2.2.1, h.2.2.2.2, writeRune, bottom]

theorem scan_auth {e : Env} {ps : PS} {pre : Str} (w : Bytes) (tl : Str) (hc : Cur e ps pre (asStr w ++ tl))
    (hst : ps.state = .authority)
    (hw : ∀ b ∈ w, b.toNat < 0x80 ∧ bc b ≠ '@' ∧ bc b ≠ '/' ∧ bc b ≠ '?' ∧ bc b ≠ '#' ∧ spBackslash e ps.url (bc b) = false) :
    Steps e ps { ps with pointer := ps.pointer + (w.length : Int), buffer := ps.buffer ++ w } ∧
    Cur e { ps with pointer := ps.pointer + (w.length : Int), buffer := ps.buffer ++ w } (pre ++ asStr w) tl := by
  have := scan_buffer e (fun l => ∀ c ∈ l.head?, c ≠ '@' ∧ c ≠ '/' ∧ c ≠ '?' ∧ c ≠ '#' ∧ spBackslash e ps.url c = false)
    (fun q => q.state = .authority ∧ q.url = ps.url) utf8Char (fun _ _ _ h => h)
    (fun q _ _ c hj hc hC => step_auth_cp hc hj.1 (by rw [hj.2]; exact hC c rfl)) (asStr w) tl
    (all_suffix tl (chars_of_bytes fun b hb => (hw b hb).2)) ps pre ⟨hst, rfl⟩ hc
  rwa [flatMap_utf8Char_asStr w (fun b hb => (hw b hb).1), asStr_length] at this

/-- `@`: the buffer becomes the credentials (reported, which a mute configuration ignores) -/
theorem step_auth_at {e : Env} {ps : PS} {pre tl : Str} (hc : Cur e ps pre ('@' :: tl)) (hst : ps.state = .authority)
    (hm : Mute e.cfg) (haf : ps.atFlag = false) :
    step e ps = .cont { ps with
      pointer := ps.pointer + 1, atFlag := true, buffer := [],
      pwSeen := (credLoop e.cfg (goRunes ps.buffer) ps.pwSeen ps.url.username ps.url.password).1,
      url := { ps.url with
        username := (credLoop e.cfg (goRunes ps.buffer) ps.pwSeen ps.url.username ps.url.password).2.1,
        password := (credLoop e.cfg (goRunes ps.buffer) ps.pwSeen ps.url.username ps.url.password).2.2 } } := by
  rw [hc.step_cons]
  simp [body, hst, stAuthority, herr_mute hm, hc.eof, haf, bottom]

theorem step_auth_end {e : Env} {ps : PS} {pre rest : Str} (hc : Cur e ps pre rest) (hd : Delim rest) (hst : ps.state = .authority)
    (hne : ps.atFlag = true → ps.buffer ≠ []) :
    step e ps = .cont { ps with pointer := ps.pointer - ((goRunes ps.buffer).length : Int), buffer := [], state := .host } := by
  have hcnd : (ps.atFlag && ps.buffer.isEmpty) = false := by
    cases ha : ps.atFlag
    · rfl
    · have := hne ha
      cases hb : ps.buffer with
      | nil => exact absurd hb this
      | cons _ _ => rfl
  rcases hd with hd | ⟨c, tl, hd, hc3⟩
  · subst hd
    rw [hc.step_nil]
    have h1 : (repl == '@') = false := by decide
    simp [body, hst, stAuthority, h1, hcnd, rewind, bottom, hc.eof]
    omega
  · subst hd
    rw [hc.step_cons]
    obtain ⟨h2, h1, _, _⟩ := delim_char hc3
    simp [body, hst, stAuthority, h1, h2, hcnd, rewind, bottom, hc.eof]
    omega

/-- the authority state with an empty buffer over `X` (the host text and the port part) up to the delimiter: `X` is
    buffered, the pointer goes back over it, and the host state starts in front of `X` -/
theorem steps_auth_host {e : Env} {ps : PS} {pre : Str} (X : Bytes) (tl : Str) (hc : Cur e ps pre (asStr X ++ tl)) (hd : Delim tl)
    (hst : ps.state = .authority) (hb : ps.buffer = [])
    (hX : ∀ b ∈ X, b.toNat < 0x80 ∧ bc b ≠ '@' ∧ bc b ≠ '/' ∧ bc b ≠ '?' ∧ bc b ≠ '#' ∧ spBackslash e ps.url (bc b) = false)
    (hne : ps.atFlag = true → X ≠ []) :
    Steps e ps { ps with state := .host, buffer := [] } ∧ Cur e { ps with state := .host, buffer := [] } pre (asStr X ++ tl) := by
  obtain ⟨t1, hc1⟩ := scan_auth X tl hc hst hX
  rw [hb, List.nil_append] at t1 hc1
  have hlen : (goRunes X).length = (asStr X).length := by rw [goRunes_ascii X fun b hb => (hX b hb).1]
  obtain ⟨t2, hc2⟩ := hc1.rewind (step_auth_end hc1 hd hst hne) (by simp only [hlen]) hc1.eof
  refine ⟨Eq.mp (congrArg (Steps e ps) ?_) (t1.trans t2), hc.runes, hc.ptr, hc.eof⟩
  simp only [hlen, asStr_length]
  congr 1
  omega

/-- the authority state with an empty buffer over the credentials text `cred` and `@`: what `credLoop` makes of `cred` is
    stored, and the state goes on behind the `@` with the at-sign flag set -/
theorem steps_auth_cred {e : Env} {ps : PS} {pre : Str} (cred : Bytes) (tl : Str) (hc : Cur e ps pre (asStr cred ++ '@' :: tl))
    (hst : ps.state = .authority) (hm : Mute e.cfg) (hb : ps.buffer = []) (haf : ps.atFlag = false)
    (hcred : ∀ b ∈ cred, b.toNat < 0x80 ∧ bc b ≠ '@' ∧ bc b ≠ '/' ∧ bc b ≠ '?' ∧ bc b ≠ '#' ∧ spBackslash e ps.url (bc b) = false)
    {pw : Bool} {user pass : Bytes}
    (hcl : credLoop e.cfg (asStr cred) ps.pwSeen ps.url.username ps.url.password = (pw, user, pass)) :
    Steps e ps { ps with pointer := ps.pointer + (cred.length : Int) + 1, atFlag := true, buffer := [], pwSeen := pw,
                         url := { ps.url with username := user, password := pass } } ∧
    Cur e { ps with pointer := ps.pointer + (cred.length : Int) + 1, atFlag := true, buffer := [], pwSeen := pw,
                    url := { ps.url with username := user, password := pass } } (pre ++ asStr cred ++ ['@']) tl := by
  obtain ⟨t1, hc1⟩ := scan_auth cred _ hc hst hcred
  rw [hb, List.nil_append] at t1 hc1
  have hs := step_auth_at hc1 hst hm haf
  simp only [goRunes_ascii cred fun b hb => (hcred b hb).1, hcl] at hs
  obtain ⟨t2, hc2⟩ := hc1.one hs rfl hc1.eof
  exact ⟨t1.trans t2, hc2⟩

/-! ### the credentials loop on bytes outside the userinfo set -/

theorem credLoop_user (cfg : Cfg) (w : Bytes) (hw : ∀ b ∈ w, userinfoSet.has b.toNat = false) (user pass : Bytes) (rest : Str) :
    credLoop cfg (asStr w ++ rest) false user pass = credLoop cfg rest false (user ++ w) pass := by
  have userinfo_not_colon : ∀ b : UInt8, userinfoSet.has b.toNat = false → (bc b == ':') = false :=
    forall_uint8 (by decide +kernel)
  induction w generalizing user with
  | nil => simp [asStr]
  | cons b t ih =>
    have hb := hw b (by simp)
    simp only [asStr_cons, List.cons_append, credLoop, userinfo_not_colon b hb, Bool.false_and, Bool.false_eq_true, if_false,
      pe_copy cfg _ b hb]
    rw [ih (fun x hx => hw x (by simp [hx]))]
    simp

theorem credLoop_pass (cfg : Cfg) (w : Bytes) (hw : ∀ b ∈ w, userinfoSet.has b.toNat = false) (user pass : Bytes) :
    credLoop cfg (asStr w) true user pass = (true, user, pass ++ w) := by
  induction w generalizing pass with
  | nil => simp [asStr, credLoop]
  | cons b t ih =>
    have hb := hw b (by simp)
    simp only [asStr_cons, credLoop, Bool.not_true, Bool.and_false, Bool.false_eq_true, if_false, if_true, pe_copy cfg _ b hb]
    rw [ih (fun x hx => hw x (by simp [hx]))]
    simp

theorem credLoop_both (cfg : Cfg) (user pass : Bytes) (hu : ∀ b ∈ user, userinfoSet.has b.toNat = false)
    (hp : ∀ b ∈ pass, userinfoSet.has b.toNat = false) :
    credLoop cfg (asStr (user ++ 0x3a :: pass)) false [] [] = (true, user, pass) := by
  have e : asStr (user ++ 0x3a :: pass) = asStr user ++ ':' :: asStr pass := by simp [asStr]; rfl
  rw [e, credLoop_user cfg user hu]
  simp only [List.nil_append, credLoop, beq_self_eq_true, Bool.not_false, Bool.and_self, if_true]
  rw [credLoop_pass cfg pass hp]
  simp

/-! ### host -/

/-- the host state on a byte of a host text -/
def hostUpd (q : PS) (c : Char) : PS :=
  { q with pointer := q.pointer + 1, buffer := q.buffer ++ utf8Char c,
           bracketFlag := if c == '[' then true else if c == ']' then false else q.bracketFlag }

theorem hostUpd_bracketFlag (q : PS) (b : UInt8) : (hostUpd q (bc b)).bracketFlag = nextFlag b q.bracketFlag := by
  simp only [hostUpd, nextFlag, show '[' = bc 0x5b from rfl, show ']' = bc 0x5d from rfl, IPv4.bc_beq]

theorem foldl_hostUpd : ∀ (h : Bytes) (ps : PS) (fl' : Bool), (∀ b ∈ h, b.toNat < 0x80) → hostScan h ps.bracketFlag = some fl' →
    (asStr h).foldl hostUpd ps = { ps with pointer := ps.pointer + (h.length : Int), buffer := ps.buffer ++ h, bracketFlag := fl' }
  | [], ps, fl', _, hs => by
    simp only [hostScan, Option.some.injEq] at hs
    subst hs
    simp [asStr]
  | b :: w, ps, fl', ha, hs => by
    rw [hostScan_cons] at hs
    split at hs
    · cases hs
    · rw [asStr_cons, List.foldl_cons,
        foldl_hostUpd w _ fl' (fun x hx => ha x (by simp [hx])) (by rw [hostUpd_bracketFlag]; exact hs)]
      simp only [hostUpd, utf8Char_bc b (ha b (by simp)), List.length_cons, Int.natCast_succ, List.append_assoc,
        List.singleton_append]
      congr 1
      omega

/-- the host state (or, under a state override, the hostname state) over a host text: ASCII bytes that are no delimiters
    are copied; the bracket flag follows `hostScan`, which also says that no `:` occurs outside brackets.  Under an override
    the scheme is not `file` (else the state hands over to the file host state). -/
theorem scan_host {e : Env} {ps : PS} {pre : Str} (h : Bytes) (tl : Str) (fl' : Bool)
    (hc : Cur e ps pre (asStr h ++ tl)) (hst : ps.state = .host ∨ ps.state = .hostname)
    (hov : e.ov.isSome = true → (ps.url.scheme == lit "file") = false)
    (hh : ∀ b ∈ h, b.toNat < 0x80 ∧ bc b ≠ '/' ∧ bc b ≠ '?' ∧ bc b ≠ '#' ∧ spBackslash e ps.url (bc b) = false)
    (hscan : hostScan h ps.bracketFlag = some fl') :
    Steps e ps { ps with pointer := ps.pointer + (h.length : Int), buffer := ps.buffer ++ h, bracketFlag := fl' } ∧
    Cur e { ps with pointer := ps.pointer + (h.length : Int), buffer := ps.buffer ++ h, bracketFlag := fl' } (pre ++ asStr h) tl := by
  obtain ⟨h1, h2⟩ := Steps.scanJ e tl
    (fun q w => (q.state = .host ∨ q.state = .hostname) ∧ q.url = ps.url ∧ ∃ w' : Bytes, w = asStr w' ∧ (∀ b ∈ w', b ∈ h) ∧
      (hostScan w' q.bracketFlag).isSome = true) hostUpd (fun _ _ => rfl) (fun _ _ => rfl)
    (fun q pre w c ⟨j1, j2, w', j3, j4, j5⟩ hc => by
      cases w' with
      | nil => cases j3
      | cons b w'' =>
        simp only [asStr_cons, List.cons.injEq] at j3
        obtain ⟨rfl, rfl⟩ := j3
        obtain ⟨g0, g1, g2, g3, g4⟩ := hh b (j4 b (by simp))
        rw [hostScan_cons] at j5
        by_cases hcol : (b == 0x3a && !q.bracketFlag) = true
        · rw [if_pos hcol] at j5; cases j5
        · rw [if_neg hcol] at j5
          have hcol' : (bc b == ':' && !q.bracketFlag) = false := by
            rw [show ':' = bc 0x3a from rfl, IPv4.bc_beq]; simpa using hcol
          -- the code point under the cursor is a byte, so the `acceptInvalid` branch is not taken
          have hci : ∀ ps' : PS, ps'.pointer = q.pointer + 1 → currentIsInvalid e ps' = false :=
            fun ps' hp => currentIsInvalid_bc _ _ b (by rw [hp]; exact hc.cur_cons)
          refine ⟨?_, j1, j2, w'', rfl, fun x hx => j4 x (by simp [hx]), ?_⟩
          · have hfile : ¬ (e.ov.isSome = true ∧ ps.url.scheme = lit "file") := fun ⟨ho, hf⟩ => by
              have := hov ho; rw [hf] at this; simp at this
            rw [hc.step_cons]
            rcases j1 with j1 | j1 <;>
              simp [body, j1, stHost_eq, hostChar_eq, hfile, hcol', hc.eof, g1, g2, g3, j2, g4, hci, bottom, hostUpd]
          · rw [hostUpd_bracketFlag]; exact j5)
    (asStr h) ps pre ⟨hst, rfl, h, rfl, fun _ hb => hb, by rw [hscan]; rfl⟩ hc
  rw [foldl_hostUpd h ps fl' (fun b hb => (hh b hb).1) hscan] at h1 h2
  exact ⟨h1, h2⟩

/-! ### host: its two ways out (no state override) -/

theorem step_host_colon {e : Env} {ps : PS} {pre tl : Str} {h' : Bytes} (hc : Cur e ps pre (':' :: tl)) (hst : ps.state = .host)
    (hov : e.ov = none) (hfl : ps.bracketFlag = false) (hne : ps.buffer ≠ [])
    (hout : (parseHost e.cfg e.I ps.url ps.buffer (!isSp e ps.url)).out = .ok h') :
    step e ps = .cont { ps with pointer := ps.pointer + 1, buffer := [], state := .port,
                                url := { (parseHost e.cfg e.I ps.url ps.buffer (!isSp e ps.url)).url with host := some h' } } := by
  rw [hc.step_cons]
  have hem : ps.buffer.isEmpty = false := by simpa using hne
  simp [body, hst, stHost, hov, hfl, hem, afterHost, hout, bottom, hc.eof]

theorem step_host_end {e : Env} {ps : PS} {pre rest : Str} {h' : Bytes} (hc : Cur e ps pre rest) (hd : Delim rest)
    (hst : ps.state = .host) (hov : e.ov = none) (hne : isSp e ps.url = true → ps.buffer ≠ [])
    (hout : (parseHost e.cfg e.I ps.url ps.buffer (!isSp e ps.url)).out = .ok h') :
    step e ps = .cont { ps with buffer := [], state := .pathStart,
                                url := { (parseHost e.cfg e.I ps.url ps.buffer (!isSp e ps.url)).url with host := some h' } } := by
  have hem : (isSp e ps.url && ps.buffer.isEmpty) = false := by
    cases hs : isSp e ps.url
    · rfl
    · have := hne hs
      cases hb : ps.buffer with
      | nil => exact absurd hb this
      | cons _ _ => rfl
  rcases hd with hd | ⟨c, tl, hd, hc3⟩
  · subst hd
    rw [hc.step_nil]
    have h1 : (repl == ':') = false := by decide
    simp [body, hst, stHost, hov, h1, rewindLast, hem, afterHost, hout, bottom, hc.eof]
  · subst hd
    rw [hc.step_cons]
    obtain ⟨h2, _, h1, _⟩ := delim_char hc3
    simp [body, hst, stHost, hov, h1, h2, rewindLast, hem, afterHost, hout, bottom, hc.eof]

/-! ### file host -/

theorem step_fileHost_cp {e : Env} {ps : PS} {pre tl : Str} {c : Char} (hc : Cur e ps pre (c :: tl)) (hst : ps.state = .fileHost)
    (h : c ≠ '/' ∧ c ≠ '\\' ∧ c ≠ '?' ∧ c ≠ '#') :
    step e ps = .cont { ps with pointer := ps.pointer + 1, buffer := ps.buffer ++ utf8Char c } := by
  rw [hc.step_cons]
  simp [body, hst, stFileHost, hc.eof, h.1, h.2.1, h.2.2.1, h.2.2.2, writeRune, bottom]

theorem scan_fileHost {e : Env} {ps : PS} {pre : Str} (w : Bytes) (tl : Str) (hc : Cur e ps pre (asStr w ++ tl))
    (hst : ps.state = .fileHost) (hw : ∀ b ∈ w, b.toNat < 0x80 ∧ bc b ≠ '/' ∧ bc b ≠ '\\' ∧ bc b ≠ '?' ∧ bc b ≠ '#') :
    Steps e ps { ps with pointer := ps.pointer + (w.length : Int), buffer := ps.buffer ++ w } ∧
    Cur e { ps with pointer := ps.pointer + (w.length : Int), buffer := ps.buffer ++ w } (pre ++ asStr w) tl := by
  have := scan_buffer e (fun l => ∀ c ∈ l.head?, c ≠ '/' ∧ c ≠ '\\' ∧ c ≠ '?' ∧ c ≠ '#') (fun q => q.state = .fileHost) utf8Char
    (fun _ _ _ h => h) (fun _ _ _ c hj hc hC => step_fileHost_cp hc hj (hC c rfl)) (asStr w) tl
    (all_suffix tl (chars_of_bytes fun b hb => (hw b hb).2)) ps pre hst hc
  rwa [flatMap_utf8Char_asStr w (fun b hb => (hw b hb).1), asStr_length] at this

theorem step_fileHost_empty {e : Env} {ps : PS} {pre tl : Str} (hc : Cur e ps pre ('/' :: tl)) (hst : ps.state = .fileHost)
    (hov : e.ov = none) (hb : ps.buffer = []) :
    step e ps = .cont { ps with state := .pathStart, url := { ps.url with host := some [] } } := by
  rw [hc.step_cons]
  have h1 : isWindowsDriveLetter [] = false := by decide
  simp [body, hst, stFileHost, rewindLast, hov, hb, h1, bottom, hc.eof]

theorem step_fileHost_end {e : Env} {ps : PS} {pre tl : Str} {h' : Bytes} (hc : Cur e ps pre ('/' :: tl)) (hst : ps.state = .fileHost)
    (hov : e.ov = none) (hne : ps.buffer ≠ []) (hwdl : isWindowsDriveLetter ps.buffer = false)
    (hout : (parseHost e.cfg e.I ps.url ps.buffer (!isSp e ps.url)).out = .ok h') (hloc : h' ≠ lit "localhost") :
    step e ps = .cont { ps with buffer := [], state := .pathStart,
                                url := { (parseHost e.cfg e.I ps.url ps.buffer (!isSp e ps.url)).url with host := some h' } } := by
  rw [hc.step_cons]
  have hem : ps.buffer.isEmpty = false := by simpa using hne
  have hl : (h' == lit "localhost") = false := by simpa using hloc
  simp [body, hst, stFileHost, rewindLast, hov, hem, hwdl, afterHost, hout, hl, bottom, hc.eof]

/-! ### port -/

theorem step_port_digit {e : Env} {ps : PS} {pre tl : Str} {c : Char} (hc : Cur e ps pre (c :: tl)) (hst : ps.state = .port)
    (hd : isDigitN c.toNat = true) :
    step e ps = .cont { ps with pointer := ps.pointer + 1, buffer := ps.buffer ++ utf8Char c } := by
  rw [hc.step_cons]
  simp [body, hst, stPort, hd, writeRune, bottom, hc.eof]

theorem scan_port {e : Env} {ps : PS} {pre : Str} (w : Bytes) (tl : Str) (hc : Cur e ps pre (asStr w ++ tl)) (hst : ps.state = .port)
    (hw : ∀ b ∈ w, isDigitN b.toNat = true) :
    Steps e ps { ps with pointer := ps.pointer + (w.length : Int), buffer := ps.buffer ++ w } ∧
    Cur e { ps with pointer := ps.pointer + (w.length : Int), buffer := ps.buffer ++ w } (pre ++ asStr w) tl := by
  have := scan_buffer e (fun l => ∀ c ∈ l.head?, isDigitN c.toNat = true) (fun q => q.state = .port) utf8Char (fun _ _ _ h => h)
    (fun _ _ _ c hj hc hC => step_port_digit hc hj (hC c rfl)) (asStr w) tl
    (all_suffix tl (chars_of_bytes fun b hb => (digit_byte b (hw b hb)).1)) ps pre hst hc
  rwa [flatMap_utf8Char_asStr w (fun b hb => (digit_byte b (hw b hb)).2), asStr_length] at this

theorem step_port_end {e : Env} {ps : PS} {pre rest : Str} (hc : Cur e ps pre rest) (hd : Delim rest) (hst : ps.state = .port)
    (hov : e.ov = none) (hne : ps.buffer ≠ []) (hle : digitsVal 10 ps.buffer ≤ 65535) :
    step e ps = .cont { ps with buffer := [], state := .pathStart,
                                url := cleanDefaultPort e.cfg { ps.url with decodedPort := digitsVal 10 ps.buffer,
                                                                            port := some (itoa (digitsVal 10 ps.buffer)) } } := by
  have hem : ps.buffer.isEmpty = false := by simpa using hne
  have hgt : ¬ digitsVal 10 ps.buffer > 65535 := by omega
  rcases hd with hd | ⟨c, tl, hd, hc3⟩
  · subst hd
    rw [hc.step_nil]
    have h1 : isDigitN repl.toNat = false := by decide
    simp [body, hst, stPort, hov, h1, hem, hgt, rewindLast, bottom, hc.eof]
  · subst hd
    rw [hc.step_cons]
    obtain ⟨h2, _, _, h1⟩ := delim_char hc3
    simp [body, hst, stPort, hov, h1, h2, hem, hgt, rewindLast, bottom, hc.eof]

theorem step_port_empty {e : Env} {ps : PS} {pre rest : Str} (hc : Cur e ps pre rest) (hd : Delim rest) (hst : ps.state = .port)
    (hov : e.ov = none) (hb : ps.buffer = []) : step e ps = .cont { ps with state := .pathStart } := by
  rcases hd with hd | ⟨c, tl, hd, hc3⟩
  · subst hd
    rw [hc.step_nil]
    have h1 : isDigitN repl.toNat = false := by decide
    simp [body, hst, stPort, hov, h1, hb, rewindLast, bottom, hc.eof]
  · subst hd
    rw [hc.step_cons]
    obtain ⟨h2, _, _, h1⟩ := delim_char hc3
    simp [body, hst, stPort, hov, h1, h2, hb, rewindLast, bottom, hc.eof]

/-- the port state over the digits `x` (possibly none) up to the delimiter: on to the path start state with the port stored
    in canonical form, unless it is empty or the default of the scheme (`Web.portU`) -/
theorem steps_port {e : Env} {ps : PS} {pre : Str} (x : Bytes) (tl : Str) (hc : Cur e ps pre (asStr x ++ tl)) (hd : Delim tl)
    (hst : ps.state = .port) (hov : e.ov = none) (hb : ps.buffer = []) (hx : ∀ b ∈ x, isDigitN b.toNat = true)
    (hle : digitsVal 10 x ≤ 65535) :
    Steps e ps { ps with pointer := ps.pointer + (x.length : Int), state := .pathStart, buffer := [],
                         url := Web.portU e.cfg ps.url (some x) } ∧
    Cur e { ps with pointer := ps.pointer + (x.length : Int), state := .pathStart, buffer := [],
                    url := Web.portU e.cfg ps.url (some x) } (pre ++ asStr x) tl := by
  obtain ⟨t1, hc1⟩ := scan_port x tl hc hst hx
  rw [hb, List.nil_append] at t1 hc1
  by_cases hx0 : x = []
  · subst hx0
    obtain ⟨t2, hc2⟩ := hc1.stay (step_port_empty hc1 hd hst hov rfl) rfl hc1.eof
    rw [Web.portU_empty _ _ [] rfl]
    exact ⟨t1.trans t2, hc2⟩
  · obtain ⟨t2, hc2⟩ := hc1.stay (step_port_end hc1 hd hst hov hx0 hle) rfl hc1.eof
    rw [Web.portU_digits _ _ x hx0]
    exact ⟨t1.trans t2, hc2⟩

/-- the host state with the host text in the buffer, in front of the optional `:port` and a delimiter: the host parser's
    result is stored, then the port as in `steps_port`, and the path start state reads the delimiter -/
theorem steps_host_exit {e : Env} {ps : PS} {pre : Str} {h' : Bytes} (po : Option Bytes) (tl : Str)
    (hc : Cur e ps pre (asStr (Web.portText po) ++ tl)) (hd : Delim tl) (hst : ps.state = .host) (hov : e.ov = none)
    (hfl : ps.bracketFlag = false) (hne : isSp e ps.url = true ∨ po ≠ none → ps.buffer ≠ [])
    (hout : (parseHost e.cfg e.I ps.url ps.buffer (!isSp e ps.url)).out = .ok h')
    (hpo : ∀ x, po = some x → (∀ b ∈ x, isDigitN b.toNat = true) ∧ digitsVal 10 x ≤ 65535) :
    ∃ ps', Steps e ps ps' ∧ Cur e ps' (pre ++ asStr (Web.portText po)) tl ∧
      ps' = { ps with pointer := ps'.pointer, state := .pathStart, buffer := [],
                      url := Web.portU e.cfg { (parseHost e.cfg e.I ps.url ps.buffer (!isSp e ps.url)).url with host := some h' } po } := by
  cases po with
  | none =>
    have hc' : Cur e ps pre tl := by simpa [Web.portText, asStr] using hc
    obtain ⟨t, hc2⟩ := hc'.stay (step_host_end hc' hd hst hov (fun hs => hne (Or.inl hs)) hout) rfl hc'.eof
    exact ⟨_, t, by simpa [Web.portText, asStr] using hc2, rfl⟩
  | some x =>
    have hc' : Cur e ps pre (':' :: (asStr x ++ tl)) := by simpa [Web.portText, asStr, bc_colon] using hc
    obtain ⟨t1, hc1⟩ := hc'.one (step_host_colon hc' hst hov hfl (hne (Or.inr (by simp))) hout) rfl hc'.eof
    obtain ⟨t2, hc2⟩ := steps_port x tl hc1 hd rfl hov rfl (hpo x rfl).1 (hpo x rfl).2
    exact ⟨_, t1.trans t2, by simpa [Web.portText, asStr, bc_colon] using hc2, rfl⟩

/-! ### path start -/

theorem step_pathStart_slash {e : Env} {ps : PS} {pre tl : Str} (hc : Cur e ps pre ('/' :: tl)) (hst : ps.state = .pathStart) :
    step e ps = .cont { ps with pointer := ps.pointer + 1, state := .path } := by
  rw [hc.step_cons]
  have h1 : ('/' == '?') = false := by decide
  have h2 : ('/' == '#') = false := by decide
  have h3 : ('/' == '\\') = false := by decide
  cases hsp : (isSp e ps.url && !e.cfg.skipTrailingSlash)
  · simp [body, hst, stPathStart, hsp, h1, h2, hc.eof, bottom]
  · simp [body, hst, stPathStart, hsp, h3, hc.eof, bottom]

theorem step_pathStart_qm {e : Env} {ps : PS} {pre tl : Str} (hc : Cur e ps pre ('?' :: tl)) (hst : ps.state = .pathStart)
    (hov : e.ov = none) (hsp : (isSp e ps.url && !e.cfg.skipTrailingSlash) = false) :
    step e ps = .cont { ps with pointer := ps.pointer + 1, state := .query, url := { ps.url with query := some [] } } := by
  rw [hc.step_cons]
  simp [body, hst, stPathStart, hsp, hov, hc.eof, bottom]

theorem step_pathStart_hash {e : Env} {ps : PS} {pre tl : Str} (hc : Cur e ps pre ('#' :: tl)) (hst : ps.state = .pathStart)
    (hov : e.ov = none) (hsp : (isSp e ps.url && !e.cfg.skipTrailingSlash) = false) :
    step e ps = .cont { ps with pointer := ps.pointer + 1, state := .fragment, url := { ps.url with fragment := some [] } } := by
  rw [hc.step_cons]
  have h1 : ('#' == '?') = false := by decide
  simp [body, hst, stPathStart, hsp, hov, hc.eof, h1, bottom]

theorem step_pathStart_eof {e : Env} {ps : PS} {pre : Str} (hc : Cur e ps pre []) (hst : ps.state = .pathStart)
    (hov : e.ov = none) (hsp : (isSp e ps.url && !e.cfg.skipTrailingSlash) = false) :
    step e ps = .done ⟨ps.url, .url⟩ := by
  rw [hc.step_nil]
  have h1 : (repl == '?') = false := by decide
  have h2 : (repl == '#') = false := by decide
  simp [body, hst, stPathStart, hsp, hov, h1, h2, bottom]

/-! ### opaque path -/

theorem step_opaque {e : Env} {ps : PS} {pre tl : Str} {c : Char} (hc : Cur e ps pre (c :: tl)) (hst : ps.state = .opaquePath)
    (h1 : c ≠ '?') (h2 : c ≠ '#') (hQ : QuietAt e (c :: tl)) :
    step e ps = .cont { ps with
      pointer := ps.pointer + 1, buffer := ps.buffer ++ percentEncodeRune e.cfg c0Set c,
      url := { ps.url with path := Path.setOpaque (ps.buffer ++ percentEncodeRune e.cfg c0Set c) } } := by
  obtain ⟨hq, hp⟩ := hQ
  rw [hc.step_cons]
  by_cases hi : invalidPct (c :: tl) = true
  · simp [body, hst, stOpaquePath, h1, h2, hc.eof, unitChecks_quiet hc hq, peInvalid_of (hp hi), bottom]
  · simp [body, hst, stOpaquePath, h1, h2, hc.eof, unitChecks_quiet hc hq, remainingInvalidPct, hc.runesFrom, hi, bottom]

theorem step_opaque_qm {e : Env} {ps : PS} {pre tl : Str} (hc : Cur e ps pre ('?' :: tl)) (hst : ps.state = .opaquePath) :
    step e ps = .cont { ps with pointer := ps.pointer + 1, state := .query, buffer := [], url := { ps.url with query := some [] } } := by
  rw [hc.step_cons]
  simp [body, hst, stOpaquePath, bottom, hc.eof]

theorem step_opaque_hash {e : Env} {ps : PS} {pre tl : Str} (hc : Cur e ps pre ('#' :: tl)) (hst : ps.state = .opaquePath) :
    step e ps = .cont { ps with pointer := ps.pointer + 1, state := .fragment, buffer := [], url := { ps.url with fragment := some [] } } := by
  rw [hc.step_cons]
  have : ('#' == '?') = false := by decide
  simp [body, hst, stOpaquePath, bottom, hc.eof, this]

theorem step_opaque_eof {e : Env} {ps : PS} {pre : Str} (hc : Cur e ps pre []) (hst : ps.state = .opaquePath) :
    step e ps = .done ⟨ps.url, .url⟩ := by
  rw [hc.step_nil]
  have h1 : (repl == '?') = false := by decide
  have h2 : (repl == '#') = false := by decide
  simp [body, hst, stOpaquePath, bottom, h1, h2]

/-- the opaque-path state on a code point of the path -/
def opaqueUpd (cfg : Cfg) (q : PS) (c : Char) : PS :=
  { q with pointer := q.pointer + 1, buffer := q.buffer ++ percentEncodeRune cfg c0Set c,
           url := { q.url with path := Path.setOpaque (q.buffer ++ percentEncodeRune cfg c0Set c) } }

theorem foldl_opaqueUpd (cfg : Cfg) : ∀ (w : Str) (ps : PS), ps.url.path = Path.setOpaque ps.buffer →
    w.foldl (opaqueUpd cfg) ps =
      { ps with pointer := ps.pointer + (w.length : Int), buffer := ps.buffer ++ w.flatMap (percentEncodeRune cfg c0Set),
                url := { ps.url with path := Path.setOpaque (ps.buffer ++ w.flatMap (percentEncodeRune cfg c0Set)) } }
  | [], ps, hp => by
    simp only [List.foldl_nil, List.length_nil, Int.natCast_zero, Int.add_zero, List.flatMap_nil, List.append_nil, ← hp]
  | c :: w, ps, _ => by
    rw [List.foldl_cons, foldl_opaqueUpd cfg w _ rfl]
    simp only [opaqueUpd, List.length_cons, Int.natCast_succ, List.flatMap_cons, List.append_assoc]
    congr 1
    omega

theorem scan_opaque {e : Env} {ps : PS} {pre : Str} (w : Bytes) (tl : Str) (hc : Cur e ps pre (asStr w ++ tl))
    (hst : ps.state = .opaquePath) (hp : ps.url.path = Path.setOpaque ps.buffer)
    (hw : ∀ b ∈ w, c0Set.has b.toNat = false ∧ bc b ≠ '?' ∧ bc b ≠ '#') (hQ : QuietOn e (asStr w) tl) :
    Steps e ps { ps with pointer := ps.pointer + (w.length : Int), buffer := ps.buffer ++ w,
                         url := { ps.url with path := Path.setOpaque (ps.buffer ++ w) } } ∧
    Cur e { ps with pointer := ps.pointer + (w.length : Int), buffer := ps.buffer ++ w,
                    url := { ps.url with path := Path.setOpaque (ps.buffer ++ w) } } (pre ++ asStr w) tl := by
  obtain ⟨h1, h2⟩ := Steps.scan e (fun l => QuietAt e l ∧ ∀ c ∈ l.head?, c ≠ '?' ∧ c ≠ '#')
    (fun q => q.state = .opaquePath) (opaqueUpd e.cfg) (fun _ _ => rfl) (fun _ _ => rfl) (fun _ _ hj => hj)
    (fun q _ _ c hj hc hC => step_opaque hc hj (hC.2 c rfl).1 (hC.2 c rfl).2 hC.1)
    (asStr w) tl (fun a b hab hb => ⟨hQ a b hab hb, all_suffix tl (chars_of_bytes fun b hb => (hw b hb).2) a b hab hb⟩) ps pre hst hc
  rw [foldl_opaqueUpd e.cfg (asStr w) ps hp, flatMap_pe_copy _ _ w (fun b hb => (hw b hb).1), asStr_length] at h1 h2
  exact ⟨h1, h2⟩

/-! ### path -/

theorem step_path_cp {e : Env} {ps : PS} {pre tl : Str} {c : Char} (hc : Cur e ps pre (c :: tl)) (hst : ps.state = .path)
    (h1 : c ≠ '/') (h2 : c ≠ '?') (h3 : c ≠ '#') (h4 : spBackslash e ps.url c = false) (hQ : QuietAt e (c :: tl)) :
    step e ps = .cont { ps with pointer := ps.pointer + 1, buffer := ps.buffer ++ percentEncodeRune e.cfg e.cfg.pathSet c } := by
  obtain ⟨hq, hp⟩ := hQ
  rw [hc.step_cons]
  by_cases hi : invalidPct (c :: tl) = true
  · simp [body, hst, stPath_eq, hc.eof, h1, h2, h3, h4, unitChecks_quiet hc hq, peInvalid_of (hp hi), bottom]
  · simp [body, hst, stPath_eq, hc.eof, h1, h2, h3, h4, unitChecks_quiet hc hq, remainingInvalidPct, hc.runesFrom, hi, bottom]

theorem segPath_add (e : Env) (ps : PS) (r : Char)
    (h1 : isSingleDot ps.buffer = false) (h2 : isDoubleDot ps.buffer = false) (hdrv : DriveOk ps.url ps.buffer)
    (hadd : AddsSeg e.cfg ps.url) : segPath e ps r = ps.url.path.addSegment ps.buffer := by
  unfold AddsSeg at hadd
  by_cases hc : (ps.url.scheme == lit "file" && ps.url.path.isEmpty && isWindowsDriveLetter ps.buffer) = true
  · obtain ⟨a, hbuf⟩ := normalized_shape _ (hdrv hc)
    rw [hbuf] at h1 h2
    simp [segPath, h1, h2, hbuf, isSp, hadd]
  · simp [segPath, h1, h2, hc, isSp, hadd]

/-- the end of a segment at `/`, or at `?` / `#` without state override: `Machine.segEnd` (whatever the buffer holds; for a dot
    segment `segPath_sdot` / `segPath_ddot` say what it stores) -/
theorem step_segEnd {e : Env} {ps : PS} {pre tl : Str} {c : Char} (hc : Cur e ps pre (c :: tl)) (hst : ps.state = .path)
    (hd : c = '/' ∨ (e.ov = none ∧ (c = '?' ∨ c = '#'))) :
    step e ps = segEnd e c { ps with pointer := ps.pointer + 1 } := by
  rw [hc.step_cons]
  rcases hd with rfl | ⟨ho, rfl | rfl⟩
  · simp [body, hst, stPath_eq, segEnd, spBackslash, hc.eof, bottom]
  · simp [body, hst, stPath_eq, segEnd, spBackslash, ho, hc.eof, bottom]
  · simp [body, hst, stPath_eq, segEnd, spBackslash, ho, hc.eof, bottom]

theorem step_segEnd_eof {e : Env} {ps : PS} {pre : Str} (hc : Cur e ps pre []) (hst : ps.state = .path) :
    step e ps = .done ⟨{ ps.url with path := segPath e ps repl }, .url⟩ := by
  rw [hc.step_nil]
  simp [body, hst, stPath_eq, segEnd, segPath, spBackslash, bottom, repl]

theorem segPath_ddot (e : Env) (ps : PS) (r : Char) (h : isDoubleDot ps.buffer = true) :
    segPath e ps r = if (r == '/' || spBackslash e ps.url r) = true then ps.url.path.shorten ps.url.scheme
      else (ps.url.path.shorten ps.url.scheme).addSegment [] := by
  simp only [segPath, h, if_true]
  split <;> simp_all

theorem segPath_sdot (e : Env) (ps : PS) (r : Char) (h1 : isSingleDot ps.buffer = true) (h2 : isDoubleDot ps.buffer = false) :
    segPath e ps r = if (r == '/' || spBackslash e ps.url r) = true then ps.url.path else ps.url.path.addSegment [] := by
  simp only [segPath, h1, h2, Bool.false_eq_true, if_false, Bool.true_and, Bool.not_true]
  split <;> simp_all

theorem step_path_slash {e : Env} {ps : PS} {pre tl : Str} (hc : Cur e ps pre ('/' :: tl)) (hst : ps.state = .path)
    (h1 : isSingleDot ps.buffer = false) (h2 : isDoubleDot ps.buffer = false) (hdrv : DriveOk ps.url ps.buffer)
    (hadd : AddsSeg e.cfg ps.url) :
    step e ps = .cont { ps with pointer := ps.pointer + 1, buffer := [],
                                url := { ps.url with path := ps.url.path.addSegment ps.buffer } } := by
  rw [step_segEnd hc hst (Or.inl rfl)]
  simp [segEnd, segPath_add, h1, h2, hdrv, hadd]

theorem step_path_sdot_slash {e : Env} {ps : PS} {pre tl : Str} (hc : Cur e ps pre ('/' :: tl)) (hst : ps.state = .path)
    (h1 : isSingleDot ps.buffer = true) (h2 : isDoubleDot ps.buffer = false) :
    step e ps = .cont { ps with pointer := ps.pointer + 1, buffer := [] } := by
  rw [step_segEnd hc hst (Or.inl rfl)]
  simp [segEnd, segPath_sdot, h1, h2]

theorem step_path_qm {e : Env} {ps : PS} {pre tl : Str} (hc : Cur e ps pre ('?' :: tl)) (hst : ps.state = .path) (hov : e.ov = none)
    (h1 : isSingleDot ps.buffer = false) (h2 : isDoubleDot ps.buffer = false) (hdrv : DriveOk ps.url ps.buffer)
    (hadd : AddsSeg e.cfg ps.url) :
    step e ps = .cont { ps with pointer := ps.pointer + 1, state := .query, buffer := [],
                                url := { ps.url with path := ps.url.path.addSegment ps.buffer, query := some [] } } := by
  rw [step_segEnd hc hst (Or.inr ⟨hov, Or.inl rfl⟩)]
  simp [segEnd, segPath_add, h1, h2, hdrv, hadd]

theorem step_path_hash {e : Env} {ps : PS} {pre tl : Str} (hc : Cur e ps pre ('#' :: tl)) (hst : ps.state = .path) (hov : e.ov = none)
    (h1 : isSingleDot ps.buffer = false) (h2 : isDoubleDot ps.buffer = false) (hdrv : DriveOk ps.url ps.buffer)
    (hadd : AddsSeg e.cfg ps.url) :
    step e ps = .cont { ps with pointer := ps.pointer + 1, state := .fragment, buffer := [],
                                url := { ps.url with path := ps.url.path.addSegment ps.buffer, fragment := some [] } } := by
  rw [step_segEnd hc hst (Or.inr ⟨hov, Or.inr rfl⟩)]
  simp [segEnd, segPath_add, h1, h2, hdrv, hadd]

theorem step_path_eof {e : Env} {ps : PS} {pre : Str} (hc : Cur e ps pre []) (hst : ps.state = .path)
    (h1 : isSingleDot ps.buffer = false) (h2 : isDoubleDot ps.buffer = false) (hdrv : DriveOk ps.url ps.buffer)
    (hadd : AddsSeg e.cfg ps.url) :
    step e ps = .done ⟨{ ps.url with path := ps.url.path.addSegment ps.buffer }, .url⟩ := by
  rw [step_segEnd_eof hc hst, segPath_add e ps repl h1 h2 hdrv hadd]

theorem spBackslash_sp (e : Env) (u : Url) (r : Char) (sp : Bool)
    (hsp : e.cfg.isSpecial u.scheme = sp) (h : sp = true → r ≠ '\\') : spBackslash e u r = false := by
  simp only [spBackslash, isSp, hsp]
  cases sp
  · rfl
  · simp [h rfl]

theorem spBackslash_ne (e : Env) (u : Url) (r : Char) (h : r ≠ '\\') : spBackslash e u r = false := by
  simp [spBackslash, h]

/-- a segment that the path state stores unchanged (`sp`: special scheme, where `\` is a separator) -/
structure SegCopied (e : Env) (sp : Bool) (s : Bytes) : Prop where
  copy : ∀ b ∈ s, e.cfg.pathSet.has b.toNat = false ∧ bc b ≠ '/' ∧ bc b ≠ '?' ∧ bc b ≠ '#' ∧ (sp = true → bc b ≠ '\\')
  sdot : isSingleDot s = false
  ddot : isDoubleDot s = false

theorem scan_segment {e : Env} {ps : PS} {pre : Str} (sp : Bool) (s : Bytes) (tl : Str) (hc : Cur e ps pre (asStr s ++ tl))
    (hst : ps.state = .path) (hsp : e.cfg.isSpecial ps.url.scheme = sp)
    (hs : ∀ b ∈ s, e.cfg.pathSet.has b.toNat = false ∧ bc b ≠ '/' ∧ bc b ≠ '?' ∧ bc b ≠ '#' ∧ (sp = true → bc b ≠ '\\'))
    (hQ : QuietOn e (asStr s) tl) :
    Steps e ps { ps with pointer := ps.pointer + (s.length : Int), buffer := ps.buffer ++ s } ∧
    Cur e { ps with pointer := ps.pointer + (s.length : Int), buffer := ps.buffer ++ s } (pre ++ asStr s) tl := by
  have := scan_buffer e (fun l => QuietAt e l ∧ ∀ c ∈ l.head?, ∃ b ∈ s, c = bc b) (fun q => q.state = .path ∧ q.url = ps.url)
    (percentEncodeRune e.cfg e.cfg.pathSet) (fun _ _ _ h => h)
    (fun q pre tl c hj hc hC => by
      obtain ⟨b, hb, rfl⟩ := hC.2 c rfl
      obtain ⟨_, g1, g2, g3, g4⟩ := hs b hb
      exact step_path_cp hc hj.1 g1 g2 g3 (spBackslash_sp e q.url (bc b) sp (hj.2 ▸ hsp) g4) hC.1)
    (asStr s) tl (fun a b hab hb => ⟨hQ a b hab hb,
      all_suffix tl
        (fun c hc => by obtain ⟨x, hx, rfl⟩ := List.mem_map.mp hc; exact ⟨x, hx, rfl⟩) a b hab hb⟩) ps pre ⟨hst, rfl⟩ hc
  rwa [flatMap_pe_copy _ _ s (fun b hb => (hs b hb).1), show ((asStr s).length : Int) = (s.length : Int) by simp [asStr]] at this

/-- a list path: the segment `seg`, then the segments `more`, each after a `/`.  The machine ends in the path state with the
    last segment in the buffer, in front of whatever ends the path.  If consecutive slashes are collapsed, no segment but
    the last may be empty.  `ps' = { ps with pointer := ps'.pointer, … }` says that `ps'` is `ps` but for the fields
    listed, and that nothing is said of those given as `ps'.…`.  `Path.addSegment` clears `opq`, hence the `&&`. -/
theorem steps_path {e : Env} (sp : Bool) :
    ∀ (more : List Bytes) (seg : Bytes) (tl : Str) (ps : PS) (pre : Str),
      Cur e ps pre (asStr (seg ++ pathText more) ++ tl) → ps.state = .path → ps.buffer = [] →
      e.cfg.isSpecial ps.url.scheme = sp → (∀ s ∈ seg :: more, SegCopied e sp s) → DriveOk ps.url seg →
      (∀ a s b, seg :: more = a ++ s :: b → QuietOn e (asStr s) (asStr (pathText b) ++ tl)) →
      (e.cfg.collapse = false ∨ ((∀ s ∈ ps.url.path.segs, s ≠ []) ∧ ∀ s ∈ (seg :: more).dropLast, s ≠ [])) →
      ∃ ps' pre', Steps e ps ps' ∧ Cur e ps' pre' tl ∧
        ps' = { ps with pointer := ps'.pointer, buffer := (seg :: more).getLast (by simp),
                        url := { ps.url with path := ⟨ps.url.path.segs ++ (seg :: more).dropLast,
                                                      ps.url.path.opq && ((seg :: more).dropLast).isEmpty⟩ } } ∧
        DriveOk ps'.url ps'.buffer ∧ AddsSeg e.cfg ps'.url := by
  unfold pathText
  intro more
  induction more with
  | nil =>
    intro seg tl ps pre hc hst hb hsp hsegs hdrv hQ hne
    obtain ⟨h1, h2⟩ := scan_segment sp seg tl (by simpa using hc) hst hsp (hsegs seg (by simp)).copy (by simpa using hQ [] seg [] rfl)
    refine ⟨_, _, h1, h2, ?_, by simpa [hb] using hdrv, Web.addsSeg_of _ _ (hne.imp id (·.1))⟩
    simp [hb]
  | cons s2 rest ih =>
    intro seg tl ps pre hc hst hb hsp hsegs hdrv hQ hne
    have hsg := hsegs seg (by simp)
    have e1 : asStr (seg ++ (s2 :: rest).flatMap (fun s => 0x2f :: s)) ++ tl =
        asStr seg ++ ('/' :: (asStr (s2 ++ rest.flatMap (fun s => 0x2f :: s)) ++ tl)) := by
      simp [asStr]; rfl
    rw [e1] at hc
    have hQ1 : QuietOn e (asStr seg) ('/' :: (asStr (s2 ++ rest.flatMap (fun s => 0x2f :: s)) ++ tl)) := by
      have := hQ [] seg (s2 :: rest) rfl
      simpa [asStr, show bc 47 = '/' from rfl] using this
    obtain ⟨h1, h2⟩ := scan_segment sp seg _ hc hst hsp hsg.copy hQ1
    obtain ⟨h3, h4⟩ := h2.one (step_path_slash h2 hst (by simpa [hb] using hsg.sdot) (by simpa [hb] using hsg.ddot)
      (by simpa [hb] using hdrv) (Web.addsSeg_of _ _ (hne.imp id (·.1)))) rfl h2.eof
    obtain ⟨ps', pre', h5, h6, h7, h8, h9⟩ := ih s2 tl _ _ h4 hst rfl hsp (fun s hs => hsegs s (by simp [hs]))
      (DriveOk_nonempty _ _ (by simp [Path.addSegment])) (fun a s b hab => hQ (seg :: a) s b (by rw [hab]; rfl))
      (hne.imp id fun ⟨a, b⟩ => ⟨by
          intro s hs
          simp only [Path.addSegment, List.mem_append, List.mem_singleton] at hs
          rcases hs with hs | rfl
          · exact a s hs
          · simpa [hb] using b (ps.buffer ++ seg) (by simp [hb, List.dropLast]),
        fun s hs => b s (by simp [List.dropLast, hs])⟩)
    refine ⟨ps', pre', (h1.trans h3).trans h5, h6, h7.trans ?_, h8, h9⟩
    simp [Path.addSegment, hb, List.dropLast]

/-- the path state along a list path, then `?query#fragment`, to the end of the text; the encoders copy every piece -/
theorem run_path {e : Env} (hov : e.ov = none) (sp : Bool) (q f : Option Bytes) (more : List Bytes) (seg : Bytes)
    {ps : PS} {pre : Str} (hc : Cur e ps pre (asStr (seg ++ pathText more) ++ asStr (qTail q ++ fTail f)))
    (hst : ps.state = .path) (hb : ps.buffer = []) (hsp : e.cfg.isSpecial ps.url.scheme = sp)
    (hsegs : ∀ s ∈ seg :: more, SegCopied e sp s) (hdrv : DriveOk ps.url seg)
    (hQ : ∀ a s b, seg :: more = a ++ s :: b → QuietOn e (asStr s) (asStr (pathText b) ++ asStr (qTail q ++ fTail f)))
    (hne : e.cfg.collapse = false ∨ ((∀ s ∈ ps.url.path.segs, s ≠ []) ∧ ∀ s ∈ (seg :: more).dropLast, s ≠ []))
    (hq : ∀ x, q = some x → (∀ b ∈ x, (querySetOf e ps.url).has b.toNat = false) ∧ '#' ∉ asStr x)
    (hf : ∀ x, f = some x → ∀ b ∈ x, (fragSetOf e ps.url).has b.toNat = false)
    (hQq : ∀ x, q = some x → QuietOn e (asStr x) (asStr (fTail f))) (hQf : ∀ x, f = some x → QuietOn e (asStr x) []) :
    Runs e ps ⟨setF (setQ { ps.url with path := ⟨ps.url.path.segs ++ seg :: more, false⟩ } q) f, .url⟩ := by
  obtain ⟨ps', pre', h1, h2, hps, h6, h7⟩ := steps_path sp more seg _ ps pre hc hst hb hsp hsegs hdrv hQ hne
  have h3 : ps'.state = .path := by rw [hps]; exact hst
  have h4 : ps'.buffer = (seg :: more).getLast (by simp) := by rw [hps]
  obtain ⟨_, hs2, hs3⟩ := hsegs _ (List.getLast_mem (l := seg :: more) (by simp))
  rw [← h4] at hs2 hs3
  have hU : ({ ps'.url with path := ps'.url.path.addSegment ps'.buffer } : Url) =
      { ps.url with path := ⟨ps.url.path.segs ++ seg :: more, false⟩ } := by
    rw [hps]
    simp only [Path.addSegment, List.append_assoc, List.dropLast_concat_getLast]
  have hrun := run_qf hov q f { ps'.url with path := ps'.url.path.addSegment ps'.buffer }
    (by rw [hU]; exact hq) (by rw [hU]; exact hf) h2 hQq hQf
    (fun tl h => ⟨_, step_path_qm h h3 hov hs2 hs3 h6 h7, rfl, rfl, rfl, h.eof, rfl⟩)
    (fun tl h => ⟨_, step_path_hash h h3 hov hs2 hs3 h6 h7, rfl, rfl, rfl, h.eof, rfl⟩)
    (fun h => step_path_eof h h3 hs2 hs3 h6 h7)
  rw [hU] at hrun
  exact h1.runs hrun

/-- the same from the path start state; a url whose path may be empty (`hnil`) ends there on `?`, `#` or the end of the text -/
theorem run_pathStart {e : Env} (hov : e.ov = none) (sp : Bool) (q f : Option Bytes) (segs : List Bytes)
    {ps : PS} {pre : Str} (hc : Cur e ps pre (asStr (pathText segs) ++ asStr (qTail q ++ fTail f)))
    (hst : ps.state = .pathStart) (hb : ps.buffer = []) (hp : ps.url.path = ⟨[], false⟩) (hsp : e.cfg.isSpecial ps.url.scheme = sp)
    (hnil : segs = [] → (isSp e ps.url && !e.cfg.skipTrailingSlash) = false)
    (hsegs : ∀ s ∈ segs, SegCopied e sp s) (hdrv : ∀ s ∈ segs.head?, DriveOk ps.url s)
    (hQ : ∀ a s b, segs = a ++ s :: b → QuietOn e (asStr s) (asStr (pathText b) ++ asStr (qTail q ++ fTail f)))
    (hne : e.cfg.collapse = false ∨ ∀ s ∈ segs.dropLast, s ≠ [])
    (hq : ∀ x, q = some x → (∀ b ∈ x, (querySetOf e ps.url).has b.toNat = false) ∧ '#' ∉ asStr x)
    (hf : ∀ x, f = some x → ∀ b ∈ x, (fragSetOf e ps.url).has b.toNat = false)
    (hQq : ∀ x, q = some x → QuietOn e (asStr x) (asStr (fTail f))) (hQf : ∀ x, f = some x → QuietOn e (asStr x) []) :
    Runs e ps ⟨setF (setQ { ps.url with path := ⟨segs, false⟩ } q) f, .url⟩ := by
  cases segs with
  | cons s1 more =>
    have e1 : asStr (pathText (s1 :: more)) = '/' :: asStr (s1 ++ pathText more) := by
      simp [pathText, asStr]; rfl
    rw [e1] at hc
    obtain ⟨t1, hc1⟩ := hc.one (step_pathStart_slash hc hst) rfl hc.eof
    have := run_path hov sp q f more s1 hc1 rfl hb hsp hsegs (hdrv s1 (by simp)) hQ
      (hne.imp id fun h => ⟨fun s hs => (by rw [hp] at hs; cases hs), h⟩) hq hf hQq hQf
    simp only [hp, List.nil_append] at this
    exact t1.runs this
  | nil =>
    have hns := hnil rfl
    have hpp : { ps.url with path := ⟨[], false⟩ } = ps.url := by rw [← hp]
    rw [hpp]
    exact run_qf hov q f ps.url hq hf (by simpa [pathText] using hc) hQq hQf
      (fun tl h => ⟨_, step_pathStart_qm h hst hov hns, rfl, hb, rfl, h.eof, rfl⟩)
      (fun tl h => ⟨_, step_pathStart_hash h hst hov hns, rfl, hb, rfl, h.eof, rfl⟩)
      (fun h => step_pathStart_eof h hst hov hns)

end WhatwgUrl.Proofs.Run
