import WhatwgUrl.Proofs.PipelineSpelled
/-
  C17c: the percent-decoder of a configuration (`decodePercent cfg`, which under an encoding override
  re-encodes every decoded byte through the charmap) agrees with the plain byte decoder `canonDecode` on spellings of plain
  texts — as soon as the charmap is the identity on the bytes of a spelling (`DecAscii`: on every ASCII byte).
-/
namespace WhatwgUrl.Proofs.Idem
open WhatwgUrl WhatwgUrl.Impl WhatwgUrl.Proofs.Canon
open WhatwgUrl.Proofs.Pipeline
open WhatwgUrl.Props.C18 (Spelled nest esc1 escPct nest_succ')

/-- the charmap of the configuration (if any) decodes every ASCII byte to the character with that number -/
def DecAscii (cfg : Cfg) : Prop :=
  ∀ cm, cfg.encOverride = some cm → ∀ x : UInt8, x.toNat < 0x80 → utf8Char (cm.dec x) = [x]

theorem decAscii_none (cfg : Cfg) (h : cfg.encOverride = none) : DecAscii cfg := by
  intro cm hcm; rw [h] at hcm; cases hcm

theorem spelled_canonDecode_spB {p s : Bytes} (h : Spelled p s) (hp : ∀ b ∈ p, unres b = true) :
    ∀ b ∈ canonDecode s, spB b = true := by
  induction h with
  | nil => intro b hb; rw [canonDecode_nil] at hb; cases hb
  | @lit p s x h ih =>
    intro b hb
    have hx := hp x (by simp)
    rw [canonDecode_cons_ne x s (unres_ne_pct x hx)] at hb
    rcases List.mem_cons.mp hb with rfl | hb
    · simp [spB, hx]
    · exact ih (fun c hc => hp c (by simp [hc])) b hb
  | @esc p s up n x h ih =>
    intro b hb
    have hx := hp x (by simp)
    cases n with
    | zero =>
      have : canonDecode (nest 0 (esc1 up x) ++ s) = x :: canonDecode s := Props.C18.canonDecode_esc1_append up x s
      rw [this] at hb
      rcases List.mem_cons.mp hb with rfl | hb
      · simp [spB, hx]
      · exact ih (fun c hc => hp c (by simp [hc])) b hb
    | succ n =>
      rw [nest_succ', Props.C18.canonDecode_escPct_append] at hb
      rcases List.mem_append.mp hb with hb | hb
      · exact nest_spB n _ (esc1_spB up x) b hb
      · exact ih (fun c hc => hp c (by simp [hc])) b hb

theorem spB_ascii : ∀ b : UInt8, spB b = true → b.toNat < 0x80 := forall_uint8 (by decide +kernel)

/-- **the decoder of the configuration on a spelling of a plain text**: one decoding pass yields bytes of a spelling again,
    so it is enough that the charmap of an encoding override (if any) is the identity on those -/
theorem decodePercent_tok (cfg : Cfg) (hd : ∀ cm, cfg.encOverride = some cm → ∀ b, spB b = true → utf8Char (cm.dec b) = [b])
    {p s : Bytes} (h : Tok p s) : decodePercent cfg s = canonDecode s :=
  decodePercent_eq cfg s fun cm he b hb => hd cm he b (spelled_canonDecode_spB h.2 h.1.2 b hb)

end WhatwgUrl.Proofs.Idem
