import WhatwgUrl.Proofs.Effect
import WhatwgUrl.Proofs.WebPort
/-
  C18f: once the state machine has left the scheme-start / scheme / no-scheme states it never returns the
  error `MissingSchemeNonRelativeURL` (the one error after which the canonicalizer retries with the default scheme) —
  any configuration, base, override, text.
-/
namespace WhatwgUrl.Proofs.Web
open WhatwgUrl WhatwgUrl.Impl WhatwgUrl.Proofs.Spelling WhatwgUrl.Proofs.Machine

/-- the result is not the error after which `(*profile).Parse` retries with the default scheme -/
def NMr (r : Res) : Prop := ∀ er w, r.ret = .err er w → er.t ≠ .MissingSchemeNonRelativeURL

/-- a state the machine is in once the scheme has been dealt with: none of the three that can still raise that error or
    lead back to one that can -/
def Late (s : State) : Prop := s ≠ .schemeStart ∧ s ≠ .scheme ∧ s ≠ .noScheme

instance (s : State) : Decidable (Late s) := by unfold Late; infer_instance

/-- no transition leads back into the scheme states, and only the no-scheme state raises the missing-scheme error -/
theorem late_succ (ov : Bool) (s : State) (h : Late s) :
    (∀ s' ∈ succ ov s, Late s') ∧ raises s .MissingSchemeNonRelativeURL = false := by
  cases ov <;> cases s <;> first | exact absurd h (by decide) | decide

theorem body_nm (e : Env) (ps : PS) (r : Char) (hrepl : ps.eof = true → r = repl) (hst : Late ps.state) :
    Sh (fun ps => Late ps.state) NMr (body e ps r) :=
  (body_eff e ps r fun _ => hrepl).mono (fun ps' h => (late_succ _ _ hst).1 _ h.1)
    (fun x h er w hx ht => by simpa [ht, (late_succ true _ hst).2] using h.2.1 er w hx)

theorem step_nm (e : Env) (ps : PS) (h : ps.eof = false ∧ Late ps.state) :
    Sh (fun ps => ps.eof = false ∧ Late ps.state) NMr (step e ps) :=
  (Sh_step e ps).2 ((body_nm e _ _ (next_repl _ _ h.1) (by simpa [next_fst] using h.2)).mono
    (fun _ h => by unfold Owes; split <;> simp_all [NMr]) (fun _ h => h))

theorem loop_nm (e : Env) (n : Nat) (ps : PS) (he : ps.eof = false) (hst : Late ps.state) : NMr (loop e n ps) :=
  (loop_inv e (step_nm e) n ps ⟨he, hst⟩).elim id fun ⟨_, _, h⟩ => by rw [h]; simp [NMr]

theorem loop_nm_steps {e : Env} {ps ps' : PS} (S : Run.Steps e ps ps') (hl : Late ps'.state) (he' : ps'.eof = false)
    (hp : ps.pointer = -1) (he : ps.eof = false) :
    NMr (loop e (fuelFor e.runes) ps) := by
  obtain ⟨n, hn⟩ := S.loop_add
  have h := hn (fuelFor e.runes)
  rw [Termination.loop_fuel_monotone e ps hp he _ (by omega)] at h
  rw [h]
  exact loop_nm e _ ps' he' hl

theorem parse_nm_of_steps (cfg : Cfg) (I : Idna) (x : Bytes)
    (h : ∀ vs : List VErr, ∃ ps', Run.Steps (mkEC cfg I (Resolve.pro x) (goRunes (Resolve.pro x))) (ps0 .schemeStart { verrs := vs }) ps' ∧
      Late ps'.state ∧ ps'.eof = false) :
    NMr (parse cfg I x) := by
  unfold parse
  rw [Machine.basicParser_eq]
  rcases Machine.prologue_cases cfg x none none with ⟨_, u, _, h'⟩ | ⟨u, hu, h'⟩ <;> rw [h'] <;> dsimp only
  · intro er w hh; cases hh; decide
  · obtain ⟨vs, rfl⟩ := hu.eq
    obtain ⟨ps', R, hl, he'⟩ := h vs
    exact loop_nm_steps R hl he' rfl rfl

open WhatwgUrl.Proofs.RoundTrip WhatwgUrl.Proofs.IPv4 in
/-- **`scheme://host ++ rest` never fails with the missing-scheme error** (any configuration under which the scheme is
    special, lower case, not `file`; `rest` empty or starting with `/ ? #`, otherwise arbitrary) -/
theorem parse_nm_web (cfg : Cfg) (I : Idna) (s a rest : Bytes) (hs : SpecialSchemeC cfg s) (ha : hostText a = true)
    (hrest : DelimB rest) : NMr (parse cfg I (s ++ lit "://" ++ a ++ rest)) := by
  have gA := prefix_graphic_c cfg s a hs ha
  have hne : s ++ lit "://" ++ a ≠ [] := by simp [lit_css]
  apply parse_nm_of_steps
  intro vs
  rw [text_clean _ rest hne (graphic_noWs gA)]
  have hrs : goRunes ((s ++ lit "://" ++ a) ++ restText rest) =
      asStr s ++ ':' :: '/' :: '/' :: (asStr a ++ goRunes (restText rest)) := by
    rw [goRunes_clean _ _ (graphic_ascii gA), lit_css]; simp [asStr_append, bc_colon, bc_slash]
  obtain ⟨p, H, _⟩ := steps_host_state cfg I ((s ++ lit "://" ++ a) ++ restText rest)
    (goRunes ((s ++ lit "://" ++ a) ++ restText rest)) s a [] _ hs ha (fun _ h => nomatch h)
    (restText_delim rest hrest) { verrs := vs } (by rw [List.append_nil]; exact hrs)
  exact ⟨_, H, by simp [Late], rfl⟩

end WhatwgUrl.Proofs.Web
#print axioms WhatwgUrl.Proofs.Web.parse_nm_web
