import WhatwgUrl.Proofs.SimDefs
import WhatwgUrl.Props.C07
import WhatwgUrl.Proofs.IPv6Parse
import WhatwgUrl.Proofs.Domain
/-
  The host-parser piece of the conformance simulation: for the default configuration the Go host parser
  (`Impl.parseHost`) computes what the standard's host parser (`Spec.parseHost`) computes, given the oracle laws
  `IdnaLaws I` of `Proofs/SimDefs.lean`; and it leaves the url record alone (only the ghost field `qlog` may grow).

  Main theorems: `parseHost_conforms`, `parseHost_url`. The branches of the Go host parser are those `HostWF.lean` names
  (`parseHost_eq`, `bracketHost`, `domainHost`, `Domain.finishDomain`), taken at `Cfg.default`.
-/
namespace WhatwgUrl.Proofs.Sim
open WhatwgUrl WhatwgUrl.Impl WhatwgUrl.Proofs.Utf8 WhatwgUrl.Proofs.Percent WhatwgUrl.Proofs.IPv4 WhatwgUrl.Proofs.IPv6
open WhatwgUrl.Props

/-! ### A. evaluations: the default configuration does not report; the two IPv6 parsers on small inputs
  (the general facts are `IPv6.parseIPv6_closed` and `spec_parseIPv6_addr` of `IPv6Parse.lean`) -/

example : Cfg.default.report = false := rfl

/-- a failing and a succeeding run, in the default configuration -/
example : (parseIPv6 Cfg.default {} (lit "1:2")).out = .err ⟨.IPv6TooFewPieces, true⟩ := by decide +kernel
example : (parseIPv6 Cfg.default { scheme := lit "ws" } (lit "::1")).url = { scheme := lit "ws" } := by decide +kernel

example : Spec.parseIPv6 "::1".toList = some [0, 0, 0, 0, 0, 0, 0, 1] := by decide +kernel

/-! ### B. ASCII bytes at the ends of a UTF-8 string -/

/-- an ASCII byte inside the encoding of a code point: the code point is that ASCII character -/
theorem utf8Char_mem_ascii (c : Char) (b : UInt8) (hb : b ∈ utf8Char c) (h : b.toNat < 0x80) : c = bc b := by
  have hc : c.toNat < 0x80 := by
    rcases Nat.lt_or_ge c.toNat 0x80 with h' | h'
    · exact h'
    · have := Utf8.utf8Char_high c h' b hb; omega
  rw [Utf8.utf8Char_ascii c hc, List.mem_singleton] at hb
  subst hb
  apply Char.toNat_inj.mp
  rw [bc_toNat]
  simp only [Nat.toUInt8, UInt8.toNat_ofNat']
  omega

example : (0x5d : UInt8) ∈ utf8Char ']' ∧ (0x5d : UInt8).toNat < 0x80 := by decide
/-- the hypothesis is needed: `]` + 0x80 is the last byte of U+00DD, and of no ASCII character -/
example : utf8Char (Char.ofNat 0xdd) = [0xc3, 0x9d] := by decide +kernel

/-- the first byte of a UTF-8 string is the ASCII byte `x` exactly when the first code point is `bc x` -/
theorem utf8_cons_head (x : UInt8) (hx : x.toNat < 0x80) (c : Char) (s : Str) :
    ∃ b0 tl, utf8 (c :: s) = b0 :: tl ∧ ((b0 == x) = (c == bc x)) := by
  rw [Utf8.utf8_cons]
  cases hc : utf8Char c with
  | nil => exact absurd hc (utf8Char_ne_nil c)
  | cons b0 tl =>
    refine ⟨b0, tl ++ utf8 s, rfl, ?_⟩
    by_cases hb : b0 = x
    · subst hb
      rw [utf8Char_mem_ascii c b0 (by rw [hc]; simp) hx, beq_self_eq_true, beq_self_eq_true]
    · have : c ≠ bc x := by
        rintro rfl
        rw [utf8Char_bc x hx] at hc
        cases hc; exact hb rfl
      rw [beq_false_of_ne hb, beq_false_of_ne this]

theorem isSuffixOf_singleton (x : UInt8) (l : Bytes) : ([x] : Bytes).isSuffixOf l = (l.getLast? == some x) := by
  rcases List.eq_nil_or_concat l with rfl | ⟨l', y, rfl⟩
  · rfl
  · rw [List.concat_eq_append]
    simp only [List.isSuffixOf, List.reverse_append, List.reverse_cons, List.reverse_nil, List.nil_append,
      List.singleton_append, List.isPrefixOf, Bool.and_true, List.getLast?_concat]
    by_cases h : x = y
    · subst h; simp
    · have h' : y ≠ x := fun e => h e.symm
      have h'' : some y ≠ some x := fun e => h' (Option.some.inj e)
      rw [beq_false_of_ne h, beq_false_of_ne h'']

/-- the last byte of a UTF-8 string is the ASCII byte `x` exactly when the last code point is `bc x` (a multi-byte
    encoding ends in a continuation byte, which is ≥ 0x80) -/
theorem utf8_getLast (x : UInt8) (hx : x.toNat < 0x80) (s : Str) :
    ((utf8 s).getLast? == some x) = (s.getLast? == some (bc x)) := by
  rcases List.eq_nil_or_concat s with rfl | ⟨s', c, rfl⟩
  · rfl
  · rw [List.concat_eq_append, Percent.utf8_append, List.getLast?_concat]
    rw [show utf8 [c] = utf8Char c by simp [utf8]]
    rcases List.eq_nil_or_concat (utf8Char c) with e | ⟨ini, bl, e⟩
    · exact absurd e (utf8Char_ne_nil c)
    · rw [List.concat_eq_append] at e
      rw [e, ← List.append_assoc, List.getLast?_concat]
      by_cases hb : bl = x
      · subst hb
        rw [utf8Char_mem_ascii c bl (by rw [e]; simp) hx, beq_self_eq_true, beq_self_eq_true]
      · have hc' : c ≠ bc x := by
          rintro rfl
          rw [utf8Char_bc x hx] at e
          have := congrArg List.getLast? e
          rw [List.getLast?_concat] at this
          cases this; exact hb rfl
        rw [beq_false_of_ne (fun e => hb (Option.some.inj e)), beq_false_of_ne (fun e => hc' (Option.some.inj e))]

theorem utf8_endsWith (s : Str) : endsWith (utf8 s) [0x5d] = (s.getLast? == some ']') := by
  unfold endsWith; rw [isSuffixOf_singleton]; exact utf8_getLast 0x5d (by decide) s

example : endsWith (utf8 ['[', Char.ofNat 0xdd]) [0x5d] = false := by decide +kernel

/-- stripping the brackets at byte level is stripping them at code point level -/
theorem utf8_strip_brackets (s : Str) (h1 : s.head? = some '[') (h2 : s.getLast? = some ']') :
    trimSuffix1 (trimPrefix1 (utf8 s) [0x5b]) [0x5d] = utf8 ((s.drop 1).dropLast) := by
  cases s with
  | nil => cases h1
  | cons c t =>
    simp only [List.head?_cons, Option.some.injEq] at h1
    subst h1
    have hb : utf8Char '[' = [0x5b] := by decide
    have e1 : trimPrefix1 (utf8 ('[' :: t)) [0x5b] = utf8 t := by
      rw [Utf8.utf8_cons, hb]
      simp [trimPrefix1, startsWith, List.isPrefixOf]
    rw [e1]
    rcases List.eq_nil_or_concat t with rfl | ⟨t', c, rfl⟩
    · cases h2
    · rw [List.concat_eq_append] at h2 ⊢
      rw [← List.cons_append, List.getLast?_concat] at h2
      cases h2
      have hb' : utf8 [']'] = [0x5d] := by decide
      rw [Percent.utf8_append, hb']
      have e2 : endsWith (utf8 t' ++ [0x5d]) [0x5d] = true := by
        unfold endsWith; rw [isSuffixOf_singleton, List.getLast?_concat]; rfl
      simp [trimSuffix1, e2]

example : "[::1]".toList.head? = some '[' ∧ "[::1]".toList.getLast? = some ']' ∧
    trimSuffix1 (trimPrefix1 (utf8 "[::1]".toList) [0x5b]) [0x5d] = lit "::1" := by decide +kernel

/-! ### C. the default configuration; the opaque-host parser -/

theorem default_report : Cfg.default.report = false := rfl
theorem default_failOnVErr : Cfg.default.failOnVErr = false := rfl
theorem default_laxHost : Cfg.default.laxHost = false := rfl
theorem default_encOverride : Cfg.default.encOverride = none := rfl
theorem default_preHost : Cfg.default.preHost = none := rfl
theorem default_postHost : Cfg.default.postHost = none := rfl
theorem record_default_sh (u : Url) (t : ErrT) (f : Bool) : record Cfg.default u t f = u := rfl
theorem stops_default_sh : stops Cfg.default false = false := rfl
theorem fail6_default (u : Url) (t : ErrT) : fail6 Cfg.default u t = ⟨u, .err ⟨t, true⟩⟩ := rfl

theorem percentEncodeRune_c0 (c : Char) :
    percentEncodeRune Cfg.default c0Set c = utf8 (Spec.utf8PercentEncodeCp Spec.c0ControlSet c) := by
  rw [percentEncodeRune_default, Percent.c0Set_has]

/-- the Go loop stops at the first forbidden host code point, the standard tests `any` up front: same outcome -/
theorem opaqueLoop_default (input : Bytes) : ∀ (rs : Str) (u : Url) (out : Bytes),
    opaqueLoop Cfg.default input rs u out =
      ⟨u, if rs.any (fun c => Spec.forbiddenHostCp c.toNat) then .err ⟨.HostInvalidCodePoint, true⟩
          else .ok (out ++ utf8 (Spec.utf8PercentEncode Spec.c0ControlSet rs))⟩ := by
  intro rs
  induction rs with
  | nil => intro u out; simp [opaqueLoop, Spec.utf8PercentEncode]
  | cons c rest ih =>
    intro u out
    simp only [opaqueLoop, record_default_sh, stops_default_sh, default_laxHost, Bool.and_false, Bool.false_eq_true,
      if_false, ite_self, Percent.forbidden_has.1, List.any_cons]
    by_cases hf : Spec.forbiddenHostCp c.toNat = true
    · simp only [hf, if_true, Bool.true_or]
    · simp only [hf, Bool.false_eq_true, if_false, Bool.false_or]
      rw [ih, percentEncodeRune_c0]
      simp only [Spec.utf8PercentEncode, List.flatMap_cons, Percent.utf8_append, List.append_assoc]

theorem parseOpaqueHost_default (u : Url) (s : Str) :
    parseOpaqueHost Cfg.default u (utf8 s) =
      ⟨u, if s.any (fun c => Spec.forbiddenHostCp c.toNat) then .err ⟨.HostInvalidCodePoint, true⟩
          else .ok (utf8 (Spec.utf8PercentEncode Spec.c0ControlSet s))⟩ := by
  unfold parseOpaqueHost
  rw [goRunes_utf8, opaqueLoop_default]
  simp

/-! ### D. the domain branch -/

/-! #### D.1 ill-formed UTF-8 after percent-decoding: U+FFFD makes both sides fail -/

theorem repl_mem_of_invalid (b : Bytes) (h : validUtf8 b = false) : repl ∈ goRunes b := by
  unfold validUtf8 at h
  rw [List.all_eq_false] at h
  obtain ⟨d, hd, hp⟩ := h
  simp at hp
  unfold goRunes
  rw [List.mem_map]
  exact ⟨d, hd, hp.1⟩

example : validUtf8 [0x61, 0xff] = false ∧ goRunes [0x61, 0xff] = ['a', repl] := by decide +kernel

theorem aom_repl : ∀ (d : Str) (p : Int), repl ∈ d → asciiOrMiscNoPuny d p = false := by
  intro d
  induction d with
  | nil => intro p h; cases h
  | cons r0 rest ih =>
    intro p h
    rw [List.mem_cons] at h
    simp only [asciiOrMiscNoPuny]
    rcases h with h | h
    · subst h
      rw [show lowerForCheck repl = repl by decide, if_pos (by decide)]
    · simp only [ih _ h, ite_self]

theorem pure_repl (d : Str) (h : repl ∈ d) : Spec.pureAsciiNoAce d = false := by
  unfold Spec.pureAsciiNoAce
  have : d.all (fun c => decide (c.toNat < 0x80)) = false := by
    rw [List.all_eq_false]; exact ⟨repl, h, by decide⟩
  rw [this]; rfl

example : repl ∈ ['a', repl] := by decide

/-! #### D.2 pure-ASCII domains without ACE labels -/

/-- the state `p` of the `xn--` automaton inside `asciiOrMiscNoPuny` after the label prefix `pfx` (for the reader: the proof
    that the automaton agrees with the standard's per-label test is `Domain.asciiOrMisc_pure`) -/
def St (pfx : Str) (p : Int) : Prop :=
  (p = 0 ∧ pfx = []) ∨ (p = 1 ∧ pfx = ['x']) ∨ (p = 2 ∧ pfx = ['x', 'n']) ∨ (p = 3 ∧ pfx = ['x', 'n', '-']) ∨
  (p = -1 ∧ ∀ t, (pfx ++ t).take 4 ≠ ['x', 'n', '-', '-'])

example : St [] 0 ∧ St ['x', 'n'] 2 ∧ St ['y'] (-1) := by
  refine ⟨Or.inl ⟨rfl, rfl⟩, Or.inr (Or.inr (Or.inl ⟨rfl, rfl⟩)), Or.inr (Or.inr (Or.inr (Or.inr ⟨rfl, ?_⟩)))⟩
  intro t h
  simp at h

theorem utf8_ascii_bytes (d : Str) (h : ∀ c ∈ d, c.toNat < 0x80) : Ascii (utf8 d) := by
  rw [utf8_ascii d h]
  intro x hx
  rw [List.mem_map] at hx
  obtain ⟨c, hc, rfl⟩ := hx
  have := h c hc
  simp only [Nat.toUInt8, UInt8.toNat_ofNat']
  omega

theorem pure_ascii (d : Str) (h : Spec.pureAsciiNoAce d = true) : ∀ c ∈ d, c.toNat < 0x80 := by
  unfold Spec.pureAsciiNoAce at h
  rw [Bool.and_eq_true] at h
  intro c hc
  simpa using List.all_eq_true.mp h.1 c hc

/-- the standard's test on code points is the byte-level test of `Proofs/Domain.lean` on the encoding: the labels of the
    lower-cased encoding are the encodings of the labels (`splitStr_asStr`) -/
theorem pureAsciiNoAce_utf8 (d : Str) (h : Spec.pureAsciiNoAce d = true) : Domain.PureAsciiNoAce (utf8 d) := by
  have hasc := pure_ascii d h
  have hA := utf8_ascii_bytes d hasc
  refine ⟨hA, fun l hl hp => ?_⟩
  have hA' : Ascii (asciiLower (utf8 d)) := Domain.asciiLower_ascii hA
  have hs : asStr (asciiLower (utf8 d)) = d.map lowerC := by
    rw [← goRunes_ascii _ hA', AsciiCase.asciiLower_utf8 d, goRunes_utf8]
  unfold Spec.pureAsciiNoAce at h
  rw [Bool.and_eq_true, ← hs, splitStr_asStr, List.all_map] at h
  have := List.all_eq_true.mp h.2 l hl
  obtain ⟨t, rfl⟩ := List.isPrefixOf_iff_prefix.mp hp
  have e : (asStr (lit "xn--" ++ t)).take 4 = ['x', 'n', '-', '-'] := by
    rw [asStr, List.map_append]; exact List.take_left' rfl
  simp [e] at this

/-- the standard-side test "pure ASCII, no ACE label" implies the Go-side test "ASCII or misc, no punycode" -/
theorem aom_of_pureAscii (d : Str) (h : Spec.pureAsciiNoAce d = true) : asciiOrMiscNoPuny d 0 = true := by
  have := Domain.asciiOrMisc_pure (utf8 d) (pureAsciiNoAce_utf8 d h)
  rwa [goRunes_utf8] at this

/-- non-vacuity, and the ACE test is per label and case-insensitive on both sides -/
example : Spec.pureAsciiNoAce "a.Xn-.xn".toList = true ∧ asciiOrMiscNoPuny "a.Xn-.xn".toList 0 = true := by
  decide +kernel
example : Spec.pureAsciiNoAce "a.XN--b".toList = false ∧ asciiOrMiscNoPuny "a.XN--b".toList 0 = false := by
  decide +kernel
/-- the converse fails (hence "misc"): U+2260 is accepted by the Go-side test only -/
example : Spec.pureAsciiNoAce [Char.ofNat 0x2260] = false ∧ asciiOrMiscNoPuny [Char.ofNat 0x2260] 0 = true := by
  decide +kernel

theorem map_lowerC_ascii (d : Str) (h : ∀ c ∈ d, c.toNat < 0x80) : ∀ c ∈ d.map lowerC, c.toNat < 0x80 := by
  intro c hc
  rw [List.mem_map] at hc
  obtain ⟨c0, hc0, rfl⟩ := hc
  have := h c0 hc0
  rw [AsciiCase.lowerC_toNat, AsciiCase.lowerN_eq]; split <;> omega

example : (∀ c ∈ "A.b".toList, c.toNat < 0x80) ∧ asciiLower (utf8 "A.b".toList) = lit "a.b" := by decide +kernel

theorem percentDecode_ne_nil (b : Bytes) (h : b ≠ []) : Spec.percentDecode b ≠ [] :=
  decodePercent_default b ▸ decodePercent_ne_nil Cfg.default b h

example : lit "%41" ≠ [] := by decide

/-! #### D.3 after domain-to-ASCII: forbidden domain code points, IPv4 -/

def ROut (o : HOut) (s : Option Str) : Prop :=
  match o, s with
  | .ok h, some hs => h = utf8 hs
  | .err e, none => e.failure = true
  | _, _ => False

theorem forbiddenLoop_default (a : Bytes) : ∀ (rs : Str) (u : Url),
    forbiddenLoop Cfg.default a rs u =
      (u, if rs.any (fun c => Spec.forbiddenDomainCp c.toNat) then some (.err ⟨.DomainInvalidCodePoint, true⟩)
          else none) := by
  intro rs
  induction rs with
  | nil => intro u; rfl
  | cons c rest ih =>
    intro u
    simp only [forbiddenLoop, record_default_sh, default_laxHost, Bool.false_eq_true, if_false,
      Percent.forbidden_has.2, List.any_cons]
    by_cases hf : Spec.forbiddenDomainCp c.toNat = true
    · simp only [hf, if_true, Bool.true_or]
    · simp only [hf, Bool.false_eq_true, if_false, Bool.false_or]
      exact ih u

/-- the Go host parser after a successful domain-to-ASCII: `Domain.finishDomain` in the default configuration, written out
    (for the evaluations below) -/
def hostTail (u1 : Url) (a : Bytes) : HR :=
  let fl := forbiddenLoop Cfg.default a (goRunes a) u1
  match fl.2 with
  | some out => ⟨fl.1, out⟩
  | none => if endsInANumber Cfg.default fl.1 a then parseIPv4 Cfg.default fl.1 a else ⟨fl.1, .ok a⟩

/-- the standard's host parser after a successful domain-to-ASCII -/
def specTailH (asciiDomain : Str) : Option Str :=
  if asciiDomain.any (fun c => Spec.forbiddenDomainCp c.toNat) then none
  else if Spec.endsInANumber asciiDomain then (Spec.parseIPv4 asciiDomain).map Spec.serializeIPv4
  else some asciiDomain

theorem hostTail_eq (u1 : Url) (a : Bytes) : hostTail u1 a = Domain.finishDomain Cfg.default u1 a := rfl

theorem finishDomain_conforms (u1 : Url) (a : Bytes) (ha : Ascii a) :
    ROut (Domain.finishDomain Cfg.default u1 a).out (specTailH (asStr a)) := by
  rw [← hostTail_eq]
  unfold hostTail specTailH
  rw [goRunes_ascii a ha, forbiddenLoop_default]
  simp only []
  by_cases hf : (asStr a).any (fun c => Spec.forbiddenDomainCp c.toNat) = true
  · simp only [hf, if_true]
    exact rfl
  · simp only [hf, Bool.false_eq_true, if_false]
    rw [C07.C07_ends_in_number_conforms]
    by_cases he : Spec.endsInANumber (asStr a) = true
    · simp only [he, if_true]
      have := C07.C07_parse_conforms Cfg.default u1 a rfl
      cases ho : (parseIPv4 Cfg.default u1 a).out <;> cases hs : Spec.parseIPv4 (asStr a) <;>
        rw [ho, hs] at this <;> simp only [Option.map, ROut] at this ⊢
      · rw [this.2, C07.C07_serialize]
      · exact this
    · simp only [he, Bool.false_eq_true, if_false]
      exact (utf8_asStr a ha).symm

example : Ascii (lit "1.0x2") := by unfold Ascii; decide
example : (hostTail {} (lit "1.0x2")).out = .ok (lit "1.0.0.2") ∧
    specTailH (asStr (lit "1.0x2")) = some "1.0.0.2".toList := by decide +kernel

/-! #### D.4 domain to ASCII -/

theorem toASCII_default (I : Idna) (u : Url) (dom : Bytes) (hne : dom ≠ []) :
    toASCII Cfg.default I u dom =
      (if (I dom).2 && asciiOrMiscNoPuny (goRunes dom) 0 then .ok (I dom).1
        else if (I dom).2 then .err (I dom).1
        else if (I dom).1.isEmpty then .err [] else .ok (I dom).1, { u with qlog := u.qlog ++ [dom] }) := by
  rw [HostWF.toASCII_eq _ rfl I u dom hne]
  simp only [HostCase.toAsciiOut, default_laxHost, Bool.not_false, Bool.and_true]

/-- the domain branch of the standard's host parser once the percent-decoding is known -/
def specDomainAfter (SI : Spec.SIdna) (domain : Bytes) : Option Str :=
  match Spec.domainToASCII SI (goRunes domain) with
  | none => none
  | some asciiDomain => specTailH asciiDomain

/-- the domain branch of the standard's host parser -/
def specDomainPart (SI : Spec.SIdna) (input : Str) : Option Str := specDomainAfter SI (Spec.percentDecode (utf8 input))

theorem domain_conforms (I : Idna) (hI : IdnaLaws I) (u : Url) (sbuf : Str) (hne : sbuf ≠ []) :
    ROut (HostWF.domainHost Cfg.default I u (utf8 sbuf)).out (specDomainPart (specIdna I) sbuf) := by
  unfold HostWF.domainHost specDomainPart specDomainAfter
  simp only [default_laxHost, Bool.and_false, Bool.false_eq_true, if_false]
  rw [decodePercent_default]
  have hdom := percentDecode_ne_nil (utf8 sbuf) (mt utf8_eq_nil.mp hne)
  generalize Spec.percentDecode (utf8 sbuf) = dom at hdom
  by_cases hv : validUtf8 dom = true
  · -- well-formed: the oracle is consulted on `dom`
    have hu := utf8_goRunes dom hv
    have hd : goRunes dom ≠ [] := by
      intro e; rw [e] at hu; exact hdom hu.symm
    simp only [hv, Bool.not_true, Bool.false_eq_true, if_false]
    rw [toASCII_default I u dom hdom]
    simp only []
    generalize hdd : goRunes dom = d at hu hd
    generalize ({ u with qlog := u.qlog ++ [dom] } : Url) = u1
    have hde : d.isEmpty = false := by cases d <;> simp_all
    by_cases hp : Spec.pureAsciiNoAce d = true
    · -- pure ASCII without ACE labels: lower-casing on both sides
      have hasc := pure_ascii d hp
      have haom := aom_of_pureAscii d hp
      have hascii : Ascii dom := hu ▸ utf8_ascii_bytes d hasc
      have ha : (I dom).1 = asciiLower dom := hI.ascii_lower dom hascii (by rw [hdd]; exact haom)
      have ha' : (I dom).1 = utf8 (d.map lowerC) := by rw [ha, ← hu, AsciiCase.asciiLower_utf8 d]
      have hlow := map_lowerC_ascii d hasc
      have hA : Ascii (I dom).1 := ha' ▸ utf8_ascii_bytes _ hlow
      have hstr : asStr (I dom).1 = d.map lowerC := by
        rw [← goRunes_ascii _ hA, ha', goRunes_utf8]
      have hane : (I dom).1.isEmpty = false := by
        rw [ha]
        cases dom with
        | nil => exact absurd rfl hdom
        | cons x xs => rfl
      have hta : (if ((I dom).2 && asciiOrMiscNoPuny d 0) = true then ToAsciiR.ok (I dom).1
          else if (I dom).2 = true then ToAsciiR.err (I dom).1
          else if (I dom).1.isEmpty = true then ToAsciiR.err [] else ToAsciiR.ok (I dom).1) = .ok (I dom).1 := by
        rw [haom, hane]
        cases (I dom).2 <;> rfl
      rw [hta]
      simp only [Spec.domainToASCII, hp, if_true, hde, Bool.false_eq_true, if_false]
      rw [← hstr]
      exact finishDomain_conforms u1 _ hA
    · -- otherwise the standard's side takes the oracle's answer as given
      have hA : Ascii (I dom).1 := hI.out_ascii dom
      have hgo : goRunes (I dom).1 = asStr (I dom).1 := goRunes_ascii _ hA
      have hemp : (asStr (I dom).1).isEmpty = (I dom).1.isEmpty := asStr_isEmpty _
      simp only [Spec.domainToASCII, hp, Bool.false_eq_true, if_false, specIdna, hu, hgo]
      cases hfail : (I dom).2
      · -- no error: accepted unless empty
        simp only [Bool.false_and, Bool.false_eq_true, if_false]
        cases hae : (I dom).1.isEmpty
        · simp only [Bool.false_eq_true, if_false, hemp, hae]
          exact finishDomain_conforms u1 _ hA
        · simp only [if_true]
          exact rfl
      · cases haom : asciiOrMiscNoPuny d 0
        · -- error, and not ASCII-or-misc: both fail
          simp only [Bool.true_and, Bool.false_eq_true, if_false, Bool.not_false, if_true]
          exact rfl
        · -- error, accepted through the ASCII-or-misc fallback: non-empty by L4
          have hne' : (I dom).1 ≠ [] := hI.nonempty dom hdom hfail (by rw [hdd]; exact haom)
          have hae : (I dom).1.isEmpty = false := by cases h : (I dom).1 <;> simp_all
          simp only [Bool.true_and, if_true, Bool.not_true, Bool.false_eq_true, if_false, hemp, hae]
          exact finishDomain_conforms u1 _ hA
  · -- ill-formed: Go fails before consulting the oracle, the standard's string contains U+FFFD
    have hv' : validUtf8 dom = false := by simpa using hv
    have hr := repl_mem_of_invalid dom hv'
    simp only [hv', Bool.not_false, if_true, fail6_default]
    have h1 := pure_repl _ hr
    have h2 := aom_repl _ 0 hr
    have h3 := hI.repl_fails _ hr
    simp only [Spec.domainToASCII, h1, Bool.false_eq_true, if_false, specIdna, h2, h3, Bool.not_false, Bool.and_self,
      if_true]
    exact rfl

/-! ### E. assembly -/

/-- `HostWF.parseHost_eq` without a `preHost` hook, on a non-empty input -/
theorem parseHost_cons (I : Idna) (u : Url) (b0 : UInt8) (rest : Bytes) (ns : Bool) :
    parseHost Cfg.default I u (b0 :: rest) ns =
      if b0 == 0x5b then HostWF.bracketHost Cfg.default u (b0 :: rest)
      else if ns then parseOpaqueHost Cfg.default u (b0 :: rest)
      else HostWF.domainHost Cfg.default I u (b0 :: rest) :=
  HostWF.parseHost_eq ..

theorem spec_parseHost_eq (SI : Spec.SIdna) (input : Str) (ns : Bool) :
    Spec.parseHost SI input ns =
      if input.head? == some '[' then
        (if input.getLast? != some ']' then none
         else match Spec.parseIPv6 ((input.drop 1).dropLast) with
           | some a => some (['['] ++ Spec.serializeIPv6 a ++ [']'])
           | none => none)
      else if ns then Spec.parseOpaqueHost input
      else specDomainPart SI input := rfl

/-- **The Go host parser conforms to the standard's host parser** (default configuration, oracle laws `IdnaLaws`). -/
theorem parseHost_conforms (I : Idna) (hI : IdnaLaws I) (u : Url) (sbuf : Str) (ns : Bool) (hne : sbuf ≠ []) :
    match (parseHost {} I u (utf8 sbuf) ns).out, Spec.parseHost (specIdna I) sbuf ns with
    | .ok h, some hs => h = utf8 hs
    | .err e, none => e.failure = true
    | _, _ => False := by
  show ROut (parseHost Cfg.default I u (utf8 sbuf) ns).out (Spec.parseHost (specIdna I) sbuf ns)
  cases sbuf with
  | nil => exact absurd rfl hne
  | cons c s =>
    obtain ⟨b0, tl, e, (hb : (b0 == 0x5b) = (c == '['))⟩ := utf8_cons_head 0x5b (by decide) c s
    have hP : parseHost Cfg.default I u (utf8 (c :: s)) ns =
        if c == '[' then
          (if !((c :: s).getLast? == some ']') then fail6 Cfg.default u .IPv6Unclosed
           else parseIPv6 Cfg.default u (trimSuffix1 (trimPrefix1 (utf8 (c :: s)) [0x5b]) [0x5d]))
        else if ns then parseOpaqueHost Cfg.default u (utf8 (c :: s))
        else HostWF.domainHost Cfg.default I u (utf8 (c :: s)) := by
      rw [← utf8_endsWith, ← hb, e, parseHost_cons, HostWF.bracketHost]
    rw [hP, spec_parseHost_eq]
    simp only [List.head?_cons, Option.some_beq_some]
    by_cases hc : c = '['
    · subst hc
      simp only [beq_self_eq_true, if_true]
      by_cases hl : ('[' :: s).getLast? = some ']'
      · simp only [hl, beq_self_eq_true, Bool.not_true, Bool.false_eq_true, if_false, bne_self_eq_false]
        rw [utf8_strip_brackets _ rfl hl]
        have h := parseIPv6_closed Cfg.default u (utf8 ((('[' :: s).drop 1).dropLast))
        rw [goRunes_utf8] at h
        cases hs : Spec.parseIPv6 ((('[' :: s).drop 1).dropLast) with
        | none =>
          rw [hs] at h
          obtain ⟨e, -, he⟩ := h
          rw [he]
          exact rfl
        | some a =>
          rw [hs] at h
          rw [h]
          simp only [ROut]
          rw [ipv6String_eq a (spec_parseIPv6_addr _ a hs).1, Percent.utf8_append, Percent.utf8_append]
          rfl
      · have hl' : (('[' :: s).getLast? == some ']') = false := by
          cases h : ('[' :: s).getLast? == some ']'
          · rfl
          · exact absurd (by simpa using h) hl
        have hl'' : (('[' :: s).getLast? != some ']') = true := by simp [bne, hl']
        simp only [hl', hl'', Bool.not_false, if_true]
        exact rfl
    · simp only [beq_false_of_ne hc, Bool.false_eq_true, if_false]
      cases ns with
      | true =>
        simp only [if_true]
        rw [parseOpaqueHost_default]
        unfold Spec.parseOpaqueHost
        by_cases hf : (c :: s).any (fun c => Spec.forbiddenHostCp c.toNat) = true
        · simp only [hf, if_true]; exact rfl
        · simp only [hf, Bool.false_eq_true, if_false]; exact rfl
      | false =>
        simp only [Bool.false_eq_true, if_false]
        exact domain_conforms I hI u (c :: s) hne

/-- frame: the host parser leaves the url record alone; only the ghost field `qlog` may grow (any bytes) -/
theorem parseHost_url (I : Idna) (u : Url) (b : Bytes) (ns : Bool) :
    { (parseHost {} I u b ns).url with qlog := [] } = { u with qlog := [] } :=
  (HostWF.parseHost_ends {} I u b ns).logd.noreport rfl

/-! ### F. non-vacuity: an oracle that satisfies the four laws, and concrete evaluations -/

/-- a toy oracle: ASCII input is lower-cased without error, anything else is an error with output `x` -/
def I0 : Idna := fun s => if s.all (fun x => x.toNat < 0x80) then (asciiLower s, false) else ([0x78], true)

theorem I0_laws : IdnaLaws I0 where
  ascii_lower := by
    intro s hs _
    have : s.all (fun x => decide (x.toNat < 0x80)) = true :=
      List.all_eq_true.mpr (fun x hx => by simpa using hs x hx)
    simp [I0, this]
  out_ascii := by
    intro s x hx
    unfold I0 at hx
    split at hx
    · rename_i h
      simp only [asciiLower, List.mem_map] at hx
      obtain ⟨y, hy, rfl⟩ := hx
      exact (AsciiCase.lowerB_lt_iff y).mpr (by simpa using List.all_eq_true.mp h y hy)
    · simp only [List.mem_singleton] at hx
      subst hx; decide
  repl_fails := by
    intro d hd
    have : (utf8 d).all (fun x => decide (x.toNat < 0x80)) = false := by
      rw [List.all_eq_false]
      refine ⟨0xEF, ?_, by decide⟩
      unfold utf8
      rw [List.mem_flatMap]
      exact ⟨repl, hd, by decide⟩
    simp [I0, this]
  nonempty := by
    intro s _ hf _
    unfold I0 at hf ⊢
    split at hf
    · cases hf
    · rename_i h
      simp [h]

/-- the theorem applies (its hypotheses are satisfiable): -/
example := parseHost_conforms I0 I0_laws {} "[::1]".toList false (by decide)
example : "EXAMPLE.com".toList ≠ [] := by decide

/-! IPv6 and opaque hosts reduce in the kernel -/
example : (parseHost {} I0 {} (utf8 "[::1]".toList) false).out = .ok (lit "[::1]") ∧
    Spec.parseHost (specIdna I0) "[::1]".toList false = some "[::1]".toList := by decide +kernel
example : (parseHost {} I0 {} (utf8 "[0:0::0:01]".toList) true).out = .ok (lit "[::1]") ∧
    Spec.parseHost (specIdna I0) "[0:0::0:01]".toList true = some "[::1]".toList := by decide +kernel
example : (parseHost {} I0 {} (utf8 "[::1".toList) false).out = .err ⟨.IPv6Unclosed, true⟩ ∧
    Spec.parseHost (specIdna I0) "[::1".toList false = none := by decide +kernel
example : (parseHost {} I0 {} (utf8 "[1:2]".toList) false).out = .err ⟨.IPv6TooFewPieces, true⟩ ∧
    Spec.parseHost (specIdna I0) "[1:2]".toList false = none := by decide +kernel
example : (parseHost {} I0 {} (utf8 "a b".toList) true).out = .err ⟨.HostInvalidCodePoint, true⟩ ∧
    Spec.parseHost (specIdna I0) "a b".toList true = none := by decide +kernel
example : (parseHost {} I0 {} (utf8 ['a', Char.ofNat 0xe9, '%', '7', 'f', Char.ofNat 0x7f]) true).out =
      .ok (lit "a%C3%A9%7f%7F") ∧
    Spec.parseHost (specIdna I0) ['a', Char.ofNat 0xe9, '%', '7', 'f', Char.ofNat 0x7f] true =
      some "a%C3%A9%7f%7F".toList := by decide +kernel

/-! domain hosts go through the percent-decoder, which is compiled by well-founded recursion and does not reduce in the
  kernel: `eval_domain` takes the decoded text as a hypothesis, the rest (`domainAfter`, `specDomainAfter`) evaluates -/

/-- the domain branch once the percent-decoding is known -/
def domainAfter (I : Idna) (u : Url) (domain : Bytes) : HR :=
  if !validUtf8 domain then fail6 Cfg.default u .DomainToASCII
  else
    match (toASCII Cfg.default I u domain).1 with
    | .err _ => fail6 Cfg.default (toASCII Cfg.default I u domain).2 .DomainToASCII
    | .ok a => hostTail (toASCII Cfg.default I u domain).2 a

theorem eval_domain (I : Idna) (u : Url) (s : Str) (dom : Bytes) (h0 : s.head? ≠ some '[') (hne : s ≠ [])
    (hd : Spec.percentDecode (utf8 s) = dom) :
    (parseHost {} I u (utf8 s) false).out = (domainAfter I u dom).out ∧
    Spec.parseHost (specIdna I) s false = specDomainAfter (specIdna I) dom := by
  subst hd
  cases s with
  | nil => exact absurd rfl hne
  | cons c t =>
    have hc : c ≠ '[' := fun e => h0 (by rw [e]; rfl)
    obtain ⟨b0, tl, e, (hb : (b0 == 0x5b) = (c == '['))⟩ := utf8_cons_head 0x5b (by decide) c t
    rw [beq_false_of_ne hc] at hb
    constructor
    · show (parseHost Cfg.default I u (utf8 (c :: t)) false).out = _
      rw [e, parseHost_cons, hb]
      simp only [Bool.false_eq_true, if_false]
      unfold HostWF.domainHost domainAfter
      simp only [default_laxHost, Bool.and_false, Bool.false_eq_true, if_false]
      rw [decodePercent_default]
      rfl
    · rw [spec_parseHost_eq]
      simp only [List.head?_cons, Option.some_beq_some, beq_false_of_ne hc, Bool.false_eq_true, if_false]
      rfl

theorem pd_nopct (b : Bytes) (h : ∀ x ∈ b, x ≠ 0x25) : Spec.percentDecode b = b :=
  decodePercent_default b ▸ decodePercent_no_pct Cfg.default b fun hm => h _ hm rfl

example : (parseHost {} I0 {} (utf8 "EXAMPLE.com".toList) false).out = .ok (lit "example.com") ∧
    Spec.parseHost (specIdna I0) "EXAMPLE.com".toList false = some "example.com".toList := by
  have h := eval_domain I0 {} "EXAMPLE.com".toList (lit "EXAMPLE.com") (by decide) (by decide)
    (by rw [show utf8 "EXAMPLE.com".toList = lit "EXAMPLE.com" by decide +kernel]; exact pd_nopct _ (by decide))
  rw [h.1, h.2]
  decide +kernel

example : (parseHost {} I0 {} (utf8 "1.0x2".toList) false).out = .ok (lit "1.0.0.2") ∧
    Spec.parseHost (specIdna I0) "1.0x2".toList false = some "1.0.0.2".toList := by
  have h := eval_domain I0 {} "1.0x2".toList (lit "1.0x2") (by decide) (by decide)
    (by rw [show utf8 "1.0x2".toList = lit "1.0x2" by decide +kernel]; exact pd_nopct _ (by decide))
  rw [h.1, h.2]
  decide +kernel

/-- a forbidden domain code point -/
example : (parseHost {} I0 {} (utf8 "a b".toList) false).out = .err ⟨.DomainInvalidCodePoint, true⟩ ∧
    Spec.parseHost (specIdna I0) "a b".toList false = none := by
  have h := eval_domain I0 {} "a b".toList (lit "a b") (by decide) (by decide)
    (by rw [show utf8 "a b".toList = lit "a b" by decide +kernel]; exact pd_nopct _ (by decide))
  rw [h.1, h.2]
  decide +kernel

/-- an IPv4 address out of range -/
example : (parseHost {} I0 {} (utf8 "1.2.3.256".toList) false).out = .err ⟨.IPv4OutOfRangePart, true⟩ ∧
    Spec.parseHost (specIdna I0) "1.2.3.256".toList false = none := by
  have h := eval_domain I0 {} "1.2.3.256".toList (lit "1.2.3.256") (by decide) (by decide)
    (by rw [show utf8 "1.2.3.256".toList = lit "1.2.3.256" by decide +kernel]; exact pd_nopct _ (by decide))
  rw [h.1, h.2]
  decide +kernel

/-- ill-formed UTF-8 after percent-decoding: the Go code fails before the oracle, the standard through U+FFFD -/
example : (parseHost {} I0 {} (utf8 "%ff".toList) false).out = .err ⟨.DomainToASCII, true⟩ ∧
    Spec.parseHost (specIdna I0) "%ff".toList false = none := by
  have h := eval_domain I0 {} "%ff".toList [0xff] (by decide) (by decide)
    (by rw [show utf8 "%ff".toList = [0x25, 0x66, 0x66] by decide +kernel,
          percentDecode_esc _ _ _ (by decide) (by decide), Spec.percentDecode]; decide)
  rw [h.1, h.2]
  decide +kernel

/-- non-ASCII: the toy oracle reports an error; `ß` is not ASCII-or-misc, both fail;
    `a≠b` is accepted through the ASCII-or-misc fallback with the oracle's output on both sides -/
example : (parseHost {} I0 {} (utf8 [Char.ofNat 0xdf]) false).out = .err ⟨.DomainToASCII, true⟩ ∧
    Spec.parseHost (specIdna I0) [Char.ofNat 0xdf] false = none := by
  have h := eval_domain I0 {} [Char.ofNat 0xdf] [0xc3, 0x9f] (by decide) (by decide)
    (by rw [show utf8 [Char.ofNat 0xdf] = [0xc3, 0x9f] by decide +kernel]; exact pd_nopct _ (by decide))
  rw [h.1, h.2]
  decide +kernel

example : (parseHost {} I0 {} (utf8 ['a', Char.ofNat 0x2260, 'b']) false).out = .ok (lit "x") ∧
    Spec.parseHost (specIdna I0) ['a', Char.ofNat 0x2260, 'b'] false = some "x".toList := by
  have h := eval_domain I0 {} ['a', Char.ofNat 0x2260, 'b'] [0x61, 0xe2, 0x89, 0xa0, 0x62] (by decide) (by decide)
    (by rw [show utf8 ['a', Char.ofNat 0x2260, 'b'] = [0x61, 0xe2, 0x89, 0xa0, 0x62] by decide +kernel]
        exact pd_nopct _ (by decide))
  rw [h.1, h.2]
  decide +kernel

/-- the frame fact on a run that consults the oracle: only `qlog` grows -/
example : (domainAfter I0 {} (lit "EXAMPLE.com")).url = { qlog := [lit "EXAMPLE.com"] } := by decide +kernel

end WhatwgUrl.Proofs.Sim
