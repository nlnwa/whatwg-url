import WhatwgUrl.Proofs.SimStep
import WhatwgUrl.Proofs.IPv4
/-
  Basic lemmas for the second half of the per-state simulation lemmas (host … fragment): `SimB2Core.lean`, `SimB.lean`,
  beyond those of `SimBase.lean` and `SimStep.lean`. The suffix `B` on many names only keeps them apart from namesakes
  elsewhere in `Sim`; it says nothing more (in `RResB`, `RStepB`, `stB`, `step_simX_B` the letter stands for these nine states).
-/
namespace WhatwgUrl.Proofs.Sim
open WhatwgUrl WhatwgUrl.Impl

theorem record_defaultB (u : Url) (t : ErrT) (f : Bool) : record {} u t f = u := rfl

theorem unitChecks_defaultB (e : Env) (hc : e.cfg = {}) (ps : PS) (r : Char) (k : PS → StepR) : unitChecks e ps r k = k ps := by
  unfold unitChecks
  simp only [herr_nonfatal e hc]
  split <;> split <;> rfl

theorem percentEncodeInvalidRune_B (tr : PSet) (r : Char) : percentEncodeInvalidRune {} tr r = percentEncodeRune {} tr r := rfl

theorem RUrl.setHostB {ui : Url} {us : Spec.SUrl} (hu : RUrl ui us) (h : Str) :
    RUrl { ui with host := some (utf8 h) } { us with host := some h } :=
  ⟨hu.scheme, hu.username, hu.password, rfl, hu.port, hu.path, hu.query, hu.fragment⟩

theorem RUrl.setPathB {ui : Url} {us : Spec.SUrl} (hu : RUrl ui us) {p : Path} {sp : Spec.SPath} (hp : RPath p sp) :
    RUrl { ui with path := p } { us with path := sp } :=
  ⟨hu.scheme, hu.username, hu.password, hu.host, hu.port, hp, hu.query, hu.fragment⟩

theorem RUrl.isSpB {ui : Url} {us : Spec.SUrl} (hu : RUrl ui us) (e : Env) (hc : e.cfg = {}) : Impl.isSp e ui = us.isSpecial := by
  unfold Impl.isSp; rw [hc]; exact hu.isSp

theorem RUrl.host_noneB {ui : Url} {us : Spec.SUrl} (hu : RUrl ui us) : (ui.host == none) = (us.host == none) := by
  rw [hu.host]; cases us.host <;> rfl

/-- `url.path.addSegment` is the standard's "append to url's path" (list paths) -/
theorem RUrl.pathAppendB {ui : Url} {us : Spec.SUrl} (hu : RUrl ui us) (hl : us.hasOpaquePath = false) (s : Str) :
    RUrl { ui with path := ui.path.addSegment (utf8 s) } (Spec.pathAppend us s) := by
  obtain ⟨l, hl1, hl2⟩ := hu.list hl
  unfold Spec.pathAppend
  rw [hl1]
  exact hu.setPathB ⟨rfl, by simp [Path.addSegment, hl2]⟩

theorem pathAppend_hasOpaqueB (us : Spec.SUrl) (s : Str) : (Spec.pathAppend us s).hasOpaquePath = us.hasOpaquePath := by
  unfold Spec.pathAppend Spec.SUrl.hasOpaquePath
  cases us.path <;> rfl

theorem RUrl.path_isEmptyB {ui : Url} {us : Spec.SUrl} (hu : RUrl ui us) (hl : us.hasOpaquePath = false) :
    ui.path.isEmpty = (Spec.pathList us).isEmpty := by
  obtain ⟨l, hl1, hl2⟩ := hu.list hl
  unfold Path.isEmpty Spec.pathList
  rw [hl1, hl2]
  cases l <;> rfl

/-- states in which the url's path is a list (never opaque) -/
def listPathSt : State → Bool
  | .host | .hostname | .port | .fileHost | .pathStart | .path => true
  | _ => false

/-- the invariant of `SimB.lean`'s statements for the nine states: what `RPS` does not say and they assume and
    re-establish (`Loc` of `SimStep.lean` follows from it in these states: `Extra.loc` in `SimB.lean`) -/
structure Extra (input : Str) (pi : PS) (ss : Spec.PS) : Prop where
  lo : 0 ≤ ss.pointer
  hi : ss.pointer ≤ (input.length : Int)
  listPath : listPathSt pi.state = true → ss.url.hasOpaquePath = false
  /-- port state: the buffer is ASCII (it holds digits) -/
  portBuf : pi.state = .port → ∀ c ∈ ss.buffer, c.toNat < 0x80
  psBuf : pi.state = .pathStart → ss.buffer = []

def RStepB (o : Bool) (a : StepR) (b : SStep) : Prop :=
  match a, b with
  | .cont pi, .cont ss => RPS pi ss
  | .done r, .stop s => RResB o r s
  | _, _ => False

/-- the states of `SimB2Core.lean` -/
def stB : State → Bool
  | .host | .hostname | .port | .fileHost | .pathStart | .path | .opaquePath | .query | .fragment => true
  | _ => false

/-- `Go.go` for the nine states: the pointer clauses of `Extra` follow from the bounds -/
theorem Go.goB {input : Str} {o : Bool} {P : Prop} {st : State} {sst : Spec.St} {p : Int} {ev : Bool} {buf : Bytes}
    {a b w a' b' w' : Bool} {u : Url} {sbuf : Str} {us : Spec.SUrl} (hev : ev = false) (hlo : -1 ≤ p)
    (hp : p < (input.length : Int))
    (hr : RPS ⟨st, p, false, buf, a, b, w, u⟩ ⟨sst, p + 1, sbuf, a', b', w', us⟩)
    (hx : 0 ≤ p + 1 → p + 1 ≤ (input.length : Int) →
      P → Extra input ⟨st, p, false, buf, a, b, w, u⟩ ⟨sst, p + 1, sbuf, a', b', w', us⟩) :
    Go input (fun p s => P → Extra input p s) (DD o) ⟨st, p, ev, buf, a, b, w, u⟩ ⟨sst, p, sbuf, a', b', w', us⟩ :=
  Go.go hev hp hr (hx (by omega) (by omega))

theorem ite_ite_self {α : Type} (c : Prop) [Decidable c] (a b d : α) :
    (if c then a else if c then b else d) = if c then a else d := by
  split <;> rfl

theorem RPS.ofOrdB {pi' : PS} {ss' : Spec.PS} (hord : opqSt pi'.state = false) (hst : ss'.state = stateMap pi'.state)
    (hp : ss'.pointer = pi'.pointer + 1) (he : pi'.eof = false) (ha : ss'.atSignSeen = pi'.atFlag)
    (hb : ss'.insideBrackets = pi'.bracketFlag) (hpw : ss'.passwordTokenSeen = pi'.pwSeen)
    (hbuf : pi'.buffer = utf8 ss'.buffer) (hu : RUrl pi'.url ss'.url) : RPS pi' ss' := by
  refine ⟨hst, hp, he, ha, hb, hpw, ?_, ?_, ?_, ?_, ?_⟩
  · cases h : pi'.state <;> rw [h] at hord <;> first | exact hbuf | cases hord
  · cases h : pi'.state <;> rw [h] at hord <;> first | (unfold viewUrl; rw [h]; exact hu) | cases hord
  all_goals (intro h; rw [h] at hord; exact absurd hord (by decide))

/-- `Go.goB` into a state other than opaque path, query, fragment (`opqSt st = false`), where `RPS` asks that the buffers
    and the urls correspond as they are; `A2.go_ord` is the same for the twelve states -/
theorem Go.ordB {input : Str} {o : Bool} {P : Prop} {st : State} {p : Int} {ev : Bool} {buf : Bytes} {a b w : Bool} {u : Url}
    {sbuf : Str} {us : Spec.SUrl} (hev : ev = false) (hord : opqSt st = false) (hlo : -1 ≤ p) (hp : p < (input.length : Int))
    (hbuf : buf = utf8 sbuf) (hu : RUrl u us)
    (hx : 0 ≤ p + 1 → p + 1 ≤ (input.length : Int) →
      P → Extra input ⟨st, p, false, buf, a, b, w, u⟩ ⟨stateMap st, p + 1, sbuf, a, b, w, us⟩) :
    Go input (fun p s => P → Extra input p s) (DD o) ⟨st, p, ev, buf, a, b, w, u⟩ ⟨stateMap st, p, sbuf, a, b, w, us⟩ :=
  Go.goB hev hlo hp (RPS.ofOrdB hord rfl rfl rfl rfl rfl rfl hbuf hu) hx

theorem RPS.ofFragmentB {pi' : PS} {ss' : Spec.PS} (hs : pi'.state = .fragment) (hst : ss'.state = .fragment)
    (hp : ss'.pointer = pi'.pointer + 1) (he : pi'.eof = false) (ha : ss'.atSignSeen = pi'.atFlag)
    (hb : ss'.insideBrackets = pi'.bracketFlag) (hpw : ss'.passwordTokenSeen = pi'.pwSeen)
    (hu : RUrl { pi'.url with fragment := some pi'.buffer } ss'.url) (hf : pi'.url.fragment ≠ none) : RPS pi' ss' := by
  refine ⟨by rw [hs]; exact hst, hp, he, ha, hb, hpw, ?_, ?_, fun _ => hf, ?_, ?_⟩
  · rw [hs]; trivial
  · unfold viewUrl; rw [hs]; exact hu
  all_goals (intro h; rw [hs] at h; cases h)

theorem RPS.ofQueryB {pi' : PS} {ss' : Spec.PS} (hs : pi'.state = .query) (hst : ss'.state = .query)
    (hp : ss'.pointer = pi'.pointer + 1) (he : pi'.eof = false) (ha : ss'.atSignSeen = pi'.atFlag)
    (hb : ss'.insideBrackets = pi'.bracketFlag) (hpw : ss'.passwordTokenSeen = pi'.pwSeen)
    (hbuf : pi'.buffer = utf8 (Spec.utf8PercentEncode
      (if Spec.isSpecialScheme ss'.url.scheme then Spec.specialQuerySet else Spec.querySet) ss'.buffer))
    (hq0 : ss'.url.query = some [])
    (hu : RUrl { pi'.url with query := some [] } ss'.url) (hq : pi'.url.query ≠ none) : RPS pi' ss' := by
  refine ⟨by rw [hs]; exact hst, hp, he, ha, hb, hpw, ?_, ?_, ?_, ?_, fun _ => hq⟩
  · rw [hs]; exact ⟨hbuf, hq0⟩
  · unfold viewUrl; rw [hs]; exact hu
  all_goals (intro h; rw [hs] at h; cases h)

theorem RPS.ofOpaqueB {pi' : PS} {ss' : Spec.PS} (hs : pi'.state = .opaquePath) (hst : ss'.state = .opaquePath)
    (hp : ss'.pointer = pi'.pointer + 1) (he : pi'.eof = false) (ha : ss'.atSignSeen = pi'.atFlag)
    (hb : ss'.insideBrackets = pi'.bracketFlag) (hpw : ss'.passwordTokenSeen = pi'.pwSeen)
    (hbuf : ss'.buffer = []) (hu : RUrl pi'.url ss'.url) (ho : pi'.url.path = ⟨[pi'.buffer], true⟩) : RPS pi' ss' := by
  refine ⟨by rw [hs]; exact hst, hp, he, ha, hb, hpw, ?_, ?_, ?_, fun _ => ho, ?_⟩
  · rw [hs]; exact hbuf
  · unfold viewUrl; rw [hs]; exact hu
  all_goals (intro h; rw [hs] at h; cases h)

theorem Extra.ofOtherB {input : Str} {pi' : PS} {ss' : Spec.PS} (lo : 0 ≤ ss'.pointer) (hi : ss'.pointer ≤ (input.length : Int))
    (hst : listPathSt pi'.state = false) : Extra input pi' ss' := by
  refine ⟨lo, hi, ?_, ?_, ?_⟩
  · intro h; rw [hst] at h; cases h
  · intro h; rw [h] at hst; cases hst
  · intro h; rw [h] at hst; cases hst

theorem Extra.ofListB {input : Str} {pi' : PS} {ss' : Spec.PS} (lo : 0 ≤ ss'.pointer) (hi : ss'.pointer ≤ (input.length : Int))
    (hl : ss'.url.hasOpaquePath = false) (h1 : pi'.state ≠ .port) (h2 : pi'.state ≠ .pathStart) : Extra input pi' ss' :=
  ⟨lo, hi, fun _ => hl, fun h => absurd h h1, fun h => absurd h h2⟩

theorem RUrl.setFragment'B {ui : Url} {us : Spec.SUrl} (hu : RUrl ui us) (b : Bytes) (f : Str) (h : b = utf8 f) :
    RUrl { ui with fragment := some b } { us with fragment := some f } :=
  h ▸ ⟨hu.scheme, hu.username, hu.password, hu.host, hu.port, hu.path, hu.query, rfl⟩

theorem RUrl.setQuery'B {ui : Url} {us : Spec.SUrl} (hu : RUrl ui us) (b : Bytes) (f : Str) (h : b = utf8 f) :
    RUrl { ui with query := some b } { us with query := some f } :=
  h ▸ ⟨hu.scheme, hu.username, hu.password, hu.host, hu.port, hu.path, rfl, hu.fragment⟩

theorem utf8PercentEncode_snocB (set : Nat → Bool) (s : Str) (c : Char) :
    Spec.utf8PercentEncode set (s ++ [c]) = Spec.utf8PercentEncode set s ++ Spec.utf8PercentEncodeCp set c := by
  simp [Spec.utf8PercentEncode]

theorem Extra.ofPathStartB {input : Str} {pi' : PS} {ss' : Spec.PS} (lo : 0 ≤ ss'.pointer) (hi : ss'.pointer ≤ (input.length : Int))
    (hl : ss'.url.hasOpaquePath = false) (hs : pi'.state = .pathStart) (hb : ss'.buffer = []) : Extra input pi' ss' :=
  ⟨lo, hi, fun _ => hl, fun h => (by rw [hs] at h; cases h), fun _ => hb⟩

theorem Extra.ofPortB {input : Str} {pi' : PS} {ss' : Spec.PS} (lo : 0 ≤ ss'.pointer) (hi : ss'.pointer ≤ (input.length : Int))
    (hl : ss'.url.hasOpaquePath = false) (hs : pi'.state = .port) (hb : ∀ c ∈ ss'.buffer, c.toNat < 0x80) : Extra input pi' ss' :=
  ⟨lo, hi, fun _ => hl, fun _ => hb, fun h => (by rw [hs] at h; cases h)⟩

section
variable {input : Str} {o : Bool} {P : Prop} {p : Int} {ev a b w : Bool} {u : Url} {us : Spec.SUrl}

/-- on to the query state: the buffer is empty, the query `""` on both sides -/
theorem Go.toQuery (hev : ev = false) (hlo : -1 ≤ p) (hp : p < (input.length : Int)) (hu : RUrl u us) :
    Go input (fun p s => P → Extra input p s) (DD o) ⟨.query, p, ev, [], a, b, w, { u with query := some [] }⟩
      ⟨.query, p, [], a, b, w, { us with query := some [] }⟩ :=
  Go.goB hev hlo hp (RPS.ofQueryB rfl rfl rfl rfl rfl rfl rfl rfl rfl (hu.setQuery'B _ _ rfl) (by simp))
    (fun lo hi _ => Extra.ofOtherB lo hi rfl)

/-- on to the fragment state: the buffer is empty, the fragment `""` on both sides -/
theorem Go.toFragment (hev : ev = false) (hlo : -1 ≤ p) (hp : p < (input.length : Int)) (hu : RUrl u us) :
    Go input (fun p s => P → Extra input p s) (DD o) ⟨.fragment, p, ev, [], a, b, w, { u with fragment := some [] }⟩
      ⟨.fragment, p, [], a, b, w, { us with fragment := some [] }⟩ :=
  Go.goB hev hlo hp (RPS.ofFragmentB rfl rfl rfl rfl rfl rfl rfl (hu.setFragment'B _ _ rfl) (by simp))
    (fun lo hi _ => Extra.ofOtherB lo hi rfl)

/-- on to the path start state, with an empty buffer; the path is a list if it was -/
theorem Go.toPathStart (hev : ev = false) (hlo : -1 ≤ p) (hp : p < (input.length : Int)) (hu : RUrl u us)
    (hl : P → us.hasOpaquePath = false) :
    Go input (fun p s => P → Extra input p s) (DD o) ⟨.pathStart, p, ev, [], a, b, w, u⟩ ⟨.pathStart, p, [], a, b, w, us⟩ :=
  Go.ordB hev rfl hlo hp rfl hu (fun lo hi p => Extra.ofPathStartB lo hi (hl p) rfl rfl)

end

theorem ov_hostnameB (o : Option State) : ((o.map stateMap) == some Spec.St.hostname) = (o == some State.hostname) := by
  cases o with
  | none => rfl
  | some s => cases s <;> rfl

theorem parseHost_nilB (I : Idna) (u : Url) (ns : Bool) : parseHost {} I u [] ns = ⟨u, .ok []⟩ := rfl
theorem specParseHost_nilB (I : Spec.SIdna) : Spec.parseHost I [] true = some [] := rfl

/-! ### the byte-level tests and their code-point counterparts on concrete values -/

example : (∀ c ∈ "8080".toList, c.toNat < 0x80) ∧ digitsVal 10 (utf8 "8080".toList) = 8080 ∧ Spec.strVal 10 "8080".toList = 8080 := by
  decide
example : Spec.isWindowsDriveLetter ['C', '|'] = true ∧
    (utf8 ['C', '|']).take 1 ++ [0x3a] ++ (utf8 ['C', '|']).drop 2 = utf8 (['C', '|'].take 1 ++ [':']) := by decide
example : Impl.isWindowsDriveLetter (utf8 ['C', ':']) = true ∧ Impl.isWindowsDriveLetter (utf8 ['é']) = false := by decide
example : Spec.cAt ['a', 'b'] 1 = some 'b' ∧ Spec.cAt ['a', 'b'] 2 = none ∧ Spec.cAt ['a', 'b'] (-1) = none := by decide
example : Spec.isSpecialScheme "mailto".toList = false ∧ Spec.defaultPort "mailto".toList = none := by decide
example : Cfg.special? {} (utf8 "https".toList) = some (itoa 443) ∧ Cfg.isSpecial {} (utf8 "file".toList) = true := by decide
example : Impl.isDoubleDot (utf8 ".%2E".toList) = true ∧ Spec.isDoubleDot ".%2E".toList = true := by decide
example : (∀ b ∈ utf8 ['8', '0'], b.toNat < 0x80) ∧ ∀ c ∈ ['8', '0'], c.toNat < 0x80 := by
  have h : ∀ b ∈ utf8 ['8', '0'], b.toNat < 0x80 := by
    have : utf8 ['8', '0'] = [0x38, 0x30] := by decide
    rw [this]; intro b hb; simp at hb; rcases hb with rfl | rfl <;> decide
  exact ⟨h, ascii_of_utf8_ascii _ h⟩
example : IPv4.Ascii (utf8 ['a', 'b']) ∧ IPv4.asStr (utf8 ['a', 'b']) = ['a', 'b'] := by
  refine ⟨?_, by decide⟩
  intro x hx
  have : utf8 ['a', 'b'] = [0x61, 0x62] := by decide
  rw [this] at hx
  simp at hx
  rcases hx with rfl | rfl <;> decide

/-! ### statements kept for their own sake

Nothing in the development calls the following. -/

theorem stops_defaultB (f : Bool) : stops {} f = f := by simp [stops]

theorem RPath.listB {p : Path} {l : List Str} : RPath p (.list l) ↔ (p.opq = false ∧ p.segs = l.map utf8) := Iff.rfl
theorem RPath.opaqueB {p : Path} {s : Str} : RPath p (.opaque s) ↔ (p.opq = true ∧ p.segs = [utf8 s]) := Iff.rfl

set_option linter.unusedVariables false in
/-- `hl` is not needed -/
theorem shorten_schemeB (us : Spec.SUrl) (hl : us.hasOpaquePath = false) : (Spec.shorten us).scheme = us.scheme := by
  unfold Spec.shorten
  split
  · rfl
  · split <;> rfl

theorem pathAppend_schemeB (us : Spec.SUrl) (s : Str) : (Spec.pathAppend us s).scheme = us.scheme := by
  unfold Spec.pathAppend
  cases us.path <;> rfl

theorem setPort_hasOpaqueB (us : Spec.SUrl) (n : Nat) : (Spec.setPort us n).hasOpaquePath = us.hasOpaquePath := rfl

theorem isC_noneB (x : Char) : Spec.isC none x = false := isC_none x

end WhatwgUrl.Proofs.Sim
