import WhatwgUrl.Proofs.SimParse
import WhatwgUrl.Proofs.SimBaseB
/-
  Conformance simulation: the setters (C05). The wrappers around the parser re-entry are compared here, given that the
  re-entry itself conforms (`Reenter`; supplied by `SimFinal.reenter`, which is `basicParser_conforms` under the setter's
  override).

  The setters keep the url "as modified so far" when the re-entry fails, and the Go code returns `nil, nil` from the file
  host state under an override: the re-entry is taken with the relation `RRes' false` of `SimDefs2.lean`, which relates
  the urls in every case, and the theorems compare the url records (`RUrl`).
-/
namespace WhatwgUrl.Proofs.Sim
open WhatwgUrl WhatwgUrl.Impl

def mapSetter : Setter → Spec.Setter
  | .protocol => .protocol | .username => .username | .password => .password | .host => .host | .hostname => .hostname
  | .port => .port | .pathname => .pathname | .search => .search | .hash => .hash

/-- the state override a setter re-enters the parser with (username / password do not re-enter: `.schemeStart` stands as a
    placeholder). The search / hash setters re-enter on a record whose query / fragment they have set to the empty string,
    and after dropping one leading `?` / `#` of the value (`setSearchU`, `setHash`). -/
def ovOf : Setter → State
  | .protocol => .schemeStart | .username => .schemeStart | .password => .schemeStart | .host => .host
  | .hostname => .hostname | .port => .port | .pathname => .pathStart | .search => .query | .hash => .fragment

theorem RUrl.cannotHaveUPP {ui : Url} {us : Spec.SUrl} (h : RUrl ui us) : cannotHaveUPP ui = us.cannotHaveUPP := by
  unfold Impl.cannotHaveUPP Spec.SUrl.cannotHaveUPP
  rw [h.host_noneB, h.host, optmap_utf8_beq_some_nil, h.scheme, utf8_beq_lit_file]

/-- both sides branch on one test -/
theorem RUrl.ite {gi gs : Bool} (hg : gi = gs) {r r' : Res} {u u' : Spec.SUrl} (h : RUrl r.url u) (h' : RUrl r'.url u') :
    RUrl (if gi then r else r').url (if gs then u else u') := by
  subst hg; split <;> assumption

theorem isEmpty_goRunes (v : Bytes) : (goRunes v).isEmpty = v.isEmpty := by
  cases v with
  | nil => rfl
  | cons x rest =>
    have := Utf8.goRunes_ne_nil (List.cons_ne_nil x rest)
    cases h : goRunes (x :: rest) with
    | nil => exact absurd h this
    | cons _ _ => rfl

theorem percentEncodeString_userinfo (v : Bytes) :
    percentEncodeString {} userinfoSet v = utf8 (Spec.utf8PercentEncode Spec.userinfoSet (goRunes v)) := by
  rw [← Percent.userinfoSet_has]; exact Percent.pesRunes_default userinfoSet (goRunes v)

theorem decode1_ne_ascii (x b0 : UInt8) (rest : Bytes) (hx : x.toNat < 0x80) (hne : x ≠ b0) :
    (decode1 b0 rest).1 ≠ bc x := by
  intro h
  have hs := (Utf8.decode1_spec b0 rest)
  have h1 := hs.2.1
  rcases hs.1 with e | e
  · rw [e] at h
    exact ne_of_beq_false (IPv4.bc_ne_repl x) h.symm
  · rw [h, IPv4.utf8Char_bc x hx] at e
    obtain ⟨k, hk⟩ : ∃ k, (decode1 b0 rest).2 = k + 1 := ⟨(decode1 b0 rest).2 - 1, by omega⟩
    rw [hk, List.take_succ_cons] at e
    simp only [List.cons.injEq] at e
    exact hne e.1

/-- dropping one leading delimiter byte is dropping one leading delimiter code point -/
theorem goRunes_trimPrefix1 (x : UInt8) (hx : x.toNat < 0x80) (v : Bytes) :
    goRunes (trimPrefix1 v [x]) = if (goRunes v).head? == some (bc x) then (goRunes v).drop 1 else goRunes v := by
  cases v with
  | nil => rfl
  | cons y rest =>
    rw [trimPrefix1_cons]
    by_cases h : x = y
    · subst h
      rw [Utf8.goRunes_cons, Utf8.decode1_ascii x rest hx]
      simp
    · have := decode1_ne_ascii x y rest hx h
      rw [if_neg h, Utf8.goRunes_cons]
      simp [this]

/-- stripping trailing bytes with an ASCII-only byte predicate is stripping trailing code points -/
theorem rdropWhile_utf8 (p : UInt8 → Bool) (q : Char → Bool)
    (hpq : ∀ c : Char, c.toNat < 0x80 → p c.toNat.toUInt8 = q c)
    (hp : ∀ x : UInt8, 0x80 ≤ x.toNat → p x = false) (hq : ∀ c : Char, 0x80 ≤ c.toNat → q c = false) (s : Str) :
    ((utf8 s).reverse.dropWhile p).reverse = utf8 ((s.reverse.dropWhile q).reverse) := by
  have key : ∀ r : Str, ((utf8 r.reverse).reverse.dropWhile p).reverse = utf8 ((r.dropWhile q).reverse) := by
    intro r
    induction r with
    | nil => rfl
    | cons c r ih =>
      rw [List.reverse_cons, Percent.utf8_append, utf8_singleton, List.reverse_append, List.dropWhile_cons]
      by_cases hc : q c = true
      · have h80 : c.toNat < 0x80 := by
          apply Classical.byContradiction; intro hh
          rw [hq c (by omega)] at hc; exact absurd hc (by simp)
        rw [if_pos hc, Utf8.utf8Char_ascii c h80, ← ih]
        have : p c.toNat.toUInt8 = true := by rw [hpq c h80]; exact hc
        rw [List.reverse_singleton, List.singleton_append, List.dropWhile_cons, if_pos this]
      · rw [if_neg hc, List.reverse_cons, Percent.utf8_append, utf8_singleton]
        have hne := Percent.utf8Char_ne_nil c
        obtain ⟨x, hx⟩ : ∃ x, (utf8Char c).getLast? = some x := by
          cases h : (utf8Char c).getLast? with
          | none => exact absurd (List.getLast?_eq_none_iff.mp h) hne
          | some x => exact ⟨x, rfl⟩
        have hmem : x ∈ utf8Char c := List.mem_of_getLast? hx
        have hpx : p x = false := by
          by_cases h80 : c.toNat < 0x80
          · have := Utf8.utf8Char_ascii c h80
            rw [this] at hmem
            simp only [List.mem_singleton] at hmem
            rw [hmem, hpq c h80]; simpa using hc
          · exact hp x (Utf8.utf8Char_high c (by omega) x hmem)
        have hini : utf8Char c = (utf8Char c).dropLast ++ [x] := (IPv4.dropLast_append_of_getLast? hx).symm
        rw [hini]
        simp [hpx]
  have := key s.reverse
  rwa [List.reverse_reverse] at this

theorem trimRight_space (s : Str) :
    trimRightByte 0x20 (utf8 s) = utf8 (s.reverse.dropWhile (· == ' ')).reverse := by
  unfold trimRightByte
  refine rdropWhile_utf8 (· == 0x20) (· == ' ') ?_ ?_ ?_ s
  · intro c hc
    have h : (c.toNat.toUInt8 == (0x20 : UInt8)) = (c.toNat == 32) :=
      (by decide +kernel : ∀ i : Fin 128, (i.val.toUInt8 == (0x20 : UInt8)) = (i.val == 32)) ⟨c.toNat, hc⟩
    show (c.toNat.toUInt8 == (0x20 : UInt8)) = (c == ' ')
    rw [h]
    by_cases hcs : c = ' '
    · subst hcs; rfl
    · have : c.toNat ≠ 32 := fun h' => hcs (Char.toNat_inj.mp h')
      rw [beq_eq_false_iff_ne.mpr this, beq_eq_false_iff_ne.mpr hcs]
  · apply forall_uint8; decide +kernel
  · intro c hc
    have : c ≠ ' ' := by intro h; subst h; revert hc; decide
    simp [this]

/-- the stripping step of `SetSearch("")` / `SetHash("")`; the panic is `p.p[0]` on an opaque path without element, `n` its
    site (20 in `setSearchU`, 21 in `setHash`, `Impl/Api.lean`) -/
def stripOrPanic (u : Url) (n : Nat) : Res :=
  match stripTrailingSpacesIfOpaque u.path with
  | some p => keep { u with path := p }
  | none => ⟨u, .panic n⟩

/-- the two "potentially strip trailing spaces from an opaque path" agree on corresponding urls -/
theorem strip_sim {ui : Url} {us : Spec.SUrl} (h : RUrl ui us) (hq : us.query = none) (hf : us.fragment = none) (n : Nat) :
    RUrl (stripOrPanic ui n).url (Spec.stripTrailingSpaces us) := by
  have hp := h.path
  unfold stripOrPanic stripTrailingSpacesIfOpaque Spec.stripTrailingSpaces
  rcases hpath : us.path with s | l
  · rw [hpath] at hp
    obtain ⟨h1, h2⟩ := hp
    simp only [h1, h2, if_true, hq, hf, Option.isSome_none, Bool.or_self, Bool.false_eq_true, if_false, keep]
    exact ⟨h.scheme, h.username, h.password, h.host, h.port, ⟨rfl, by rw [trimRight_space]⟩, by rw [h.query, hq],
      by rw [h.fragment, hf]⟩
  · rw [hpath] at hp
    obtain ⟨h1, h2⟩ := hp
    simp only [h1, Bool.false_eq_true, if_false, keep]
    exact ⟨h.scheme, h.username, h.password, h.host, h.port, by rw [hpath]; exact ⟨h1, h2⟩, h.query, h.fragment⟩

theorem strip_noop (us : Spec.SUrl) (h : (us.fragment.isSome || us.query.isSome) = true) : Spec.stripTrailingSpaces us = us := by
  unfold Spec.stripTrailingSpaces
  split
  · rw [if_pos h]
  · rfl

/-- `SetSearch("")` / `SetHash("")` after query / fragment has been set to null; `oi` / `os` is the other of the two:
    the Go code strips when it is null, the standard when both are -/
theorem clear_strip_sim {ui : Url} {us : Spec.SUrl} (hu : RUrl ui us) {oi : Option Bytes} {os : Option Str}
    (ho : oi = os.map utf8) (hb : (us.fragment.isSome || us.query.isSome) = os.isSome) (n : Nat) :
    RUrl (if oi == none then stripOrPanic ui n else keep ui).url (Spec.stripTrailingSpaces us) := by
  subst ho
  cases os with
  | none =>
    have hb' := Bool.or_eq_false_iff.mp hb
    exact strip_sim hu (by simpa using hb'.2) (by simpa using hb'.1) n
  | some o => rw [strip_noop us hb]; exact hu

theorem setSearch_empty_sim {ui : Url} {us : Spec.SUrl} (hu : RUrl ui us) (I : Idna) :
    RUrl (setSearchU {} I ui []).url (Spec.stripTrailingSpaces { us with query := none }) :=
  clear_strip_sim (ui := { ui with query := none }) (us := { us with query := none })
    ⟨hu.scheme, hu.username, hu.password, hu.host, hu.port, hu.path, rfl, hu.fragment⟩ hu.fragment (Bool.or_false _) 20

theorem setHash_empty_sim {ui : Url} {us : Spec.SUrl} (hu : RUrl ui us) (I : Idna) :
    RUrl (setHash {} I ui []).url (Spec.stripTrailingSpaces { us with fragment := none }) :=
  clear_strip_sim (ui := { ui with fragment := none }) (us := { us with fragment := none })
    ⟨hu.scheme, hu.username, hu.password, hu.host, hu.port, hu.path, hu.query, rfl⟩ hu.query (Bool.false_or _) 21

/-- under an override, in the scheme start / scheme states, one run depends on the input only through `c` -/
theorem run_scheme_congr (I : Spec.SIdna) (in1 in2 : Str) (ov : Option Spec.St) (hov : ov.isSome = true) (ss : Spec.PS)
    (hst : ss.state = .schemeStart ∨ ss.state = .scheme) (hc : Spec.cAt in1 ss.pointer = Spec.cAt in2 ss.pointer) :
    Spec.run I in1 none ov ss = Spec.run I in2 none ov ss := by
  have hov' : ov.isNone = false := by cases ov <;> simp_all
  unfold Spec.run
  rcases hst with hst | hst <;> simp only [hst, hc, hov, hov', Bool.true_and, Bool.false_eq_true, if_false, if_true]

/-- under an override the two scheme states stop, or stay in the scheme state without moving the pointer (the machine
    advances it); they do not continue at `:` -/
theorem run_scheme_cont (I : Spec.SIdna) (inp : Str) (ov : Option Spec.St) (hov : ov.isSome = true) (ss ss' : Spec.PS)
    (hst : ss.state = .schemeStart ∨ ss.state = .scheme) (h : Spec.run I inp none ov ss = .cont ss') :
    ss'.pointer = ss.pointer ∧ ss'.state = .scheme ∧ Spec.cAt inp ss.pointer ≠ some ':' := by
  have hov' : ov.isNone = false := by cases ov <;> simp_all
  unfold Spec.run at h
  rcases hst with hst | hst
  · simp only [hst, hov', Bool.false_eq_true, if_false] at h
    split at h
    · rename_i ch hch
      split at h
      · rename_i ha
        injection h with h; subst h
        refine ⟨rfl, rfl, ?_⟩
        rw [hch]; intro hcol; injection hcol with hcol; subst hcol; revert ha; decide
      · exact absurd h (by simp)
    · exact absurd h (by simp)
  · simp only [hst] at h
    split at h
    · rename_i ch hch
      split at h
      · rename_i ha
        injection h with h; subst h
        refine ⟨rfl, rfl, ?_⟩
        rw [hch]; intro hcol; injection hcol with hcol; subst hcol; revert ha; decide
      · simp only [hov, hov', Bool.true_and, Bool.false_eq_true, if_false] at h
        repeat' split at h
        all_goals exact absurd h (by simp)
    · simp only [hov', Bool.false_eq_true, if_false] at h
      exact absurd h (by simp)

theorem cAt_append_left (w t : Str) (p : Int) (hp0 : 0 ≤ p) (hp : p < w.length) :
    Spec.cAt (w ++ t) p = Spec.cAt w p := by
  unfold Spec.cAt
  simp only [hp0, if_true]
  rw [List.getElem?_append_left (by omega)]

theorem cAt_append_colon (w t : Str) : Spec.cAt (w ++ ':' :: t) (w.length : Int) = some ':' := by
  unfold Spec.cAt
  simp

/-- the machine under a scheme-start override, started `n` code points before a ':', does not depend on the text
    after that ':' (nor on the fuel, beyond `n + 1`) -/
theorem scheme_machine_prefix (I : Spec.SIdna) (w t1 t2 : Str) (ov : Option Spec.St) (hov : ov.isSome = true) :
    ∀ (n f1 f2 : Nat) (ss : Spec.PS), (ss.state = .schemeStart ∨ ss.state = .scheme) →
      ss.pointer = ((w.length - n : Nat) : Int) → n ≤ w.length → n < f1 → n < f2 →
      Spec.machine I (w ++ ':' :: t1) none ov f1 ss = Spec.machine I (w ++ ':' :: t2) none ov f2 ss := by
  intro n
  induction n with
  | zero =>
    intro f1 f2 ss hst hp _ h1 h2
    obtain ⟨f1, rfl⟩ : ∃ k, f1 = k + 1 := ⟨f1 - 1, by omega⟩
    obtain ⟨f2, rfl⟩ : ∃ k, f2 = k + 1 := ⟨f2 - 1, by omega⟩
    simp only [Nat.sub_zero] at hp
    have hc1 : Spec.cAt (w ++ ':' :: t1) ss.pointer = some ':' := by rw [hp]; exact cAt_append_colon w t1
    have hc2 : Spec.cAt (w ++ ':' :: t2) ss.pointer = some ':' := by rw [hp]; exact cAt_append_colon w t2
    have hrun := run_scheme_congr I (w ++ ':' :: t1) (w ++ ':' :: t2) ov hov ss hst (by rw [hc1, hc2])
    rw [Spec.machine, Spec.machine, ← hrun]
    cases hr : Spec.run I (w ++ ':' :: t1) none ov ss with
    | ret u => rfl
    | failure u => rfl
    | cont ss' => exact absurd hc1 (run_scheme_cont I _ ov hov ss ss' hst hr).2.2
  | succ n ih =>
    intro f1 f2 ss hst hp hn h1 h2
    obtain ⟨f1, rfl⟩ : ∃ k, f1 = k + 1 := ⟨f1 - 1, by omega⟩
    obtain ⟨f2, rfl⟩ : ∃ k, f2 = k + 1 := ⟨f2 - 1, by omega⟩
    have hp0 : (0 : Int) ≤ ss.pointer := by rw [hp]; omega
    have hpl : ss.pointer < (w.length : Int) := by rw [hp]; omega
    have hc : Spec.cAt (w ++ ':' :: t1) ss.pointer = Spec.cAt (w ++ ':' :: t2) ss.pointer := by
      rw [cAt_append_left w _ _ hp0 hpl, cAt_append_left w _ _ hp0 hpl]
    have hrun := run_scheme_congr I (w ++ ':' :: t1) (w ++ ':' :: t2) ov hov ss hst hc
    rw [Spec.machine, Spec.machine, ← hrun]
    cases hr : Spec.run I (w ++ ':' :: t1) none ov ss with
    | ret u => rfl
    | failure u => rfl
    | cont ss' =>
      obtain ⟨hptr, hst', _⟩ := run_scheme_cont I _ ov hov ss ss' hst hr
      simp only [List.length_append, List.length_cons]
      rw [if_neg (by rw [hptr]; omega), if_neg (by rw [hptr]; omega)]
      exact ih f1 f2 _ (Or.inr hst') (by show ss'.pointer + 1 = _; rw [hptr, hp]; omega) (by omega) (by omega) (by omega)

/-- the standard's protocol setter gives the same result whether or not a ':' is appended to a value that already ends
    in ':' (the Go code appends it only when it is missing) -/
theorem basicParse_scheme_colon (I : Spec.SIdna) (w : Str) (u : Spec.SUrl) :
    Spec.basicParse I (w ++ [':'] ++ [':']) none (some u) (some .schemeStart) =
    Spec.basicParse I (w ++ [':']) none (some u) (some .schemeStart) := by
  rw [basicParse_eq, basicParse_eq]
  have hcol : Spec.isTabOrNewline ':' = false := by decide
  have h1 : sinputOf (w ++ [':'] ++ [':']) (some u).isNone = w.filter (!Spec.isTabOrNewline ·) ++ ':' :: [':'] := by
    simp [sinputOf, List.filter_append, hcol]
  have h2 : sinputOf (w ++ [':']) (some u).isNone = w.filter (!Spec.isTabOrNewline ·) ++ ':' :: [] := by
    simp [sinputOf, List.filter_append, hcol]
  rw [h1, h2]
  refine scheme_machine_prefix I _ _ _ _ rfl (w.filter (!Spec.isTabOrNewline ·)).length _ _ _ (Or.inl rfl) ?_
    (Nat.le_refl _) ?_ ?_
  · simp [ss0Of]
  · simp only [List.length_append, List.length_cons, List.length_nil]; omega
  · simp only [List.length_append, List.length_cons, List.length_nil]; omega

/-- the two setters that do not re-enter the parser conform unconditionally -/
theorem set_conforms_userinfo (I : Idna) (s : Setter) (hs : s = .username ∨ s = .password) (ui : Url) (us : Spec.SUrl)
    (hu : RUrl ui us) (v : Bytes) :
    RUrl (setU {} I s ui v).url (Spec.set (specIdna I) (mapSetter s) us (goRunes v)) := by
  rcases hs with rfl | rfl
  · exact RUrl.ite hu.cannotHaveUPP hu
      ⟨hu.scheme, percentEncodeString_userinfo v, hu.password, hu.host, hu.port, hu.path, hu.query, hu.fragment⟩
  · exact RUrl.ite hu.cannotHaveUPP hu
      ⟨hu.scheme, hu.username, percentEncodeString_userinfo v, hu.host, hu.port, hu.path, hu.query, hu.fragment⟩

/-- re-entering the parser under the state override of setter `s` conforms: from corresponding initial machine states
    (and, for the pathname setter, a list path) the url records correspond afterwards, failure or not -/
def Reenter (I : Idna) : Prop :=
  ∀ (s : Setter) (v : Bytes) (ui : Url) (us : Spec.SUrl),
    RPS (ps0Of (some ui) (some (ovOf s))) (ss0Of (some us) (some (stateMap (ovOf s)))) →
    (s = .pathname → ui.path.opq = false) → TabNlOk v →
    RUrl (basicParser {} I v none (some ui) (some (ovOf s))).url
      (Spec.basicParse (specIdna I) (goRunes v) none (some us) (some (stateMap (ovOf s)))).1

/-- what `XInv_init` asks of the initial state of a setter's run -/
theorem ovOf_init (s : Setter) (u : Url) (hg : s = .pathname → u.path.opq = false) :
    relSt (ovOf s) = false ∧
    (u.path.opq = true → opqSt (ovOf s) = true ∨ ((some (ovOf s)).isSome = true ∧ ovOpqSt (ovOf s) = true)) := by
  refine ⟨by cases s <;> rfl, fun ho => ?_⟩
  cases s
  case pathname => exact absurd ((hg rfl).symm.trans ho) (by decide)
  all_goals first
    | exact Or.inl rfl
    | exact Or.inr ⟨rfl, rfl⟩

section setters
variable (I : Idna) (hR : Reenter I)
include hR

/-- C05: every setter conforms as soon as re-entry does, within the boundary of finding F3 -/
theorem set_conforms_of_sim_gen (s : Setter) (ui : Url) (us : Spec.SUrl) (hu : RUrl ui us) (v : Bytes) (ht : TabNlOk v) :
    RUrl (setU {} I s ui v).url (Spec.set (specIdna I) (mapSetter s) us (goRunes v)) := by
  cases s with
  | protocol =>
    show RUrl (setProtocol {} I ui v).url (Spec.basicParse (specIdna I) (goRunes v ++ [':']) none (some us) (some .schemeStart)).1
    unfold setProtocol
    have hp : RPS (ps0Of (some ui) (some (ovOf .protocol))) (ss0Of (some us) (some (stateMap (ovOf .protocol)))) :=
      RPS_init .schemeStart ui us hu (by decide) (by decide) (by decide)
    by_cases he : endsWith v [0x3a] = true
    · rw [if_pos he]
      obtain ⟨v', rfl⟩ : ∃ v', v = v' ++ [0x3a] := by
        unfold endsWith at he
        obtain ⟨t, ht⟩ := List.isSuffixOf_iff_suffix.mp he
        exact ⟨t, ht.symm⟩
      have := hR .protocol (v' ++ [0x3a]) ui us hp (fun h => by cases h) ht
      rw [goRunes_append_ascii_one 0x3a (by decide)] at this ⊢
      have hc : bc 0x3a = ':' := by decide
      rw [hc] at this ⊢
      rw [basicParse_scheme_colon]
      exact this
    · rw [if_neg he]
      have := hR .protocol (v ++ [0x3a]) ui us hp (fun h => by cases h) ((TabNlOk_snoc_ascii 0x3a (by decide) v).2 ht)
      rw [goRunes_append_ascii_one 0x3a (by decide)] at this
      exact this
  | username => exact set_conforms_userinfo I .username (.inl rfl) ui us hu v
  | password => exact set_conforms_userinfo I .password (.inr rfl) ui us hu v
  | host =>
    exact RUrl.ite hu.opqB hu
      (hR .host v ui us (RPS_init .host ui us hu (by decide) (by decide) (by decide)) (fun h => by cases h) ht)
  | hostname =>
    exact RUrl.ite hu.opqB hu
      (hR .hostname v ui us (RPS_init .hostname ui us hu (by decide) (by decide) (by decide)) (fun h => by cases h) ht)
  | port =>
    exact RUrl.ite hu.cannotHaveUPP hu <| RUrl.ite (isEmpty_goRunes v).symm
      ⟨hu.scheme, hu.username, hu.password, hu.host, rfl, hu.path, hu.query, hu.fragment⟩
      (hR .port v ui us (RPS_init .port ui us hu (by decide) (by decide) (by decide)) (fun h => by cases h) ht)
  | pathname =>
    exact RUrl.ite hu.opqB hu <| hR .pathname v _ _ (RPS_init .pathStart _ _
      (hu.setPathB (p := Path.init) (sp := .list []) ⟨rfl, rfl⟩) (by decide) (by decide) (by decide)) (fun _ => rfl) ht
  | search =>
    show RUrl (setSearchU {} I ui v).url
      (if (goRunes v).isEmpty then _
       else (Spec.basicParse _ (if (goRunes v).head? == some (bc 0x3f) then (goRunes v).drop 1 else goRunes v) none
          (some { us with query := some [] }) (some .query)).1)
    rw [← goRunes_trimPrefix1 0x3f (by decide) v]
    refine RUrl.ite (isEmpty_goRunes v).symm (setSearch_empty_sim hu I) <|
      hR .search (trimPrefix1 v [0x3f]) _ _ ?_ (fun h => by cases h) (TabNlOk_trimPrefix1 0x3f (by decide) v ht)
    refine ⟨rfl, rfl, rfl, rfl, rfl, rfl, ⟨rfl, rfl⟩, ?_, ?_, ?_, ?_⟩
    · show RUrl { (if ui.query == none then { ui with query := some [] } else ui) with query := some [] }
        { us with query := some [] }
      split <;> exact hu.setQuery'B [] [] rfl
    · intro h; exact absurd h (by simp [ps0Of, ovOf])
    · intro h; exact absurd h (by simp [ps0Of, ovOf])
    · intro _
      show (if ui.query == none then { ui with query := some [] } else ui).query ≠ none
      cases hqi : ui.query <;> simp [hqi]
  | hash =>
    show RUrl (setHash {} I ui v).url
      (if (goRunes v).isEmpty then _
       else (Spec.basicParse _ (if (goRunes v).head? == some (bc 0x23) then (goRunes v).drop 1 else goRunes v) none
          (some { us with fragment := some [] }) (some .fragment)).1)
    rw [← goRunes_trimPrefix1 0x23 (by decide) v]
    refine RUrl.ite (isEmpty_goRunes v).symm (setHash_empty_sim hu I) <|
      hR .hash (trimPrefix1 v [0x23]) _ _ ?_ (fun h => by cases h) (TabNlOk_trimPrefix1 0x23 (by decide) v ht)
    refine ⟨rfl, rfl, rfl, rfl, rfl, rfl, trivial, ?_, ?_, ?_, ?_⟩
    · exact hu.setFragment'B [] [] rfl
    · intro _; exact (by simp : (some ([] : Bytes)) ≠ none)
    · intro h; exact absurd h (by simp [ps0Of, ovOf])
    · intro h; exact absurd h (by simp [ps0Of, ovOf])

end setters

/-! ### kept statements: alternative statements of the same result that nothing calls

`set_conforms_of_sim'` takes `StepSim'` for the seven overrides as its hypothesis (no theorem supplies it: `SimDefs2.lean`)
and derives `Reenter` through `Reenter.of_sim`; `set_conforms_of_sim` takes the unsatisfiable `StepSim`. The chain is
`SimFinal.set_conforms`, with `Reenter I` from `SimFinal.reenter`. -/

/-- re-entry conforms as soon as the one-iteration simulation holds under the seven overrides -/
theorem Reenter.of_sim {I : Idna} (hS : ∀ s : Setter, StepSimG XIY (RRes' false) I (some (stateMap (ovOf s)))) :
    Reenter I :=
  fun s v ui us hp hg ht =>
    (basicParser_sim_gen I (some (ovOf s)) (hS s) v none (some ui) none (some us) trivial rfl hp .none
      (ovOf_init s ui hg).1 (ovOf_init s ui hg).2 ht).url

section
set_option linter.unusedVariables false

/-- C05: every setter conforms, modulo the per-state lemmas `StepSim'` (for the state
    override the setter uses) and the boundary of finding F3; `HostFrame I` is not used -/
theorem set_conforms_of_sim' (I : Idna) (hF : HostFrame I)
    (hS : ∀ s : Setter, StepSim' I (some (stateMap (ovOf s))))
    (s : Setter) (ui : Url) (us : Spec.SUrl) (hu : RUrl ui us) (v : Bytes) (ht : TabNlOk v) :
    RUrl (setU {} I s ui v).url (Spec.set (specIdna I) (mapSetter s) us (goRunes v)) :=
  set_conforms_of_sim_gen I (Reenter.of_sim fun s => StepSim'.toG (hS s)) s ui us hu v ht

end

/-- Vacuous: `StepSim I` is unsatisfiable (`StepSim_false`). A satisfiable variant with the relation `RRes` of
    `SimDefs.lean` would not do either, because `RRes` does not relate the urls of two failing runs (the setters keep
    the url as modified so far) and maps Go's `return nil, nil` to `False`; see `set_conforms_of_sim'`. -/
theorem set_conforms_of_sim (I : Idna) (hS : StepSim I) (s : Setter) (ui : Url) (us : Spec.SUrl) (_hu : RUrl ui us)
    (v : Bytes) (_ht : TabNlOk v) :
    RUrl (setU {} I s ui v).url (Spec.set (specIdna I) (mapSetter s) us (goRunes v)) :=
  (StepSim_false I hS).elim

end WhatwgUrl.Proofs.Sim
