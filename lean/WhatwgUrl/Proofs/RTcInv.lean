import WhatwgUrl.Proofs.RoundTrip
import WhatwgUrl.Proofs.OpaqueSlash
import WhatwgUrl.Props.C04c
/-
  C03c: which clauses of the round-trip side condition `RTc` (`Proofs/RoundTrip.lean`) are NOT
  consequences of the structural invariant `WFs` (C04b) and the character-set invariant `WFc` (C04c).

  `RTx u` is their conjunction (decidable):
    1. `port = none → decodedPort = 0`                                        (the cache of the port is in sync)
    2. `scheme = "file" → host ≠ "localhost"`                                 (the file host state maps it to the empty host)
    3. list path, `file`: a drive letter in front is normalised               (the path state normalises `C|` to `C:`)
    4. opaque path: no `?`, no `#`                                            (`WFc` only says "printable")
    5. list path without a host is not empty                                  (`sc:` re-parses as an opaque path)
    6. opaque path without query and fragment does not end in a space         (the prologue strips it)
    7. opaque path does not start with `/`                                    (`NoSl` of `Proofs/OpaqueSlash.lean`, C19b)
  Everything else of `RTc` follows from `WFs ∧ WFc`: the byte classes of fragment / query / user name / password / path
  segments / host, "no dot segments", and — for the host — the bracket automaton `hostScan` (an IPv6 literal is
  `[` hex-or-colon `]`, every other host has neither `:` nor brackets) and "not a drive letter" (`:` and `|` are forbidden
  host code points).
-/
namespace WhatwgUrl.Proofs.RTcInv
open WhatwgUrl WhatwgUrl.Impl WhatwgUrl.Proofs.IPv4 WhatwgUrl.Proofs.RoundTrip
open WhatwgUrl.Props.C04b (WFs)
open WhatwgUrl.Props.C04c (WFc WFcC okIn printable hostCharsOk hostByteOk isV6Literal isV6Byte pathOk queryOk fragOk hostOk)
open WhatwgUrl.Proofs.OpaqueSlash (NoSl)
open WhatwgUrl.Proofs.HostWF (Same)

/-- a drive letter at the head of the list is normalised -/
def DriveOk (p : Path) : Prop :=
  ∀ s ∈ p.segs.head?, isWindowsDriveLetter s = true → isNormalizedWindowsDriveLetter s = true
instance (p : Path) : Decidable (DriveOk p) := by unfold DriveOk; infer_instance

/-- no `?` and no `#` -/
def noQH (s : Bytes) : Bool := s.all fun b => b != 0x3f && b != 0x23

/-- clauses 1–4: they hold at every loop top -/
def Xu (u : Url) : Prop :=
  (u.port = none → u.decodedPort = 0) ∧
  (u.scheme = lit "file" → u.host ≠ some (lit "localhost")) ∧
  (u.path.opq = false → u.scheme = lit "file" → DriveOk u.path) ∧
  (u.path.opq = true → u.path.segs.all noQH = true)
instance (u : Url) : Decidable (Xu u) := by unfold Xu; infer_instance

/-- clause 5 -/
def Xe (u : Url) : Prop := u.path.opq = false → u.host = none → u.path.segs ≠ []
instance (u : Url) : Decidable (Xe u) := by unfold Xe; infer_instance

/-- clause 6 -/
def Xt (u : Url) : Prop :=
  u.path.opq = true → u.query = none → u.fragment = none → ∀ p ∈ u.path.segs, p.getLast? ≠ some 0x20
instance (u : Url) : Decidable (Xt u) := by unfold Xt; infer_instance

instance (u : Url) : Decidable (NoSl u) := by unfold NoSl; infer_instance

/-- the seven clauses; under `WFs ∧ WFc` they say `RTc` (`RTc_iff_RTx`) -/
def RTx (u : Url) : Prop := Xu u ∧ Xe u ∧ Xt u ∧ NoSl u
instance (u : Url) : Decidable (RTx u) := by unfold RTx; infer_instance

theorem okIn_has (tr : PSet) (s : Bytes) (h : okIn tr s = true) : ∀ b ∈ s, tr.has b.toNat = false := by
  intro b hb
  unfold okIn at h
  rw [List.all_eq_true] at h
  have := h b hb
  simp only [Bool.and_eq_true, Bool.not_eq_true'] at this
  exact this.2

theorem hostByte_sp : ∀ (b : UInt8) (sp : Bool), hostByteOk sp b = true →
    hostB sp b = true ∧ b ≠ 0x3a ∧ b ≠ 0x5b ∧ b ≠ 0x5d ∧ b ≠ 0x7c := by
  apply forall_uint8
  decide +kernel

theorem v6Byte_sp : ∀ (b : UInt8) (sp : Bool), isV6Byte b = true → hostB sp b = true ∧ b ≠ 0x5b ∧ b ≠ 0x5d := by
  apply forall_uint8
  decide +kernel

theorem hostScan_plain (h : Bytes) (hh : ∀ b ∈ h, b ≠ 0x3a ∧ b ≠ 0x5b ∧ b ≠ 0x5d) (fl : Bool) : hostScan h fl = some fl := by
  induction h with
  | nil => rfl
  | cons b t ih =>
    obtain ⟨h1, h2, h3⟩ := hh b (by simp)
    unfold hostScan
    have e1 : (b == 0x3a) = false := by simpa using h1
    have e2 : (b == 0x5b) = false := by simpa using h2
    have e3 : (b == 0x5d) = false := by simpa using h3
    simp only [e1, e2, e3, Bool.false_and, Bool.false_eq_true, if_false]
    exact ih (fun x hx => hh x (by simp [hx]))

theorem hostScan_inside (m tl : Bytes) (hm : ∀ b ∈ m, b ≠ 0x5b ∧ b ≠ 0x5d) : hostScan (m ++ tl) true = hostScan tl true := by
  induction m with
  | nil => rfl
  | cons b t ih =>
    obtain ⟨h2, h3⟩ := hm b (by simp)
    have e2 : (b == 0x5b) = false := by simpa using h2
    have e3 : (b == 0x5d) = false := by simpa using h3
    rw [List.cons_append, hostScan]
    simp only [Bool.not_true, Bool.and_false, Bool.false_eq_true, if_false, e2, e3]
    exact ih (fun x hx => hm x (by simp [hx]))

theorem v6_shape (h : Bytes) (hv : isV6Literal h = true) : ∃ m, h = 0x5b :: (m ++ [0x5d]) ∧ ∀ b ∈ m, isV6Byte b = true := by
  unfold isV6Literal at hv
  simp only [Bool.and_eq_true, beq_iff_eq, decide_eq_true_eq, List.all_eq_true] at hv
  obtain ⟨⟨⟨h1, h2⟩, h3⟩, h4⟩ := hv
  match h, h1, h2, h3, h4 with
  | x :: t, h1, h2, h3, h4 =>
    simp only [List.head?_cons, Option.some.injEq] at h1
    simp only [List.drop_succ_cons, List.drop_zero] at h4
    have hne : t ≠ [] := by intro e; subst e; simp at h3
    have hl : t.getLast? = some 0x5d := by
      rw [List.getLast?_cons] at h2
      cases ht : t.getLast? with
      | none => rw [List.getLast?_eq_none_iff] at ht; exact absurd ht hne
      | some y => rw [ht] at h2; simpa using h2
    refine ⟨t.dropLast, ?_, h4⟩
    rw [h1, dropLast_append_of_getLast? hl]

theorem host_of_chars (sp : Bool) (h : Bytes) (hc : hostCharsOk sp h = true) :
    (∀ b ∈ h, hostB sp b = true) ∧ hostScan h false = some false ∧ (sp = true → isWindowsDriveLetter h = false) := by
  unfold hostCharsOk at hc
  rcases Bool.or_eq_true_iff.mp hc with hv | ha
  · obtain ⟨m, rfl, hm⟩ := v6_shape h hv
    refine ⟨?_, ?_, ?_⟩
    · intro b hb
      simp only [List.mem_cons, List.mem_append, List.not_mem_nil, or_false] at hb
      rcases hb with rfl | hb | rfl
      · cases sp <;> decide
      · exact (v6Byte_sp b sp (hm b hb)).1
      · cases sp <;> decide
    · rw [hostScan]
      simp only [show ((0x5b : UInt8) == 0x3a) = false by decide, Bool.false_and, Bool.false_eq_true, if_false,
        show ((0x5b : UInt8) == 0x5b) = true by decide, if_true]
      rw [hostScan_inside m _ (fun b hb => (v6Byte_sp b sp (hm b hb)).2)]
      decide
    · intro _
      unfold isWindowsDriveLetter
      split
      · rename_i a b heq
        have : a = 0x5b := by
          have := congrArg List.head? heq
          simpa using this.symm
        subst this
        simp
        intro h; exact absurd h (by decide)
      · rfl
  · rw [List.all_eq_true] at ha
    refine ⟨fun b hb => (hostByte_sp b sp (ha b hb)).1, ?_, ?_⟩
    · exact hostScan_plain h (fun b hb => ⟨(hostByte_sp b sp (ha b hb)).2.1, (hostByte_sp b sp (ha b hb)).2.2.1,
        (hostByte_sp b sp (ha b hb)).2.2.2.1⟩) false
    · intro _
      cases hd : isWindowsDriveLetter h with
      | false => rfl
      | true =>
        obtain ⟨a, b, rfl, _, hb⟩ := WhatwgUrl.Props.C04c.drive_shape h hd
        have := hostByte_sp b sp (ha b (by simp))
        rcases hb with rfl | rfl
        · exact absurd rfl this.2.1
        · exact absurd rfl this.2.2.2.2

theorem segByte_segB (sp : Bool) (b : UInt8) (h : WhatwgUrl.Props.C04c.segByteOk sp b = true) : segB sp b = true := by
  cases sp <;>
    simp only [WhatwgUrl.Props.C04c.segByteOk, segB, Bool.and_eq_true, Bool.not_eq_true', bne_iff_ne, ne_eq, Bool.not_false,
      Bool.true_or, Bool.not_true, Bool.false_or, Bool.false_and, Bool.true_and, and_true, beq_eq_false_iff_ne] at h ⊢
  · exact ⟨h.1.2, h.2⟩
  · exact ⟨⟨h.1.1.2, h.1.2⟩, h.2⟩

theorem segOk_of_c (sp : Bool) (s : Bytes) (h : WhatwgUrl.Props.C04c.segOk sp s = true) : segOk sp s = true := by
  simp only [WhatwgUrl.Props.C04c.segOk, segOk, Bool.and_eq_true, List.all_eq_true] at h ⊢
  exact ⟨⟨fun b hb => segByte_segB sp b (h.1.1 b hb), h.1.2⟩, h.2⟩

theorem opq_byte : ∀ b : UInt8, (printable b && !c0Set.has b.toNat) = true → (b != 0x3f && b != 0x23) = true → opqB b = true :=
  forall_uint8 (by decide +kernel)

theorem opqB_noQH : ∀ b : UInt8, opqB b = true → (b != 0x3f && b != 0x23) = true := forall_uint8 (by decide +kernel)

/-! ### `RTc` is `RTx` modulo `WFs ∧ WFc` -/

theorem RTc_of_WFc (u : Url) (hs : WFs {} u) (hc : WFc u) (hx : RTx u) : RTc u := by
  obtain ⟨c1, c2, c3, c4, c5, c6⟩ := hc
  obtain ⟨⟨x1, x2, x3, x4⟩, x5, x6, x7⟩ := hx
  refine ⟨x1, ?_, ?_, ?_, ?_, okIn_has _ _ c1, okIn_has _ _ c2, ?_⟩
  · intro f hf
    rw [Option.mem_def] at hf
    rw [hf] at c6
    exact okIn_has _ _ c6
  · intro q hq
    rw [Option.mem_def] at hq
    rw [hq] at c5
    unfold queryOk at c5
    dsimp only at c5
    unfold qset
    exact okIn_has _ _ c5
  · intro ho p hp
    unfold pathOk at c4
    rw [if_pos ho, List.all_eq_true] at c4
    have h4 := x4 ho
    rw [List.all_eq_true] at h4
    refine ⟨?_, ?_, fun hq hf => x6 ho hq hf p hp⟩
    · intro b hb
      have a1 := c4 p hp
      have a2 := h4 p hp
      unfold okIn at a1
      unfold noQH at a2
      rw [List.all_eq_true] at a1 a2
      exact opq_byte b (a1 b hb) (a2 b hb)
    · obtain ⟨s, hs1⟩ := WhatwgUrl.Props.C04b.WFs_opaque_single hs ho
      rw [hs1] at hp
      simp only [List.mem_singleton] at hp
      subst hp
      exact x7 ho p (by rw [hs1]; rfl)
  · intro ho
    unfold pathOk at c4
    rw [if_neg (by simp [ho]), List.all_eq_true] at c4
    exact ⟨fun s hs' => segOk_of_c _ s (c4 s hs'), x5 ho, fun hf => x3 ho hf⟩
  · intro h hh
    rw [Option.mem_def] at hh
    rw [hh] at c3
    have := host_of_chars _ h c3
    refine ⟨this.1, this.2.1, fun hf => ⟨?_, ?_⟩⟩
    · intro e; subst e; exact x2 hf hh
    · apply this.2.2
      rw [hf]; decide

/-- conversely `RTc` contains `RTx` (used for the base url of a resolve) -/
theorem RTx_of_RTc (u : Url) (hc : RTc u) : RTx u := by
  obtain ⟨r1, r2, r3, r4, r5, r6, r7, r8⟩ := hc
  refine ⟨⟨r1, ?_, ?_, ?_⟩, ?_, ?_, ?_⟩
  · intro hf hh
    exact (r8 _ (by rw [Option.mem_def]; exact hh)).2.2 hf |>.1 rfl
  · intro ho hf
    exact (r5 ho).2.2 hf
  · intro ho
    rw [List.all_eq_true]
    intro p hp
    unfold noQH
    rw [List.all_eq_true]
    intro b hb
    exact opqB_noQH b ((r4 ho p hp).1 b hb)
  · intro ho; exact (r5 ho).2.1
  · intro ho hq hf p hp; exact (r4 ho p hp).2.2 hq hf
  · intro ho s hs'
    exact (r4 ho s (List.mem_of_mem_head? hs')).2.1

theorem RTc_iff_RTx (u : Url) (hs : WFs {} u) (hc : WFc u) : RTc u ↔ RTx u :=
  ⟨RTx_of_RTc u, RTc_of_WFc u hs hc⟩

/-! ### record updates that keep `RTx` -/

theorem X_same {u u' : Url} (hs : Same u u') : (Xu u' ↔ Xu u) ∧ (Xe u' ↔ Xe u) ∧ (Xt u' ↔ Xt u) ∧ (NoSl u' ↔ NoSl u) := by
  obtain ⟨h1, h2, h3, h4, h5, h6, h7, h8, h9⟩ := hs
  unfold Xu Xe Xt NoSl
  rw [h1, h4, h5, h6, h7, h8, h9]
  exact ⟨.rfl, .rfl, .rfl, .rfl⟩

theorem RTx_same {u u' : Url} (hs : Same u u') : RTx u' ↔ RTx u := by
  unfold RTx
  rw [(X_same hs).1, (X_same hs).2.1, (X_same hs).2.2.1, (X_same hs).2.2.2]

theorem Xu_same {u u' : Url} (hs : Same u u') (h : Xu u) : Xu u' := (X_same hs).1.mpr h
theorem Xe_same {u u' : Url} (hs : Same u u') (h : Xe u) : Xe u' := (X_same hs).2.1.mpr h
theorem Xt_same {u u' : Url} (hs : Same u u') (h : Xt u) : Xt u' := (X_same hs).2.2.1.mpr h

theorem RTx_clearPort (u : Url) (h : RTx u) : RTx { u with port := none, decodedPort := 0 } := by
  obtain ⟨⟨x1, x2, x3, x4⟩, x5, x6, x7⟩ := h
  unfold RTx Xu Xe Xt NoSl
  dsimp only
  exact ⟨⟨fun _ => rfl, x2, x3, x4⟩, x5, x6, x7⟩

theorem trimRight_last (x : UInt8) (s : Bytes) : (trimRightByte x s).getLast? ≠ some x := by
  unfold trimRightByte
  rw [List.getLast?_reverse]
  intro h
  have := List.head?_dropWhile_not (fun y => y == x) s.reverse
  rw [h] at this
  simp at this

theorem trimRight_fix (x : UInt8) (s : Bytes) (h : s.getLast? ≠ some x) : trimRightByte x s = s := by
  unfold trimRightByte
  cases hr : s.reverse with
  | nil => simp at hr; subst hr; rfl
  | cons y r =>
    have hl : s.getLast? = some y := by rw [← List.head?_reverse, hr]; rfl
    have hy : (y == x) = false := by
      rw [hl] at h
      simpa using fun e => h (by rw [e])
    simp only [List.dropWhile_cons, hy, Bool.false_eq_true, if_false]
    rw [← hr, List.reverse_reverse]

theorem noQH_trimRight (x : UInt8) (s : Bytes) (h : noQH s = true) : noQH (trimRightByte x s) = true := by
  unfold noQH trimRightByte at *
  rw [List.all_eq_true] at h ⊢
  intro b hb
  apply h
  rw [List.mem_reverse] at hb
  have := (List.dropWhile_sublist (fun y => y == x) (l := s.reverse)).subset hb
  simpa using this

/-- `stripTrailingSpacesIfOpaque`: whatever query and fragment become -/
theorem RTx_strip (u : Url) (p : Path) (hw : u.path.opq = true → u.path.segs.length = 1) (h : RTx u)
    (hp : stripTrailingSpacesIfOpaque u.path = some p) (q f : Option Bytes) :
    RTx { u with query := q, fragment := f, path := p } := by
  obtain ⟨⟨x1, x2, x3, x4⟩, x5, x6, x7⟩ := h
  rcases (Setters.strip_eq_some_iff u.path p).mp hp with ⟨ho, rfl⟩ | ⟨ho, s0, rest, hs, rfl⟩
  · unfold RTx Xu Xe Xt NoSl
    dsimp only
    refine ⟨⟨x1, x2, x3, ?_⟩, x5, ?_, ?_⟩
    · intro h; rw [ho] at h; cases h
    · intro h; rw [ho] at h; cases h
    · intro h; rw [ho] at h; cases h
  · have hrest : rest = [] := by
      have := hw ho
      rw [hs] at this
      simpa using this
    subst hrest
    unfold RTx Xu Xe Xt NoSl
    dsimp only
    refine ⟨⟨x1, x2, ?_, ?_⟩, ?_, ?_, ?_⟩
    · intro hf; cases hf
    · intro _
      have := x4 ho
      rw [hs] at this
      simp only [List.all_cons, List.all_nil, Bool.and_true] at this ⊢
      exact noQH_trimRight _ _ this
    · intro hf; cases hf
    · intro _ _ _ q' hq'
      simp only [List.mem_singleton] at hq'
      subst hq'
      exact trimRight_last _ _
    · exact WhatwgUrl.Proofs.OpaqueSlash.strip_NoSl u _ x7 hp
        { u with query := q, fragment := f, path := ⟨[trimRightByte 0x20 s0], true⟩ } rfl

theorem RTx_clearFragment (u : Url) (h : RTx u) (hq : u.query ≠ none) : RTx { u with fragment := none } := by
  obtain ⟨⟨x1, x2, x3, x4⟩, x5, x6, x7⟩ := h
  unfold RTx Xu Xe Xt NoSl
  dsimp only
  exact ⟨⟨x1, x2, x3, x4⟩, x5, fun _ hq' => absurd hq' hq, x7⟩

theorem RTx_clearQuery (u : Url) (h : RTx u) (hq : u.fragment ≠ none) : RTx { u with query := none } := by
  obtain ⟨⟨x1, x2, x3, x4⟩, x5, x6, x7⟩ := h
  unfold RTx Xu Xe Xt NoSl
  dsimp only
  exact ⟨⟨x1, x2, x3, x4⟩, x5, fun _ _ hf' => absurd hf' hq, x7⟩

theorem strip_some (p : Path) (hw : p.opq = true → p.segs.length = 1) : ∃ q, stripTrailingSpacesIfOpaque p = some q := by
  unfold stripTrailingSpacesIfOpaque
  split
  · rename_i ho
    have := hw ho
    split
    · exact ⟨_, rfl⟩
    · rename_i hs; rw [hs] at this; cases this
  · exact ⟨_, rfl⟩

/-! ### `RTx` does not follow from `WFs ∧ WFc`: seven records that satisfy both invariants and not `RTx`
    (the i-th is chosen to break clause i and no other; the examples state `¬ RTx` only) -/

example : WFs {} { scheme := lit "sc", host := some (lit "h"), decodedPort := 5 } ∧ WFc { scheme := lit "sc", host := some (lit "h"), decodedPort := 5 } ∧
    ¬ RTx { scheme := lit "sc", host := some (lit "h"), decodedPort := 5 } := by decide +kernel
example : WFs {} { scheme := lit "file", host := some (lit "localhost"), path := ⟨[[]], false⟩ } ∧
    WFc { scheme := lit "file", host := some (lit "localhost"), path := ⟨[[]], false⟩ } ∧
    ¬ RTx { scheme := lit "file", host := some (lit "localhost"), path := ⟨[[]], false⟩ } := by decide +kernel
example : WFs {} { scheme := lit "file", host := some [], path := ⟨[lit "C|"], false⟩ } ∧
    WFc { scheme := lit "file", host := some [], path := ⟨[lit "C|"], false⟩ } ∧
    ¬ RTx { scheme := lit "file", host := some [], path := ⟨[lit "C|"], false⟩ } := by decide +kernel
example : WFs {} { scheme := lit "sc", path := ⟨[lit "a?b"], true⟩ } ∧ WFc { scheme := lit "sc", path := ⟨[lit "a?b"], true⟩ } ∧
    ¬ RTx { scheme := lit "sc", path := ⟨[lit "a?b"], true⟩ } := by decide +kernel
example : WFs {} { scheme := lit "sc" } ∧ WFc { scheme := lit "sc" } ∧ ¬ RTx { scheme := lit "sc" } := by decide +kernel
example : WFs {} { scheme := lit "sc", path := ⟨[lit "a "], true⟩ } ∧ WFc { scheme := lit "sc", path := ⟨[lit "a "], true⟩ } ∧
    ¬ RTx { scheme := lit "sc", path := ⟨[lit "a "], true⟩ } := by decide +kernel
example : WFs {} { scheme := lit "sc", path := ⟨[lit "/a"], true⟩ } ∧ WFc { scheme := lit "sc", path := ⟨[lit "/a"], true⟩ } ∧
    ¬ RTx { scheme := lit "sc", path := ⟨[lit "/a"], true⟩ } := by decide +kernel
/-- … and a record that satisfies all three -/
example : WFs {} { scheme := lit "file", host := some [], path := ⟨[lit "C:", lit "x"], false⟩, fragment := some (lit "f") } ∧
    WFc { scheme := lit "file", host := some [], path := ⟨[lit "C:", lit "x"], false⟩, fragment := some (lit "f") } ∧
    RTx { scheme := lit "file", host := some [], path := ⟨[lit "C:", lit "x"], false⟩, fragment := some (lit "f") } := by decide +kernel

end WhatwgUrl.Proofs.RTcInv
