import WhatwgUrl.Proofs.SimLoop
import WhatwgUrl.Proofs.SimObs
import WhatwgUrl.Proofs.SimPrologue
import WhatwgUrl.Proofs.SimInv
import WhatwgUrl.Proofs.SimYB
import WhatwgUrl.Proofs.Run
/-
  Conformance simulation: assembly of the parse theorems (C01). `basicParser_sim_gen` puts the one-iteration simulation,
  the loop lifting (`SimLoop.lean`), the prologue lemma (`SimPrologue.lean`) and termination together, with the carried
  invariant `XIY` and the result relation `RRes'`; `SimFinal.lean` supplies the one-iteration simulation through
  `stepSimG_of_inv` (`basicParser_conforms`). From the record-level statement for a parse without override the API-level
  statements follow (`api_conforms_of_parse`), and the observable form by the observation transport (`SimObs.lean`,
  `obs_of_RApi`). The last section keeps alternative statements of the same result that nothing calls.
-/
namespace WhatwgUrl.Proofs.Sim
open WhatwgUrl WhatwgUrl.Impl

/-- the source text the machine runs on -/
def srcOf (input : Bytes) (fresh : Bool) : Bytes :=
  (removeTabNl (if fresh then (trim c0OrSpaceSet input).1 else input)).1

/-- the environment `basicParser {}` builds -/
def envOf (I : Idna) (input : Bytes) (base : Option Url) (fresh : Bool) (ov : Option State) : Env :=
  { cfg := {}, I := I, src := srcOf input fresh, runes := goRunes (srcOf input fresh), base := base, ov := ov }

/-- the initial machine state `basicParser` builds -/
def ps0Of (url : Option Url) (ov : Option State) : PS :=
  { state := ov.getD .schemeStart, pointer := -1, eof := false, buffer := [], atFlag := false, bracketFlag := false,
    pwSeen := false, url := url.getD {} }

/-- `envOf` / `ps0Of` are `Machine.loopEnv {}` / `Spelling.ps0`, written out -/
theorem envOf_eq (I : Idna) (input : Bytes) (base url : Option Url) (ov : Option State) :
    envOf I input base url.isNone ov = Machine.loopEnv {} I input base url ov := rfl
theorem ps0Of_eq (url : Option Url) (ov : Option State) : ps0Of url ov = Spelling.ps0 (ov.getD .schemeStart) (url.getD {}) := rfl

/-- the initial state of `Spec.basicParse` -/
def ss0Of (surl : Option Spec.SUrl) (ov : Option Spec.St) : Spec.PS :=
  { state := ov.getD .schemeStart, url := surl.getD {} }

/-- the code point list the standard's machine runs on -/
def sinputOf (input : Str) (fresh : Bool) : Str :=
  (if fresh then (((input.dropWhile Spec.isC0OrSpace).reverse.dropWhile Spec.isC0OrSpace).reverse) else input).filter
    (!Spec.isTabOrNewline ·)

/-- `Spec.basicParse` is its machine on the prepared input; the fuel is the Go model's `Impl.fuelFor` of that input, copied
    (it bounds the measure of `Termination.loop_terminates`: state rank times positions) -/
theorem basicParse_eq (I : Spec.SIdna) (input : Str) (base surl : Option Spec.SUrl) (ov : Option Spec.St) :
    Spec.basicParse I input base surl ov =
      Spec.machine I (sinputOf input surl.isNone) base ov (24 * ((sinputOf input surl.isNone).length + 2)) (ss0Of surl ov) := rfl

/-- the condition on bases: a special scheme excludes an opaque path (a clause of `WFs`) -/
def BaseOk? (base : Option Url) : Prop := ∀ b, base = some b → BaseOk {} b

theorem BaseOk?.none : BaseOk? none := fun _ h => by cases h

/-- `RStep'` together with a fact about the state the Go side continues in is `RStepG` -/
theorem RStep'.toG {X : PS → Spec.PS → Prop} {noOv : Bool} {a : StepR} {b : SStep} (h : RStep' noOv a b)
    (hx : ∀ pi', a = .cont pi' → ∀ ss', X pi' ss') : RStepG X (RRes' noOv) a b := by
  cases a <;> cases b <;> first | exact h | exact ⟨h, hx _ rfl _⟩

/-- the invariant carried along the loop: the base is well-formed, `XInv` (`SimDefs2.lean`) and `YInv` (`SimYB.lean`: the
    port buffer holds ASCII digits) hold. All three are Go-side facts. -/
def XIY : Env → PS → Spec.PS → Prop := fun e pi _ => EnvOk e ∧ XInv e pi ∧ YInv e pi

/-- one-iteration statements under the three invariants give the general one-iteration simulation: the invariants are
    re-established centrally (`XInv_step`, `YInv_step`) -/
theorem stepSimG_of_inv {I : Idna} {ov : Option Spec.St}
    (h : ∀ (e : Env) (input : Str) (base : Option Spec.SUrl), REnv e input base ov I → EnvOk e →
      ∀ (pi : PS) (ss : Spec.PS), RPS pi ss → XInv e pi → YInv e pi →
        RStep' ov.isNone (step e pi) (afterRun input (Spec.run (specIdna I) input base ov ss))) :
    StepSimG XIY (RRes' ov.isNone) I ov :=
  fun e input base hEnv pi ss hp ⟨hEo, hx, hy⟩ =>
    (h e input base hEnv hEo pi ss hp hx hy).toG fun pi' hgo _ =>
      ⟨hEo, XInv_step e hEnv.file hEo pi pi' hp.eof hx hgo, YInv_step e pi pi' hp.eof hy hgo⟩

/-- Assembly: the prologue lemma, the loop lifting `loop_sim_gen` with the invariant `XIY` and termination, for any url
    (fresh or given) and any state override. The correspondence of the two initial states is a hypothesis (it is `RPS_init`
    except under a query / fragment override); `hbok`, `hrel`, `hopq` are what `XInv_init` asks of them (the buffer is
    empty, so `YInv` holds). -/
theorem basicParser_sim_gen (I : Idna) (ov : Option State)
    (hS : StepSimG XIY (RRes' ov.isNone) I (ov.map stateMap)) (input : Bytes) (base url : Option Url)
    (sbase surl : Option Spec.SUrl)
    (hb : match base, sbase with | none, none => True | some bi, some bs => RUrl bi bs | _, _ => False)
    (hn : url.isNone = surl.isNone)
    (hp : RPS (ps0Of url ov) (ss0Of surl (ov.map stateMap)))
    (hbok : BaseOk? base) (hrel : relSt (ov.getD .schemeStart) = false)
    (hopq : (url.getD {}).path.opq = true →
      opqSt (ov.getD .schemeStart) = true ∨ (ov.isSome = true ∧ ovOpqSt (ov.getD .schemeStart) = true))
    (ht : TabNlOk (if url.isNone then (trim c0OrSpaceSet input).1 else input)) :
    RRes' ov.isNone (basicParser {} I input base url ov)
       (Spec.basicParse (specIdna I) (goRunes input) sbase surl (ov.map stateMap)) := by
  rw [Run.basicParser_mute Run.Mute.default, basicParse_eq, ← envOf_eq, ← ps0Of_eq]
  have hpro : goRunes (srcOf input url.isNone) = sinputOf (goRunes input) surl.isNone := by
    rw [← hn]; exact prologue_sim input url.isNone ht
  have hE : REnv (envOf I input base url.isNone ov) (sinputOf (goRunes input) surl.isNone) sbase (ov.map stateMap) I :=
    ⟨rfl, rfl, hpro, hpro, hb, rfl⟩
  have hfuel := Termination.loop_terminates (envOf I input base url.isNone ov) (ov.getD .schemeStart) (url.getD {})
  have hf : fuelFor (goRunes (srcOf input url.isNone)) = 24 * ((sinputOf (goRunes input) surl.isNone).length + 2) := by
    rw [hpro]; rfl
  rw [← hf]
  exact loop_sim_gen XIY _ I _ hS _ _ sbase hE _ _ _ _ hp ⟨hbok, XInv_init _ _ _ hrel hopq, YInv_init _ _ _⟩ hfuel
    (Nat.le_refl _)

/-- a Go result against an API-level result of the standard (`none` = failure) -/
def RApi (r : Res) (o : Option Spec.SUrl) : Prop :=
  match r.ret, o with
  | .url, some us => RUrl r.url us
  | .err _ _, none => True
  | _, _ => False

theorem RApi_of_RRes' {r : Res} {s : Spec.SUrl × Bool} (h : RRes' true r s) : RApi r (if s.2 then none else some s.1) := by
  unfold RRes' at h
  unfold RApi
  cases hr : r.ret with
  | url => rw [hr] at h; simp only [h.1, Bool.false_eq_true, if_false]; exact h.2
  | err e w => rw [hr] at h; simp [h.1 rfl]
  | nilNil => rw [hr] at h; exact absurd h.1 (by decide)
  | panic n => rw [hr] at h; exact h.elim
  | outOfFuel => rw [hr] at h; exact h.elim

/-- corresponding API results are observed equal: failure on both sides, or the same serialization and getters -/
theorem obs_of_RApi {r : Res} {o : Option Spec.SUrl} (h : RApi r o) : Props.C01.obsImpl r = Props.C01.obsSpec o := by
  unfold RApi at h
  unfold Props.C01.obsImpl Props.C01.obsSpec
  cases hr : r.ret with
  | url =>
    rw [hr] at h
    cases o with
    | none => exact h.elim
    | some us =>
      simp only [Option.map_some, Option.some.injEq]
      rw [h.obs_href, h.obs_protocol, h.obs_username, h.obs_password, h.obs_host, h.obs_hostname, h.obs_port,
        h.obs_pathname, h.obs_search, h.obs_hash]
  | err e w =>
    rw [hr] at h
    cases o with
    | none => rfl
    | some us => exact h.elim
  | nilNil => rw [hr] at h; cases o <;> exact h.elim
  | panic n => rw [hr] at h; cases o <;> exact h.elim
  | outOfFuel => rw [hr] at h; cases o <;> exact h.elim

/-- With a state override, in the file host state with an empty buffer at EOF, the Go code returns `nil, nil`, which
    `RRes` maps to `False` (the standard returns the url). Reachable: `SetHost("")` on a `file:` url. -/
theorem StepSim_false (I : Idna) : ¬ StepSim I := by
  intro h
  exact h (envOf I [] none false (some .host)) [] none (some .host) ⟨rfl, rfl, rfl, rfl, trivial, rfl⟩
    (ps0Of none (some .fileHost)) (ss0Of none (some .fileHost))
    (RPS_init .fileHost {} {} RUrl_empty (by decide) (by decide) (by decide))

/-- Even without a state override the per-state lemmas are false as stated: `RPS` / `REnv` do not exclude the relative
    state without a base (unreachable), where the Go code dereferences nil (`.panic 11`) and the standard fails. -/
theorem StepSimFor_none_false (I : Idna) : ¬ StepSimFor I none := by
  intro h
  exact h (envOf I [] none true none) [] none ⟨rfl, rfl, rfl, rfl, trivial, rfl⟩
    (ps0Of none (some .relative)) (ss0Of none (some .relative))
    (RPS_init .relative {} {} RUrl_empty (by decide) (by decide) (by decide))

/-- every statement with `StepSim I` as hypothesis is therefore vacuous; the satisfiable forms are
    `parse_conforms_of_sim'`, `parseRef_conforms_of_sim'`, `C01_parse_conforms_of_sim'`, `set_conforms_of_sim'` -/
theorem StepSim_vacuous (I : Idna) (hS : StepSim I) (P : Prop) : P := (StepSim_false I hS).elim

/-! ### from the record level to the API level

`hP`: the basic parser without override conforms at record level (`RRes' true`) for every base that satisfies `BOk`
(`SimFinal.parse_conforms` with `BOk := BaseOk?`). -/

theorem RPS_init_parse : RPS (ps0Of none none) (ss0Of none none) :=
  RPS_init .schemeStart {} {} RUrl_empty (by decide) (by decide) (by decide)

section api
variable (BOk : Option Url → Prop) (I : Idna)
  (hP : ∀ (input : Bytes) (base : Option Url) (sbase : Option Spec.SUrl),
    (match base, sbase with | none, none => True | some bi, some bs => RUrl bi bs | _, _ => False) → BOk base →
    TabNlOk (trim c0OrSpaceSet input).1 →
    RRes' true (basicParser {} I input base none none) (Spec.basicParse (specIdna I) (goRunes input) sbase none none))
include hP

/-- `parseRef` (the two-step parse with a base given as a string) against `Spec.apiParse` with a base string.
    For an empty base string the Go `parseRef` means "no base" while `Spec.apiParse … (some [])` parses the empty base
    and fails: hence `b ≠ []`. `hwf`: the parsed base satisfies the condition on bases. -/
theorem parseRef_conforms_of_parse (hnone : BOk none) (b r : Bytes) (hne : b ≠ [])
    (hwf : (parse {} I b).ret = .url → BOk (some (parse {} I b).url))
    (htb : TabNlOk (trim c0OrSpaceSet b).1) (htr : TabNlOk (trim c0OrSpaceSet r).1) :
    RApi (parseRef {} I b r) (Spec.apiParse (specIdna I) (goRunes r) (some (goRunes b))) := by
  have h1 := hP b none none trivial hnone htb
  unfold parseRef Spec.apiParse
  have he : b.isEmpty = false := by cases b <;> simp_all
  simp only [he, Bool.false_eq_true, if_false]
  unfold parse at hwf ⊢
  unfold RRes' at h1
  cases hr : (basicParser {} I b none none none).ret with
  | url =>
    rw [hr] at h1
    simp only [h1.1, Bool.false_eq_true, if_false]
    exact RApi_of_RRes' (hP r (some _) (some _) h1.2 (hwf hr) htr)
  | err e w => rw [hr] at h1; simp only [h1.1 rfl, if_true]; trivial
  | nilNil => rw [hr] at h1; exact absurd h1.1 (by decide)
  | panic n => rw [hr] at h1; exact h1.elim
  | outOfFuel => rw [hr] at h1; exact h1.elim

theorem api_conforms_of_parse (hnone : BOk none) (input : Bytes) (base : Option Bytes) (hne : base ≠ some [])
    (hwf : ∀ b, base = some b → (parse {} I b).ret = .url → BOk (some (parse {} I b).url))
    (ht : TabNlOk (trim c0OrSpaceSet input).1) (htb : ∀ b, base = some b → TabNlOk (trim c0OrSpaceSet b).1) :
    RApi (match (generalizing := false) base with | none => parse {} I input | some b => parseRef {} I b input)
      (Spec.apiParse (specIdna I) (goRunes input) (base.map goRunes)) := by
  cases base with
  | none => exact RApi_of_RRes' (hP input none none trivial hnone ht)
  | some b =>
    exact parseRef_conforms_of_parse BOk I hP hnone b input (fun h => hne (by rw [h])) (hwf b rfl) (htb b rfl) ht

end api

theorem RRes'.url {noOv : Bool} {r : Res} {s : Spec.SUrl × Bool} (h : RRes' noOv r s) : RUrl r.url s.1 := by
  unfold RRes' at h
  split at h
  · exact h.2
  · exact h.2.2
  · exact h.2
  · exact h.elim


/-- why `b ≠ []` is needed: with an empty base string the Go `parseRef` parses without base, the standard's API parse
    of the empty base fails -/
example : Props.C01.obsImpl (parseRef {} (fun s => (s, false)) [] (lit "foo:x")) ≠
    Props.C01.obsSpec (Spec.apiParse (specIdna fun s => (s, false)) (goRunes (lit "foo:x")) (some (goRunes []))) := by
  decide +kernel

/-- non-vacuity of the hypotheses other than the simulation itself: initial states, invariant, `TabNlOk`, base -/
example : RPS (ps0Of none none) (ss0Of none none) := RPS_init_parse
example : TabNlOk (trim c0OrSpaceSet (lit "  http://exa\tmple.org/a b ")).1 := by decide +kernel
example : BaseOk? (some { scheme := lit "http", host := some (lit "h"), path := ⟨[lit "a"], false⟩ }) := by
  intro b hb; cases hb; intro _; rfl
example : BaseOk? (some { scheme := lit "mailto", path := ⟨[lit "x"], true⟩ }) := by
  intro b hb; cases hb; intro h; revert h; decide

/-! ### kept statements: alternative statements of the same result that nothing calls

* primed, from `StepSim' I none` of `SimDefs2.lean` (invariant `XInv`, well-formed base, result relation `RRes'`). No theorem
  of the development supplies `StepSim' I ov`: the port state needs `YInv` as well (`stepSim'_B_all`), and the form that is
  assembled is `StepSimG XIY (RRes' ov.isNone) I ov` (`SimFinal.stepSimG_all`). The hypothesis `HostFrame I` is not used
  either: what the simulation needs of the host parser is inside `HostConforms` (`ShS_afterHost`), and the frame holds for
  every oracle (`parseHost_url`).
* unprimed, from `StepSim I` of `SimLoop.lean` (no invariant, result relation `RRes`): `StepSim I` is unsatisfiable
  (`StepSim_false` above), so these are vacuous.
* the two statements about the default configuration at the end. -/

/-- `StepSim'` is `stepSimG_of_inv`'s hypothesis without `YInv` -/
theorem StepSim'.toG {I : Idna} {ov : Option Spec.St} (h : StepSim' I ov) : StepSimG XIY (RRes' ov.isNone) I ov :=
  stepSimG_of_inv fun e input base hEnv hEo pi ss hp hx _ => h e input base hEnv hEo pi ss hp hx

section primed
-- `hF` is a hypothesis of the four statements of this section that no proof reads
set_option linter.unusedSectionVars false
variable (I : Idna) (hF : HostFrame I) (hS : StepSim' I none)
include hF hS

/-- the results correspond (`RRes'`: also the urls of two failing runs) -/
theorem parse_conforms_of_sim' (input : Bytes) (base : Option Url) (sbase : Option Spec.SUrl)
    (hb : match base, sbase with | none, none => True | some bi, some bs => RUrl bi bs | _, _ => False)
    (hbok : BaseOk? base)
    (ht : TabNlOk (trim c0OrSpaceSet input).1) :
    RRes' true (basicParser {} I input base none none) (Spec.basicParse (specIdna I) (goRunes input) sbase none none) :=
  basicParser_sim_gen I none (StepSim'.toG hS) input base none sbase none hb rfl RPS_init_parse hbok rfl
    (fun h => by cases h) ht

/-- `parseRef` against `Spec.apiParse` with a base string. `hwf` (the parsed base has no opaque path if
    its scheme is special) is a clause of `WFs`, proved for every parse result (`Props.C04b.parse_WFs` of
    `Proofs/WellFormed2.lean`; `SimFinal.parse_baseOk`). -/
theorem parseRef_conforms_of_sim' (b r : Bytes) (hne : b ≠ [])
    (hwf : (parse {} I b).ret = .url → BaseOk {} (parse {} I b).url)
    (htb : TabNlOk (trim c0OrSpaceSet b).1) (htr : TabNlOk (trim c0OrSpaceSet r).1) :
    RApi (parseRef {} I b r) (Spec.apiParse (specIdna I) (goRunes r) (some (goRunes b))) :=
  parseRef_conforms_of_parse BaseOk? I (parse_conforms_of_sim' I hF hS) .none b r hne
    (fun hr b' hb' => by cases hb'; exact hwf hr) htb htr

/-- C01 (`C01_parse_conforms_Statement`) modulo: the per-state lemmas `StepSim' I none`, the boundary of finding F3
    (`TabNlOk`), a non-empty base string, and the well-formedness clause `hwf` of the parsed base (see
    `parseRef_conforms_of_sim'`) -/
theorem C01_parse_conforms_of_sim' (input : Bytes) (base : Option Bytes)
    (hne : base ≠ some [])
    (hwf : ∀ b, base = some b → (parse {} I b).ret = .url → BaseOk {} (parse {} I b).url)
    (ht : TabNlOk (trim c0OrSpaceSet input).1)
    (htb : ∀ b, base = some b → TabNlOk (trim c0OrSpaceSet b).1) :
    Props.C01.obsImpl (match (generalizing := false) base with | none => parse {} I input | some b => parseRef {} I b input) =
    Props.C01.obsSpec (Spec.apiParse (Props.C01.specIdna I) (goRunes input) (base.map goRunes)) :=
  C01_specIdna I ▸ obs_of_RApi (api_conforms_of_parse BaseOk? I (parse_conforms_of_sim' I hF hS) .none input base hne
    (fun b hb hr b' hb' => by cases hb'; exact hwf b hb hr) ht htb)

/-- … for valid UTF-8 (in particular ASCII) input and base no `TabNlOk` hypothesis is left -/
theorem C01_parse_conforms_of_sim_valid' (input : Bytes) (base : Option Bytes)
    (hne : base ≠ some [])
    (hwf : ∀ b, base = some b → (parse {} I b).ret = .url → BaseOk {} (parse {} I b).url)
    (hv : validUtf8 input = true) (hvb : ∀ b, base = some b → validUtf8 b = true) :
    Props.C01.obsImpl (match (generalizing := false) base with | none => parse {} I input | some b => parseRef {} I b input) =
    Props.C01.obsSpec (Spec.apiParse (Props.C01.specIdna I) (goRunes input) (base.map goRunes)) :=
  C01_parse_conforms_of_sim' I hF hS input base hne hwf (TabNlOk_trim_of_valid input hv)
    (fun b hb => TabNlOk_trim_of_valid b (hvb b hb))

end primed

section
-- `StepSim I` is unsatisfiable (`StepSim_false`): the three statements hold vacuously and read no other hypothesis
set_option linter.unusedVariables false

theorem parse_conforms_of_sim (I : Idna) (hS : StepSim I) (input : Bytes) (base : Option Url) (sbase : Option Spec.SUrl)
    (hb : match base, sbase with | none, none => True | some bi, some bs => RUrl bi bs | _, _ => False)
    (ht : TabNlOk (trim c0OrSpaceSet input).1) :
    RRes (basicParser {} I input base none none) (Spec.basicParse (specIdna I) (goRunes input) sbase none none) :=
  (StepSim_false I hS).elim

theorem parseRef_conforms_of_sim (I : Idna) (hS : StepSim I) (b r : Bytes) (hne : b ≠ [])
    (htb : TabNlOk (trim c0OrSpaceSet b).1) (htr : TabNlOk (trim c0OrSpaceSet r).1) :
    RApi (parseRef {} I b r) (Spec.apiParse (specIdna I) (goRunes r) (some (goRunes b))) :=
  (StepSim_false I hS).elim

/-- C01 (`C01_parse_conforms_Statement` of `Props/C01.lean`) modulo the per-state lemmas `StepSim I`, the boundary of
    finding F3 (`TabNlOk` for the input and the base) and a non-empty base string -/
theorem C01_parse_conforms_of_sim (I : Idna) (hS : StepSim I) (input : Bytes) (base : Option Bytes)
    (hne : base ≠ some [])
    (ht : TabNlOk (trim c0OrSpaceSet input).1)
    (htb : ∀ b, base = some b → TabNlOk (trim c0OrSpaceSet b).1) :
    Props.C01.obsImpl (match (generalizing := false) base with | none => parse {} I input | some b => parseRef {} I b input) =
    Props.C01.obsSpec (Spec.apiParse (Props.C01.specIdna I) (goRunes input) (base.map goRunes)) :=
  (StepSim_false I hS).elim

end

/-- the default configuration does not stop at a non-fatal error and records none -/
theorem stops_default_false : stops {} false = false := rfl
theorem record_default (u : Url) (t : ErrT) (f : Bool) : record {} u t f = u := rfl

end WhatwgUrl.Proofs.Sim
