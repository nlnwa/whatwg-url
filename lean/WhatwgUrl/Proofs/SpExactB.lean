import WhatwgUrl.Proofs.SpExact
/-
  C11b: the exact class `RtExact`, the fixed points of the decoder and of `+ → space`, and the `←` direction (C11's round
  trip on ASCII text is an instance).
-/
namespace WhatwgUrl.Proofs.SpExact
open WhatwgUrl WhatwgUrl.Impl
open WhatwgUrl.Proofs.Percent (decodePercent_default)

def noPct : Bytes → Bool
  | [] => true
  | x :: t => !esc (x :: t) && noPct t

def nameByte (x : UInt8) : Bool := x != 0x26 && x != 0x3d && x != 0x2b
def valueByte (x : UInt8) : Bool := x != 0x26 && x != 0x2b

def goodName (n : Bytes) : Bool := validUtf8 n && noPct n && n.all nameByte
def goodValue (v : Bytes) : Bool := validUtf8 v && noPct v && v.all valueByte

/-- the lists that survive serialize-then-parse -/
def RtExact (l : Pairs) : Prop := ∀ p ∈ l, goodName p.1 = true ∧ goodValue p.2 = true

instance (l : Pairs) : Decidable (RtExact l) := by unfold RtExact; infer_instance

open WhatwgUrl.Proofs.Domain (hex2) in
theorem noPct_cons (x : UInt8) (t : Bytes) :
    noPct (x :: t) = true ↔ ¬(x = 0x25 ∧ hex2 t = true) ∧ noPct t = true := by
  have : esc (x :: t) = (x == 0x25 && hex2 t) := by
    match t with
    | [] | [_] => simp [esc, hex2]
    | _ :: _ :: _ => simp [esc, hex2, Bool.and_assoc]
  simp [noPct, this]
  intro _; by_cases hx : x = 0x25 <;> simp [hx]

theorem PD_noPct (s : Bytes) (h : noPct s = true) : PD s = s := by
  induction s with
  | nil => exact Percent.percentDecode_nil
  | cons x t ih =>
    rw [noPct_cons] at h
    exact (Percent.percentDecode_cons_of_not x t h.1).trans (congrArg (x :: ·) (ih h.2))

/-- in this file's spelling: `omega` tells `PD s` from `Spec.percentDecode s` -/
theorem PD_length_le (s : Bytes) : (PD s).length ≤ s.length := Percent.percentDecode_length_le s

/-- a text the decoder leaves at its length holds no complete escape -/
theorem noPct_of_length (s : Bytes) (h : (PD s).length = s.length) : noPct s = true := by
  have hfix : PD s = s := Classical.byContradiction fun hne => by
    have := Percent.percentDecode_shortens s hne; simp only [PD] at h; omega
  clear h
  induction s with
  | nil => rfl
  | cons x t ih =>
    obtain ⟨h1, h2⟩ := Percent.percentDecode_fix_cons x t hfix
    exact (noPct_cons x t).mpr ⟨h2, ih h1⟩

theorem noPct_of_no_pct (s : Bytes) (h : ∀ x ∈ s, x ≠ 0x25) : noPct s = true := by
  induction s with
  | nil => rfl
  | cons x t ih => exact (noPct_cons x t).mpr ⟨fun hh => h x (by simp) hh.1, ih fun y hy => h y (by simp [hy])⟩

theorem R_length (s : Bytes) : (R s).length = s.length := by simp [R, replaceByte]

theorem no_plus_of_R_fix (s : Bytes) (h : R s = s) : ∀ x ∈ s, x ≠ 0x2b := by
  induction s with
  | nil => intro x hx; simp at hx
  | cons y t ih =>
    rw [R_cons] at h
    have h1 := (List.cons.inj h).1
    have h2 := (List.cons.inj h).2
    intro x hx
    rcases List.mem_cons.mp hx with rfl | hx
    · intro e
      rw [e] at h1
      simp at h1
    · exact ih h2 x hx

theorem goodName_iff {n : Bytes} :
    goodName n = true ↔ validUtf8 n = true ∧ noPct n = true ∧ ∀ x ∈ n, x ≠ 0x26 ∧ x ≠ 0x3d ∧ x ≠ 0x2b := by
  simp only [goodName, Bool.and_eq_true, List.all_eq_true, nameByte, bne_iff_ne, ne_eq, and_assoc]

theorem goodValue_iff {n : Bytes} :
    goodValue n = true ↔ validUtf8 n = true ∧ noPct n = true ∧ ∀ x ∈ n, x ≠ 0x26 ∧ x ≠ 0x2b := by
  simp only [goodValue, Bool.and_eq_true, List.all_eq_true, valueByte, bne_iff_ne, ne_eq, and_assoc]

theorem J_good (p : Bytes × Bytes) (h1 : validUtf8 p.1 = true) (h2 : validUtf8 p.2 = true) :
    J p = p.1 ++ 0x3d :: p.2 := by
  unfold J san
  rw [Utf8.utf8_goRunes _ h1, Utf8.utf8_goRunes _ h2]

theorem spInit_J (p : Bytes × Bytes) (h1 : goodName p.1 = true) (h2 : goodValue p.2 = true) :
    spInit Cfg.default (J p) = [p] := by
  obtain ⟨n1, n2, n3⟩ := goodName_iff.1 h1
  obtain ⟨v1, v2, v3⟩ := goodValue_iff.1 h2
  rw [J_good p n1 v1, SkipEquals.spInit_pair _ _ _ n3 v3, decodePercent_default, decodePercent_default]
  exact congrArg ([·]) (Prod.ext (PD_noPct _ n2) (PD_noPct _ v2))

theorem rt_of_exact (l : Pairs) (h : RtExact l) : spInit Cfg.default (spString Cfg.default l) = l := by
  rw [rt_eq, S0, SkipEquals.spInit_join _ J id l (fun p hp => spInit_J p (h p hp).1 (h p hp).2), List.map_id]

end WhatwgUrl.Proofs.SpExact
