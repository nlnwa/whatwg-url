import WhatwgUrl.Proofs.Utf8
/-
  The ASCII classes of `Basic.lean` as intervals (`*_iff`, for `omega`), and ASCII lower-casing as one arithmetic map on the
  number, `lowerN_eq`, whether it is applied to a byte (`lowerB_toNat`) or to a character (`lowerC_toNat`): the rest is
  `omega`, for bytes and characters alike.
-/
namespace WhatwgUrl.Proofs.AsciiCase
open WhatwgUrl

theorem isDigitN_iff {n : Nat} : isDigitN n = true ↔ 0x30 ≤ n ∧ n ≤ 0x39 := by
  simp only [isDigitN, Bool.and_eq_true, decide_eq_true_eq]
theorem isUpperN_iff {n : Nat} : isUpperN n = true ↔ 0x41 ≤ n ∧ n ≤ 0x5A := by
  simp only [isUpperN, Bool.and_eq_true, decide_eq_true_eq]
theorem isLowerN_iff {n : Nat} : isLowerN n = true ↔ 0x61 ≤ n ∧ n ≤ 0x7A := by
  simp only [isLowerN, Bool.and_eq_true, decide_eq_true_eq]
theorem isAlphaN_iff {n : Nat} : isAlphaN n = true ↔ (0x41 ≤ n ∧ n ≤ 0x5A) ∨ (0x61 ≤ n ∧ n ≤ 0x7A) := by
  simp only [isAlphaN, Bool.or_eq_true, isUpperN_iff, isLowerN_iff]
theorem isHexN_iff {n : Nat} :
    isHexN n = true ↔ ((0x30 ≤ n ∧ n ≤ 0x39) ∨ (0x41 ≤ n ∧ n ≤ 0x46)) ∨ (0x61 ≤ n ∧ n ≤ 0x66) := by
  simp only [isHexN, Bool.or_eq_true, Bool.and_eq_true, decide_eq_true_eq, isDigitN_iff]

theorem lowerN_eq (n : Nat) : lowerN n = if 0x41 ≤ n ∧ n ≤ 0x5A then n + 0x20 else n := by
  simp only [lowerN, isUpperN_iff]

theorem isDigitN_lowerN (n : Nat) : isDigitN (lowerN n) = isDigitN n := by
  apply Bool.eq_iff_iff.mpr; rw [lowerN_eq, isDigitN_iff, isDigitN_iff]; split <;> omega

theorem isHexN_lowerN (n : Nat) : isHexN (lowerN n) = isHexN n := by
  apply Bool.eq_iff_iff.mpr; rw [lowerN_eq, isHexN_iff, isHexN_iff]; split <;> omega

theorem hexVal_lowerN (n : Nat) : hexVal (lowerN n) = hexVal n := by
  simp only [hexVal, isDigitN, Bool.and_eq_true, decide_eq_true_eq, lowerN_eq]
  repeat' split
  all_goals omega

theorem lowerN_eq_iff_of_not_alpha {n d : Nat} (hd : isAlphaN d = false) : lowerN n = d ↔ n = d := by
  rw [Bool.eq_false_iff, ne_eq, isAlphaN_iff] at hd
  rw [lowerN_eq]; split <;> omega

theorem lowerB_toNat (x : UInt8) : (lowerB x).toNat = lowerN x.toNat := by
  unfold lowerB lowerN
  split
  · next h => rw [UInt8.toNat_add]; have := isUpperN_iff.mp h; show (x.toNat + 32) % 256 = _; omega
  · rfl

theorem lowerC_toNat (c : Char) : (lowerC c).toNat = lowerN c.toNat := by
  unfold lowerC lowerN
  split
  · next h => have := isUpperN_iff.mp h; exact Utf8.toNat_ofNat_valid _ (Or.inl (by omega))
  · rfl

theorem lowerB_of_not_upper {x : UInt8} (h : ¬(0x41 ≤ x.toNat ∧ x.toNat ≤ 0x5A)) : lowerB x = x := by
  unfold lowerB; rw [if_neg fun hu => h (isUpperN_iff.mp hu)]

theorem lowerB_not_upper (x : UInt8) : ¬(0x41 ≤ (lowerB x).toNat ∧ (lowerB x).toNat ≤ 0x5A) := by
  rw [lowerB_toNat, lowerN_eq]; split <;> omega

theorem lowerC_of_not_upper {c : Char} (h : isUpperN c.toNat = false) : lowerC c = c := by
  unfold lowerC; rw [h]; rfl

theorem lowerB_eq_iff_of_not_alpha {d : UInt8} (hd : isAlphaN d.toNat = false) (x : UInt8) : lowerB x = d ↔ x = d := by
  rw [← UInt8.toNat_inj, ← UInt8.toNat_inj, lowerB_toNat]; exact lowerN_eq_iff_of_not_alpha hd

theorem lowerC_eq_iff_of_not_alpha {d : Char} (hd : isAlphaN d.toNat = false) (c : Char) : lowerC c = d ↔ c = d := by
  rw [← Char.toNat_inj, ← Char.toNat_inj, lowerC_toNat]; exact lowerN_eq_iff_of_not_alpha hd

theorem lowerB_beq_of_not_alpha {d : UInt8} (hd : isAlphaN d.toNat = false) (x : UInt8) : (lowerB x == d) = (x == d) := by
  apply Bool.eq_iff_iff.mpr; rw [beq_iff_eq, beq_iff_eq]; exact lowerB_eq_iff_of_not_alpha hd x

theorem lowerC_beq_of_not_alpha {d : Char} (hd : isAlphaN d.toNat = false) (c : Char) : (lowerC c == d) = (c == d) := by
  apply Bool.eq_iff_iff.mpr; rw [beq_iff_eq, beq_iff_eq]; exact lowerC_eq_iff_of_not_alpha hd c

theorem eq_of_lowerB_eq_of_not_alpha {d : UInt8} (hd : isAlphaN d.toNat = false) {x : UInt8} (h : lowerB x = lowerB d) :
    x = d := by
  have hu : ¬(0x41 ≤ d.toNat ∧ d.toNat ≤ 0x5A) := fun hu => by
    rw [Bool.eq_false_iff, ne_eq, isAlphaN_iff] at hd; exact hd (Or.inl hu)
  rw [lowerB_of_not_upper hu] at h
  exact (lowerB_eq_iff_of_not_alpha hd x).mp h

theorem lowerB_lt_iff (x : UInt8) : (lowerB x).toNat < 0x80 ↔ x.toNat < 0x80 := by
  rw [lowerB_toNat, lowerN_eq]; split <;> omega

theorem bc_lowerB (x : UInt8) : bc (lowerB x) = lowerC (bc x) := by
  rw [← Char.toNat_inj, lowerC_toNat, Utf8.bc_toNat, Utf8.bc_toNat, lowerB_toNat]

theorem asciiLower_eq_nil {s : Bytes} : asciiLower s = [] ↔ s = [] := List.map_eq_nil_iff
theorem mem_asciiLower {y : UInt8} {s : Bytes} : y ∈ asciiLower s ↔ ∃ x ∈ s, lowerB x = y := List.mem_map

theorem mem_asciiLower_not_upper {y : UInt8} {s : Bytes} (h : y ∈ asciiLower s) : ¬(0x41 ≤ y.toNat ∧ y.toNat ≤ 0x5A) := by
  obtain ⟨x, -, rfl⟩ := mem_asciiLower.mp h
  exact lowerB_not_upper x

theorem cons_of_asciiLower_cons {x : UInt8} {xs t : Bytes} (h : asciiLower (x :: xs) = asciiLower t) :
    ∃ y ys, t = y :: ys ∧ lowerB x = lowerB y ∧ asciiLower xs = asciiLower ys := by
  cases t with
  | nil => simp [asciiLower] at h
  | cons y ys =>
    simp only [asciiLower, List.map_cons, List.cons.injEq] at h
    exact ⟨y, ys, rfl, h.1, h.2⟩

theorem nil_of_asciiLower_nil {t : Bytes} (h : asciiLower [] = asciiLower t) : t = [] :=
  asciiLower_eq_nil.mp h.symm

/-- a non-empty text that does not start with `[`: so is every text with the same lower-casing -/
theorem head_of_asciiLower {s t : Bytes} (h : asciiLower s = asciiLower t) (hne : s ≠ [])
    (hb : s.head? ≠ some 0x5b) : t ≠ [] ∧ t.head? ≠ some 0x5b := by
  cases s with
  | nil => exact absurd rfl hne
  | cons x xs =>
    obtain ⟨y, ys, rfl, e, -⟩ := cons_of_asciiLower_cons h
    refine ⟨by simp, ?_⟩
    simp only [List.head?_cons, ne_eq, Option.some.injEq] at hb ⊢
    intro hy; subst hy
    exact hb (eq_of_lowerB_eq_of_not_alpha (by decide) e)

theorem asciiLower_idem (s : Bytes) : asciiLower (asciiLower s) = asciiLower s := by
  unfold asciiLower; rw [List.map_map]; exact List.map_congr_left fun x _ => lowerB_of_not_upper (lowerB_not_upper x)

theorem asciiLower_of_no_upper {s : Bytes} (h : ∀ x ∈ s, ¬(0x41 ≤ x.toNat ∧ x.toNat ≤ 0x5A)) : asciiLower s = s := by
  unfold asciiLower
  conv => rhs; rw [← List.map_id s]
  exact List.map_congr_left fun x hx => lowerB_of_not_upper (h x hx)

theorem endsWith_lower (l : Bytes) : endsWith (asciiLower l) [0x5d] = endsWith l [0x5d] := by
  unfold endsWith List.isSuffixOf asciiLower
  rw [← List.map_reverse]
  cases l.reverse with
  | nil => rfl
  | cons y r =>
    have := lowerB_beq_of_not_alpha (d := 0x5d) (by decide) y
    simp only [List.reverse_cons, List.reverse_nil, List.nil_append, List.map_cons, List.isPrefixOf, Bool.and_true]
    rw [Bool.beq_comm, this, Bool.beq_comm]

private theorem lower_ascii_fin : ∀ n : Fin 128,
    (utf8Char (Char.ofNat n.val)).map lowerB = utf8Char (lowerC (Char.ofNat n.val)) := by decide +kernel

theorem utf8Char_lower (c : Char) : (utf8Char c).map lowerB = utf8Char (lowerC c) := by
  by_cases h : c.toNat < 0x80
  · have := lower_ascii_fin ⟨c.toNat, h⟩
    simp only [Char.ofNat_toNat] at this
    exact this
  · rw [lowerC_of_not_upper (Bool.eq_false_iff.mpr fun hu => by have := isUpperN_iff.mp hu; omega)]
    exact asciiLower_of_no_upper fun b hb => by have := Utf8.utf8Char_high c (by omega) b hb; omega

/-- Go's `strings.ToLower` restricted to ASCII letters, on the encoding -/
theorem asciiLower_utf8 (s : Str) : asciiLower (utf8 s) = utf8 (s.map lowerC) := by
  unfold asciiLower
  induction s with
  | nil => rfl
  | cons c t ih => rw [Utf8.utf8_cons, List.map_append, utf8Char_lower, ih, List.map_cons, Utf8.utf8_cons]

end WhatwgUrl.Proofs.AsciiCase
