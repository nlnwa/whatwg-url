import WhatwgUrl.Impl.Percent
import WhatwgUrl.Proofs.Utf8
/-
  The parser prologue: `trim c0OrSpaceSet` (rune-level prefix trimming, byte-level postfix trimming) is plain byte-level
  stripping of bytes ≤ 0x20 on both sides.
-/
namespace WhatwgUrl.Proofs.Trim
open WhatwgUrl WhatwgUrl.Impl

/-- C0 control or space, as a byte -/
def isWs (b : UInt8) : Bool := decide (b.toNat < 0x21)
def dropWs (s : Bytes) : Bytes := s.dropWhile isWs
def dropWsR (s : Bytes) : Bytes := (s.reverse.dropWhile isWs).reverse

theorem isWs_lt {x : UInt8} (h : isWs x = true) : x.toNat < 0x80 := by
  simp only [isWs, decide_eq_true_eq] at h; omega

theorem inSet_c0 (c : Nat) : c0OrSpaceSet.inSet c = decide (c < 0x21) := by
  simp only [PSet.inSet, c0OrSpaceSet, Nat.zero_testBit, Bool.or_false]
  congr

open Utf8 (bc_toNat decode1_ascii goDecodeAux_nil)

/-- a byte above 0x20 never starts a rune ≤ 0x20, whatever follows it -/
theorem decode1_notws (b0 : UInt8) (rest : Bytes) (h : 0x21 ≤ b0.toNat) : 0x21 ≤ (decode1 b0 rest).1.toNat := by
  by_cases ha : b0.toNat < 0x80
  · rw [decode1_ascii b0 rest ha, bc_toNat]; exact h
  · exact Nat.le_trans (by decide) (Utf8.decode1_high b0 rest (by omega))

theorem trimPrefixAux_goDecodeAux : ∀ (s : Bytes) (fuel off : Nat), s.length ≤ fuel →
    trimPrefixAux c0OrSpaceSet (goDecodeAux fuel s) off =
      if dropWs s = [] then none else some (off + (s.length - (dropWs s).length)) := by
  intro s
  induction s with
  | nil => intro fuel off _; simp [goDecodeAux_nil, trimPrefixAux, dropWs]
  | cons b0 rest ih =>
    intro fuel off hf
    match fuel, hf with
    | f + 1, hf =>
      simp only [List.length_cons] at hf
      simp only [goDecodeAux, trimPrefixAux, inSet_c0]
      by_cases hw : b0.toNat < 0x21
      · have hd := decode1_ascii b0 rest (by omega)
        have hdrop : dropWs (b0 :: rest) = dropWs rest := by simp [dropWs, isWs, hw]
        have hle : (dropWs rest).length ≤ rest.length := (List.dropWhile_sublist _).length_le
        rw [hd, hdrop]
        simp only [bc_toNat, hw, decide_true, Bool.not_true, Bool.false_eq_true, if_false, Nat.sub_self, List.drop_zero]
        rw [ih f (off + 1) (by omega)]
        split
        · rfl
        · simp only [List.length_cons]; congr 1; omega
      · have hn := decode1_notws b0 rest (by omega)
        have hdrop : dropWs (b0 :: rest) = b0 :: rest := by simp [dropWs, isWs, hw]
        have : ¬ (decode1 b0 rest).1.toNat < 0x21 := by omega
        rw [hdrop]
        simp [this]

theorem drop_length_sub_dropWhile (p : UInt8 → Bool) (s : Bytes) :
    s.drop (s.length - (s.dropWhile p).length) = s.dropWhile p := by
  induction s with
  | nil => simp
  | cons x s ih =>
    simp only [List.dropWhile_cons]
    split
    · have hle : (s.dropWhile p).length ≤ s.length := (List.dropWhile_sublist p).length_le
      have : (x :: s).length - (s.dropWhile p).length = (s.length - (s.dropWhile p).length) + 1 := by
        simp only [List.length_cons]; omega
      rw [this, List.drop_succ_cons, ih]
    · simp

theorem trimPrefix_fst (s : Bytes) : (trimPrefix c0OrSpaceSet s).1 = dropWs s := by
  unfold trimPrefix
  split
  · rename_i he
    have : s = [] := by simpa using he
    subst this; rfl
  · unfold goDecode
    rw [trimPrefixAux_goDecodeAux s _ 0 (Nat.le_refl _)]
    by_cases h : dropWs s = []
    · simp [h]
    · simp only [h, if_false, Nat.zero_add]
      exact drop_length_sub_dropWhile _ s

theorem trimPostfix_fst (s : Bytes) : (trimPostfix c0OrSpaceSet s).1 = dropWsR s := by
  have hp : (fun x : UInt8 => c0OrSpaceSet.inSet x.toNat) = isWs := by
    funext x; simp [inSet_c0, isWs]
  unfold trimPostfix
  split
  · rename_i he
    have : s = [] := by simpa using he
    subst this; rfl
  · simp only [hp]
    split
    · rename_i hk
      have : (List.dropWhile isWs s.reverse).reverse = [] := by simpa using hk
      simp [dropWsR, this]
    · rfl

theorem trim_fst (s : Bytes) : (trim c0OrSpaceSet s).1 = dropWsR (dropWs s) := by
  unfold trim
  simp only [trimPrefix_fst, trimPostfix_fst]

theorem dropWsR_split (b : Bytes) : ∃ ws, b = dropWsR b ++ ws ∧ ∀ x ∈ ws, isWs x = true := by
  refine ⟨(b.reverse.takeWhile isWs).reverse, ?_, fun x hx => Utf8.mem_takeWhile_imp (List.mem_reverse.mp hx)⟩
  have := congrArg List.reverse (List.takeWhile_append_dropWhile (p := isWs) (l := b.reverse))
  rw [List.reverse_append, List.reverse_reverse] at this
  exact this.symm

theorem isWs_of_le {l : Bytes} (h : ∀ b ∈ l, b.toNat ≤ 0x20) : ∀ b ∈ l, isWs b = true := fun b hb => by
  have := h b hb; simp [isWs]; omega

theorem dropWsR_post (z post : Bytes) (h : ∀ b ∈ post, b.toNat ≤ 0x20) : dropWsR (z ++ post) = dropWsR z := by
  unfold dropWsR
  rw [List.reverse_append, List.dropWhile_append_of_pos fun x hx => isWs_of_le h x (by simpa using hx)]

theorem trim_pad (x pre post : Bytes) (hpre : ∀ b ∈ pre, b.toNat ≤ 0x20) (hpost : ∀ b ∈ post, b.toNat ≤ 0x20) :
    (trim c0OrSpaceSet (pre ++ x ++ post)).1 = (trim c0OrSpaceSet x).1 := by
  rw [trim_fst, trim_fst, List.append_assoc]
  unfold dropWs
  rw [List.dropWhile_append_of_pos (isWs_of_le hpre), List.dropWhile_append]
  split
  · rename_i he
    have : List.dropWhile isWs post = [] := by simpa using List.dropWhile_append_of_pos (l₂ := []) (isWs_of_le hpost)
    rw [List.isEmpty_iff.mp he, this]
  · exact dropWsR_post _ _ hpost

/-- the bytes `removeTabNl` keeps -/
def notTabNl (x : UInt8) : Bool := !isTabNl x

theorem notTabNl_of_not_ws : ∀ x : UInt8, isWs x = false → notTabNl x = true := forall_uint8 (by decide +kernel)

theorem isTabNl_of_ge : ∀ x : UInt8, 0x20 ≤ x.toNat → isTabNl x = false := forall_uint8 (by decide +kernel)

theorem filter_dropWs (s : Bytes) : (dropWs s).filter notTabNl = dropWs (s.filter notTabNl) := by
  have : (fun a => !notTabNl a || isWs a) = isWs := funext (forall_uint8 (by decide +kernel))
  rw [dropWs, dropWs, List.dropWhile_filter, this]

theorem filter_dropWsR (s : Bytes) : (dropWsR s).filter notTabNl = dropWsR (s.filter notTabNl) := by
  unfold dropWsR
  have := filter_dropWs s.reverse
  unfold dropWs at this
  rw [List.filter_reverse, this, List.filter_reverse]

/-- the text the state machine gets to see -/
theorem prologue_text (s : Bytes) :
    (removeTabNl (trim c0OrSpaceSet s).1).1 = dropWsR (dropWs (s.filter notTabNl)) := by
  rw [trim_fst]
  show (dropWsR (dropWs s)).filter notTabNl = _
  rw [filter_dropWsR, filter_dropWs]

end WhatwgUrl.Proofs.Trim
