import WhatwgUrl.Proofs.IdemPipeline
import WhatwgUrl.Proofs.Charset
import WhatwgUrl.Proofs.RTcInv
/-
  C17c: the host of a parse result (default parser options) in the first step of the pipeline.
  The host of a special url that the default parser returns is an IPv6 literal or free of forbidden domain code points:
  it has no `%` and no byte of the host percent-encode set, so `decodeEncode hostSet h = h`; it is a host text.  With it:
  the closed form of the pipeline for hooks that ignore the record (`canonV_webX`, C17f).
-/
namespace WhatwgUrl.Proofs.Idem
open WhatwgUrl WhatwgUrl.Impl WhatwgUrl.Proofs.IPv4 WhatwgUrl.Proofs.RoundTrip WhatwgUrl.Proofs.Spelling
open WhatwgUrl.Proofs.Pipeline
open WhatwgUrl.Props.C04c

theorem hostByte_fix : ∀ b : UInt8, (hostByteOk true b = true ∨ b = 0x5b ∨ b = 0x5d ∨ isV6Byte b = true) →
    (hostSet.set 0x25).has b.toNat = false ∧ b ≠ 0x25 :=
  forall_uint8 (by decide +kernel)

theorem hostChars_fix {h : Bytes} (hc : hostCharsOk true h = true) :
    ∀ b ∈ h, (hostSet.set 0x25).has b.toNat = false ∧ b ≠ 0x25 := by
  intro b hb
  simp only [hostCharsOk, Bool.or_eq_true, List.all_eq_true] at hc
  rcases hc with hc | hc
  · exact hostByte_fix b (Or.inr (v6_mem h hc b hb))
  · exact hostByte_fix b (Or.inl (hc b hb))

theorem dE_host_fix {h : Bytes} (hc : hostCharsOk true h = true) : decodeEncode hostSet h = h := by
  have hb := hostChars_fix hc
  unfold decodeEncode
  rw [Canon.repeatedDecode_of_fix h (Canon.canonDecode_of_no_pct h (fun hm => (hb _ hm).2 rfl))]
  exact canonEncode_id hostSet h (fun b hb' => (hb b hb').1)

theorem hostText_of_chars {h : Bytes} (hne : h ≠ []) (hc : hostCharsOk true h = true) : hostText h = true := by
  obtain ⟨h1, h2, _⟩ := RTcInv.host_of_chars true h hc
  unfold hostText
  have e1 : h.isEmpty = false := by cases h <;> simp_all
  rw [e1, List.all_eq_true.mpr h1, h2]; rfl

/-- the host hypothesis of the idempotence theorems for hooks that ignore the record, `hc' := h`: step 1 of the pipeline leaves
    the host `h` alone — it is a host text, a fixed point of decode + re-encode, and the host parser (handed the record `u`)
    returns it.  The statements of C17c – C17f write the three clauses out -/
def StableHost (cfg : Cfg) (I : Idna) (u : Url) (h : Bytes) : Prop :=
  hostText h = true ∧ decodeEncode hostSet h = h ∧ (parseHost cfg I u h false).out = .ok h

theorem StableHost.of_chars {cfg : Cfg} {I : Idna} {u : Url} {h : Bytes} (hne : h ≠ []) (hc : hostCharsOk true h = true)
    (hp : (parseHost cfg I u h false).out = .ok h) : StableHost cfg I u h :=
  ⟨hostText_of_chars hne hc, dE_host_fix hc, hp⟩

/-- what step 1 of the pipeline asks of a stable host (the host hypotheses of the closed forms, with `hc' := h`) -/
theorem StableHost.step1 {cfg : Cfg} {I : Idna} {u : Url} {h : Bytes} (hs : StableHost cfg I u h) :
    hostText (decodeEncode hostSet h) = true ∧ (parseHost cfg I u (decodeEncode hostSet h) false).out = .ok h ∧ h ≠ [] := by
  rw [hs.2.1]; exact ⟨hs.1, hs.2.2, (hostText_spec hs.1).1⟩

open WhatwgUrl.Props.C18d (OptRel render WebText canonOut)
open WhatwgUrl.Props.C18 (Spelled)

/-- **the closed form of the pipeline** on the record of a web url with credentials and port, for hooks that ignore
    the record: the host parser's outcome is given for the empty record -/
theorem canonV_webX (I : Idna) (p : Profile) (hp : p.repeatedPercentDecoding = true) (hc : CfgWeb p.cfg) (hk : HooksIgnore p.cfg)
    (u : Url) {s un pw h hc' : Bytes} {po : Option Bytes} {dpo : Nat} {psegs segs : List Bytes} {pq q : Option Pairs}
    {pf f : Option Bytes}
    (hs : Sch p.cfg s) (w : WebRecX u s un pw h po dpo segs (q.map qText) f) (hsp : Spells psegs pq pf segs q f)
    (hv : hostText (decodeEncode hostSet h) = true)
    (hout : (parseHost p.cfg I {} (decodeEncode hostSet h) false).out = .ok hc') (hcne : hc' ≠ []) :
    canonOut I p ⟨u, .url⟩ =
      some (render (s ++ lit "://" ++
          credText (if p.removeUserInfo = true then [] else un) (if p.removeUserInfo = true then [] else pw) ++ hc' ++
          Web.portText (if p.removePort = true then none else po))
        psegs (pq.map (sortOf p)) (if p.removeFragment = true then none else pf)) :=
  canonOut_closed I p hp hc u hs w hsp hv (by rw [parseHost_out_indep p.cfg I hk u {} _ false]; exact hout) hcne

end WhatwgUrl.Proofs.Idem
#print axioms WhatwgUrl.Proofs.Idem.canonV_webX
