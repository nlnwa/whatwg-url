import WhatwgUrl.Proofs.IPv6
import WhatwgUrl.Proofs.HostSh
/-
  The Go IPv6 parser in closed form (`parseIPv6_closed`; C08_parse_conforms is the statement about the outcome).  The Go
  cursor (pointer, eof flag, current code point) is a function of the standard's pointer (`gcur`, `gc`, `toS6`).  The digit
  loop, the IPv4 loop and the main loop of the Go code run with one more unit of fuel than the standard's (the model gives
  each `rs.length + 2`, `Impl/Host.lean`, where `Spec/Basic.lean` gives `input.length + 1`), which makes no difference
  once the fuel suffices for the rest of the input: their simulations are stated with that slack, so that no loop needs a
  lemma about its fuel; the hex loop and the swap run on equal fuel.  Names with the prefix `s` (`sstart`, `sfin`,
  `sloop6_eof`) are about the standard's parser `Spec.parseIPv6`.
-/
namespace WhatwgUrl.Proofs.HostWF
open WhatwgUrl WhatwgUrl.Impl

/-! ### the Go parser in three parts: the start, the main loop, the finish -/

/-- the state in which `parseIPv6` enters its main loop (`none`: a single leading `:`) -/
def start6 (rs : Str) (u : Url) : Option S6 :=
  let cu1 := (next6 rs ⟨-1, false⟩).1
  let c1 := (next6 rs ⟨-1, false⟩).2
  if c1 == ':' then
    if !startsWithColon6 rs cu1 then none
    else
      let cu2 := (next6 rs cu1).1
      some { cur := (next6 rs cu2).1, c := (next6 rs cu2).2, address := List.replicate 8 0, pieceIdx := 1, compress := 1, url := u }
  else some { cur := cu1, c := c1, address := List.replicate 8 0, pieceIdx := 0, compress := -1, url := u }

def fin6 (cfg : Cfg) : Sum S6 HR → HR
  | .inr r => r
  | .inl s =>
    if s.compress ≥ 0 then
      match swap6 8 s.address 7 s.compress (s.pieceIdx - s.compress.toNat) with
      | none => ⟨s.url, .panic 4⟩
      | some a => ⟨s.url, .ok ([0x5b] ++ ipv6String a ++ [0x5d])⟩
    else if s.pieceIdx != 8 then fail6 cfg s.url .IPv6TooFewPieces
    else ⟨s.url, .ok ([0x5b] ++ ipv6String s.address ++ [0x5d])⟩

def run6 (cfg : Cfg) (u : Url) (rs : Str) : HR :=
  match start6 rs u with
  | none => fail6 cfg u .IPv6InvalidCompression
  | some s0 => fin6 cfg (loop6 cfg rs (rs.length + 2) s0)

theorem parseIPv6_eq (cfg : Cfg) (u : Url) (input : Bytes) : parseIPv6 cfg u input = run6 cfg u (goRunes input) := by
  unfold parseIPv6 run6 start6
  dsimp only
  split <;> rename_i h <;> simp only [h]
  rename_i s0
  unfold fin6
  cases loop6 cfg (goRunes input) ((goRunes input).length + 2) s0 <;> rfl

end WhatwgUrl.Proofs.HostWF

namespace WhatwgUrl.Proofs.IPv6
open WhatwgUrl WhatwgUrl.Impl

/-! ### the Go cursor as a function of the standard's pointer -/

def gcur (rs : Str) (p : Nat) : C6 := ⟨(p : Int), (rs[p]?).isNone⟩
def gc (rs : Str) (p : Nat) : Char := (rs[p]?).getD repl

theorem next6_g (rs : Str) (p : Nat) : next6 rs (gcur rs p) = (gcur rs (p + 1), gc rs (p + 1)) := by
  have h1 : cur6 rs ((p : Int) + 1) = rs[p + 1]? := by
    unfold cur6
    have : (0 : Int) ≤ (p : Int) + 1 := by omega
    rw [if_pos this]
    congr 1
  unfold next6
  simp only [gcur, h1]
  cases h : rs[p + 1]? with
  | none => simp [gc, h]
  | some ch =>
    have hlt : p + 1 < rs.length := by
      rcases Nat.lt_or_ge (p + 1) rs.length with h' | h'
      · exact h'
      · rw [List.getElem?_eq_none h'] at h; cases h
    have : rs[p]?.isNone = false := by
      rw [List.getElem?_eq_getElem (by omega)]; rfl
    simp [gc, h, this]

theorem next6_start (rs : Str) : next6 rs ⟨-1, false⟩ = (gcur rs 0, gc rs 0) := by
  have h1 : cur6 rs ((-1 : Int) + 1) = rs[0]? := by
    unfold cur6; simp
  unfold next6
  simp only [h1]
  cases h : rs[0]? with
  | none => simp [gc, gcur, h]
  | some ch => simp [gc, gcur, h]

theorem gcur_eof (rs : Str) (p : Nat) : (gcur rs p).eof = (Spec.at6 rs p).isNone := rfl
theorem gcur_pointer (rs : Str) (p : Nat) : (gcur rs p).pointer = (p : Int) := rfl

theorem repl_facts : isHexN repl.toNat = false ∧ isDigitN repl.toNat = false ∧ (repl == ':') = false ∧ (repl == '.') = false := by
  decide

theorem gc_isHex (rs : Str) (p : Nat) : isHexN (gc rs p).toNat = Spec.isHexC (Spec.at6 rs p) := by
  unfold gc Spec.at6 Spec.isHexC
  cases rs[p]? with
  | none => exact repl_facts.1
  | some c => rfl

theorem gc_isDigit (rs : Str) (p : Nat) : isDigitN (gc rs p).toNat = Spec.isDigitC (Spec.at6 rs p) := by
  unfold gc Spec.at6 Spec.isDigitC
  cases rs[p]? with
  | none => exact repl_facts.2.1
  | some c => rfl

theorem gc_colon (rs : Str) (p : Nat) : (gc rs p == ':') = (Spec.at6 rs p == some ':') := by
  unfold gc Spec.at6
  cases rs[p]? with
  | none => exact repl_facts.2.2.1
  | some c => simp

theorem gc_dot (rs : Str) (p : Nat) : (gc rs p == '.') = (Spec.at6 rs p == some '.') := by
  unfold gc Spec.at6
  cases rs[p]? with
  | none => exact repl_facts.2.2.2
  | some c => simp

theorem gc_getD (rs : Str) (p : Nat) (h : (Spec.at6 rs p).isSome) : (Spec.at6 rs p).getD '0' = gc rs p := by
  unfold gc Spec.at6 at *
  cases h' : rs[p]? with
  | none => rw [h'] at h; cases h
  | some c => rfl

/-! ### hex loop -/

theorem hexLoop6_eq (rs : Str) : ∀ fuel p v l,
    hexLoop6 rs fuel (gcur rs p) (gc rs p) v l =
      (gcur rs (Spec.hexRun rs fuel v l p).2.2, gc rs (Spec.hexRun rs fuel v l p).2.2,
        (Spec.hexRun rs fuel v l p).1, (Spec.hexRun rs fuel v l p).2.1) := by
  intro fuel
  induction fuel with
  | zero => intro p v l; rfl
  | succ f ih =>
    intro p v l
    simp only [hexLoop6, Spec.hexRun, gc_isHex]
    by_cases h : (decide (l < 4) && Spec.isHexC (Spec.at6 rs p)) = true
    · have hs : (Spec.at6 rs p).isSome := by
        simp only [Bool.and_eq_true] at h
        cases h' : Spec.at6 rs p with
        | none => rw [h'] at h; simp [Spec.isHexC] at h
        | some c => rfl
      rw [if_pos h, if_pos h, next6_g, ih, gc_getD rs p hs]
    · rw [if_neg h, if_neg h]

theorem hexVal_lt (n : Nat) : hexVal n < 16 := by
  unfold hexVal isDigitN
  split
  · rename_i h; simp at h; omega
  · split
    · rename_i h; simp at h; omega
    · split
      · rename_i h; simp at h; omega
      · omega

theorem hexRun_inv (rs : Str) : ∀ fuel v l p, l ≤ 4 → v < 16 ^ l →
    (Spec.hexRun rs fuel v l p).2.2 + l = p + (Spec.hexRun rs fuel v l p).2.1 ∧ (Spec.hexRun rs fuel v l p).2.1 ≤ 4 ∧
    (Spec.hexRun rs fuel v l p).1 < 16 ^ (Spec.hexRun rs fuel v l p).2.1 := by
  intro fuel
  induction fuel with
  | zero => intro v l p hl hv; simp [Spec.hexRun, hl, hv]
  | succ f ih =>
    intro v l p hl hv
    simp only [Spec.hexRun]
    by_cases h : (decide (l < 4) && Spec.isHexC (Spec.at6 rs p)) = true
    · rw [if_pos h]
      have hl4 : l < 4 := by simp at h; exact h.1
      have hx := hexVal_lt ((Spec.at6 rs p).getD '0').toNat
      have hv' : v * 0x10 + hexVal ((Spec.at6 rs p).getD '0').toNat < 16 ^ (l + 1) := by
        rw [Nat.pow_succ]; omega
      have := ih (v * 0x10 + hexVal ((Spec.at6 rs p).getD '0').toNat) (l + 1) (p + 1) (by omega) hv'
      omega
    · rw [if_neg h]; simp [hl, hv]

/-! ### digit loop of the IPv4-in-IPv6 part -/

theorem at6_none_of_ge (rs : Str) (p : Nat) (h : rs.length ≤ p) : Spec.at6 rs p = none := by
  unfold Spec.at6; exact List.getElem?_eq_none h

/-- `r` is what `parseIPv6` returns when it fails: one fatal error of the host parser, `record`ed on the url it was given -/
def Fails (cfg : Cfg) (u : Url) (r : HR) : Prop := ∃ t, HostWF.hostErrT t = true ∧ r = fail6 cfg u t

theorem digitLoop6_eq (cfg : Cfg) (rs : Str) (u : Url) : ∀ fuel p piece, rs.length + 1 ≤ fuel + p →
    match Spec.digitRun rs fuel piece p with
    | none => ∃ r, digitLoop6 cfg rs (fuel + 1) (gcur rs p) (gc rs p) (coInt piece) u = .inr r ∧ Fails cfg u r
    | some res => digitLoop6 cfg rs (fuel + 1) (gcur rs p) (gc rs p) (coInt piece) u =
        .inl (gcur rs res.2, gc rs res.2, coInt res.1, u) := by
  intro fuel
  induction fuel with
  | zero =>
    intro p piece hf
    have hd' : isDigitN (gc rs p).toNat = false := by rw [gc_isDigit, at6_none_of_ge rs p (by omega)]; rfl
    unfold digitLoop6
    simp only [Spec.digitRun, hd']
    rfl
  | succ f ih =>
    intro p piece hf
    by_cases hd : Spec.isDigitC (Spec.at6 rs p) = true
    · have hs : (Spec.at6 rs p).isSome := by
        cases h' : Spec.at6 rs p with
        | none => rw [h'] at hd; simp [Spec.isDigitC] at hd
        | some c => rfl
      have hg := gc_getD rs p hs
      have hd' : isDigitN (gc rs p).toNat = true := by rw [gc_isDigit]; exact hd
      have hn : (gc rs p).toNat - 0x30 ≤ 9 := by
        simp [isDigitN] at hd'; omega
      cases piece with
      | none =>
        have h1 := ih (p + 1) (some ((gc rs p).toNat - 0x30))
        simp only [Spec.digitRun, hd, if_true, hg]
        unfold digitLoop6
        simp only [hd', if_true, coInt, next6_g]
        have e1 : ((-1 : Int) < 0) := by omega
        have e2 : ¬ ((((gc rs p).toNat - 0x30 : Nat) : Int) > 255) := by omega
        rw [if_pos e1, if_neg e2]
        exact h1 (by omega)
      | some v =>
        cases v with
        | zero =>
          simp only [Spec.digitRun, hd, if_true]
          unfold digitLoop6
          simp only [hd', if_true, coInt]
          exact ⟨_, rfl, _, rfl, rfl⟩
        | succ v =>
          simp only [Spec.digitRun, hd, if_true, hg]
          unfold digitLoop6
          simp only [hd', if_true, coInt, next6_g]
          have e1 : ¬ (((v + 1 : Nat) : Int) < 0) := by omega
          have e2 : (((v + 1 : Nat) : Int) == 0) = false := by
            apply beq_false_of_ne; omega
          rw [if_neg e1, e2]
          simp only [Bool.false_eq_true, if_false]
          by_cases h3 : (v + 1) * 10 + ((gc rs p).toNat - 0x30) > 255
          · have h3' : ((v + 1 : Nat) : Int) * 10 + (((gc rs p).toNat - 0x30 : Nat) : Int) > 255 := by omega
            rw [if_pos h3, if_pos h3']
            exact ⟨_, rfl, _, rfl, rfl⟩
          · have h3' : ¬ (((v + 1 : Nat) : Int) * 10 + (((gc rs p).toNat - 0x30 : Nat) : Int) > 255) := by omega
            rw [if_neg h3, if_neg h3']
            have h1 := ih (p + 1) (some ((v + 1) * 10 + ((gc rs p).toNat - 0x30)))
            have e3 : coInt (some ((v + 1) * 10 + ((gc rs p).toNat - 0x30))) =
                ((v + 1 : Nat) : Int) * 10 + (((gc rs p).toNat - 0x30 : Nat) : Int) := by
              simp only [coInt]; omega
            rw [e3] at h1
            exact h1 (by omega)
    · have hd' : isDigitN (gc rs p).toNat = false := by rw [gc_isDigit]; simpa using hd
      unfold digitLoop6
      simp only [Spec.digitRun, hd, hd']
      rfl

theorem digitRun_mono (rs : Str) : ∀ fuel piece p res, Spec.digitRun rs fuel piece p = some res → p ≤ res.2 := by
  intro fuel
  induction fuel with
  | zero => intro piece p res h; simp only [Spec.digitRun] at h; cases h; exact Nat.le_refl _
  | succ f ih =>
    intro piece p res h
    simp only [Spec.digitRun] at h
    split at h
    · split at h
      · have := ih _ _ _ h; omega
      · cases h
      · split at h
        · cases h
        · have := ih _ _ _ h; omega
    · cases h; exact Nat.le_refl _

theorem digitRun_bound (rs : Str) : ∀ fuel piece p res, Spec.digitRun rs fuel piece p = some res →
    (∀ v, piece = some v → v ≤ 255) → ∀ v, res.1 = some v → v ≤ 255 := by
  intro fuel
  induction fuel with
  | zero => intro piece p res h hb; simp only [Spec.digitRun] at h; cases h; exact hb
  | succ f ih =>
    intro piece p res h hb
    simp only [Spec.digitRun] at h
    split at h
    · rename_i hd
      have hn : ((Spec.at6 rs p).getD '0').toNat - 0x30 ≤ 9 := by
        cases h' : Spec.at6 rs p with
        | none => simp
        | some c => rw [h'] at hd; simp [Spec.isDigitC, isDigitN] at hd; simp; omega
      split at h
      · exact ih _ _ _ h (by intro v hv; cases hv; omega)
      · cases h
      · split at h
        · cases h
        · exact ih _ _ _ h (by intro v hv; cases hv; omega)
    · cases h; exact hb

/-! ### the IPv4-in-IPv6 loop -/

def Bnd (a : List Nat) : Prop := ∀ x ∈ a, x < 65536

theorem Bnd_set (a : List Nat) (i v : Nat) (h : Bnd a) (hv : v < 65536) : Bnd (a.set i v) := by
  intro x hx
  rcases List.mem_or_eq_of_mem_set hx with h1 | h1
  · exact h x h1
  · rw [h1]; exact hv

theorem Bnd_get (a : List Nat) (j : Nat) (h : Bnd a) : a[j]! < 65536 := by
  by_cases hj : j < a.length
  · rw [getElem!_pos a j hj]
    exact h _ (List.getElem_mem hj)
  · rw [getElem!_neg a j hj]
    decide

/-- invariant of the IPv4-in-IPv6 loop: room for the remaining numbers, and the pieces not yet written are zero -/
def V4Inv (a : List Nat) (pi ns : Nat) : Prop :=
  a.length = 8 ∧ ns ≤ 4 ∧ ((ns < 2 → pi + 2 ≤ 8) ∧ (ns < 4 → pi + 1 ≤ 8) ∧ pi ≤ 8) ∧
  (ns % 2 = 0 → ∀ j, pi ≤ j → a[j]! = 0) ∧ (ns % 2 = 1 → a[pi]! ≤ 255 ∧ ∀ j, pi < j → a[j]! = 0) ∧ Bnd a

theorem getElem!_set_ne (a : List Nat) (i j v : Nat) (h : i ≠ j) : (a.set i v)[j]! = a[j]! := by
  simp [h]

theorem V4Inv_step (a : List Nat) (pi ns piece : Nat) (h : V4Inv a pi ns) (hns : ns < 4) (hp : piece ≤ 255) :
    pi < a.length ∧ a[pi]! * 0x100 + piece < 0x10000 ∧
    V4Inv (a.set pi (a[pi]! * 0x100 + piece)) (if (ns + 1 == 2 || ns + 1 == 4) = true then pi + 1 else pi) (ns + 1) := by
  obtain ⟨hl, h4, hroom, he, ho, hb⟩ := h
  have hpi : pi < a.length := by omega
  rcases Nat.mod_two_eq_zero_or_one ns with hev | hod
  · have hz := he hev
    have h0 : a[pi]! = 0 := hz pi (Nat.le_refl _)
    have hnn : (ns + 1 == 2 || ns + 1 == 4) = false := by simp; omega
    refine ⟨hpi, by rw [h0]; omega, ?_⟩
    rw [hnn]
    simp only [Bool.false_eq_true, if_false]
    refine ⟨by simp [hl], by omega, ?_, fun h' => by omega, fun _ => ⟨?_, ?_⟩, Bnd_set _ _ _ hb (by rw [h0]; omega)⟩
    · omega
    · simp only [hpi, List.getElem!_eq_getElem?_getD, List.getElem?_set_self, Option.getD_some, h0]; omega
    · intro j hj
      rw [getElem!_set_ne a pi j _ (by omega)]
      exact hz j (by omega)
  · obtain ⟨hb1, hz⟩ := ho hod
    have hnn : (ns + 1 == 2 || ns + 1 == 4) = true := by simp; omega
    refine ⟨hpi, by omega, ?_⟩
    rw [hnn]
    simp only [if_true]
    refine ⟨by simp [hl], by omega, ?_, fun _ => ?_, fun h' => by omega, Bnd_set _ _ _ hb (by omega)⟩
    · omega
    · intro j hj
      rw [getElem!_set_ne a pi j _ (by omega)]
      exact hz j (by omega)

theorem v4Loop6_eq (cfg : Cfg) (rs : Str) : ∀ fuel p a pi ns u, V4Inv a pi ns → rs.length + 1 ≤ fuel + p →
    match Spec.v4Run rs fuel a pi ns p with
    | none => ∃ r, v4Loop6 cfg rs (fuel + 1) (gcur rs p) (gc rs p) a pi ns u = .inr r ∧ Fails cfg u r
    | some res => v4Loop6 cfg rs (fuel + 1) (gcur rs p) (gc rs p) a pi ns u = .inl (res.1, res.2.1, res.2.2.1, u) ∧
        V4Inv res.1 res.2.1 res.2.2.1 ∧ pi ≤ res.2.1 := by
  -- every leaf: `hS` is one round of `Spec.v4Run` under the case facts, `hG` the Go round unfolded under the same facts
  -- (carried over by `gc_*`, the digit run by `digitLoop6_eq` at fuel `rs.length + 1`), then the induction hypothesis or a
  -- `Fails` witness
  intro fuel
  induction fuel with
  | zero =>
    intro p a pi ns u hinv hf
    have heof : (gcur rs p).eof = true := by rw [gcur_eof, at6_none_of_ge rs p (by omega)]; rfl
    refine ⟨?_, hinv, Nat.le_refl _⟩
    unfold v4Loop6
    simp only [heof, if_true]
  | succ f ih =>
    intro p a pi ns u hinv hf
    by_cases heof : (Spec.at6 rs p).isNone = true
    · have hS : Spec.v4Run rs (f + 1) a pi ns p = some (a, pi, ns, p) := by
        simp only [Spec.v4Run, heof, if_true]
      have hG : v4Loop6 cfg rs (f + 1 + 1) (gcur rs p) (gc rs p) a pi ns u = .inl (a, pi, ns, u) := by
        conv => lhs; unfold v4Loop6
        simp only [gcur_eof, heof, if_true]
      rw [hS]; exact ⟨hG, hinv, Nat.le_refl _⟩
    · have heof' : (Spec.at6 rs p).isNone = false := Bool.eq_false_iff.mpr heof
      have hsepEq : (!(!decide (ns > 0) || (gc rs p == '.' && decide (ns < 4)))) =
          (decide (ns > 0) && !(Spec.at6 rs p == some '.' && decide (ns < 4))) := by
        rw [gc_dot]; cases decide (ns > 0) <;> cases (Spec.at6 rs p == some '.' && decide (ns < 4)) <;> rfl
      by_cases hsep : (decide (ns > 0) && !(Spec.at6 rs p == some '.' && decide (ns < 4))) = true
      · have hS : Spec.v4Run rs (f + 1) a pi ns p = none := by
          simp only [Spec.v4Run, heof', hsep, if_true, Bool.false_eq_true, if_false]
        have hG : v4Loop6 cfg rs (f + 1 + 1) (gcur rs p) (gc rs p) a pi ns u = .inr (fail6 cfg u .IPv4InIPv6InvalidCodePoint) := by
          conv => lhs; unfold v4Loop6
          simp only [gcur_eof, heof', hsepEq, hsep, if_true, Bool.false_eq_true, if_false]
        rw [hS]; exact ⟨_, hG, _, rfl, rfl⟩
      · have hsep' : (decide (ns > 0) && !(Spec.at6 rs p == some '.' && decide (ns < 4))) = false := Bool.eq_false_iff.mpr hsep
        have hns4 : ns < 4 := by
          by_cases h0 : ns > 0
          · simp [h0] at hsep'; exact hsep'.2
          · omega
        generalize hp1 : (if ns > 0 then p + 1 else p) = p1
        have hcu1 : (if ns > 0 then (next6 rs (gcur rs p)).1 else gcur rs p) = gcur rs p1 := by
          rw [next6_g, ← hp1]; split <;> rfl
        have hc1 : (if ns > 0 then (next6 rs (gcur rs p)).2 else gc rs p) = gc rs p1 := by
          rw [next6_g, ← hp1]; split <;> rfl
        by_cases hdig : Spec.isDigitC (Spec.at6 rs p1) = true
        · have hD := digitLoop6_eq cfg rs u (rs.length + 1) p1 none (by omega)
          cases hdr : Spec.digitRun rs (rs.length + 1) none p1 with
          | none =>
            rw [hdr] at hD
            obtain ⟨r, hr, hre⟩ := hD
            have hS : Spec.v4Run rs (f + 1) a pi ns p = none := by
              simp only [Spec.v4Run, heof', hsep', hp1, hdig, hdr, Bool.false_eq_true, if_false, Bool.not_true]
            have hG : v4Loop6 cfg rs (f + 1 + 1) (gcur rs p) (gc rs p) a pi ns u = .inr r := by
              conv => lhs; unfold v4Loop6
              simp only [gcur_eof, heof', hsepEq, hsep', hcu1, hc1, gc_isDigit, hdig, Bool.false_eq_true, if_false, Bool.not_true]
              rw [show coInt none = -1 from rfl] at hr
              rw [hr]
            rw [hS]; exact ⟨_, hG, hre⟩
          | some res =>
            obtain ⟨piece, p2⟩ := res
            rw [hdr] at hD
            simp only at hD
            have hpb : piece.getD 0 ≤ 255 := by
              have := digitRun_bound rs _ _ _ _ hdr (by intro v hv; cases hv)
              cases piece with
              | none => simp
              | some v => exact this v rfl
            have hpe : (coInt piece).toNat = piece.getD 0 := by
              cases piece with
              | none => rfl
              | some v => simp [coInt]
            obtain ⟨hpi, hval, hinv'⟩ := V4Inv_step a pi ns (piece.getD 0) hinv hns4 hpb
            have hp2 : p1 + 1 ≤ p2 := by
              have h := hdr
              simp only [Spec.digitRun, hdig, if_true] at h
              exact digitRun_mono rs _ _ _ _ h
            have hI := ih p2 (a.set pi (a[pi]! * 0x100 + piece.getD 0))
              (if (ns + 1 == 2 || ns + 1 == 4) = true then pi + 1 else pi) (ns + 1) u hinv' (by rw [← hp1] at hp2; split at hp2 <;> omega)
            have hS : Spec.v4Run rs (f + 1) a pi ns p = Spec.v4Run rs f (a.set pi (a[pi]! * 0x100 + piece.getD 0))
                (if (ns + 1 == 2 || ns + 1 == 4) = true then pi + 1 else pi) (ns + 1) p2 := by
              simp only [Spec.v4Run, heof', hsep', hp1, hdig, hdr, Bool.false_eq_true, if_false, Bool.not_true]
            have hG : v4Loop6 cfg rs (f + 1 + 1) (gcur rs p) (gc rs p) a pi ns u =
                v4Loop6 cfg rs (f + 1) (gcur rs p2) (gc rs p2) (a.set pi (a[pi]! * 0x100 + piece.getD 0))
                (if (ns + 1 == 2 || ns + 1 == 4) = true then pi + 1 else pi) (ns + 1) u := by
              conv => lhs; unfold v4Loop6
              simp only [gcur_eof, heof', hsepEq, hsep', hcu1, hc1, gc_isDigit, hdig, Bool.false_eq_true, if_false, Bool.not_true]
              rw [show coInt none = -1 from rfl] at hD
              rw [hD]
              simp only [setPiece, hpi, if_true, hpe, Nat.mod_eq_of_lt hval]
            rw [hS, hG]
            have hmono : pi ≤ (if (ns + 1 == 2 || ns + 1 == 4) = true then pi + 1 else pi) := by split <;> omega
            cases hres : Spec.v4Run rs f (a.set pi (a[pi]! * 0x100 + piece.getD 0))
                (if (ns + 1 == 2 || ns + 1 == 4) = true then pi + 1 else pi) (ns + 1) p2 with
            | none => rw [hres] at hI; exact hI
            | some res =>
              rw [hres] at hI
              exact ⟨hI.1, hI.2.1, Nat.le_trans hmono hI.2.2⟩
        · have hdig' : Spec.isDigitC (Spec.at6 rs p1) = false := Bool.eq_false_iff.mpr hdig
          have hS : Spec.v4Run rs (f + 1) a pi ns p = none := by
            simp only [Spec.v4Run, heof', hsep', hp1, hdig', Bool.false_eq_true, if_false, Bool.not_false, if_true]
          have hG : v4Loop6 cfg rs (f + 1 + 1) (gcur rs p) (gc rs p) a pi ns u = .inr (fail6 cfg u .IPv4InIPv6InvalidCodePoint) := by
            conv => lhs; unfold v4Loop6
            simp only [gcur_eof, heof', hsepEq, hsep', hcu1, hc1, gc_isDigit, hdig', Bool.false_eq_true, if_false, Bool.not_false, if_true]
          rw [hS]; exact ⟨_, hG, _, rfl, rfl⟩

/-! ### the standard's parser in three parts: the start, the main loop, the finish -/

theorem sloop6_eof (rs : Str) (fuel : Nat) (s : Spec.P6) (h : Spec.at6 rs s.pointer = none) :
    Spec.loop6 rs fuel s = some s := by
  cases fuel with
  | zero => rfl
  | succ f => simp only [Spec.loop6, h]

/-- the Go loop state that stands for the standard's state `s` (the url `u` rides along) -/
def toS6 (rs : Str) (s : Spec.P6) (u : Url) : S6 :=
  ⟨gcur rs s.pointer, gc rs s.pointer, s.address, s.pieceIndex, coInt s.compress, u⟩

/-- invariant of the standard's main loop: eight pieces of 16 bits, those from the piece index on still zero, the
    compression marker not beyond the piece index -/
def MInv (s : Spec.P6) : Prop :=
  s.address.length = 8 ∧ s.pieceIndex ≤ 8 ∧ (∀ j, s.pieceIndex ≤ j → s.address[j]! = 0) ∧
  (∀ c, s.compress = some c → c ≤ s.pieceIndex) ∧ Bnd s.address

/-- the state in which the standard's parser enters its main loop (`none`: a single leading `:`) -/
def sstart (rs : Str) : Option Spec.P6 :=
  if Spec.at6 rs 0 == some ':' then
    if Spec.at6 rs 1 != some ':' then none else some { pointer := 2, pieceIndex := 1, compress := some 1 }
  else some {}

/-- what the standard's parser makes of the state its main loop ends in: the swap past the compression marker, or the
    check for eight pieces -/
def sfin (s : Spec.P6) : Option (List Nat) :=
  match s.compress with
  | some c => some (Spec.swapRun 8 s.address 7 c (s.pieceIndex - c))
  | none => if s.pieceIndex != 8 then none else some s.address

theorem specParse_eq (rs : Str) : Spec.parseIPv6 rs =
    match sstart rs with
    | none => none
    | some s0 =>
      match Spec.loop6 rs (rs.length + 1) s0 with
      | none => none
      | some s => sfin s := rfl

theorem sstart_inv {rs : Str} {s0 : Spec.P6} (h : sstart rs = some s0) : MInv s0 := by
  have hz : ∀ n j : Nat, (List.replicate n (0 : Nat))[j]! = 0 := fun n j => by by_cases h : j < n <;> simp [h]
  have hb : Bnd (List.replicate 8 0) := fun x hx => by rw [(List.mem_replicate.mp hx).2]; decide
  unfold sstart at h
  split at h
  · split at h
    · cases h
    · cases h; exact ⟨by decide, by decide, fun j _ => hz 8 j, fun c hc => by cases hc; decide, hb⟩
  · cases h; exact ⟨by decide, by decide, fun j _ => hz 8 j, fun c hc => (nomatch hc), hb⟩

/-! ### the main loop -/

theorem start6_eq (rs : Str) (u : Url) : HostWF.start6 rs u = (sstart rs).map fun s => toS6 rs s u := by
  simp only [HostWF.start6, sstart, next6_start]
  rw [gc_colon]
  by_cases hc : (Spec.at6 rs 0 == some ':') = true
  · have heof : (gcur rs 0).eof = false := by
      rw [gcur_eof]
      cases h0 : Spec.at6 rs 0 with
      | none => rw [h0] at hc; cases hc
      | some c => rfl
    have hsw : startsWithColon6 rs (gcur rs 0) = (Spec.at6 rs 1 == some ':') := by
      simp only [startsWithColon6, heof, Bool.not_false, Bool.true_and, gcur_pointer]
      congr 1
    by_cases h1 : (Spec.at6 rs 1 != some ':') = true
    · have : (!startsWithColon6 rs (gcur rs 0)) = true := by rw [hsw]; exact h1
      simp only [hc, h1, this, if_true]
      rfl
    · have h1' : (Spec.at6 rs 1 != some ':') = false := Bool.eq_false_iff.mpr h1
      have : (!startsWithColon6 rs (gcur rs 0)) = false := by rw [hsw]; exact h1'
      simp only [hc, h1', this, if_true, Bool.false_eq_true, if_false, next6_g]
      rfl
  · have hc' : (Spec.at6 rs 0 == some ':') = false := Bool.eq_false_iff.mpr hc
    simp only [hc', Bool.false_eq_true, if_false]
    rfl

/-- `input.rewind(length + 1); c = input.nextCodePoint()` of the Go code, where the standard sets `pointer − length` -/
theorem next6_rewind (rs : Str) (p p' len : Nat) (c : Char) (hp : p' = p + len) (hat : Spec.at6 rs p = some c) :
    next6 rs ⟨(p' : Int) - ((len + 1 : Nat) : Int), false⟩ = (gcur rs p, gc rs p) := by
  have e : (p' : Int) - ((len + 1 : Nat) : Int) + 1 = (p : Int) := by omega
  have h1 : cur6 rs (p : Int) = some c := by
    unfold cur6
    rw [if_pos (by omega)]; exact hat
  unfold Spec.at6 at hat
  simp only [next6, gcur, gc, hat, e, h1]
  rfl

theorem coInt_nonneg (o : Option Nat) : (coInt o ≥ 0) ↔ o.isSome = true := by
  cases o with
  | none => simp [coInt]
  | some v => simp [coInt]

theorem loop6_step (cfg : Cfg) (rs : Str) (f : Nat) (g : S6) :
    Impl.loop6 cfg rs (f + 1) g = if g.cur.eof then .inl g else
      match iter6 cfg rs g with
      | .cont s' => Impl.loop6 cfg rs f s'
      | .brk s' => .inl s'
      | .done r => .inr r := rfl

theorem loop6_eq (cfg : Cfg) (rs : Str) (u : Url) : ∀ fuel s, MInv s → rs.length + 1 ≤ fuel + s.pointer →
    match Spec.loop6 rs fuel s with
    | none => ∃ r, Impl.loop6 cfg rs (fuel + 1) (toS6 rs s u) = .inr r ∧ Fails cfg u r
    | some s' => ∃ g, Impl.loop6 cfg rs (fuel + 1) (toS6 rs s u) = .inl g ∧ g.url = u ∧ g.address = s'.address ∧
        g.pieceIdx = s'.pieceIndex ∧ g.compress = coInt s'.compress ∧ MInv s' := by
  -- every leaf of the case tree: `hS` is one step of `Spec.loop6` under the case facts `c1`, `c2`, …; `hI` is one step of the
  -- Go loop (`iter6`) under the same facts, carried over by `gc_*` / `gcur_eof`; then the induction hypothesis on the next
  -- state, or a `Fails` witness where the standard returns `none`
  intro fuel
  induction fuel with
  | zero =>
    intro s hinv hf
    have : (toS6 rs s u).cur.eof = true := by
      simp only [toS6, gcur_eof, at6_none_of_ge rs s.pointer (by omega)]; rfl
    rw [loop6_step, if_pos this]
    exact ⟨_, rfl, rfl, rfl, rfl, rfl, hinv⟩
  | succ f ih =>
    intro s hinv hf
    cases hat : Spec.at6 rs s.pointer with
    | none =>
      rw [sloop6_eof rs _ s hat]
      have : (toS6 rs s u).cur.eof = true := by simp only [toS6, gcur_eof, hat]; rfl
      rw [loop6_step, if_pos this]
      exact ⟨_, rfl, rfl, rfl, rfl, rfl, hinv⟩
    | some c =>
      have heof : (toS6 rs s u).cur.eof = false := by simp only [toS6, gcur_eof, hat]; rfl
      have hgc : gc rs s.pointer = c := by unfold Spec.at6 at hat; simp only [gc, hat]; rfl
      rw [loop6_step, heof]
      simp only [Bool.false_eq_true, if_false]
      obtain ⟨hlen, hpi8, hzero, hcomp, hbnd⟩ := hinv
      by_cases c1 : (s.pieceIndex == 8) = true
      · have hS : Spec.loop6 rs (f + 1) s = none := by simp only [Spec.loop6, hat, c1, if_true]
        have hI : iter6 cfg rs (toS6 rs s u) = .done (fail6 cfg u .IPv6TooManyPieces) := by
          simp only [iter6, toS6, c1, if_true]
        rw [hS, hI]; exact ⟨_, rfl, _, rfl, rfl⟩
      · have c1' : (s.pieceIndex == 8) = false := Bool.eq_false_iff.mpr c1
        have hpi : s.pieceIndex < 8 := by
          have : s.pieceIndex ≠ 8 := by simpa using c1
          omega
        by_cases c2 : (c == ':') = true
        · by_cases c3 : s.compress.isSome = true
          · have hS : Spec.loop6 rs (f + 1) s = none := by
              simp only [Spec.loop6, hat, c1', c2, c3, Bool.false_eq_true, if_true, if_false]
            have hI : iter6 cfg rs (toS6 rs s u) = .done (fail6 cfg u .IPv6MultipleCompression) := by
              have : coInt s.compress ≥ 0 := (coInt_nonneg _).2 c3
              simp only [iter6, toS6, c1', hgc, c2, this, Bool.false_eq_true, if_true, if_false]
            rw [hS, hI]; exact ⟨_, rfl, _, rfl, rfl⟩
          · have hS : Spec.loop6 rs (f + 1) s = Spec.loop6 rs f
                { s with pointer := s.pointer + 1, pieceIndex := s.pieceIndex + 1, compress := some (s.pieceIndex + 1) } := by
              simp only [Spec.loop6, hat, c1', c2, c3, Bool.false_eq_true, if_true, if_false]
            have hI : iter6 cfg rs (toS6 rs s u) = .cont (toS6 rs
                { s with pointer := s.pointer + 1, pieceIndex := s.pieceIndex + 1, compress := some (s.pieceIndex + 1) } u) := by
              have : ¬ (coInt s.compress ≥ 0) := fun h => c3 ((coInt_nonneg _).1 h)
              simp only [iter6, toS6, c1', hgc, c2, this, next6_g, Bool.false_eq_true, if_true, if_false]
              rfl
            rw [hS, hI]
            exact ih _ ⟨hlen, by simp only; omega, fun j hj => hzero j (by simp only at hj; omega),
              fun c hc => by simp only at hc; cases hc; simp only; omega, hbnd⟩ (by simp only; omega)
        · have c2' : (c == ':') = false := Bool.eq_false_iff.mpr c2
          have hinvH := hexRun_inv rs 5 0 0 s.pointer (by omega) (by omega)
          have hH := hexLoop6_eq rs 5 s.pointer 0 0
          rw [hgc] at hH
          generalize hrun : Spec.hexRun rs 5 0 0 s.pointer = h at hinvH hH
          obtain ⟨hp', hl4, hv⟩ := hinvH
          have hv' : h.1 < 0x10000 := by
            have : (16 : Nat) ^ h.2.1 ≤ 16 ^ 4 := Nat.pow_le_pow_right (by omega) hl4
            omega
          have hset : setPiece s.address s.pieceIndex (h.1 % 0x10000) = some (s.address.set s.pieceIndex h.1) := by
            simp only [setPiece, hlen, hpi, if_true, Nat.mod_eq_of_lt hv']
          have hnext : ∀ q, MInv { s with address := s.address.set s.pieceIndex h.1, pieceIndex := s.pieceIndex + 1, pointer := q } := by
            intro q
            refine ⟨by simp [hlen], by simp only; omega, fun j hj => ?_, fun c hc => ?_, Bnd_set _ _ _ hbnd hv'⟩
            · simp only at hj ⊢
              rw [getElem!_set_ne _ _ _ _ (by omega)]; exact hzero j (by omega)
            · simp only at hc ⊢
              have := hcomp c hc; omega
          by_cases c4 : (Spec.at6 rs h.2.2 == some '.') = true
          · by_cases c5 : (h.2.1 == 0) = true
            · have hS : Spec.loop6 rs (f + 1) s = none := by
                simp only [Spec.loop6, hat, c1', c2', hrun, c4, c5, Bool.false_eq_true, if_true, if_false]
              have hI : iter6 cfg rs (toS6 rs s u) = .done (fail6 cfg u .IPv4InIPv6InvalidCodePoint) := by
                simp only [iter6, toS6, c1', hgc, c2', hH, gc_dot, c4, c5, Bool.false_eq_true, if_true, if_false]
              rw [hS, hI]; exact ⟨_, rfl, _, rfl, rfl⟩
            · have c5' : (h.2.1 == 0) = false := Bool.eq_false_iff.mpr c5
              by_cases c6 : s.pieceIndex > 6
              · have hS : Spec.loop6 rs (f + 1) s = none := by
                  simp only [Spec.loop6, hat, c1', c2', hrun, c4, c5', c6, Bool.false_eq_true, if_true, if_false]
                have hI : iter6 cfg rs (toS6 rs s u) = .done (fail6 cfg u .IPv4InIPv6TooManyPieces) := by
                  simp only [iter6, toS6, c1', hgc, c2', hH, gc_dot, c4, c5', c6, Bool.false_eq_true, if_true, if_false]
                rw [hS, hI]; exact ⟨_, rfl, _, rfl, rfl⟩
              · have hback : h.2.2 - h.2.1 = s.pointer := by omega
                have hrew := next6_rewind rs s.pointer h.2.2 h.2.1 c (by omega) hat
                rw [hgc] at hrew
                have hvinv : V4Inv s.address s.pieceIndex 0 :=
                  ⟨hlen, by omega, by omega,
                    fun _ => hzero, fun h' => by omega, hbnd⟩
                have hV := v4Loop6_eq cfg rs (rs.length + 1) s.pointer s.address s.pieceIndex 0 u hvinv (by omega)
                rw [hgc] at hV
                cases hvr : Spec.v4Run rs (rs.length + 1) s.address s.pieceIndex 0 s.pointer with
                | none =>
                  rw [hvr] at hV
                  obtain ⟨r, hr, hre⟩ := hV
                  have hS : Spec.loop6 rs (f + 1) s = none := by
                    simp only [Spec.loop6, hat, c1', c2', hrun, c4, c5', c6, hback, hvr, Bool.false_eq_true, if_true, if_false]
                  have hI : iter6 cfg rs (toS6 rs s u) = .done r := by
                    simp only [iter6, toS6, c1', hgc, c2', hH, gc_dot, c4, c5', c6, gcur_pointer, hrew, hr, Bool.false_eq_true, if_true, if_false]
                  rw [hS, hI]; exact ⟨_, rfl, hre⟩
                | some res =>
                  obtain ⟨a, pi, ns, p''⟩ := res
                  rw [hvr] at hV
                  simp only at hV
                  obtain ⟨hVeq, hVinv, hVmono⟩ := hV
                  by_cases c8 : (ns != 4) = true
                  · have hS : Spec.loop6 rs (f + 1) s = none := by
                      simp only [Spec.loop6, hat, c1', c2', hrun, c4, c5', c6, hback, hvr, c8, Bool.false_eq_true, if_true, if_false]
                    have hI : iter6 cfg rs (toS6 rs s u) = .done (fail6 cfg u .IPv4InIPv6TooFewParts) := by
                      simp only [iter6, toS6, c1', hgc, c2', hH, gc_dot, c4, c5', c6, gcur_pointer, hrew, hVeq, c8, Bool.false_eq_true, if_true, if_false]
                    rw [hS, hI]; exact ⟨_, rfl, _, rfl, rfl⟩
                  · have c8' : (ns != 4) = false := Bool.eq_false_iff.mpr c8
                    have hns : ns = 4 := by simpa using c8'
                    have hS : Spec.loop6 rs (f + 1) s = some { s with address := a, pieceIndex := pi, pointer := p'' } := by
                      simp only [Spec.loop6, hat, c1', c2', hrun, c4, c5', c6, hback, hvr, c8', Bool.false_eq_true, if_true, if_false]
                    have hI : iter6 cfg rs (toS6 rs s u) = .brk { toS6 rs s u with address := a, pieceIdx := pi, url := u } := by
                      simp only [iter6, toS6, c1', hgc, c2', hH, gc_dot, c4, c5', c6, gcur_pointer, hrew, hVeq, c8', Bool.false_eq_true, if_true, if_false]
                    rw [hS, hI]
                    subst hns
                    obtain ⟨hl', _, hroom, hz', _, hb'⟩ := hVinv
                    refine ⟨_, rfl, rfl, rfl, rfl, rfl, hl', ?_, hz' (by omega), fun c hc => ?_, hb'⟩
                    · simp only at hroom ⊢; omega
                    · have := hcomp c hc; simp only at hVmono ⊢; omega
          · have c4' : (Spec.at6 rs h.2.2 == some '.') = false := Bool.eq_false_iff.mpr c4
            by_cases c5 : (Spec.at6 rs h.2.2 == some ':') = true
            · by_cases c6 : (Spec.at6 rs (h.2.2 + 1)).isNone = true
              · have hS : Spec.loop6 rs (f + 1) s = none := by
                  simp only [Spec.loop6, hat, c1', c2', hrun, c4', c5, c6, Bool.false_eq_true, if_true, if_false]
                have hI : iter6 cfg rs (toS6 rs s u) = .done (fail6 cfg u .IPv6InvalidCodePoint) := by
                  simp only [iter6, toS6, c1', hgc, c2', hH, gc_dot, gc_colon, c4', c5, next6_g, gcur_eof, c6, Bool.false_eq_true, if_true, if_false]
                rw [hS, hI]; exact ⟨_, rfl, _, rfl, rfl⟩
              · have c6' : (Spec.at6 rs (h.2.2 + 1)).isNone = false := Bool.eq_false_iff.mpr c6
                have hS : Spec.loop6 rs (f + 1) s = Spec.loop6 rs f
                    { s with address := s.address.set s.pieceIndex h.1, pieceIndex := s.pieceIndex + 1, pointer := h.2.2 + 1 } := by
                  simp only [Spec.loop6, hat, c1', c2', hrun, c4', c5, c6', Bool.false_eq_true, if_true, if_false]
                have hI : iter6 cfg rs (toS6 rs s u) = .cont (toS6 rs
                    { s with address := s.address.set s.pieceIndex h.1, pieceIndex := s.pieceIndex + 1, pointer := h.2.2 + 1 } u) := by
                  simp only [iter6, toS6, c1', hgc, c2', hH, gc_dot, gc_colon, c4', c5, next6_g, gcur_eof, c6', hset, Bool.false_eq_true, if_true, if_false]
                rw [hS, hI]
                exact ih _ (hnext _) (by simp only; omega)
            · have c5' : (Spec.at6 rs h.2.2 == some ':') = false := Bool.eq_false_iff.mpr c5
              by_cases c7 : (Spec.at6 rs h.2.2).isSome = true
              · have hS : Spec.loop6 rs (f + 1) s = none := by
                  simp only [Spec.loop6, hat, c1', c2', hrun, c4', c5', c7, Bool.false_eq_true, if_true, if_false]
                have hI : iter6 cfg rs (toS6 rs s u) = .done (fail6 cfg u .IPv6InvalidCodePoint) := by
                  have : (Spec.at6 rs h.2.2).isNone = false := by
                    cases hh : Spec.at6 rs h.2.2 with
                    | none => rw [hh] at c7; cases c7
                    | some x => rfl
                  simp only [iter6, toS6, c1', hgc, c2', hH, gc_dot, gc_colon, c4', c5', gcur_eof, this, Bool.not_false, Bool.false_eq_true, if_true, if_false]
                rw [hS, hI]; exact ⟨_, rfl, _, rfl, rfl⟩
              · have c7' : (Spec.at6 rs h.2.2).isSome = false := Bool.eq_false_iff.mpr c7
                have hS : Spec.loop6 rs (f + 1) s = Spec.loop6 rs f
                    { s with address := s.address.set s.pieceIndex h.1, pieceIndex := s.pieceIndex + 1, pointer := h.2.2 } := by
                  simp only [Spec.loop6, hat, c1', c2', hrun, c4', c5', c7', Bool.false_eq_true, if_false]
                have hI : iter6 cfg rs (toS6 rs s u) = .cont (toS6 rs
                    { s with address := s.address.set s.pieceIndex h.1, pieceIndex := s.pieceIndex + 1, pointer := h.2.2 } u) := by
                  have : (Spec.at6 rs h.2.2).isNone = true := by
                    cases hh : Spec.at6 rs h.2.2 with
                    | none => rfl
                    | some x => rw [hh] at c7; exact absurd rfl c7
                  simp only [iter6, toS6, c1', hgc, c2', hH, gc_dot, gc_colon, c4', c5', gcur_eof, this, hset, Bool.not_true, Bool.false_eq_true, if_false]
                rw [hS, hI]
                -- progress: the piece ends at the end of the input, where no code point stands, so not at `s.pointer`;
                -- the `omega` below takes `hne` from the context
                have hne : h.2.2 ≠ s.pointer := fun e => by rw [e, hat] at c7'; cases c7'
                exact ih _ (hnext _) (by simp only; omega)

/-! ### the swap loop and the whole parser -/

theorem swap6_eq : ∀ fuel (a : List Nat) (pi c swaps : Nat), a.length = 8 → pi < 8 → c + swaps ≤ 8 →
    swap6 fuel a pi (c : Int) swaps = some (Spec.swapRun fuel a pi c swaps) := by
  intro fuel
  induction fuel with
  | zero => intro a pi c swaps _ _ _; rfl
  | succ f ih =>
    intro a pi c swaps hl hpi hc
    by_cases h : (pi != 0 && decide (swaps > 0)) = true
    · have hs : swaps > 0 := by simp at h; exact h.2
      have hj : ((c : Int) + (swaps : Int) - 1).toNat = c + swaps - 1 := by omega
      have hb : (decide (pi < a.length) && decide (c + swaps - 1 < a.length)) = true := by
        simp [hl]; omega
      simp only [swap6, Spec.swapRun, h, hj, hb, if_true]
      exact ih _ _ _ _ (by simp [hl]) (by omega) (by omega)
    · simp only [swap6, Spec.swapRun, h, Bool.false_eq_true, if_false]

/-- the result `r` of `parseIPv6` on the url `u`, given what the standard's parser returns: the bracketed serialization
    of its address on the untouched url, or `Fails` -/
def Closed (cfg : Cfg) (u : Url) (r : HR) : Option (List Nat) → Prop
  | some a => r = ⟨u, .ok ([0x5b] ++ ipv6String a ++ [0x5d])⟩
  | none => Fails cfg u r

theorem finish_eq (cfg : Cfg) (g : S6) (s' : Spec.P6) (h1 : g.address = s'.address) (h2 : g.pieceIdx = s'.pieceIndex)
    (h3 : g.compress = coInt s'.compress) (hinv : MInv s') : Closed cfg g.url (HostWF.fin6 cfg (.inl g)) (sfin s') := by
  obtain ⟨hl, hp8, _, hc, _⟩ := hinv
  unfold sfin HostWF.fin6
  dsimp only
  rw [h1, h2, h3]
  cases hco : s'.compress with
  | none =>
    have : ¬ (coInt none ≥ 0) := by simp [coInt]
    simp only [this, if_false]
    by_cases h8 : (s'.pieceIndex != 8) = true
    · simp only [h8, if_true]; exact ⟨_, rfl, rfl⟩
    · simp only [h8, Bool.false_eq_true, if_false]; rfl
  | some c =>
    have hc2 := hc c hco
    have : coInt (some c) ≥ 0 := by simp [coInt]
    have ht : (coInt (some c)).toNat = c := by simp [coInt]
    simp only [this, if_true, ht]
    rw [show coInt (some c) = (c : Int) from rfl, swap6_eq 8 s'.address 7 c (s'.pieceIndex - c) hl (by omega) (by omega)]
    rfl

theorem after_start (cfg : Cfg) (rs : Str) (u : Url) (s0 : Spec.P6) (hinv : MInv s0) :
    Closed cfg u (HostWF.fin6 cfg (Impl.loop6 cfg rs (rs.length + 2) (toS6 rs s0 u)))
      (match Spec.loop6 rs (rs.length + 1) s0 with
        | none => none
        | some s => sfin s) := by
  have hL := loop6_eq cfg rs u (rs.length + 1) s0 hinv (by omega)
  cases hs : Spec.loop6 rs (rs.length + 1) s0 with
  | none =>
    rw [hs] at hL
    obtain ⟨r, hr, he⟩ := hL
    rw [hr]
    exact he
  | some s' =>
    rw [hs] at hL
    obtain ⟨g, hg, hu, h1, h2, h3, hinv'⟩ := hL
    rw [hg]
    exact hu ▸ finish_eq cfg g s' h1 h2 h3 hinv'

/-- **The closed form of the Go IPv6 parser**, any configuration: where the standard's parser returns an address the url
    is returned untouched with the serialized address; where it fails, the result is `fail6 cfg u t` for one fatal error `t`
    of the host parser: the url with `t` `record`ed (appended to `verrs` when the configuration reports) and the error
    returned.  (No panic, no non-fatal error, nothing else written.) -/
theorem parseIPv6_closed (cfg : Cfg) (u : Url) (t : Bytes) :
    Closed cfg u (Impl.parseIPv6 cfg u t) (Spec.parseIPv6 (goRunes t)) := by
  rw [HostWF.parseIPv6_eq, specParse_eq]
  generalize goRunes t = rs
  unfold HostWF.run6
  rw [start6_eq]
  cases h0 : sstart rs with
  | none => exact ⟨_, rfl, rfl⟩
  | some s0 => exact after_start cfg rs u s0 (sstart_inv h0)

theorem parseIPv6_some (cfg : Cfg) (u : Url) (t : Bytes) (a : List Nat) (h : Spec.parseIPv6 (goRunes t) = some a) :
    Impl.parseIPv6 cfg u t = ⟨u, .ok ([0x5b] ++ ipv6String a ++ [0x5d])⟩ := by
  have hc := parseIPv6_closed cfg u t
  rw [h] at hc
  exact hc

theorem parseIPv6_none (cfg : Cfg) (u : Url) (t : Bytes) (h : Spec.parseIPv6 (goRunes t) = none) :
    Fails cfg u (Impl.parseIPv6 cfg u t) := by
  have hc := parseIPv6_closed cfg u t
  rw [h] at hc
  exact hc

theorem parseIPv6_cases (cfg : Cfg) (u : Url) (t : Bytes) :
    (∃ a, parseIPv6 cfg u t = ⟨u, .ok ([0x5b] ++ ipv6String a ++ [0x5d])⟩) ∨
    (∃ e, HostWF.hostErrT e = true ∧ parseIPv6 cfg u t = fail6 cfg u e) := by
  cases hs : Spec.parseIPv6 (goRunes t) with
  | some a => exact .inl ⟨a, parseIPv6_some cfg u t a hs⟩
  | none => exact .inr (parseIPv6_none cfg u t hs)

theorem parse_conforms (cfg : Cfg) (u : Url) (t : Bytes) :
    match (Impl.parseIPv6 cfg u t).out, Spec.parseIPv6 (goRunes t) with
    | .ok h, some a => h = [0x5b] ++ ipv6String a ++ [0x5d]
    | .err _, none => True
    | _, _ => False := by
  cases hs : Spec.parseIPv6 (goRunes t) with
  | some a => rw [parseIPv6_some cfg u t a hs]
  | none => obtain ⟨e, -, he⟩ := parseIPv6_none cfg u t hs; rw [he]; trivial

/-- the Go parser returns the standard's serialization of the standard's address -/
theorem parse_conforms_serialized (cfg : Cfg) (u : Url) (t : Bytes) (a : List Nat)
    (h : Spec.parseIPv6 (goRunes t) = some a) (ha : a.length = 8) :
    (Impl.parseIPv6 cfg u t).out = .ok ([0x5b] ++ utf8 (Spec.serializeIPv6 a) ++ [0x5d]) := by
  rw [parseIPv6_some cfg u t a h, ipv6String_eq a ha]

/-! ### the standard's parser returns an address -/

theorem swapRun_bnd : ∀ fuel (a : List Nat) (pi c sw : Nat), Bnd a →
    (Spec.swapRun fuel a pi c sw).length = a.length ∧ Bnd (Spec.swapRun fuel a pi c sw) := by
  intro fuel
  induction fuel with
  | zero => intro a pi c sw hb; exact ⟨rfl, hb⟩
  | succ f ih =>
    intro a pi c sw hb
    simp only [Spec.swapRun]
    split
    · have := ih ((a.set pi a[c + sw - 1]!).set (c + sw - 1) a[pi]!) (pi - 1) c (sw - 1)
        (Bnd_set _ _ _ (Bnd_set _ _ _ hb (Bnd_get a _ hb)) (Bnd_get a _ hb))
      exact ⟨by rw [this.1]; simp, this.2⟩
    · exact ⟨rfl, hb⟩

theorem sfin_addr {s : Spec.P6} {a : List Nat} (hinv : MInv s) (h : sfin s = some a) : a.length = 8 ∧ Bnd a := by
  obtain ⟨hl, -, -, -, hb⟩ := hinv
  unfold sfin at h
  split at h
  · cases h
    rename_i c _
    have := swapRun_bnd 8 s.address 7 c (s.pieceIndex - c) hb
    exact ⟨by rw [this.1]; exact hl, this.2⟩
  · split at h
    · cases h
    · cases h; exact ⟨hl, hb⟩

/-- eight pieces below 2^16: the invariant of the simulation says so of the state the main loop ends in, and the swap
    loop only permutes -/
theorem spec_parseIPv6_addr (rs : Str) (a : List Nat) (h : Spec.parseIPv6 rs = some a) : a.length = 8 ∧ Bnd a := by
  rw [specParse_eq] at h
  cases h0 : sstart rs with
  | none => rw [h0] at h; cases h
  | some s0 =>
    rw [h0] at h
    dsimp only at h
    have hL := loop6_eq {} rs {} (rs.length + 1) s0 (sstart_inv h0) (by omega)
    cases hs : Spec.loop6 rs (rs.length + 1) s0 with
    | none => rw [hs] at h; cases h
    | some s =>
      rw [hs] at h hL
      obtain ⟨g, -, -, -, -, -, hinv⟩ := hL
      exact sfin_addr hinv h

end WhatwgUrl.Proofs.IPv6

namespace WhatwgUrl.Props.C08

/-- the name C08's statements use for `a.length = 8 ∧ Proofs.IPv6.Bnd a` (the two unfold to the same) -/
def Addr (a : List Nat) : Prop := a.length = 8 ∧ ∀ x ∈ a, x < 65536

end WhatwgUrl.Props.C08
