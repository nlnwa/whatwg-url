import WhatwgUrl.Proofs.HeapInv
/-
  C02c: a further clause for the heap invariant `HeapInv.HInvR` — "if `o.sp = some s` then `s` is an existing list" — is
  preserved by every heap transformer EXCEPT `SetSearchParams` with an invalid list handle.
-/
namespace WhatwgUrl.Proofs.HeapInv
open WhatwgUrl WhatwgUrl.Impl WhatwgUrl.Impl.Heap

def LiveR (H : Heap) : Prop :=
  ∀ (i : Nat) (o : UrlObj), H.urls[i]? = some o → ∀ s, o.sp = some s → s < H.sps.length

theorem LiveR_empty : LiveR {} := fun i o h => by simp at h

theorem setUrl_live {H : Heap} (i : Nat) (f : UrlObj → UrlObj) (h : LiveR H)
    (hf : ∀ o, H.urls[i]? = some o → ∀ s, (f o).sp = some s → s < H.sps.length) : LiveR (H.setUrl i f) := by
  intro j o ho s hs
  rw [setUrl_sps]
  rcases setUrl_urls_some ho with ⟨oi, hi, rfl⟩ | ho
  · exact hf oi hi s hs
  · exact h j o ho s hs

theorem setSp_live {H : Heap} (s : Nat) (f : SpObj → SpObj) (h : LiveR H) : LiveR (H.setSp s f) := by
  intro j o ho t ht
  rw [setSp_urls] at ho
  rw [setSp_sps_length]
  exact h j o ho t ht

theorem allocUrl_live {H : Heap} (o : UrlObj) (h : LiveR H) (ho : ∀ s, o.sp = some s → s < H.sps.length) :
    LiveR (H.allocUrl o).1 := by
  intro j o' ho' s hs
  rw [allocUrl_sps]
  rw [allocUrl_urls, getElem?_append_singleton_iff] at ho'
  rcases ho' with ho' | ⟨-, rfl⟩
  · exact h j o' ho' s hs
  · exact ho s hs

theorem allocSp_live {H : Heap} (so : SpObj) (h : LiveR H) : LiveR (H.allocSp so).1 := by
  intro j o ho s hs
  rw [allocSp_sps, List.length_append]
  exact Nat.lt_add_right _ (h j o ho s hs)

theorem setValue_live {H : Heap} (i : Nat) (r : Res) (h : LiveR H) : LiveR (H.setValue i r) :=
  setUrl_live i _ h (fun o ho s hs => h i o ho s hs)

theorem spUpdate_live {H : Heap} (s : Nat) (h : LiveR H) : LiveR (H.spUpdate s) :=
  spUpdate_cases H s h (fun _ _ _ _ _ _ => setUrl_live _ _ h (fun o ho s hs => h _ o ho s hs))

theorem attach_live {H : Heap} (i : Nat) (p : Pairs) (h : LiveR H) : LiveR (H.attach i p) := by
  refine setUrl_live i _ (allocSp_live _ h) ?_
  intro o _ s hs
  cases hs
  rw [allocSp_sps, List.length_append]
  simp

theorem newUrlSearchParams_live {H : Heap} (i : Nat) (h : LiveR H) : LiveR (H.newUrlSearchParams i) := by
  cases ho : H.urls[i]? with
  | none => rw [newUrlSearchParams_invalid H i ho]; exact h
  | some uo => rw [newUrlSearchParams_eq H i uo ho]; exact attach_live i _ h

theorem set_live {H : Heap} (I : Idna) (i : Nat) (st : Setter) (v : Bytes) (h : LiveR H) : LiveR (H.set I i st v).1 :=
  set_fst_cases I H i st v (fun _ => h) (fun _ _ =>
    ⟨setValue_live i _ h, fun _ => ⟨fun s _ _ => setSp_live s _ (setValue_live i _ h),
      fun _ => newUrlSearchParams_live i (setValue_live i _ h)⟩⟩)

theorem searchParams_live {H : Heap} (i : Nat) (h : LiveR H) : LiveR (H.searchParams i).1 := by
  rcases searchParams_fst H i with e | ⟨_, e⟩ <;> rw [e]
  · exact h
  · exact newUrlSearchParams_live i h

theorem spMutate_live {H : Heap} (s : Nat) (m : SpMut) (h : LiveR H) : LiveR (H.spMutate s m) :=
  spUpdate_live s (setSp_live s _ h)

/-- `SetSearchParams` needs a valid list handle (or an invalid url handle) -/
theorem setSearchParams_live {H : Heap} (i s : Nat) (h : LiveR H) (hs : s < H.sps.length ∨ H.urls[i]? = none) :
    LiveR (H.setSearchParams i s) := by
  refine spUpdate_live s (setUrl_live i _ h ?_)
  intro o ho t ht
  cases ht
  rcases hs with hs | hs
  · exact hs
  · rw [hs] at ho; cases ho

theorem clone_live {H : Heap} (i : Nat) (h : LiveR H) : LiveR (H.clone i).1 := by
  refine clone_cases (P := fun x => LiveR x.1) H i (fun _ => h) (fun o ho => ?_)
  have ha := allocUrl_live { u := { o.u with verrs := [], qlog := [] }, sp := none, cfg := o.cfg } h (fun s hs => by cases hs)
  exact ⟨fun _ => ha, fun s so _ _ => attach_live _ _ ha⟩

theorem allocRes_live {H : Heap} (cfg : Cfg) (r : Res) (h : LiveR H) : LiveR (H.allocRes cfg r).1 :=
  allocRes_cases cfg r h (fun _ => allocUrl_live _ h (fun s hs => by cases hs))

/-- the validity of a list handle under which `Props/C02c.lean` states reachability; it implies the one `stable_live` asks for -/
def ValidSp (H : Heap) (_i s : Nat) : Prop := s < H.sps.length

theorem stable_live {C : Cfg → Prop} : Stable C (fun H i s => s < H.sps.length ∨ H.urls[i]? = none) LiveR where
  empty := LiveR_empty
  alloc h _ := allocRes_live _ _ h
  set I i st v h := set_live I i st v h
  searchParams i h := searchParams_live i h
  spMutate s m h := spMutate_live s m h
  setSearchParams i s hv h := setSearchParams_live i s h hv
  clone i h := clone_live i h

end WhatwgUrl.Proofs.HeapInv
