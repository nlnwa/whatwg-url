import WhatwgUrl.Proofs.Frame
import WhatwgUrl.Proofs.WellFormed2
import WhatwgUrl.Proofs.Setters
/-
  Helper lemmas for C19b (4): the text of an opaque path never starts with `/`.

  `NoSl u` is an invariant of the machine:
   * fresh parse (`e.ov = none`): proved next to the structural invariant `J` of `Proofs/WellFormed.lean` (which is only
     needed in the path state, for `path.opq = false`).  The only positional part is the opaque-path state: the buffer
     does not start with `/`, and while the buffer is empty the next code point is not `/` (that is what the scheme
     state tested with `remainingStartsWith("/")`).
   * under a state override (setters): the path is not written at all (`pSt`, the path frame of `Proofs/Frame.lean`), or
     the run started in the path start state on a list path and the path stays a list path.
-/
namespace WhatwgUrl.Proofs.OpaqueSlash
set_option linter.unusedSimpArgs false
open WhatwgUrl WhatwgUrl.Impl WhatwgUrl.Proofs.HostWF WhatwgUrl.Proofs.Machine WhatwgUrl.Proofs.Frame
open WhatwgUrl.Props.C04b (J J_fresh basicParser_withJ)

/-- the text of an opaque path does not start with `/` -/
def NoSl (u : Url) : Prop := u.path.opq = true → ∀ s, u.path.segs.head? = some s → s.head? ≠ some 0x2f

theorem NoSl_iff_pathname (u : Url) : NoSl u ↔ (u.path.opq = true → (pathname u).head? ≠ some 0x2f) := by
  unfold NoSl pathname Path.str Path.str?
  constructor
  · intro h ho
    rw [if_pos ho]
    cases hs : u.path.segs.head? with
    | none => simp
    | some s => exact h ho s hs
  · intro h ho s hs
    have := h ho
    rw [if_pos ho, hs] at this
    exact this

/-- `NoSl` looks at the path only -/
def NoSlP (p : Path) : Prop := p.opq = true → ∀ s, p.segs.head? = some s → s.head? ≠ some 0x2f

theorem NoSl_iff (u : Url) : NoSl u ↔ NoSlP u.path := Iff.rfl
theorem NoSlP_of_list {p : Path} (h : p.opq = false) : NoSlP p := fun ho => by rw [h] at ho; cases ho
theorem NoSl_of_path {u u' : Url} (h : u'.path = u.path) (hu : NoSl u) : NoSl u' := by
  rw [NoSl_iff, h]; exact hu
theorem NoSlP_addSegment (p : Path) (s : Bytes) : NoSlP (p.addSegment s) := NoSlP_of_list rfl
theorem NoSlP_init : NoSlP Path.init := NoSlP_of_list rfl
theorem NoSlP_setOpaque (s : Bytes) : NoSlP (Path.setOpaque s) ↔ s.head? ≠ some 0x2f := by simp [NoSlP, Path.setOpaque]

theorem head?_dropLast {α : Type} (l : List α) (s : α) (h : l.dropLast.head? = some s) : l.head? = some s := by
  match l, h with
  | [a], h => simp at h
  | a :: b :: t, h => simpa using h

theorem NoSlP_shorten (p : Path) (sc : Bytes) (hp : NoSlP p) : NoSlP (p.shorten sc) := by
  unfold Path.shorten
  split
  · exact hp
  · split
    · exact hp
    · exact fun ho s hs => hp ho s (head?_dropLast _ _ hs)

theorem enc_head (cfg : Cfg) (tr : PSet) (r : Char) (hr : r ≠ '/') :
    (percentEncodeRune cfg tr r).head? ≠ some 0x2f ∧ percentEncodeRune cfg tr r ≠ [] := by
  refine ⟨fun h => ?_, percentEncodeRune_ne cfg tr r⟩
  rcases enc_first cfg tr r [] _ (by simpa using h) with h | h
  · cases h
  · exact hr (by rw [← Char.ofNat_toNat r, h]; rfl)

theorem encInv_head (cfg : Cfg) (tr : PSet) (r : Char) (hr : r ≠ '/') :
    (percentEncodeInvalidRune cfg tr r).head? ≠ some 0x2f ∧ percentEncodeInvalidRune cfg tr r ≠ [] := by
  unfold percentEncodeInvalidRune
  split <;> exact enc_head _ _ _ hr

theorem opq_step (cfg : Cfg) (b : Bytes) (r : Char) (c : Bool) (hb : b.head? ≠ some 0x2f) (hr : b = [] → r ≠ '/') :
    (b ++ (if c = true then percentEncodeInvalidRune cfg c0Set r else percentEncodeRune cfg c0Set r)).head? ≠ some 0x2f ∧
    b ++ (if c = true then percentEncodeInvalidRune cfg c0Set r else percentEncodeRune cfg c0Set r) ≠ [] := by
  cases b with
  | nil =>
    have hr' := hr rfl
    simp only [List.nil_append]
    split
    · exact encInv_head _ _ _ hr'
    · exact enc_head _ _ _ hr'
  | cons x t => exact ⟨by simpa using hb, by simp⟩

theorem prefix_of_cur (rs : Str) (p : Int) (h : cur rs p = some '/') : ['/'].isPrefixOf (runesFrom rs p) = true := by
  unfold cur at h
  split at h
  · obtain ⟨hlt, hget⟩ := List.getElem?_eq_some_iff.mp h
    rw [runesFrom, List.drop_eq_getElem_cons hlt, hget]
    simp
  · cases h

/-- positional part, opaque-path state only: `cur rs (ps.pointer + 1)` is the code point the next iteration reads -/
def JO (rs : Str) (ps : PS) : Prop :=
  ps.state = .opaquePath → ps.buffer.head? ≠ some 0x2f ∧ (ps.buffer = [] → cur rs (ps.pointer + 1) ≠ some '/')

def PO (rs : Str) (ps : PS) : Prop := NoSl ps.url ∧ (ps.eof = false → JO rs ps)
def DO (x : Res) : Prop := NoSl x.url

theorem segEnd_op (e : Env) (r : Char) (p : PS) (hst : p.state = .path) (h : p.url.path.opq = false) :
    Sh (PO e.runes) DO (segEnd e r p) := by
  have := NoSlP_of_list (segPath_opq e p r h)
  simp [segEnd, Sh_ite, Sh_cont, PO, JO, NoSl_iff, hst, this]

/-- the states that write the path in a fresh parse; no other state continues in the opaque-path state -/
def pathW : State → Bool
  | .scheme | .noScheme | .file | .fileSlash | .relative | .path | .opaquePath => true
  | _ => false

theorem pathW_table (s : State) (h : pathW s = false) :
    Field.path ∉ writes false s ∧ ∀ s' ∈ succ false s, s' ≠ .opaquePath := by
  revert h; cases s <;> decide

/-- `hP` is what `J` gives in the path state; `hO` is `JO` for the state after `next`, which has read `r` -/
theorem body_op (e : Env) (hov : e.ov = none) (hB : ∀ b, e.base = some b → NoSl b) (q : PS) (r : Char) (hN : NoSl q.url)
    (hP : q.state = .path → q.url.path.opq = false)
    (hO : q.state = .opaquePath → q.buffer.head? ≠ some 0x2f ∧ (q.buffer = [] → q.eof = false → r ≠ '/')) :
    Sh (PO e.runes) DO (body e q r) := by
  have ho : e.ov.isSome = false := by rw [hov]; rfl
  by_cases hw : pathW q.state = true
  case neg =>
    -- the path is as it was, and the machine is not in the opaque-path state afterwards
    obtain ⟨hw1, hw2⟩ := pathW_table _ (by simpa using hw)
    rw [← ho] at hw1 hw2
    exact (body_eff e q r (by rw [ho]; nofun)).mono (fun ps' h' => ⟨NoSl_of_path (h'.2.2.2 .path hw1) hN, fun _ hst => absurd hst (hw2 _ h'.1)⟩)
      (fun x h' => NoSl_of_path (h'.2.2 .path hw1) hN)
  simp only [NoSl_iff] at hN hB
  unfold body
  split <;> rename_i hst <;> simp only [hst, reduceCtorEq, false_implies, true_implies] at hP hO <;> simp [hst, pathW] at hw
  case h_4 =>
    cases he : q.eof
    · have key := fun c => opq_step e.cfg q.buffer r c hO.1 (fun hb => hO.2 hb he)
      simp only [stOpaquePath, Sh_unitChecks, Sh_ite, Sh_herr, Sh_cont, PO, DO, JO, record_eq, NoSl_iff, NoSlP_setOpaque,
        ne_eq, hst, hN, he, key]
      simp
    · simp [stOpaquePath, Sh_ite, Sh_cont, PO, NoSl_iff, he, hN]
  case h_16 =>
    simp [stPath_eq, Sh_unitChecks, Sh_ite, Sh_herr, Sh_cont, segEnd_op, PO, DO, JO, record_eq, NoSl_iff, hst, hN, hP]
  -- the states that look at the base: scheme, and the four that copy a path from it
  case h_2 =>
    cases hb : e.base <;>
    simp [stScheme, Sh_ite, Sh_herr, Sh_cont, Sh_done, Sh_retUrl, PO, DO, JO, remainingStartsWith, resetInput, writeRune,
      ite_url, ite_eof, ite_state, record_eq, cleanDefaultPort_path, next_fst, NoSl_iff, NoSlP_setOpaque, hst, hb, hov, hN,
      hB] <;>
    grind [prefix_of_cur]
  all_goals
    cases hb : e.base <;>
    simp [stNoScheme, stFile, stFileSlash, stRelative, Sh_ite, Sh_herr, Sh_cont, Sh_done, PO, DO, JO,
      rewindLast, ite_url, ite_eof, ite_state, record_eq, NoSl_iff, NoSlP_addSegment, NoSlP_init, hst, hb, hov, hN, hB] <;>
    grind [NoSlP_shorten, NoSlP_addSegment]

open WhatwgUrl.Props.C04b (CfgOk WFs) in
/-- a fresh parse (with or without base) never produces an opaque path that starts with `/`, however it returns; `NoSl`
    and `JO` are kept next to `J`, which gives the list path of the path state -/
theorem basicParser_NoSl (cfg : Cfg) (I : Idna) (input : Bytes) (base : Option Url) (hcfg : CfgOk cfg I)
    (hb : ∀ b, base = some b → WFs cfg b) (hbO : ∀ b, base = some b → NoSl b) :
    NoSl (basicParser cfg I input base none none).url := by
  have hl : ∀ u, Same ({} : Url) u → NoSl u := fun u hu => NoSlP_of_list (by rw [hu.path])
  refine basicParser_withJ (A := fun ps => NoSl ps.url ∧ JO (loopEnv cfg I input base none none).runes ps) (D := DO)
    cfg I input base none none hcfg hb nofun nofun (fun _ u hu => NoSlP_of_list (by rw [record_eq, hu.path]; rfl))
    (fun _ ps q r h R hJ => ?_) (fun u hu => ?_) (fun u hu => ⟨hl u hu, nofun⟩)
  · refine (body_op _ rfl hbO q r (by rw [R.eq]; exact h.1) (fun hst => ?_) (fun hst => ?_)).mono
      (fun _ h' => (Owes_iff _).2 ⟨fun _ => h'.1, fun he => ⟨h'.1, h'.2 he⟩⟩) (fun _ h' => h')
    · unfold J at hJ
      rw [hst] at hJ
      exact hJ.2.1
    · -- the code point just read is the one `JO` spoke of
      have hO := h.2 (R.state ▸ hst)
      have hc := R.cur
      rw [R.pointer] at hc
      rw [R.buffer]
      refine ⟨hO.1, fun hb he hr => hO.2 hb ?_⟩
      rw [hc, he, hr]; rfl
  · exact J_fresh rfl hu

/-! ## under a state override -/

theorem trimRightByte_prefix (x : UInt8) (s : Bytes) : ∃ t, s = trimRightByte x s ++ t := by
  refine ⟨(s.reverse.takeWhile (· == x)).reverse, ?_⟩
  unfold trimRightByte
  rw [← List.reverse_append, List.takeWhile_append_dropWhile, List.reverse_reverse]

theorem trimRightByte_head (x : UInt8) (s : Bytes) (y : UInt8) (h : (trimRightByte x s).head? = some y) : s.head? = some y := by
  obtain ⟨t, ht⟩ := trimRightByte_prefix x s
  match hh : trimRightByte x s, h with
  | z :: rest, h =>
    rw [ht, hh]
    simpa using h

theorem strip_NoSl (u : Url) (p : Path) (hu : NoSl u) (h : stripTrailingSpacesIfOpaque u.path = some p) :
    ∀ u' : Url, u'.path = p → NoSl u' := by
  intro u' hp
  rcases (Setters.strip_eq_some_iff _ _).1 h with ⟨_, rfl⟩ | ⟨ho, s0, rest, hs, rfl⟩
  · exact NoSl_of_path hp hu
  · intro _ s hs'
    rw [hp] at hs'
    simp only [List.head?_cons, Option.some.injEq] at hs'
    subst hs'
    intro hc
    exact hu ho s0 (by rw [hs]; rfl) (trimRightByte_head _ _ _ hc)

/-- every setter keeps `NoSl` (no hypothesis on the configuration or the oracle) -/
theorem setU_NoSl (cfg : Cfg) (I : Idna) (s : Setter) (u : Url) (v : Bytes) (hu : NoSl u) : NoSl (setU cfg I s u v).url := by
  refine Setters.setU_cases cfg I s u v (R := fun r => NoSl r.url) (fun r h => ?_) (fun st u' input h => ?_)
  · cases h
    case searchStrip p h | hashStrip p h => exact strip_NoSl u p hu h _ rfl
    all_goals exact NoSl_of_path rfl hu
  · cases h
    case pathname => exact NoSlP_of_list (basicParser_pathStart_list cfg I input none { u with path := Path.init } rfl)
    all_goals exact NoSl_of_path (basicParser_path _ _ _ _ _ _ rfl) hu

/-! ## statements kept for their own sake

  Nothing in the development calls what follows: `Machine.cleanDefaultPort_path` and `Machine.shorten_opq` under the names
  of this namespace. -/

theorem cdp_path (cfg : Cfg) (u : Url) : (cleanDefaultPort cfg u).path = u.path := cleanDefaultPort_path cfg u

theorem shorten_opq (p : Path) (s : Bytes) : (p.shorten s).opq = p.opq := Machine.shorten_opq p s

end WhatwgUrl.Proofs.OpaqueSlash
