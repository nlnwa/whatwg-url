import WhatwgUrl.Proofs.Trim
import WhatwgUrl.Proofs.WellFormed
import WhatwgUrl.Proofs.RunScan
import WhatwgUrl.Proofs.SpellingScheme
/-
  Round trip (C03b), what the stages share: the environment of a parse without base and without state override, the tail
  `?query#fragment` when the encoders copy it, the prologue of `basicParser` on a clean ASCII text, and the side
  conditions `RTc`, `HostStable` under which a record round-trips.
-/
namespace WhatwgUrl.Proofs.Web
open WhatwgUrl WhatwgUrl.Impl

/-- configuration `cfg`, no base, no override -/
def mkEC (cfg : Cfg) (I : Idna) (src : Bytes) (rs : Str) : Env := ⟨cfg, I, src, rs, none, none⟩

@[simp] theorem mkEC_cfg (cfg : Cfg) (I : Idna) (src : Bytes) (rs : Str) : (mkEC cfg I src rs).cfg = cfg := rfl
@[simp] theorem mkEC_I (cfg : Cfg) (I : Idna) (src : Bytes) (rs : Str) : (mkEC cfg I src rs).I = I := rfl
@[simp] theorem mkEC_src (cfg : Cfg) (I : Idna) (src : Bytes) (rs : Str) : (mkEC cfg I src rs).src = src := rfl
@[simp] theorem mkEC_runes (cfg : Cfg) (I : Idna) (src : Bytes) (rs : Str) : (mkEC cfg I src rs).runes = rs := rfl
@[simp] theorem mkEC_base (cfg : Cfg) (I : Idna) (src : Bytes) (rs : Str) : (mkEC cfg I src rs).base = none := rfl
@[simp] theorem mkEC_ov (cfg : Cfg) (I : Idna) (src : Bytes) (rs : Str) : (mkEC cfg I src rs).ov = none := rfl

end WhatwgUrl.Proofs.Web

namespace WhatwgUrl.Proofs.RoundTrip
open WhatwgUrl WhatwgUrl.Impl WhatwgUrl.Proofs.IPv4 WhatwgUrl.Proofs.Trim
open WhatwgUrl.Props.C04b (schemeOk okB WFs)

/-- default configuration, no base, no override: `mkEC {}` -/
def mkE (I : Idna) (src : Bytes) (rs : Str) : Env := ⟨{}, I, src, rs, none, none⟩

@[simp] theorem mkE_cfg (I : Idna) (src : Bytes) (rs : Str) : (mkE I src rs).cfg = {} := rfl
@[simp] theorem mkE_I (I : Idna) (src : Bytes) (rs : Str) : (mkE I src rs).I = I := rfl
@[simp] theorem mkE_src (I : Idna) (src : Bytes) (rs : Str) : (mkE I src rs).src = src := rfl
@[simp] theorem mkE_runes (I : Idna) (src : Bytes) (rs : Str) : (mkE I src rs).runes = rs := rfl
@[simp] theorem mkE_base (I : Idna) (src : Bytes) (rs : Str) : (mkE I src rs).base = none := rfl
@[simp] theorem mkE_ov (I : Idna) (src : Bytes) (rs : Str) : (mkE I src rs).ov = none := rfl

def qset (sp : Bool) : PSet := if sp then specialQuerySet else querySet

theorem querySetOf_mkE (I : Idna) (src : Bytes) (rs : Str) (U : Url) :
    Run.querySetOf (mkE I src rs) U = qset (Cfg.isSpecial {} U.scheme) := rfl

/-- query and fragment hold no byte of the encode set in force, so the serializer writes them as they are and the query
    and fragment states copy them back (`sp`: special scheme) -/
def FOk (f : Option Bytes) : Prop := ∀ x, f = some x → ∀ b ∈ x, fragmentSet.has b.toNat = false

def QOk (sp : Bool) (q : Option Bytes) : Prop := ∀ x, q = some x → ∀ b ∈ x, (qset sp).has b.toNat = false

theorem no_hash_of_set (tr : PSet) (h23 : tr.has 0x23 = true) (x : Bytes) (hx : ∀ b ∈ x, tr.has b.toNat = false) : '#' ∉ asStr x := by
  intro hm
  obtain ⟨b, hb, he⟩ := List.mem_map.mp hm
  have : b = 0x23 := bc_inj (x := b) (y := 0x23) (by rw [he]; rfl)
  subst this
  have := hx _ hb
  rw [show (35 : UInt8).toNat = 0x23 from rfl, h23] at this
  cases this

theorem qok_copied (I : Idna) (src : Bytes) (rs : Str) {sp : Bool} {q : Option Bytes} (U : Url) (hsp : Cfg.isSpecial {} U.scheme = sp)
    (hq : QOk sp q) :
    ∀ x, q = some x → (∀ b ∈ x, (Run.querySetOf (mkE I src rs) U).has b.toNat = false) ∧ '#' ∉ asStr x := by
  intro x hx
  rw [querySetOf_mkE, hsp]
  exact ⟨hq x hx, no_hash_of_set (qset sp) (by cases sp <;> decide) x (hq x hx)⟩

theorem fok_copied (I : Idna) (src : Bytes) (rs : Str) {f : Option Bytes} (U : Url) (hf : FOk f) :
    ∀ x, f = some x → ∀ b ∈ x, (Run.fragSetOf (mkE I src rs) U).has b.toNat = false := by
  intro x hx
  rw [Run.fragSetOf_same _ rfl]
  exact hf x hx

theorem quietOn_mkE (I : Idna) (src : Bytes) (rs : Str) (w tl : Str) : Run.QuietOn (mkE I src rs) w tl :=
  Run.QuietOn.of_mute Run.Mute.default rfl w tl

/-- a byte of an opaque path that the opaque-path state copies -/
def opqB (b : UInt8) : Bool := !c0Set.has b.toNat && b != 0x3f && b != 0x23

theorem opqB_spec : ∀ b : UInt8, opqB b = true → c0Set.has b.toNat = false ∧ bc b ≠ '?' ∧ bc b ≠ '#' :=
  forall_uint8 (by decide +kernel)

/-! ### scheme -/

theorem okB_char : ∀ x : UInt8, okB x = true →
    Spelling.schemeB x = true ∧ lowerB x = x ∧ Resolve.isSchemeChar (bc x) = true ∧ utf8Char (lowerC (bc x)) = [x] ∧
    (isLowerN x.toNat = true → isAlphaN x.toNat = true ∧ isAlphaN (bc x).toNat = true) :=
  forall_uint8 (by decide +kernel)

theorem schemeOk_okB (s : Bytes) (h : schemeOk s = true) : s ≠ [] ∧ ∀ x ∈ s, okB x = true := by
  cases s with
  | nil => simp [schemeOk] at h
  | cons c t =>
    simp only [schemeOk, Bool.and_eq_true] at h
    refine ⟨by simp, ?_⟩
    intro x hx
    rcases List.mem_cons.mp hx with rfl | hx
    · simp [okB, h.1]
    · have := List.all_eq_true.mp h.2 x hx
      simpa [okB] using this

theorem schemeOk_text (s : Bytes) (hs : schemeOk s = true) : Spelling.schemeText s = true ∧ asciiLower s = s := by
  obtain ⟨_, hok⟩ := schemeOk_okB s hs
  refine ⟨?_, (List.map_congr_left fun b hb => (okB_char b (hok b hb)).2.1).trans (List.map_id s)⟩
  cases s with
  | nil => simp [schemeOk] at hs
  | cons c t =>
    simp only [schemeOk, Bool.and_eq_true] at hs
    simp only [Spelling.schemeText, Bool.and_eq_true, List.all_eq_true]
    exact ⟨((okB_char c (hok c (by simp))).2.2.2.2 hs.1).1, fun b hb => (okB_char b (hok b (by simp [hb]))).1⟩

theorem steps_scheme_ok (e : Env) (s : Bytes) (hs : schemeOk s = true) (tl : Str) (u : Url) (hd : e.runes = asStr s ++ tl) :
    ∃ p, Run.Steps e (Spelling.ps0 .schemeStart u) ⟨.scheme, p, false, s, false, false, false, u⟩ ∧
      Run.Cur e ⟨.scheme, p, false, s, false, false, false, u⟩ (asStr s) tl := by
  have := Spelling.steps_scheme e s (schemeOk_text s hs).1 tl u hd
  rwa [(schemeOk_text s hs).2] at this

/-! ### prologue -/

/-- `EndsOk`, `Printable` (and `Graphic` in `RoundTripA.lean`): what the prologue of `basicParser` — trim of bytes ≤ 0x20 at
    the ends, removal of tab / newline — leaves alone, and what decodes byte by byte -/
def EndsOk (s : Bytes) : Prop := ∀ x, s.getLast? = some x → isWs x = false

theorem EndsOk_append (s t : Bytes) (ht : EndsOk t) (hs : t = [] → EndsOk s) : EndsOk (s ++ t) := by
  intro x hx
  rw [List.getLast?_append] at hx
  cases h : t.getLast? with
  | none =>
    have : t = [] := List.getLast?_eq_none_iff.mp h
    rw [h] at hx
    exact hs this x (by simpa using hx)
  | some y =>
    rw [h] at hx
    simp at hx
    subst hx
    exact ht y h

def Printable (s : Bytes) : Prop := ∀ b ∈ s, 0x20 ≤ b.toNat ∧ b.toNat < 0x80

/-- the prologue on a printable text reports nothing, so (unlike `Run.basicParser_of_runs`) no `Mute` is asked of `cfg` -/
theorem _root_.WhatwgUrl.Proofs.Web.parse_clean_c (cfg : Cfg) (I : Idna) (raw : Bytes) (hne : raw ≠ []) (hp : Printable raw)
    (hh : ∀ x, raw.head? = some x → isWs x = false) (hl : EndsOk raw) :
    parse cfg I raw = loop (Web.mkEC cfg I raw (asStr raw)) (fuelFor (asStr raw)) ⟨.schemeStart, -1, false, [], false, false, false, {}⟩ := by
  have ht : trim c0OrSpaceSet raw = (raw, false) := by
    have := Spelling.trim_clean raw [] hne hh hl
    simpa [dropWsR] using this
  have hr : (removeTabNl raw).1 = raw := by
    unfold removeTabNl
    simp only
    apply List.filter_eq_self.mpr
    intro b hb
    simp [isTabNl_of_ge b (hp b hb).1]
  have hr2 : (removeTabNl raw).2 = false := by
    unfold removeTabNl
    simp only [List.any_eq_false]
    intro b hb
    simp [isTabNl_of_ge b (hp b hb).1]
  have hg : goRunes raw = asStr raw := goRunes_ascii raw (fun x hx => (hp x hx).2)
  unfold parse basicParser
  simp only [Option.isNone_none, Bool.true_and, ht, hr, hr2, hg, Bool.false_and, Bool.false_eq_true, if_false, if_true,
    Option.getD_none]
  rfl

/-! ### the side conditions of the round trip -/

/-- a byte of a list-path segment that the path state copies (`sp`: special scheme, where `\` is a separator) -/
def segB (sp : Bool) (b : UInt8) : Bool := !pathSet.has b.toNat && b != 0x2f && !(sp && b == 0x5c)
/-- a path segment that the path state stores unchanged: copied bytes, not a dot segment -/
def segOk (sp : Bool) (s : Bytes) : Bool := s.all (segB sp) && !isSingleDot s && !isDoubleDot s
/-- a byte of a host text: printable ASCII, not a delimiter of the authority / host states -/
def hostB (sp : Bool) (b : UInt8) : Bool :=
  decide (0x20 < b.toNat) && decide (b.toNat < 0x7f) && b != 0x2f && b != 0x3f && b != 0x23 && b != 0x40 && !(sp && b == 0x5c)

/-- the opaque path: copied bytes, no leading `/`, no trailing space unless a query or a fragment follows -/
def RTopq (u : Url) : Prop :=
  ∀ p ∈ u.path.segs, (∀ b ∈ p, opqB b = true) ∧ p.head? ≠ some 0x2f ∧
    (u.query = none → u.fragment = none → p.getLast? ≠ some 0x20)
instance (u : Url) : Decidable (RTopq u) := by unfold RTopq; infer_instance

/-- the list path: stable segments; not empty without a host; `file`: no non-normalised drive letter in front -/
def RTlist (u : Url) : Prop :=
  (∀ s ∈ u.path.segs, segOk (Cfg.isSpecial {} u.scheme) s = true) ∧ (u.host = none → u.path.segs ≠ []) ∧
  (u.scheme = lit "file" → ∀ s ∈ u.path.segs.head?, isWindowsDriveLetter s = true → isNormalizedWindowsDriveLetter s = true)
instance (u : Url) : Decidable (RTlist u) := by unfold RTlist; infer_instance

/-- the host text -/
def RThost (u : Url) : Prop :=
  ∀ h ∈ u.host, (∀ b ∈ h, hostB (Cfg.isSpecial {} u.scheme) b = true) ∧ hostScan h false = some false ∧
    (u.scheme = lit "file" → h ≠ lit "localhost" ∧ isWindowsDriveLetter h = false)
instance (u : Url) : Decidable (RThost u) := by unfold RThost; infer_instance

/-- **Character (and one cache) conditions** under which a record round-trips -/
def RTc (u : Url) : Prop :=
  (u.port = none → u.decodedPort = 0) ∧
  (∀ f ∈ u.fragment, ∀ b ∈ f, fragmentSet.has b.toNat = false) ∧
  (∀ q ∈ u.query, ∀ b ∈ q, (qset (Cfg.isSpecial {} u.scheme)).has b.toNat = false) ∧
  (u.path.opq = true → RTopq u) ∧
  (u.path.opq = false → RTlist u) ∧
  (∀ b ∈ u.username, userinfoSet.has b.toNat = false) ∧
  (∀ b ∈ u.password, userinfoSet.has b.toNat = false) ∧
  RThost u

instance (u : Url) : Decidable (RTc u) := by unfold RTc; infer_instance

/-- **the host text is a fixed point of the host parser** (called the way the host / file host states call it; the record
    handed to the parser does not matter: `parseHost_ok_indep`, `Proofs/HostTr.lean`).  Proved for opaque hosts and IPv6
    literals in `RoundTripStable.lean`, for IPv4 hosts and ASCII domains in `RTcInvHost.lean`; what is left (finding F6) is
    `DomainStable` of `Props/C03c.lean`. -/
def HostStable (I : Idna) (u : Url) : Prop :=
  ∀ h ∈ u.host, (parseHost {} I {} h (!Cfg.isSpecial {} u.scheme)).out = .ok h

instance (I : Idna) (u : Url) : Decidable (HostStable I u) := by unfold HostStable; infer_instance

theorem bare_of_WFs {u : Url} (hwf : WFs {} u) (h : u.host = none ∨ u.host = some [] ∨ u.scheme = lit "file") :
    u.username = [] ∧ u.password = [] ∧ u.port = none := by
  have key : ¬ (u.username ≠ [] ∨ u.password ≠ [] ∨ u.port ≠ none) := fun x => by
    obtain ⟨a, b, c⟩ := hwf.2.2.2.1 x
    rcases h with h | h | h
    · exact a h
    · exact b h
    · exact c h
  exact ⟨Decidable.byContradiction fun hn => key (Or.inl hn), Decidable.byContradiction fun hn => key (Or.inr (Or.inl hn)),
    Decidable.byContradiction fun hn => key (Or.inr (Or.inr hn))⟩

example : RTc { scheme := lit "mailto", path := ⟨[lit "a@b c"], true⟩, query := some (lit "x=1") } := by decide +kernel
example : ¬ RTc { scheme := lit "mailto", path := ⟨[lit "a@b c "], true⟩ } := by decide +kernel

end WhatwgUrl.Proofs.RoundTrip
