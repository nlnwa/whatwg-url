import WhatwgUrl.Proofs.NeutralSets
/-
  Helper lemmas for C16c (frame property of the replaceable percent-encode sets): a replaced set governs exactly the
  component it names.

  The path, the query and the fragment are each collected in the buffer by one state `S` and stored when that state is
  left; the machine then only moves on (path, query, fragment), and no later state reads what was stored.  So the runs
  with and without the replaced sets stay related by `RelC g S P`: they are equal up to the buffer (while in `S`) and up
  to what the mask `g` forgets of the url.  One proof for the three components; `Mask g S` says what it needs of `g`.
-/
namespace WhatwgUrl.Proofs.Neutral
open WhatwgUrl WhatwgUrl.Impl WhatwgUrl.Proofs.Machine

/-- the three masks: a url without its fragment, without its query, without its path -/
def mFU (u : Url) : Url := { u with fragment := none }
def mQU (u : Url) : Url := { u with query := none }
def mPU (u : Url) : Url := { u with path := Path.init }

theorem mFU_set (u : Url) (f : Option Bytes) : mFU { u with fragment := f } = mFU u := rfl
theorem mQU_setq (u : Url) (f : Option Bytes) : mQU { u with query := f } = mQU u := rfl

theorem mFU_eq (u1 u2 : Url) (h : mFU u1 = mFU u2) : u1 = { u2 with fragment := u1.fragment } := by
  obtain ⟨x1, x2, x3, x4, x5, x6, x7, x8, x9, x10, x11⟩ := u1
  obtain ⟨y1, y2, y3, y4, y5, y6, y7, y8, y9, y10, y11⟩ := u2
  simp only [mFU, Url.mk.injEq] at h
  obtain ⟨h1, h2, h3, h4, h5, h6, h7, h8, _, h10, h11⟩ := h
  subst_vars
  rfl

theorem mQU_eq (u1 u2 : Url) (h : mQU u1 = mQU u2) : u1 = { u2 with query := u1.query } := by
  obtain ⟨x1, x2, x3, x4, x5, x6, x7, x8, x9, x10, x11⟩ := u1
  obtain ⟨y1, y2, y3, y4, y5, y6, y7, y8, y9, y10, y11⟩ := u2
  simp only [mQU, Url.mk.injEq] at h
  obtain ⟨h1, h2, h3, h4, h5, h6, h7, _, h9, h10, h11⟩ := h
  subst_vars
  rfl

theorem mPU_eq (u1 u2 : Url) (h : mPU u1 = mPU u2) : u1 = { u2 with path := u1.path } := by
  obtain ⟨x1, x2, x3, x4, x5, x6, x7, x8, x9, x10, x11⟩ := u1
  obtain ⟨y1, y2, y3, y4, y5, y6, y7, y8, y9, y10, y11⟩ := u2
  simp only [mPU, Url.mk.injEq] at h
  obtain ⟨h1, h2, h3, h4, h5, h6, _, h8, h9, h10, h11⟩ := h
  subst_vars
  rfl

/-- `g` forgets the url component that the state `S` stores, and nothing else that the machine reads or writes from `S` on -/
structure Mask (g : Url → Url) (S : State) : Prop where
  hS : S = .path ∨ S = .query ∨ S = .fragment
  hrec : ∀ (cfg : Cfg) (u₁ u₂ : Url) (t : ErrT) (f : Bool), g u₁ = g u₂ → g (record cfg u₁ t f) = g (record cfg u₂ t f)
  hsch : ∀ u₁ u₂ : Url, g u₁ = g u₂ → u₁.scheme = u₂.scheme
  hfrag : ∀ (u₁ u₂ : Url) (x y : Option Bytes), g u₁ = g u₂ → S = .fragment ∨ x = y →
    g { u₁ with fragment := x } = g { u₂ with fragment := y }
  hquery : ∀ (u₁ u₂ : Url) (x y : Option Bytes), g u₁ = g u₂ → S = .query ∨ x = y →
    g { u₁ with query := x } = g { u₂ with query := y }
  hpath : ∀ (u₁ u₂ : Url) (x y : Path), g u₁ = g u₂ → S = .path → g { u₁ with path := x } = g { u₂ with path := y }

theorem Mask_mFU : Mask mFU .fragment where
  hS := .inr (.inr rfl)
  hrec cfg u₁ u₂ t f h := by rw [mFU_eq u₁ u₂ h]; simp [mFU, record_eq]
  hsch u₁ u₂ h := by rw [mFU_eq u₁ u₂ h]
  hfrag u₁ u₂ x y h _ := by rw [mFU_eq u₁ u₂ h]; rfl
  hquery u₁ u₂ x y h hx := by rw [mFU_eq u₁ u₂ h, hx.resolve_left (by simp)]; rfl
  hpath u₁ u₂ x y h hS := by cases hS

theorem Mask_mQU : Mask mQU .query where
  hS := .inr (.inl rfl)
  hrec cfg u₁ u₂ t f h := by rw [mQU_eq u₁ u₂ h]; simp [mQU, record_eq]
  hsch u₁ u₂ h := by rw [mQU_eq u₁ u₂ h]
  hfrag u₁ u₂ x y h hx := by rw [mQU_eq u₁ u₂ h, hx.resolve_left (by simp)]; rfl
  hquery u₁ u₂ x y h _ := by rw [mQU_eq u₁ u₂ h]; rfl
  hpath u₁ u₂ x y h hS := by cases hS

theorem Mask_mPU : Mask mPU .path where
  hS := .inl rfl
  hrec cfg u₁ u₂ t f h := by rw [mPU_eq u₁ u₂ h]; simp [mPU, record_eq]
  hsch u₁ u₂ h := by rw [mPU_eq u₁ u₂ h]
  hfrag u₁ u₂ x y h hx := by rw [mPU_eq u₁ u₂ h, hx.resolve_left (by simp)]; rfl
  hquery u₁ u₂ x y h hx := by rw [mPU_eq u₁ u₂ h, hx.resolve_left (by simp)]; rfl
  hpath u₁ u₂ x y h _ := by rw [mPU_eq u₁ u₂ h]; rfl

/-- the state `st` is `S` or comes after it -/
def late (S st : State) : Prop := st = S ∨ st = .fragment ∨ (S = .path ∧ st = .query)

/-- the runs have parted: the scheme selects a replaced set (`P`), they are in the same state, `S` or a later one, and
    differ at most in what `g` forgets of the url and, while in `S`, in the buffer.  (Whether there is a query the query
    state reads; so that is kept too.) -/
def RelC (g : Url → Url) (S : State) (P : Bytes → Prop) (p₁ p₂ : PS) : Prop :=
  P p₂.url.scheme ∧ late S p₂.state ∧ p₁ = { p₂ with buffer := p₁.buffer, url := p₁.url } ∧ g p₁.url = g p₂.url ∧
    p₁.url.query.isSome = p₂.url.query.isSome ∧ (p₂.state ≠ S → p₁.buffer = p₂.buffer)

/-- the runs have not parted yet, or `RelC`; `ResM`: the same for the results -/
def RelM (g : Url → Url) (S : State) (P : Bytes → Prop) (p₁ p₂ : PS) : Prop := p₁ = p₂ ∨ RelC g S P p₁ p₂
def ResM (g : Url → Url) (P : Bytes → Prop) (x₁ x₂ : Res) : Prop :=
  x₁ = x₂ ∨ (P x₂.url.scheme ∧ x₁.ret = x₂.ret ∧ g x₁.url = g x₂.url)

section
variable {g : Url → Url} {S : State} {P : Bytes → Prop}

theorem RelC.mk' (p₂ : PS) (b : Bytes) (u : Url) (hP : P p₂.url.scheme) (hl : late S p₂.state) (hu : g u = g p₂.url)
    (hq : u.query.isSome = p₂.url.query.isSome) (hb : p₂.state ≠ S → b = p₂.buffer) :
    RelC g S P { p₂ with buffer := b, url := u } p₂ := ⟨hP, hl, rfl, hu, hq, hb⟩

theorem RelC.pointer {p₁ p₂ : PS} (h : RelC g S P p₁ p₂) : p₁.pointer = p₂.pointer := by rw [h.2.2.1]
theorem RelC.eof {p₁ p₂ : PS} (h : RelC g S P p₁ p₂) : p₁.eof = p₂.eof := by rw [h.2.2.1]
theorem RelC.state {p₁ p₂ : PS} (h : RelC g S P p₁ p₂) : p₁.state = p₂.state := by rw [h.2.2.1]

theorem RelC.res {p₁ p₂ : PS} (h : RelC g S P p₁ p₂) (ret : Ret) : ResM g P ⟨p₁.url, ret⟩ ⟨p₂.url, ret⟩ :=
  Or.inr ⟨h.1, rfl, h.2.2.2.1⟩

theorem RelC.record (hg : Mask g S) (cfg : Cfg) {p₁ p₂ : PS} (t : ErrT) (f : Bool) (h : RelC g S P p₁ p₂) :
    RelC g S P { p₁ with url := record cfg p₁.url t f } { p₂ with url := record cfg p₂.url t f } := by
  obtain ⟨hP, hl, hc, hu, hq, hb⟩ := h
  rw [hc]
  exact RelC.mk' _ _ _ (by simpa [record_eq] using hP) hl (hg.hrec _ _ _ _ _ hu) (by simpa [record_eq] using hq) hb

theorem RelC.next (rs : Str) {p₁ p₂ : PS} (h : RelC g S P p₁ p₂) :
    RelC g S P (next rs p₁).1 (next rs p₂).1 ∧ (next rs p₁).2 = (next rs p₂).2 := by
  obtain ⟨hP, hl, hc, hu, hq, hb⟩ := h
  rw [hc]
  simp only [next_fst, next_snd]
  exact ⟨RelC.mk' _ _ _ hP hl hu hq hb, trivial⟩

end

section
variable (c : Cfg) (t1 t2 t3 t4 t5 : PSet) (I : Idna) (src : Bytes) (rs : Str) (base : Option Url) (ov : Option State)
variable {g : Url → Url} {S : State} {P : Bytes → Prop}

theorem append_relM (hg : Mask g S) (st : State) (r : Char) (s₁ s₂ : Url → PSet)
    (hs : st ≠ S → ∀ u₁ u₂, g u₁ = g u₂ → s₁ u₁ = s₂ u₂) (q₁ q₂ : PS) (hst : q₂.state = st) (h : RelC g S P q₁ q₂) :
    Sh2 (RelM g S P) (ResM g P) (fun _ _ => False)
      (unitChecks ⟨c, I, src, rs, base, ov⟩ q₁ r fun ps => .cont { ps with buffer := ps.buffer ++ percentEncodeRune c (s₁ ps.url) r })
      (unitChecks ⟨c, I, src, rs, base, ov⟩ q₂ r fun ps => .cont { ps with buffer := ps.buffer ++ percentEncodeRune c (s₂ ps.url) r }) := by
  refine Sh2_unitChecks_of (fun p₁ p₂ => RelC g S P p₁ p₂ ∧ p₂.state = st) _ r _ _
    (fun _ _ t f h => ⟨h.1.record hg c t f, h.2⟩) (fun _ _ h => h.1.pointer) (fun _ _ ret h => h.1.res ret) ?_ q₁ q₂ ⟨h, hst⟩
  rintro p₁ p₂ ⟨⟨hP, hl, hc, hu, hq, hb⟩, hst⟩
  rw [hc]
  refine Or.inr (RelC.mk' _ _ _ hP hl hu hq fun hS => ?_)
  rw [hb hS, hs (hst ▸ hS) _ _ hu]

theorem stFragment_relC (hg : Mask g S) (hsets : S ≠ .fragment → t4 = c.spFragSet ∧ t5 = c.fragSet) (q₁ q₂ : PS) (r : Char)
    (hst : q₂.state = .fragment) (h : RelC g S P q₁ q₂) :
    Sh2 (RelM g S P) (ResM g P) (fun _ _ => False)
      (stFragment ⟨updS c c.specialSchemes t1 t2 t3 t4 t5, I, src, rs, base, ov⟩ q₁ r)
      (stFragment ⟨c, I, src, rs, base, ov⟩ q₂ r) := by
  show Sh2 _ _ _
    (if !q₁.eof then unitChecks ⟨c, I, src, rs, base, ov⟩ q₁ r fun ps =>
        .cont { ps with buffer := ps.buffer ++ percentEncodeRune c (if c.isSpecial ps.url.scheme then t4 else t5) r }
      else .cont { q₁ with url := { q₁.url with fragment := some q₁.buffer } })
    (if !q₂.eof then unitChecks ⟨c, I, src, rs, base, ov⟩ q₂ r fun ps =>
        .cont { ps with buffer := ps.buffer ++ percentEncodeRune c (if c.isSpecial ps.url.scheme then c.spFragSet else c.fragSet) r }
      else .cont { q₂ with url := { q₂.url with fragment := some q₂.buffer } })
  rw [h.eof]
  refine (Sh2_ite _ _ _ _ _).2 ⟨fun _ => ?_, fun _ => ?_⟩
  · refine append_relM c I src rs base ov hg .fragment r (fun u => if c.isSpecial u.scheme then t4 else t5)
      (fun u => if c.isSpecial u.scheme then c.spFragSet else c.fragSet) (fun hS u₁ u₂ hu => ?_) q₁ q₂ hst h
    rw [hg.hsch _ _ hu, (hsets (Ne.symm hS)).1, (hsets (Ne.symm hS)).2]
  · obtain ⟨hP, hl, hc, hu, hq, hb⟩ := h
    rw [hc]
    refine Or.inr (RelC.mk' _ _ _ hP hl (hg.hfrag _ _ _ _ hu ?_) hq hb)
    by_cases hS : S = .fragment
    · exact Or.inl hS
    · exact Or.inr (by rw [hb (hst ▸ Ne.symm hS)])

theorem stQuery_relC (hg : Mask g S) (hsets : S ≠ .query → t2 = c.spQuerySet ∧ t3 = c.querySet) (q₁ q₂ : PS) (r : Char)
    (hst : q₂.state = .query) (h : RelC g S P q₁ q₂) :
    Sh2 (RelM g S P) (ResM g P) (fun _ _ => False)
      (stQuery ⟨updS c c.specialSchemes t1 t2 t3 t4 t5, I, src, rs, base, ov⟩ q₁ r)
      (stQuery ⟨c, I, src, rs, base, ov⟩ q₂ r) := by
  rw [stQuery_eq, stQuery_eq]
  show Sh2 _ _ _
    (if ov.isNone && r == '#' then
        if q₁.url.query.isNone then .done ⟨q₁.url, .panic 15⟩
        else .cont { q₁ with state := .fragment, buffer := [], url := { q₁.url with fragment := some [], query := some q₁.buffer } }
      else if !q₁.eof then unitChecks ⟨c, I, src, rs, base, ov⟩ q₁ r fun ps =>
        .cont { ps with buffer := ps.buffer ++ percentEncodeRune c (if c.isSpecial ps.url.scheme then t2 else t3) r }
      else .cont { q₁ with url := { q₁.url with query := some q₁.buffer } })
    (if ov.isNone && r == '#' then
        if q₂.url.query.isNone then .done ⟨q₂.url, .panic 15⟩
        else .cont { q₂ with state := .fragment, buffer := [], url := { q₂.url with fragment := some [], query := some q₂.buffer } }
      else if !q₂.eof then unitChecks ⟨c, I, src, rs, base, ov⟩ q₂ r fun ps =>
        .cont { ps with buffer := ps.buffer ++ percentEncodeRune c (if c.isSpecial ps.url.scheme then c.spQuerySet else c.querySet) r }
      else .cont { q₂ with url := { q₂.url with query := some q₂.buffer } })
  have hbuf : S = .query ∨ some q₁.buffer = some q₂.buffer := by
    by_cases hS : S = .query
    · exact Or.inl hS
    · exact Or.inr (by rw [h.2.2.2.2.2 (hst ▸ Ne.symm hS)])
  have hqn : q₁.url.query.isNone = q₂.url.query.isNone := by
    rw [← Option.not_isSome, ← Option.not_isSome, h.2.2.2.2.1]
  rw [h.eof, hqn]
  refine (Sh2_ite _ _ _ _ _).2 ⟨fun _ => (Sh2_ite _ _ _ _ _).2 ⟨fun _ => h.res _, fun _ => ?_⟩,
    fun _ => (Sh2_ite _ _ _ _ _).2 ⟨fun _ => ?_, fun _ => ?_⟩⟩
  · obtain ⟨hP, hl, hc, hu, hq, hb⟩ := h
    rw [hc]
    refine Or.inr ⟨hP, Or.inr (Or.inl rfl), rfl, ?_, rfl, fun _ => rfl⟩
    exact hg.hquery _ _ _ _ (hg.hfrag _ _ (some []) (some []) hu (Or.inr rfl)) hbuf
  · refine append_relM c I src rs base ov hg .query r (fun u => if c.isSpecial u.scheme then t2 else t3)
      (fun u => if c.isSpecial u.scheme then c.spQuerySet else c.querySet) (fun hS u₁ u₂ hu => ?_) q₁ q₂ hst h
    rw [hg.hsch _ _ hu, (hsets (Ne.symm hS)).1, (hsets (Ne.symm hS)).2]
  · obtain ⟨hP, hl, hc, hu, hq, hb⟩ := h
    rw [hc]
    exact Or.inr (RelC.mk' _ _ _ hP hl (hg.hquery _ _ _ _ hu hbuf) rfl hb)

theorem segEnd_relC (hg : Mask g .path) (e₁ e₂ : Env) (r : Char) (p₁ p₂ : PS) (hst : p₂.state = .path)
    (h : RelC g .path P p₁ p₂) :
    Sh2 (RelM g .path P) (ResM g P) (fun _ _ => False) (segEnd e₁ r p₁) (segEnd e₂ r p₂) := by
  obtain ⟨hP, hl, hc, hu, hq, hb⟩ := h
  rw [hc]
  have hp := hg.hpath _ _ (segPath e₁ { p₂ with buffer := p₁.buffer, url := p₁.url } r) (segPath e₂ p₂ r) hu rfl
  unfold segEnd
  refine (Sh2_ite _ _ _ _ _).2 ⟨fun _ => ?_, fun _ => (Sh2_ite _ _ _ _ _).2 ⟨fun _ => ?_, fun _ => ?_⟩⟩
  · exact Or.inr ⟨hP, Or.inr (Or.inr ⟨rfl, rfl⟩), rfl, hg.hquery _ _ _ _ hp (Or.inr rfl), rfl, fun _ => rfl⟩
  · exact Or.inr ⟨hP, Or.inr (Or.inl rfl), rfl, hg.hfrag _ _ _ _ hp (Or.inr rfl), hq, fun _ => rfl⟩
  · exact Or.inr ⟨hP, Or.inl hst, rfl, hp, hq, fun _ => rfl⟩

theorem stPath_relC (hg : Mask g .path) (q₁ q₂ : PS) (r : Char) (hst : q₂.state = .path) (h : RelC g .path P q₁ q₂) :
    Sh2 (RelM g .path P) (ResM g P) (fun _ _ => False)
      (stPath ⟨updS c c.specialSchemes t1 t2 t3 t4 t5, I, src, rs, base, ov⟩ q₁ r)
      (stPath ⟨c, I, src, rs, base, ov⟩ q₂ r) := by
  rw [stPath_eq, stPath_eq]
  have hsp : ∀ e : Env, spBackslash e q₁.url r = spBackslash e q₂.url r := fun e => by
    unfold spBackslash isSp; rw [hg.hsch _ _ h.2.2.2.1]
  show Sh2 _ _ _
    (if (q₁.eof || r == '/') || spBackslash ⟨c, I, src, rs, base, ov⟩ q₁.url r || (ov.isNone && (r == '?' || r == '#')) then
        if spBackslash ⟨c, I, src, rs, base, ov⟩ q₁.url r then
          herr ⟨c, I, src, rs, base, ov⟩ q₁ .InvalidReverseSolidus false
            (segEnd ⟨updS c c.specialSchemes t1 t2 t3 t4 t5, I, src, rs, base, ov⟩ r)
        else segEnd ⟨updS c c.specialSchemes t1 t2 t3 t4 t5, I, src, rs, base, ov⟩ r q₁
      else unitChecks ⟨c, I, src, rs, base, ov⟩ q₁ r fun ps =>
        if remainingInvalidPct rs ps then .cont { ps with buffer := ps.buffer ++ percentEncodeInvalidRune c t1 r }
        else .cont { ps with buffer := ps.buffer ++ percentEncodeRune c t1 r }) _
  rw [h.eof, hsp]
  refine (Sh2_ite _ _ _ _ _).2 ⟨fun _ => (Sh2_ite _ _ _ _ _).2 ⟨fun _ => ?_, fun _ => segEnd_relC hg _ _ r q₁ q₂ hst h⟩, fun _ => ?_⟩
  · exact Sh2_herr_of (fun p₁ p₂ => RelC g .path P p₁ p₂ ∧ p₂.state = .path) _ _ _
      (fun _ _ t f h => ⟨h.1.record hg c t f, h.2⟩) (fun _ _ ret h => h.1.res ret)
      (fun p₁ p₂ h => segEnd_relC hg _ _ r p₁ p₂ h.2 h.1) _ _ q₁ q₂ ⟨h, hst⟩
  · refine Sh2_unitChecks_of (fun p₁ p₂ => RelC g .path P p₁ p₂ ∧ p₂.state = .path) _ r _ _
      (fun _ _ t f h => ⟨h.1.record hg c t f, h.2⟩) (fun _ _ h => h.1.pointer) (fun _ _ ret h => h.1.res ret) ?_ q₁ q₂ ⟨h, hst⟩
    rintro p₁ p₂ ⟨⟨hP, hl, hc, hu, hq, hb⟩, hst⟩
    rw [hc]
    simp only [remainingInvalidPct]
    refine (Sh2_ite _ _ _ _ _).2 ⟨fun _ => ?_, fun _ => ?_⟩ <;>
      exact Or.inr (RelC.mk' _ _ _ hP hl hu hq fun hS => absurd hst hS)

/-- which sets are replaced (`t1` … `t5` stand for the path, special-query, query, special-fragment and fragment set): only
    those of the state `S`, and (`hsel`) a scheme outside `P` selects no replaced set -/
structure Repl (S : State) (P : Bytes → Prop) : Prop where
  hpath : S ≠ .path → t1 = c.pathSet
  hquery : S ≠ .query → t2 = c.spQuerySet ∧ t3 = c.querySet
  hfrag : S ≠ .fragment → t4 = c.spFragSet ∧ t5 = c.fragSet
  hsel : ∀ sch, ¬ P sch → t1 = c.pathSet ∧ (c.isSpecial sch = true → t2 = c.spQuerySet ∧ t4 = c.spFragSet) ∧
    (c.isSpecial sch = false → t3 = c.querySet ∧ t5 = c.fragSet)

theorem body_relM (hg : Mask g S) (hr : Repl c t1 t2 t3 t4 t5 S P)
    (q₁ q₂ : PS) (r : Char) (h : RelM g S P q₁ q₂) :
    Sh2 (RelM g S P) (ResM g P) (fun _ _ => False)
      (body ⟨updS c c.specialSchemes t1 t2 t3 t4 t5, I, src, rs, base, ov⟩ q₁ r) (body ⟨c, I, src, rs, base, ov⟩ q₂ r) := by
  have hbP : ∀ (e : Env) (p : PS), p.state = .path → body e p r = stPath e p r := fun e p hp => by simp only [body, hp]
  have hbQ : ∀ (e : Env) (p : PS), p.state = .query → body e p r = stQuery e p r := fun e p hp => by simp only [body, hp]
  have hbF : ∀ (e : Env) (p : PS), p.state = .fragment → body e p r = stFragment e p r := fun e p hp => by
    simp only [body, hp]
  -- once the runs have parted the state is `S` or later, and the state function keeps the relation
  have hC : ∀ q₁ q₂, RelC g S P q₁ q₂ → Sh2 (RelM g S P) (ResM g P) (fun _ _ => False)
      (body ⟨updS c c.specialSchemes t1 t2 t3 t4 t5, I, src, rs, base, ov⟩ q₁ r) (body ⟨c, I, src, rs, base, ov⟩ q₂ r) := by
    intro q₁ q₂ h
    have hst : q₂.state = .path ∧ S = .path ∨ q₂.state = .query ∨ q₂.state = .fragment := by
      rcases h.2.1 with h1 | h1 | h1
      · rcases hg.hS with rfl | rfl | rfl
        · exact Or.inl ⟨h1, rfl⟩
        · exact Or.inr (Or.inl h1)
        · exact Or.inr (Or.inr h1)
      · exact Or.inr (Or.inr h1)
      · exact Or.inr (Or.inl h1.2)
    rcases hst with ⟨hst, rfl⟩ | hst | hst
    · rw [hbP _ _ hst, hbP _ _ (h.state.trans hst)]
      exact stPath_relC c t1 t2 t3 t4 t5 I src rs base ov hg q₁ q₂ r hst h
    · rw [hbQ _ _ hst, hbQ _ _ (h.state.trans hst)]
      exact stQuery_relC c t1 t2 t3 t4 t5 I src rs base ov hg hr.hquery q₁ q₂ r hst h
    · rw [hbF _ _ hst, hbF _ _ (h.state.trans hst)]
      exact stFragment_relC c t1 t2 t3 t4 t5 I src rs base ov hg hr.hfrag q₁ q₂ r hst h
  rcases h with rfl | h
  · -- the runs part in the state `S`, if the scheme selects a replaced set
    by_cases hp : q₁.state = S ∧ P q₁.url.scheme
    · exact hC q₁ q₁ ⟨hp.2, Or.inl hp.1, rfl, rfl, rfl, fun _ => rfl⟩
    · have hsel : ∀ st, q₁.state = st → st = S → ¬ P q₁.url.scheme := fun st h1 h2 hP => hp ⟨h1.trans h2, hP⟩
      refine Sh2_of_eq (body_agree
        { pathSet := fun hst => ?_, spQuery := fun hst hs => ?_, query := fun hst hs => ?_, spFrag := fun hst hs => ?_,
          frag := fun hst hs => ?_ })
        (Sh_trivial (fun _ => Or.inl rfl) (fun _ => Or.inl rfl) _)
      · by_cases h1 : S = .path
        · exact (hr.hsel _ (hsel _ hst h1.symm)).1
        · exact hr.hpath h1
      · by_cases h1 : S = .query
        · exact ((hr.hsel _ (hsel _ hst h1.symm)).2.1 hs).1
        · exact (hr.hquery h1).1
      · by_cases h1 : S = .query
        · exact ((hr.hsel _ (hsel _ hst h1.symm)).2.2 hs).1
        · exact (hr.hquery h1).2
      · by_cases h1 : S = .fragment
        · exact ((hr.hsel _ (hsel _ hst h1.symm)).2.1 hs).2
        · exact (hr.hfrag h1).1
      · by_cases h1 : S = .fragment
        · exact ((hr.hsel _ (hsel _ hst h1.symm)).2.2 hs).2
        · exact (hr.hfrag h1).2
  · exact hC q₁ q₂ h

theorem step_relM (hg : Mask g S) (hr : Repl c t1 t2 t3 t4 t5 S P)
    (p₁ p₂ : PS) (h : RelM g S P p₁ p₂) :
    Sh2 (RelM g S P) (ResM g P) (fun _ _ => False)
      (step ⟨updS c c.specialSchemes t1 t2 t3 t4 t5, I, src, rs, base, ov⟩ p₁) (step ⟨c, I, src, rs, base, ov⟩ p₂) := by
  have hn : RelM g S P (next rs p₁).1 (next rs p₂).1 ∧ (next rs p₁).2 = (next rs p₂).2 := by
    rcases h with rfl | h
    · exact ⟨Or.inl rfl, rfl⟩
    · exact ⟨Or.inr (h.next rs).1, (h.next rs).2⟩
  refine Sh2_bottom _ _ (fun a₁ a₂ ha => ?_) ?_
  · rcases ha with rfl | ha
    · rfl
    · exact ha.eof
  · show Sh2 _ _ _ (body _ (next rs p₁).1 (next rs p₁).2) (body _ (next rs p₂).1 (next rs p₂).2)
    rw [hn.2]
    refine (body_relM c t1 t2 t3 t4 t5 I src rs base ov hg hr _ _ _ hn.1).mono (fun a₁ a₂ ha => ⟨ha, fun _ => ?_⟩)
      (fun _ _ h => h) (fun _ _ h => h.elim)
    rcases ha with rfl | ha
    · exact Or.inl rfl
    · exact ha.res _

end

/-- replaced sets of the collecting state `S`: the results agree up to what `g` forgets, and agree completely unless the
    scheme selects a replaced set (`P`) -/
theorem basicParser_relM (c : Cfg) (t1 t2 t3 t4 t5 : PSet) {g : Url → Url} {S : State} {P : Bytes → Prop} (hg : Mask g S)
    (hr : Repl c t1 t2 t3 t4 t5 S P) (I : Idna) (input : Bytes) (base url : Option Url) (ov : Option State) :
    (basicParser (updS c c.specialSchemes t1 t2 t3 t4 t5) I input base url ov).ret = (basicParser c I input base url ov).ret ∧
    g (basicParser (updS c c.specialSchemes t1 t2 t3 t4 t5) I input base url ov).url = g (basicParser c I input base url ov).url ∧
    (¬ P (basicParser c I input base url ov).url.scheme →
      basicParser (updS c c.specialSchemes t1 t2 t3 t4 t5) I input base url ov = basicParser c I input base url ov) := by
  have h : ResM g P (basicParser (updS c c.specialSchemes t1 t2 t3 t4 t5) I input base url ov)
      (basicParser c I input base url ov) := by
    refine basicParser_rel (P := RelM g S P) (A := fun _ _ => False) (updS c c.specialSchemes t1 t2 t3 t4 t5) c I input base
      url url ov rfl ?_ (fun p₁ p₂ h => step_relM c t1 t2 t3 t4 t5 I _ _ base ov hg hr p₁ p₂ h) (fun _ _ _ h => h.elim)
      (fun p₁ p₂ h => ?_)
    · rw [prologue_congr _ c rfl rfl]
      exact Sh2_of_eq rfl (Sh_trivial (fun _ => Or.inl rfl) (fun _ => Or.inl rfl) _)
    · rcases h with rfl | h
      · exact Or.inl rfl
      · exact h.res _
  rcases h with h | ⟨hP, h1, h2⟩
  · rw [h]; exact ⟨rfl, rfl, fun _ => rfl⟩
  · exact ⟨h1, h2, fun hn => absurd hP hn⟩

section
variable (c : Cfg) (t : PSet) (I : Idna) (input : Bytes) (base url : Option Url) (ov : Option State)

theorem basicParser_pathSet :
    (basicParser { c with pathSet := t } I input base url ov).ret = (basicParser c I input base url ov).ret ∧
    mPU (basicParser { c with pathSet := t } I input base url ov).url = mPU (basicParser c I input base url ov).url :=
  have h := basicParser_relM c t c.spQuerySet c.querySet c.spFragSet c.fragSet Mask_mPU (P := fun _ => True)
    { hpath := fun h => absurd rfl h, hquery := fun _ => ⟨rfl, rfl⟩, hfrag := fun _ => ⟨rfl, rfl⟩,
      hsel := fun _ h => absurd trivial h } I input base url ov
  ⟨h.1, h.2.1⟩

theorem basicParser_querySet :
    (basicParser { c with querySet := t } I input base url ov).ret = (basicParser c I input base url ov).ret ∧
    mQU (basicParser { c with querySet := t } I input base url ov).url = mQU (basicParser c I input base url ov).url ∧
    (c.isSpecial (basicParser c I input base url ov).url.scheme = true →
      basicParser { c with querySet := t } I input base url ov = basicParser c I input base url ov) :=
  have h := basicParser_relM c c.pathSet c.spQuerySet t c.spFragSet c.fragSet Mask_mQU (P := fun sch => c.isSpecial sch = false)
    { hpath := fun _ => rfl, hquery := fun h => absurd rfl h, hfrag := fun _ => ⟨rfl, rfl⟩,
      hsel := fun sch hn => ⟨rfl, fun _ => ⟨rfl, rfl⟩, fun h => absurd h hn⟩ } I input base url ov
  ⟨h.1, h.2.1, fun hs => h.2.2 (by rw [hs]; exact Bool.noConfusion)⟩

theorem basicParser_spQuerySet :
    (basicParser { c with spQuerySet := t } I input base url ov).ret = (basicParser c I input base url ov).ret ∧
    mQU (basicParser { c with spQuerySet := t } I input base url ov).url = mQU (basicParser c I input base url ov).url ∧
    (c.isSpecial (basicParser c I input base url ov).url.scheme = false →
      basicParser { c with spQuerySet := t } I input base url ov = basicParser c I input base url ov) :=
  have h := basicParser_relM c c.pathSet t c.querySet c.spFragSet c.fragSet Mask_mQU (P := fun sch => c.isSpecial sch = true)
    { hpath := fun _ => rfl, hquery := fun h => absurd rfl h, hfrag := fun _ => ⟨rfl, rfl⟩,
      hsel := fun sch hn => ⟨rfl, fun h => absurd h hn, fun _ => ⟨rfl, rfl⟩⟩ } I input base url ov
  ⟨h.1, h.2.1, fun hs => h.2.2 (by rw [hs]; exact Bool.noConfusion)⟩

theorem basicParser_fragSet :
    (basicParser { c with fragSet := t } I input base url ov).ret = (basicParser c I input base url ov).ret ∧
    mFU (basicParser { c with fragSet := t } I input base url ov).url = mFU (basicParser c I input base url ov).url ∧
    (c.isSpecial (basicParser c I input base url ov).url.scheme = true →
      basicParser { c with fragSet := t } I input base url ov = basicParser c I input base url ov) :=
  have h := basicParser_relM c c.pathSet c.spQuerySet c.querySet c.spFragSet t Mask_mFU (P := fun sch => c.isSpecial sch = false)
    { hpath := fun _ => rfl, hquery := fun _ => ⟨rfl, rfl⟩, hfrag := fun h => absurd rfl h,
      hsel := fun sch hn => ⟨rfl, fun _ => ⟨rfl, rfl⟩, fun h => absurd h hn⟩ } I input base url ov
  ⟨h.1, h.2.1, fun hs => h.2.2 (by rw [hs]; exact Bool.noConfusion)⟩

theorem basicParser_spFragSet :
    (basicParser { c with spFragSet := t } I input base url ov).ret = (basicParser c I input base url ov).ret ∧
    mFU (basicParser { c with spFragSet := t } I input base url ov).url = mFU (basicParser c I input base url ov).url ∧
    (c.isSpecial (basicParser c I input base url ov).url.scheme = false →
      basicParser { c with spFragSet := t } I input base url ov = basicParser c I input base url ov) :=
  have h := basicParser_relM c c.pathSet c.spQuerySet c.querySet t c.fragSet Mask_mFU (P := fun sch => c.isSpecial sch = true)
    { hpath := fun _ => rfl, hquery := fun _ => ⟨rfl, rfl⟩, hfrag := fun h => absurd rfl h,
      hsel := fun sch hn => ⟨rfl, fun h => absurd h hn, fun _ => ⟨rfl, rfl⟩⟩ } I input base url ov
  ⟨h.1, h.2.1, fun hs => h.2.2 (by rw [hs]; exact Bool.noConfusion)⟩

end

end WhatwgUrl.Proofs.Neutral
