import WhatwgUrl.Proofs.Machine2
import WhatwgUrl.Proofs.Trim
import WhatwgUrl.Proofs.Termination
import WhatwgUrl.Proofs.AsciiCase
/-
  Helper lemmas for C16b (skip-drive-letter-normalization): without a `|` in the input no byte 0x7C ever reaches the
  parser's buffer.
-/
namespace WhatwgUrl.Proofs.Neutral
open WhatwgUrl WhatwgUrl.Impl WhatwgUrl.Proofs.Trim WhatwgUrl.Proofs.Percent WhatwgUrl.Proofs.Machine

theorem nb_utf8Char (c : Char) (h : c ≠ '|') : (0x7c : UInt8) ∉ utf8Char c := by
  intro hb
  by_cases hc : c.toNat < 0x80
  · rw [Utf8.utf8Char_ascii c hc] at hb
    simp only [List.mem_singleton] at hb
    have h1 : c.toNat ≠ 0x7c := char_ne_of_toNat h
    have : (0x7c : UInt8).toNat = c.toNat := by rw [hb]; simp; omega
    simp at this
    omega
  · have := Utf8.utf8Char_high c (by omega) _ hb
    simp at this

theorem nb_pctByte : ∀ x : UInt8, (0x7c : UInt8) ∉ pctByte x :=
  forall_uint8 (by decide +kernel)

theorem nb_pe (c : Char) (h : c ≠ '|') (cfg : Cfg) (tr : PSet) : (0x7c : UInt8) ∉ percentEncodeRune cfg tr c := by
  unfold percentEncodeRune
  split
  · exact nb_utf8Char c h
  · simp only [List.mem_flatMap, not_exists, not_and]
    intro x _; exact nb_pctByte x

theorem nb_pei (c : Char) (h : c ≠ '|') (cfg : Cfg) (tr : PSet) : (0x7c : UInt8) ∉ percentEncodeInvalidRune cfg tr c := by
  unfold percentEncodeInvalidRune
  split <;> exact nb_pe c h _ _

theorem nb_prologue (url : Option Url) (input : Bytes) (h : (0x7c : UInt8) ∉ input) :
    (0x7c : UInt8) ∉ prologueText url input := by
  intro hm
  apply h
  unfold prologueText removeTabNl at hm
  have hm := (List.mem_filter.mp hm).1
  split at hm
  · rw [trim_fst] at hm
    unfold dropWsR dropWs at hm
    have h1 := (List.dropWhile_sublist _).subset (List.mem_reverse.mp hm)
    exact (List.dropWhile_sublist _).subset (List.mem_reverse.mp h1)
  · exact hm

/-- no byte `|` in the buffer -/
def NB (ps : PS) : Prop := (0x7c : UInt8) ∉ ps.buffer

section
open WhatwgUrl.Proofs.Termination
-- one step of a walk through `body` by the rules of `Termination`; `body_nb` takes the same rules as `simp` equivalences
-- and does not call it
macro "nb_step" hq:ident h1:ident h2:ident h3:ident h4:ident : tactic => `(tactic| first
  | (apply Sh_done; simp; done)
  | apply Sh_retUrl
  | apply Sh_herr_true
  | (apply Sh_ite <;> intro _)
  | (apply Sh_herr; intro _)
  | (apply Sh_afterHost; intro _ _)
  | dsimp only
  | split
  | (apply Sh_cont
     simp [NB, writeRune, rewindLast, resetInput, rewind, next_buffer, $hq:ident, $h1:ident, $h2:ident, $h3:ident, $h4:ident]
     done))
end

theorem mem_ite {α : Type} (c : Prop) [Decidable c] (a : α) (l₁ l₂ : List α) :
    a ∈ (if c then l₁ else l₂) ↔ if c then a ∈ l₁ else a ∈ l₂ := by
  split <;> rfl

attribute [local simp] Sh_unitChecks Sh_afterHost Sh_elim Sh_ite Sh_herr Sh_cont Sh_done Sh_retUrl stops_true in
/-- every byte appended to the buffer encodes the code point `r` (or its lower-case form), or is a byte of the input -/
theorem body_nb (e : Env) (q : PS) (r : Char) (hq : NB q) (hr : r ≠ '|') (hsrc : (0x7c : UInt8) ∉ e.src) :
    Sh NB (fun _ => True) (body e q r) := by
  have h1 := nb_utf8Char r hr
  have h2 := nb_utf8Char _ (mt (AsciiCase.lowerC_eq_iff_of_not_alpha (by decide) r).mp hr)
  have h3 := nb_pe r hr
  have h4 := nb_pei r hr
  have h5 : ∀ (ps : PS) (x : UInt8), currentAsByte e ps = some x → ¬ 0x7c = x := fun ps x h hx =>
    hsrc (hx ▸ List.mem_of_getElem? h)
  unfold NB at hq
  -- the host and hostname states run the same function; under accept-invalid the byte appended is a byte of the input
  have hH : Sh NB (fun _ => True) (stHost e q r) := by
    simp [stHost_eq, hostChar, NB, writeRune, rewindLast, ite_buffer, hq, h1]
    intros
    exact h5 _ _ ‹_›
  unfold body
  split
  case h_10 | h_11 => exact hH
  all_goals
    simp [stSchemeStart, stScheme, stNoScheme, stOpaquePath, stSpecialRelativeOrAuthority, stSpecialAuthoritySlashes,
      stSpecialAuthorityIgnoreSlashes, stPathOrAuthority, stAuthority, stFile, stFileHost, stFileSlash, stPort, stPath_eq,
      segEnd, stPathStart, stQuery_eq, stFragment, stRelative, stRelativeSlash, NB, writeRune, rewindLast, resetInput, rewind,
      next_fst, ite_buffer, mem_ite, hq, h1, h2, h3, h4]
  -- the states that read the base
  all_goals
    cases hb : e.base <;> simp [NB, ite_buffer, hq]

theorem step_nb (e : Env) (hsrc : (0x7c : UInt8) ∉ e.src) (hrs : e.runes = goRunes e.src) (ps : PS) (hq : NB ps) :
    Sh NB (fun _ => True) (step e ps) := by
  have hr : (next e.runes ps).2 ≠ '|' := by
    rcases next_spec e.runes ps with h1 | h1
    · intro he
      rw [he, hrs] at h1
      unfold cur at h1
      split at h1
      · exact hsrc (Utf8.ascii_mem_goRunes _ '|' (by decide) (List.mem_of_getElem? h1))
      · cases h1
    · rw [h1]; decide
  exact Sh_step_of_body (body_nb e (next e.runes ps).1 _ (by simpa [NB, next_fst] using hq) hr hsrc)

end WhatwgUrl.Proofs.Neutral
