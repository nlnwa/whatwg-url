import WhatwgUrl.Proofs.SpellingRun
import WhatwgUrl.Proofs.AsciiCase
/-
  Scheme texts in any case (`schemeText`; the texts of C18c and the web grammar of C17c–f, C18d–f start with one), and
  C18c's law that the case of the scheme does not matter (any configuration, any base).
-/
namespace WhatwgUrl.Proofs.Spelling
open WhatwgUrl WhatwgUrl.Impl WhatwgUrl.Proofs.IPv4 WhatwgUrl.Proofs.Trim
open WhatwgUrl.Proofs.Run WhatwgUrl.Proofs.Resolve

/-- a byte the scheme state accepts: ASCII letter, digit, `+`, `-`, `.` -/
def schemeB (b : UInt8) : Bool := isAlnumN b.toNat || b == 0x2b || b == 0x2d || b == 0x2e

/-- a scheme text in any case: a letter followed by scheme bytes -/
def schemeText : Bytes → Bool
  | [] => false
  | a :: t => isAlphaN a.toNat && t.all schemeB

theorem alpha_spec : ∀ x : UInt8, isAlphaN x.toNat = true →
    isAlphaN (bc x).toNat = true ∧ utf8Char (lowerC (bc x)) = [lowerB x] ∧ schemeB x = true ∧ isAlphaN (lowerB x).toNat = true :=
  forall_uint8 (by decide +kernel)

theorem schemeB_spec : ∀ x : UInt8, schemeB x = true →
    (isAlnumN (bc x).toNat || bc x == '+' || bc x == '-' || bc x == '.') = true ∧ utf8Char (lowerC (bc x)) = [lowerB x] ∧
    isWs x = false ∧ x.toNat < 0x80 ∧ schemeB (lowerB x) = true ∧ lowerB (lowerB x) = lowerB x :=
  forall_uint8 (by decide +kernel)

theorem schemeB_graphic : ∀ b : UInt8, schemeB b = true → 0x21 ≤ b.toNat ∧ b.toNat < 0x7f := forall_uint8 (by decide +kernel)

theorem flatMap_lower (t : Bytes) (ht : ∀ b ∈ t, schemeB b = true) :
    (asStr t).flatMap (fun c => utf8Char (lowerC c)) = asciiLower t := by
  induction t with
  | nil => rfl
  | cons b t ih =>
    rw [asStr_cons, List.flatMap_cons, (schemeB_spec b (ht b (by simp))).2.1, ih (fun x hx => ht x (by simp [hx]))]
    rfl

/-- from the initial state through the scheme text up to (not including) what follows it -/
theorem steps_scheme (e : Env) (w : Bytes) (hw : schemeText w = true) (tl : Str) (u : Url) (hd : e.runes = asStr w ++ tl) :
    ∃ p, Steps e (ps0 .schemeStart u) ⟨.scheme, p, false, asciiLower w, false, false, false, u⟩ ∧
      Cur e ⟨.scheme, p, false, asciiLower w, false, false, false, u⟩ (asStr w) tl := by
  cases w with
  | nil => simp [schemeText] at hw
  | cons c t =>
    simp only [schemeText, Bool.and_eq_true, List.all_eq_true] at hw
    have hc0 : Cur e (ps0 .schemeStart u) [] (bc c :: (asStr t ++ tl)) := by
      have := Cur.start (e := e) (ps := ps0 .schemeStart u) rfl rfl
      rwa [hd] at this
    obtain ⟨h1, h2, _⟩ := alpha_spec c hw.1
    have := Run.steps_scheme (bc c) (asStr t) tl hc0 rfl h1 (fun x hx => by
      obtain ⟨b, hb, rfl⟩ := List.mem_map.mp hx
      exact (schemeB_spec b (hw.2 b hb)).1)
    rw [List.flatMap_cons, h2, flatMap_lower t hw.2] at this
    exact ⟨_, this⟩

theorem schemeText_lower (w : Bytes) (hw : schemeText w = true) : schemeText (asciiLower w) = true := by
  cases w with
  | nil => simp [schemeText] at hw
  | cons c t =>
    simp only [schemeText, Bool.and_eq_true, List.all_eq_true, asciiLower, List.map_cons] at hw ⊢
    refine ⟨(alpha_spec c hw.1).2.2.2, ?_⟩
    intro b hb
    obtain ⟨x, hx, rfl⟩ := List.mem_map.mp hb
    exact (schemeB_spec x (hw.2 x hx)).2.2.2.2.1

theorem schemeText_all (w : Bytes) (hw : schemeText w = true) : ∀ b ∈ w, schemeB b = true := by
  cases w with
  | nil => simp [schemeText] at hw
  | cons c t =>
    simp only [schemeText, Bool.and_eq_true, List.all_eq_true] at hw
    intro b hb
    rcases List.mem_cons.mp hb with h | h
    · subst h; exact (alpha_spec b hw.1).2.2.1
    · exact hw.2 b h

theorem schemeText_ascii (w : Bytes) (hw : schemeText w = true) : Ascii w :=
  fun b hb => (schemeB_spec b (schemeText_all w hw b hb)).2.2.2.1

theorem schemeText_noWs (w : Bytes) (hw : schemeText w = true) : NoWs w :=
  fun b hb => (schemeB_spec b (schemeText_all w hw b hb)).2.2.1

theorem sh_zero (ps : PS) : sh 0 ps = ps := by
  apply ps_ext <;> first | rfl | (simp only [sh]; omega)

/-- the loops on `w ++ ":" ++ bsuf` and `asciiLower w ++ ":" ++ bsuf` -/
theorem scheme_case_loop (cfg : Cfg) (I : Idna) (base : Option Url) (w : Bytes) (hw : schemeText w = true) (bsuf : Bytes) (u : Url) :
    LoopEq (envOf cfg I base none (w ++ 0x3a :: bsuf)) (ps0 .schemeStart u)
      (envOf cfg I base none (asciiLower w ++ 0x3a :: bsuf)) (ps0 .schemeStart u) := by
  have hlw := schemeText_lower w hw
  have hA := schemeText_ascii w hw
  have hA' := schemeText_ascii _ hlw
  have hc : goRunes (0x3a :: bsuf) = ':' :: goRunes bsuf := by
    exact goRunes_clean [0x3a] bsuf (by intro b hb; simp at hb; subst hb; decide)
  have hr1 : goRunes (w ++ 0x3a :: bsuf) = asStr w ++ goRunes (0x3a :: bsuf) := goRunes_clean w _ hA
  have hr2 : goRunes (asciiLower w ++ 0x3a :: bsuf) = asStr (asciiLower w) ++ goRunes (0x3a :: bsuf) := goRunes_clean _ _ hA'
  have S := Shift.of_prefixes cfg I base none w (asciiLower w) (0x3a :: bsuf) hA hA'
  have hlen : (asciiLower w).length = w.length := by simp [asciiLower]
  simp only [hlen, Int.sub_self] at S
  obtain ⟨p, R1, C1⟩ := steps_scheme (envOf cfg I base none (w ++ 0x3a :: bsuf)) w hw (goRunes (0x3a :: bsuf)) u hr1
  obtain ⟨p', R2, C2⟩ := steps_scheme (envOf cfg I base none (asciiLower w ++ 0x3a :: bsuf)) (asciiLower w) hlw
    (goRunes (0x3a :: bsuf)) u hr2
  rw [AsciiCase.asciiLower_idem w] at R2 C2
  obtain rfl : p = p' := by
    have h1 : p + 1 = _ := C1.ptr
    have h2 : p' + 1 = _ := C2.ptr
    simp only [asStr_length, hlen] at h1 h2; omega
  rw [hc] at C1
  have hsim := step_scheme_colon_sim S ⟨.scheme, p, false, asciiLower w, false, false, false, u⟩ rfl
    (by show (w.length : Int) ≤ p + 1; have : p + 1 = _ := C1.ptr; simp only [asStr_length] at this; omega) C1.cur_cons
  rw [sh_zero] at hsim
  have H0 := LoopEq.of_step S _ _ C1.inv hsim
  exact LoopEq.steps_l R1 (LoopEq.steps_r R2 H0)

/-- two inputs `A₁ ++ rest`, `A₂ ++ rest` with clean prefixes: the prologue does the same to both, so it is enough that the
    two loops return the same (`LoopEq`), from a fresh record carrying any list of validation errors (the empty one if the
    configuration does not report them: `PrefixRun.fresh` in `Proofs/SpellingDots.lean` is the one user of that proviso) -/
theorem basicParser_congr_prefixes (cfg : Cfg) (I : Idna) (base : Option Url) (ov : Option State) (A1 A2 rest : Bytes)
    (h1 : A1 ≠ []) (n1 : NoWs A1) (h2 : A2 ≠ []) (n2 : NoWs A2)
    (hloop : ∀ vs : List VErr, (cfg.report = false → vs = []) →
      LoopEq (envOf cfg I base ov (A1 ++ restText rest)) (ps0 (ov.getD .schemeStart) { verrs := vs })
        (envOf cfg I base ov (A2 ++ restText rest)) (ps0 (ov.getD .schemeStart) { verrs := vs })) :
    basicParser cfg I (A1 ++ rest) base none ov = basicParser cfg I (A2 ++ rest) base none ov := by
  obtain ⟨f1, f2⟩ := flags_clean A1 A2 rest h1 n1 h2 n2
  apply basicParser_congr cfg I _ _ base ov f1 f2
  intro vs hq
  rw [text_clean _ rest h1 n1, text_clean _ rest h2 n2]
  exact loopEq_fuel (hloop vs hq) rfl rfl rfl rfl

end WhatwgUrl.Proofs.Spelling
