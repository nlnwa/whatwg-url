import WhatwgUrl.Proofs.Termination
/-
  From a fact about one pass through the `switch` to a fact about `basicParser`, in one step: `basicParser_of_body`.

  `Read e ps q r` is what is known of the machine state `q` and the code point `r` with which the switch is entered when
  the loop is at `ps`; `Owes P D` is what a continuing outcome of the switch owes the loop (at the end of the input it is
  the returned url).  The loop never runs out of fuel (`Termination.basicParser_fuel`), so the conclusion is about the
  result alone.
-/
namespace WhatwgUrl.Proofs.Machine
open WhatwgUrl WhatwgUrl.Impl WhatwgUrl.Proofs.HostWF

structure Read (e : Env) (ps q : PS) (r : Char) : Prop where
  /-- `q` is `ps` but for the pointer, which advanced, and `eof`, of which `cur` speaks -/
  eq : q = { ps with pointer := ps.pointer + 1, eof := q.eof }
  cur : cur e.runes q.pointer = if q.eof then none else some r
  repl : q.eof = true → r = repl
  /-- what `cur` gives before the end of the input, as bounds -/
  inside : q.eof = false → 0 ≤ q.pointer ∧ q.pointer < e.runes.length

section
variable {e : Env} {ps q : PS} {r : Char} (R : Read e ps q r)
include R
theorem Read.state : q.state = ps.state := by rw [R.eq]
theorem Read.pointer : q.pointer = ps.pointer + 1 := by rw [R.eq]
theorem Read.buffer : q.buffer = ps.buffer := by rw [R.eq]
end

theorem read_next (e : Env) (ps : PS) (he : ps.eof = false) : Read e ps (next e.runes ps).1 (next e.runes ps).2 where
  eq := by rw [next_fst]
  cur := next_cur _ _ he
  repl := next_repl _ _ he
  inside h := by
    have := (next_eof_iff e.runes ps).mp h
    rw [next_fst]
    exact ⟨this.2.1, this.2.2⟩

theorem basicParser_of_body {P : PS → Prop} {D : Res → Prop} (cfg : Cfg) (I : Idna) (input : Bytes) (base url : Option Url)
    (ov : Option State)
    (hpro : stops cfg false = true → ∀ u, Same (url.getD {}) u →
      D ⟨record cfg u .InvalidURLUnit false, .err ⟨.InvalidURLUnit, false⟩ false⟩)
    (hbody : ∀ ps q r, P ps → Read (loopEnv cfg I input base url ov) ps q r →
      Sh (Owes P D) D (body (loopEnv cfg I input base url ov) q r))
    (h0 : ∀ u, Same (url.getD {}) u → P (start (ov.getD .schemeStart) u)) :
    D (basicParser cfg I input base url ov) := by
  have hf := Termination.basicParser_fuel cfg I input base url ov
  rw [basicParser_eq] at hf ⊢
  rcases prologue_cases cfg input url ov with ⟨hst, u, hu, h⟩ | ⟨u, hu, h⟩ <;> rw [h] at hf ⊢ <;> dsimp only at hf ⊢
  · exact hpro hst u hu.same
  refine (loop_inv (P := fun ps => ps.eof = false ∧ P ps) _ (fun ps h => ?_) _ _ ⟨rfl, h0 u hu.same⟩).elim id
    (fun ⟨ps, _, h⟩ => absurd (by rw [h]) hf)
  rw [Sh_step]
  refine (hbody ps _ _ h.2 (read_next _ ps h.1)).mono (fun ps' h' => ?_) (fun _ h' => h')
  rw [Owes_iff] at h' ⊢
  exact ⟨h'.1, fun he => ⟨he, h'.2 he⟩⟩

/-- the lifting for an invariant `P` that does not look at the cursor and is the same at the end of the input: the switch
    is entered with `P` of the state `next` hands it and keeps `Sh P D`; a state with `P` returns a url with `D` -/
theorem basicParser_of_inv {P : PS → Prop} {D : Res → Prop} (cfg : Cfg) (I : Idna) (input : Bytes) (base url : Option Url)
    (ov : Option State)
    (hpro : stops cfg false = true → ∀ u, Same (url.getD {}) u →
      D ⟨record cfg u .InvalidURLUnit false, .err ⟨.InvalidURLUnit, false⟩ false⟩)
    (hcur : ∀ ps p b, P ps → P { ps with pointer := p, eof := b })
    (hbody : ∀ ps q r, P q → Read (loopEnv cfg I input base url ov) ps q r →
      Sh P D (body (loopEnv cfg I input base url ov) q r))
    (hend : ∀ ps, P ps → D ⟨ps.url, .url⟩)
    (h0 : ∀ u, Same (url.getD {}) u → P (start (ov.getD .schemeStart) u)) :
    D (basicParser cfg I input base url ov) :=
  basicParser_of_body cfg I input base url ov hpro
    (fun ps q r h R => (hbody ps q r (by rw [R.eq]; exact hcur _ _ _ h) R).mono
      (fun _ h' => (Owes_iff _).2 ⟨fun _ => hend _ h', fun _ => h'⟩) (fun _ h' => h')) h0

theorem basicParser_keeps {S : State → Bool} {f : Field} (hS : Keeps true S f) (cfg : Cfg) (I : Idna) (input : Bytes)
    (base : Option Url) (u : Url) (s : State) (hs : S s = true) : f.kept u (basicParser cfg I input base (some u) (some s)).url := by
  have hrec : ∀ v, Same u v → f.kept u v := fun v hv => by
    obtain ⟨h1, h2, h3, h4, h5, h6, h7, h8, h9⟩ := hv
    cases f <;> simp [Field.kept, *]
  exact basicParser_of_inv (P := fun ps => S ps.state = true ∧ f.kept u ps.url) (D := fun x => f.kept u x.url)
    cfg I input base (some u) (some s) (fun _ v hv => hrec _ hv.record) (fun _ _ _ h => h)
    (fun ps q r h R => body_keeps hS _ rfl u q r (fun _ => R.repl) h) (fun _ h => h.2) (fun v hv => ⟨hs, hrec v hv⟩)

end WhatwgUrl.Proofs.Machine
