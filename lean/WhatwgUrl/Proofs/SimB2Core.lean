import WhatwgUrl.Proofs.SimBaseB
/-
  One iteration of the Go machine against one step of the standard's, for the states host, hostname, port, file host, path
  start, path, opaque path, query, fragment.

  Per state `S` there is one lemma
    `step_simX_S : … RPS pi ss → Loc input base ov pi ss → (P → Extra input pi ss) → pi.state = .S →
       RStepG (fun p s => P → Extra input p s) (DD o) (step e pi) (afterRun …)`
  (`Loc`, `DD`, `ShS`: `SimStep.lean`; `Extra`: `SimBaseB.lean`). `Extra` asks for a list path in the host, hostname, port
  and file host states too (true without a state override; under one these states may be entered with an opaque path,
  and return before a path state); it is re-established if it held. The proposition `P` is a switch for that: at
  `P := True` the lemma carries `Extra` along, which is how `SimB.lean` reads its statements off; at `P := False` the
  clause is void, which is how the chain to `SimFinal.lean` uses it (`step_sim'_B`; nothing on that way needs `Extra`).
  Only the host, hostname, port and file host states read `hP` (for the list path); the other five have it for the
  common shape that `step_simX_B` calls. (The head of `SimA2.lean` lists what of these lemmas the chain uses and what
  only the kept statements use.) `o = false` for every state except port and file host, where the Go code and the
  standard return differently under a state override:
    * file host state, override, empty buffer at a delimiter/EOF: Go returns `nil, nil`, the standard returns the url;
    * port state, override, empty buffer at a non-digit: Go fails with `PortMissing`, the standard returns the url.
  At the end: the nine states at once (`step_simX_B`) and in the form of `SimDefs2.lean` (`step_sim'_B`,
  `stepSim'_B_of_hostConforms`: `Loc` derived by `Loc.of_inv`, the host-parser lemma `HostConforms I` a hypothesis;
  `SimB2.lean` discharges it). `SimB.lean` has the forms that carry `Extra` along.
-/
namespace WhatwgUrl.Proofs.Sim
open WhatwgUrl WhatwgUrl.Impl
open WhatwgUrl.Proofs.Percent (utf8_nil utf8_append)

theorem step_simX_fragment {P : Prop} (I : Idna) (e : Env) (input : Str) (base : Option Spec.SUrl) (ov : Option Spec.St)
    (hE : REnv e input base ov I) (pi : PS) (ss : Spec.PS) (h : RPS pi ss) (hx : Loc input base ov pi ss) (_hP : P → Extra input pi ss) (hs : pi.state = .fragment) :
    RStepG (fun p s => P → Extra input p s) (DD false) (step e pi) (afterRun input (Spec.run (specIdna I) input base ov ss)) := by
  obtain ⟨hu, hfrag⟩ := h.atFragment hs
  refine step_sim_open hE h hx hs fun hc hlo _ hlt hge => ?_
  dsimp only [body, stateMap]; unfold Spec.run; dsimp only
  generalize Spec.cAt input ss.pointer = c at hlt hge ⊢
  cases c with
  | none =>
    simp only [stFragment, Option.isNone_none, Bool.not_true, Bool.false_eq_true, if_false, ShS_cont]
    exact Go.eof (hge rfl) hu
  | some ch =>
    have hlt' := hlt rfl
    simp only [stFragment, Option.isNone_some, Bool.not_false, if_true, unitChecks_defaultB e hc, hc, ite_self,
      percentEncodeRune_sim, Percent.fragmentSet_has, Option.getD_some, ShS_cont]
    refine Go.goB rfl (by omega) hlt' ?_ (fun lo hi _ => Extra.ofOtherB lo hi rfl)
    have hf := hu.fragment
    cases hfr : ss.url.fragment with
    | none => rw [hfr] at hf; cases hf
    | some f =>
      rw [hfr] at hf
      simp only [Option.map_some, Option.some.injEq] at hf
      refine RPS.ofFragmentB rfl rfl rfl rfl rfl rfl rfl ?_ hfrag
      exact hu.setFragment'B _ _ (by simp only [Option.getD_some, utf8_append, hf])

theorem step_simX_query {P : Prop} (I : Idna) (e : Env) (input : Str) (base : Option Spec.SUrl) (ov : Option Spec.St)
    (hE : REnv e input base ov I) (pi : PS) (ss : Spec.PS) (h : RPS pi ss) (hx : Loc input base ov pi ss) (_hP : P → Extra input pi ss) (hs : pi.state = .query) :
    RStepG (fun p s => P → Extra input p s) (DD false) (step e pi) (afterRun input (Spec.run (specIdna I) input base ov ss)) := by
  obtain rfl := hE.ov
  obtain ⟨⟨hb1, hb2⟩, hu, hqry⟩ := h.atQuery hs
  refine step_sim_open hE h hx hs fun hc hlo _ hlt hge => ?_
  have hsp : isSp e pi.url = Spec.isSpecialScheme ss.url.scheme := hu.isSpB e hc
  dsimp only [body, stateMap]; unfold Spec.run; dsimp only
  generalize Spec.cAt input ss.pointer = c at hlt hge ⊢
  cases c with
  | none =>
    simp only [stQuery, getD_repl_beq _ '#' rfl, Option.isNone_none, Bool.not_true, Bool.false_eq_true, if_false,
      Bool.and_false, isC_none, Bool.or_true, if_true, hb2, Option.getD_some, List.nil_append, Spec.SUrl.isSpecial, ShS_cont]
    exact Go.eof (hge rfl) (hu.setQuery'B _ _ hb1)
  | some ch =>
    have hlt' := hlt rfl
    simp only [stQuery, Option.getD_some, Option.isNone_map, isC_some, Option.isNone_some, Bool.or_false]
    cases hq : (e.ov.isNone && ch == '#')
    · simp only [Bool.false_eq_true, if_false, Bool.not_false, if_true, unitChecks_defaultB e hc, hc, percentEncodeRune_sim, hsp,
        ShS_cont]
      refine Go.goB rfl (by omega) hlt' ?_ (fun lo hi _ => Extra.ofOtherB lo hi rfl)
      refine RPS.ofQueryB rfl rfl rfl rfl rfl rfl rfl ?_ hb2 hu hqry
      simp only [utf8PercentEncode_snocB, utf8_append, hb1]
      cases Spec.isSpecialScheme ss.url.scheme <;>
        simp only [Percent.specialQuerySet_has, Percent.querySet_has, if_true, Bool.false_eq_true, if_false]
    · have hh : (ch == '#') = true := (Bool.and_eq_true _ _ ▸ hq).2
      simp only [if_true, hh, hb2, Option.getD_some, List.nil_append, Spec.SUrl.isSpecial]
      cases hqq : pi.url.query with
      | none => exact absurd hqq hqry
      | some q0 =>
        simp only [ShS_cont]
        exact Go.toFragment rfl (by omega) hlt' (hu.setQuery'B _ _ hb1)

theorem step_simX_opaquePath {P : Prop} (I : Idna) (e : Env) (input : Str) (base : Option Spec.SUrl) (ov : Option Spec.St)
    (hE : REnv e input base ov I) (pi : PS) (ss : Spec.PS) (h : RPS pi ss) (hx : Loc input base ov pi ss) (_hP : P → Extra input pi ss) (hs : pi.state = .opaquePath) :
    RStepG (fun p s => P → Extra input p s) (DD false) (step e pi) (afterRun input (Spec.run (specIdna I) input base ov ss)) := by
  obtain ⟨hb, hu, hpath⟩ := h.atOpaque hs
  refine step_sim_open hE h hx hs fun hc hlo _ hlt hge => ?_
  dsimp only [body, stateMap]; unfold Spec.run; dsimp only
  generalize Spec.cAt input ss.pointer = c at hlt hge ⊢
  cases c with
  | none =>
    simp only [stOpaquePath, getD_repl_beq _ '?' rfl, getD_repl_beq _ '#' rfl, Option.isNone_none, Bool.not_true,
      Bool.false_eq_true, if_false, isC_none, ShS_cont]
    exact Go.eof (hge rfl) hu
  | some ch =>
    have hlt' := hlt rfl
    simp only [stOpaquePath, Option.getD_some, Option.isNone_some, isC_some, hb, ShS_ite, ShS_cont]
    refine ⟨fun _ => ?_, fun _ => ⟨fun _ => ?_, fun _ => ?_⟩⟩
    · exact Go.toQuery rfl (by omega) hlt' hu
    · exact Go.toFragment rfl (by omega) hlt' hu
    · simp only [Bool.not_false, if_true, unitChecks_defaultB e hc, hc, percentEncodeRune_sim, percentEncodeInvalidRune_B,
        ite_self, Percent.c0Set_has, ShS_cont]
      refine Go.goB rfl (by omega) hlt' ?_ (fun lo hi _ => Extra.ofOtherB lo hi rfl)
      refine RPS.ofOpaqueB rfl rfl rfl rfl rfl rfl rfl rfl ?_ rfl
      have hp := hu.path
      rw [hpath] at hp
      unfold Spec.pathAppend
      cases hsp : ss.url.path with
      | list l => rw [hsp] at hp; exact absurd hp.1 (by simp)
      | «opaque» s =>
        rw [hsp] at hp
        have hbs : pi.buffer = utf8 s := by have := hp.2; simpa using this
        simp only []
        exact hu.setPathB ⟨rfl, by simp [Path.setOpaque, utf8_append, hbs]⟩

theorem step_simX_pathStart {P : Prop} (I : Idna) (e : Env) (input : Str) (base : Option Spec.SUrl) (ov : Option Spec.St)
    (hE : REnv e input base ov I) (pi : PS) (ss : Spec.PS) (h : RPS pi ss) (hx : Loc input base ov pi ss) (_hP : P → Extra input pi ss) (hs : pi.state = .pathStart) :
    RStepG (fun p s => P → Extra input p s) (DD false) (step e pi) (afterRun input (Spec.run (specIdna I) input base ov ss)) := by
  obtain rfl := hE.ov
  obtain ⟨hbuf, hu⟩ := h.ord (by rw [hs]; rfl)
  have hb0 : ss.buffer = [] := hx.buf_at hs
  have hl : ss.url.hasOpaquePath = false := hx.nopq_at hs
  refine step_sim_open hE h hx hs fun hc hlo hhi hlt hge => ?_
  dsimp only [body, stateMap]; unfold Spec.run; dsimp only
  generalize Spec.cAt input ss.pointer = c at hlt hge ⊢
  simp only [stPathStart, hu.isSpB e hc, hc, Spec.SUrl.isSpecial, herr_nonfatal e hc, ite_self, getD_repl_bne _ '/' rfl,
    getD_repl_bne _ '\\' rfl, getD_repl_beq _ '\\' rfl, getD_repl_beq _ '?' rfl, getD_repl_beq _ '#' rfl, Bool.not_false,
    Bool.and_true, rewindLast, Option.isSome_map, Option.isNone_map, hu.host_noneB, optc_isSome, hbuf, hb0, utf8_nil,
    apply_ite PS.pointer, apply_ite PS.eof, apply_ite PS.buffer, apply_ite PS.atFlag,
    apply_ite PS.bracketFlag, apply_ite PS.pwSeen, apply_ite PS.url, apply_ite Spec.PS.pointer, apply_ite Spec.PS.buffer,
    apply_ite Spec.PS.atSignSeen, apply_ite Spec.PS.insideBrackets, apply_ite Spec.PS.passwordTokenSeen,
    apply_ite Spec.PS.url, ShS_ite, ShS_cont]
  -- on to the path state; the cursor stays on a (back)slash and is rewound from anything else
  have hgo : ∀ (q : Prop) [Decidable q], (¬ q → c.isNone = false) →
      Go input (fun p s => P → Extra input p s) (DD false)
        ⟨.path, if q then ss.pointer - 1 else ss.pointer, if q then false else c.isNone, [], ss.atSignSeen, ss.insideBrackets,
          ss.passwordTokenSeen, pi.url⟩
        ⟨.path, if q then ss.pointer - 1 else ss.pointer, [], ss.atSignSeen, ss.insideBrackets, ss.passwordTokenSeen, ss.url⟩ := by
    intro q _ hq
    by_cases hd : q
    · simp only [hd, if_true]
      exact Go.ordB rfl rfl (by omega) (by omega) rfl hu (fun lo hi _ => Extra.ofListB lo hi hl (by simp) (by simp))
    · have hlt' := hlt (hq hd)
      simp only [hd, if_false]
      exact Go.ordB (hq hd) rfl (by omega) hlt' rfl hu (fun lo hi _ => Extra.ofListB lo hi hl (by simp) (by simp))
  refine ⟨fun _ => hgo _ fun hd => ?_, fun _ => ⟨fun hq => ?_, fun _ => ⟨fun hh => ?_, fun _ =>
    ⟨fun _ => hgo _ fun hd => ?_, fun hn => ?_⟩⟩⟩⟩
  · cases h1 : Spec.isC c '/' <;> cases h2 : Spec.isC c '\\' <;> simp [h1, h2] at hd <;>
      first | exact isNone_of_isC h1 | exact isNone_of_isC h2
  · have hn := isNone_of_isC (Bool.and_eq_true _ _ ▸ hq).2
    have hlt' := hlt hn
    exact Go.toQuery hn (by omega) hlt' hu
  · have hn := isNone_of_isC (Bool.and_eq_true _ _ ▸ hh).2
    have hlt' := hlt hn
    exact Go.toFragment hn (by omega) hlt' hu
  · exact isNone_of_isC (by simpa using hd)
  · have hn' : c.isNone = true := by simpa using hn
    simp only [hn']
    exact ⟨fun _ => Go.eof (hge hn') (hu.pathAppendB hl []), fun _ => Go.eof (hge hn') hu⟩

theorem step_simX_port {P : Prop} (I : Idna) (e : Env) (input : Str) (base : Option Spec.SUrl) (ov : Option Spec.St)
    (hE : REnv e input base ov I) (pi : PS) (ss : Spec.PS) (h : RPS pi ss) (hx : Loc input base ov pi ss) (hP : P → Extra input pi ss) (hs : pi.state = .port) :
    RStepG (fun p s => P → Extra input p s) (DD e.ov.isSome) (step e pi) (afterRun input (Spec.run (specIdna I) input base ov ss)) := by
  obtain rfl := hE.ov
  obtain ⟨hbuf, hu⟩ := h.ord (by rw [hs]; rfl)
  have hl : P → ss.url.hasOpaquePath = false := fun p => (hP p).listPath (by rw [hs]; rfl)
  have hasc : ∀ c ∈ ss.buffer, c.toNat < 0x80 := hx.buf_at hs
  refine step_sim_open hE h hx hs fun hc hlo hhi hlt hge => ?_
  dsimp only [body, stateMap]; unfold Spec.run; dsimp only
  generalize Spec.cAt input ss.pointer = c at hlt hge ⊢
  generalize ss.buffer = sbuf at hbuf hasc ⊢
  simp only [stPort, hbuf, getD_repl_digit, getD_repl_beq _ '/' rfl, getD_repl_beq _ '\\' rfl, getD_repl_beq _ '?' rfl,
    getD_repl_beq _ '#' rfl, spBackslash, hu.isSpB e hc, Spec.SUrl.isSpecial, Option.isSome_map, herr_fatal e hc, Bool.or_assoc,
    writeRune, retUrl, rewindLast, utf8_isEmpty, digitsVal_utf8 10 sbuf hasc, hc, record_defaultB, ShS_ite, ShS_cont, ShS_fail]
  refine ⟨fun hd => ?_, fun _ => ⟨fun _ => ?_, fun _ => DD_fail hu⟩⟩
  · have hn := isNone_of_isDigitC hd
    have hlt' := hlt hn
    refine Go.ordB hn rfl (by omega) hlt' ?_ hu (fun lo hi p => Extra.ofPortB lo hi (hl p) rfl ?_)
    · rw [getD_of_not_isNone hn '0']; exact Percent.utf8_snoc sbuf _
    · intro d hd'
      rcases List.mem_append.mp hd' with hd' | hd'
      · exact hasc d hd'
      · cases c with
        | none => cases hn
        | some ch => cases List.mem_singleton.mp hd'; exact isDigitN_ascii hd
  · -- at a delimiter, at EOF, or under a state override: the port is stored; on to the path start state
    have hu' := setPort_sim hu (Spec.strVal 10 sbuf)
    rcases Bool.eq_false_or_eq_true sbuf.isEmpty with hemp | hemp
    · obtain rfl : sbuf = [] := List.isEmpty_iff.mp hemp
      simp only [List.isEmpty_nil, Bool.not_true, Bool.false_and, Bool.false_eq_true, if_false, ite_ite_self, utf8_nil,
        ShS_ite, ShS_cont, ShS_ret]
      exact ⟨fun ho => ho ▸ DD_err_ret hu, fun _ => Go.toPathStart rfl (by omega) (by omega) hu hl⟩
    · simp only [hemp, Bool.not_false, Bool.true_and, if_true, decide_eq_true_eq, ShS_ite, ShS_cont, ShS_ret, ShS_fail]
      exact ⟨fun _ => DD_fail hu, fun _ => ⟨fun _ => DD_url hu', fun _ => Go.toPathStart rfl (by omega) (by omega) hu' hl⟩⟩

theorem step_simX_fileHost {P : Prop} (I : Idna) (hH : HostConforms I) (e : Env) (input : Str) (base : Option Spec.SUrl) (ov : Option Spec.St)
    (hE : REnv e input base ov I) (pi : PS) (ss : Spec.PS) (h : RPS pi ss) (hx : Loc input base ov pi ss) (hP : P → Extra input pi ss) (hs : pi.state = .fileHost) :
    RStepG (fun p s => P → Extra input p s) (DD e.ov.isSome) (step e pi) (afterRun input (Spec.run (specIdna I) input base ov ss)) := by
  obtain rfl := hE.ov
  have hi := hE.idna
  obtain ⟨hbuf, hu⟩ := h.ord (by rw [hs]; rfl)
  have hl : P → ss.url.hasOpaquePath = false := fun p => (hP p).listPath (by rw [hs]; rfl)
  refine step_sim_open hE h hx hs fun hc hlo hhi hlt hge => ?_
  dsimp only [body, stateMap]; unfold Spec.run; dsimp only
  generalize Spec.cAt input ss.pointer = c at hlt hge ⊢
  generalize ss.buffer = sbuf at hbuf ⊢
  simp only [stFileHost, hbuf, getD_repl_beq _ '/' rfl, getD_repl_beq _ '\\' rfl, getD_repl_beq _ '?' rfl,
    getD_repl_beq _ '#' rfl, hu.isSpB e hc, Spec.SUrl.isSpecial, Option.isSome_map, Option.isNone_map, herr_nonfatal e hc, writeRune,
    retUrl, rewindLast, utf8_isEmpty, isWDL_utf8, hc, hi, ShS_ite, ShS_cont, ShS_ret]
  refine ⟨fun _ => ⟨fun _ => ?_, fun _ => ⟨fun hemp => ⟨fun ho => ho ▸ DD_nilNil (hu.setHostB []), fun _ => ?_⟩,
    fun hemp => ?_⟩⟩, fun hn => ?_⟩
  · exact Go.ordB rfl rfl (by omega) (by omega) rfl hu (fun lo hi p => Extra.ofListB lo hi (hl p) (by simp) (by simp))
  · obtain rfl : sbuf = [] := List.isEmpty_iff.mp hemp
    exact Go.toPathStart rfl (by omega) (by omega) (hu.setHostB []) hl
  · refine ShS_afterHost hH hu (fun h => hemp (by rw [h]; rfl)) fun u' hs hu' => ?_
    have hh : (if (utf8 hs == lit "localhost") = true then [] else utf8 hs) =
        utf8 (if (hs == "localhost".toList) = true then [] else hs) := by
      rw [lit_localhost, utf8_beqB]; split <;> rfl
    simp only [hh, ShS_ite, ShS_cont, ShS_ret]
    exact ⟨fun _ => DD_url (hu'.setHostB _), fun _ => Go.toPathStart rfl (by omega) (by omega) (hu'.setHostB _) hl⟩
  · have hn : c.isNone = false := by cases c <;> simp_all
    have hlt' := hlt hn
    refine Go.ordB hn rfl (by omega) hlt' ?_ hu (fun lo hi p => Extra.ofListB lo hi (hl p) (by simp) (by simp))
    rw [getD_of_not_isNone hn ' ']; exact Percent.utf8_snoc sbuf _

/-- the host and hostname states run the same code on both sides; the state only matters where it is kept -/
private theorem step_simX_hostS {P : Prop} (I : Idna) (hH : HostConforms I) (e : Env) (input : Str) (base : Option Spec.SUrl)
    (ov : Option Spec.St) (hE : REnv e input base ov I) (pi : PS) (ss : Spec.PS) (h : RPS pi ss) (hx : Loc input base ov pi ss)
    (hP : P → Extra input pi ss) (hs : pi.state = .host ∨ pi.state = .hostname) :
    RStepG (fun p s => P → Extra input p s) (DD false) (step e pi) (afterRun input (Spec.run (specIdna I) input base ov ss)) := by
  obtain rfl := hE.ov
  have hi := hE.idna
  obtain ⟨hbuf, hu⟩ := h.ord (by rcases hs with hs | hs <;> rw [hs] <;> rfl)
  have hl : P → ss.url.hasOpaquePath = false := fun p => (hP p).listPath (by rcases hs with hs | hs <;> rw [hs] <;> rfl)
  rcases hs with hs | hs <;>
  · refine step_sim_open hE h hx hs fun hc hlo hhi hlt hge => ?_
    dsimp only [body, stateMap]; unfold Spec.run; dsimp only
    generalize Spec.cAt input ss.pointer = c at hlt hge ⊢
    generalize ss.buffer = sbuf at hbuf ⊢
    -- the bracket flag is set under an `if` whose value is a record: `apply_ite` moves the `if` into the field
    simp only [stHost, hbuf, getD_repl_beq _ '/' rfl, getD_repl_beq _ '\\' rfl, getD_repl_beq _ '?' rfl, getD_repl_beq _ '#' rfl,
      getD_repl_beq _ ':' rfl, getD_repl_beq _ '[' rfl, getD_repl_beq _ ']' rfl, spBackslash, hu.isSpB e hc,
      Spec.SUrl.isSpecial, Option.isSome_map, ov_hostnameB, herr_fatal e hc, writeRune, retUrl, rewindLast, utf8_isEmpty, hu.scheme,
      utf8_beq_lit_file, hu.includesCredentials, RPort.isSome hu.port, hc, hi, Bool.and_false, Bool.false_eq_true, if_false, Bool.or_assoc,
      ShS_ite, ShS_cont, ShS_ret, ShS_fail, apply_ite PS.state, apply_ite PS.pointer, apply_ite PS.eof, apply_ite PS.buffer,
      apply_ite PS.atFlag, apply_ite PS.bracketFlag, apply_ite PS.pwSeen, apply_ite PS.url, apply_ite Spec.PS.state,
      apply_ite Spec.PS.pointer, apply_ite Spec.PS.buffer, apply_ite Spec.PS.atSignSeen, apply_ite Spec.PS.insideBrackets,
      apply_ite Spec.PS.passwordTokenSeen, apply_ite Spec.PS.url, ite_self]
    -- after the host parser at a delimiter: return under an override, else on to the path start state
    have key : ∀ u' hs, RUrl u' ss.url → ShS (Go input (fun p s => P → Extra input p s) (DD false)) (DD false)
        (if e.ov.isSome = true then .done ⟨{ u' with host := some (utf8 hs) }, .url⟩
          else .cont ⟨.pathStart, ss.pointer - 1, false, [], ss.atSignSeen, ss.insideBrackets, ss.passwordTokenSeen,
            { u' with host := some (utf8 hs) }⟩)
        (if e.ov.isSome = true then .ret { ss.url with host := some hs }
          else .cont ⟨.pathStart, ss.pointer - 1, [], ss.atSignSeen, ss.insideBrackets, ss.passwordTokenSeen,
            { ss.url with host := some hs }⟩) := fun u' hs hu' =>
      (ShS_ite _ _ _ _ _).2 ⟨fun _ => DD_url (hu'.setHostB _), fun _ => (ShS_cont _ _).2 <|
        Go.toPathStart rfl (by omega) (by omega) (hu'.setHostB _) hl⟩
    refine ⟨fun _ => ?_, fun _ => ⟨fun hcol => ⟨fun _ => DD_fail hu, fun hemp => ⟨fun _ => DD_url hu, fun _ => ?_⟩⟩,
      fun _ => ⟨fun _ => ⟨fun _ => DD_fail hu, fun h1 => ⟨fun _ => DD_url hu, fun _ => ?_⟩⟩, fun hn => ?_⟩⟩⟩
    · exact Go.ordB rfl rfl (by omega) (by omega) rfl hu (fun lo hi p => Extra.ofListB lo hi (hl p) (by simp) (by simp))
    · have hn : c.isNone = false := isNone_of_isC (Bool.and_eq_true _ _ ▸ hcol).1
      have hlt' := hlt hn
      refine ShS_afterHost hH hu (fun h => hemp (by rw [h]; rfl)) fun u' hs hu' => ?_
      exact (ShS_cont _ _).2 <| Go.ordB hn rfl (by dsimp only; omega) hlt' rfl (hu'.setHostB _)
        (fun lo hi p => Extra.ofPortB lo hi (hl p) rfl nofun)
    · rcases Bool.eq_false_or_eq_true sbuf.isEmpty with hemp | hemp
      · obtain rfl : sbuf = [] := List.isEmpty_iff.mp hemp
        have hns : Spec.isSpecialScheme ss.url.scheme = false := by simpa using h1
        simp only [hns, Bool.not_false, utf8_nil, parseHost_nilB, specParseHost_nilB, afterHost]
        exact key pi.url [] hu
      · exact ShS_afterHost hH hu (fun h => by rw [h] at hemp; cases hemp) fun u' hs hu' => key u' hs hu'
    · have hn : c.isNone = false := by cases c <;> simp_all
      have hlt' := hlt hn
      refine Go.ordB hn rfl (by omega) hlt' ?_ hu (fun lo hi p => Extra.ofListB lo hi (hl p) (by simp) (by simp))
      rw [getD_of_not_isNone hn ' ']; exact Percent.utf8_snoc sbuf _

theorem step_simX_host {P : Prop} (I : Idna) (hH : HostConforms I) (e : Env) (input : Str) (base : Option Spec.SUrl) (ov : Option Spec.St)
    (hE : REnv e input base ov I) (pi : PS) (ss : Spec.PS) (h : RPS pi ss) (hx : Loc input base ov pi ss) (hP : P → Extra input pi ss) (hs : pi.state = .host) :
    RStepG (fun p s => P → Extra input p s) (DD false) (step e pi) (afterRun input (Spec.run (specIdna I) input base ov ss)) :=
  step_simX_hostS I hH e input base ov hE pi ss h hx hP (Or.inl hs)

theorem step_simX_hostname {P : Prop} (I : Idna) (hH : HostConforms I) (e : Env) (input : Str) (base : Option Spec.SUrl) (ov : Option Spec.St)
    (hE : REnv e input base ov I) (pi : PS) (ss : Spec.PS) (h : RPS pi ss) (hx : Loc input base ov pi ss) (hP : P → Extra input pi ss) (hs : pi.state = .hostname) :
    RStepG (fun p s => P → Extra input p s) (DD false) (step e pi) (afterRun input (Spec.run (specIdna I) input base ov ss)) :=
  step_simX_hostS I hH e input base ov hE pi ss h hx hP (Or.inr hs)

/-- the url after the standard's path state has handled a complete segment -/
def pathSegUrlS (url : Spec.SUrl) (buffer : Str) (slash : Bool) : Spec.SUrl :=
  if Spec.isDoubleDot buffer then
    let url := Spec.shorten url
    if !slash then Spec.pathAppend url [] else url
  else if Spec.isSingleDot buffer && !slash then Spec.pathAppend url []
  else if !Spec.isSingleDot buffer then
    let buf :=
      if url.scheme == "file".toList && (Spec.pathList url).isEmpty && Spec.isWindowsDriveLetter buffer then
        buffer.take 1 ++ [':']
      else buffer
    Spec.pathAppend url buf
  else url

/-- the path the Go path state stores at the end of a segment (`Machine.segPath`) against the standard's -/
theorem segPath_sim {e : Env} (hc : e.cfg = {}) {ps : PS} {us : Spec.SUrl} {sbuf : Str} (hu : RUrl ps.url us)
    (hb : ps.buffer = utf8 sbuf) (hl : us.hasOpaquePath = false) (r : Char) {slash : Bool}
    (hs : (r == '/' || spBackslash e ps.url r) = slash) :
    RUrl { ps.url with path := Machine.segPath e ps r } (pathSegUrlS us sbuf slash) ∧
      (pathSegUrlS us sbuf slash).hasOpaquePath = false := by
  have hsh := shorten_sim hu hl
  have hshl := shorten_nopq us hl
  have hf : (ps.url.scheme == lit "file") = (us.scheme == "file".toList) := by rw [hu.scheme, utf8_beq_lit_file]
  unfold Machine.segPath pathSegUrlS
  simp only [hc, hb, hs, hf, hu.path_isEmptyB hl, isDoubleDot_utf8, isSingleDot_utf8, isWDL_utf8, Bool.not_false, Bool.and_true,
    Bool.true_or, if_true]
  split
  · cases slash <;> simp only [Bool.not_false, Bool.not_true, Bool.false_eq_true, if_true, if_false]
    · exact ⟨hsh.pathAppendB hshl [], by rw [pathAppend_hasOpaqueB]; exact hshl⟩
    · exact ⟨hsh, hshl⟩
  split
  · exact ⟨hu.pathAppendB hl [], by rw [pathAppend_hasOpaqueB]; exact hl⟩
  split
  · refine ⟨?_, by rw [pathAppend_hasOpaqueB]; exact hl⟩
    split
    · rename_i hcond
      rw [driveLetter_normalise sbuf (Bool.and_eq_true _ _ ▸ hcond).2]
      exact hu.pathAppendB hl _
    · exact hu.pathAppendB hl _
  · exact ⟨hu, hl⟩

/-- the standard's path state with the url at the end of a segment named (`pathSegUrlS`), as `Machine.stPath_eq` does on
    the Go side: unfolding `Spec.run` would copy that url into every field of the three leaves -/
theorem run_path_eq (I : Spec.SIdna) (input : Str) (base : Option Spec.SUrl) (ov : Option Spec.St) (p : Int) (sbuf : Str)
    (a b w : Bool) (us : Spec.SUrl) :
    Spec.run I input base ov ⟨.path, p, sbuf, a, b, w, us⟩ =
      let c := Spec.cAt input p
      let slash := Spec.isC c '/' || (us.isSpecial && Spec.isC c '\\')
      let u := pathSegUrlS us sbuf slash
      if c.isNone || slash || (ov.isNone && (Spec.isC c '?' || Spec.isC c '#')) then
        (if Spec.isC c '?' then .cont ⟨.query, p, [], a, b, w, { u with query := some [] }⟩
        else if Spec.isC c '#' then .cont ⟨.fragment, p, [], a, b, w, { u with fragment := some [] }⟩
        else .cont ⟨.path, p, [], a, b, w, u⟩)
      else .cont ⟨.path, p, sbuf ++ Spec.utf8PercentEncodeCp Spec.pathSet (c.getD ' '), a, b, w, us⟩ := rfl

theorem step_simX_path {P : Prop} (I : Idna) (e : Env) (input : Str) (base : Option Spec.SUrl) (ov : Option Spec.St)
    (hE : REnv e input base ov I) (pi : PS) (ss : Spec.PS) (h : RPS pi ss) (hx : Loc input base ov pi ss) (_hP : P → Extra input pi ss) (hs : pi.state = .path) :
    RStepG (fun p s => P → Extra input p s) (DD false) (step e pi) (afterRun input (Spec.run (specIdna I) input base ov ss)) := by
  obtain rfl := hE.ov
  obtain ⟨hbuf, hu⟩ := h.ord (by rw [hs]; rfl)
  have hl : ss.url.hasOpaquePath = false := hx.nopq_at hs
  refine step_sim_open hE h hx hs fun hc hlo hhi hlt hge => ?_
  dsimp only [body, stateMap]
  rw [run_path_eq]; dsimp only
  generalize Spec.cAt input ss.pointer = c at hlt hge ⊢
  obtain ⟨hU, hUl⟩ := segPath_sim hc (ps := ⟨.path, ss.pointer, c.isNone, pi.buffer, ss.atSignSeen, ss.insideBrackets,
      ss.passwordTokenSeen, pi.url⟩) hu hbuf hl (c.getD repl)
    (slash := Spec.isC c '/' || (Spec.isSpecialScheme ss.url.scheme && Spec.isC c '\\'))
    (by simp only [spBackslash, getD_repl_beq _ '/' rfl, getD_repl_beq _ '\\' rfl, hu.isSpB e hc, Spec.SUrl.isSpecial])
  simp only [Machine.stPath_eq, Machine.segEnd, getD_repl_beq _ '/' rfl, getD_repl_beq _ '\\' rfl, getD_repl_beq _ '?' rfl,
    getD_repl_beq _ '#' rfl, spBackslash, hu.isSpB e hc, Spec.SUrl.isSpecial, Option.isNone_map, herr_nonfatal e hc, ite_self,
    unitChecks_defaultB e hc, hc, percentEncodeInvalidRune_B, percentEncodeRune_sim, Percent.pathSet_has, Bool.or_assoc,
    ShS_ite, ShS_cont]
  refine ⟨fun _ => ⟨fun hq => ?_, fun _ => ⟨fun hh => ?_, fun _ => ⟨fun he => ⟨hge he, DD_url hU⟩, fun he => ⟨hlt he, ?_, fun _ => ?_⟩⟩⟩⟩,
    fun hn => ?_⟩
  · have hn := isNone_of_isC hq
    have hlt' := hlt hn
    exact Go.toQuery hn (by omega) hlt' hU
  · have hn := isNone_of_isC hh
    have hlt' := hlt hn
    exact Go.toFragment hn (by omega) hlt' hU
  · exact RPS.ofOrdB rfl rfl rfl he rfl rfl rfl rfl hU
  · have hlt' := hlt he
    exact Extra.ofListB (by simp only []; omega) (by simp only []; omega) hUl (by simp) (by simp)
  · have hn : c.isNone = false := by cases c <;> simp_all
    have hlt' := hlt hn
    refine Go.ordB hn rfl (by omega) hlt' ?_ hu (fun lo hi _ => Extra.ofListB lo hi hl (by simp) (by simp))
    rw [getD_of_not_isNone hn ' ', hbuf]; exact (utf8_append _ _).symm

theorem step_simX_B {P : Prop} (I : Idna) (hH : HostConforms I) (e : Env) (input : Str) (base : Option Spec.SUrl)
    (ov : Option Spec.St) (hE : REnv e input base ov I) (pi : PS) (ss : Spec.PS) (h : RPS pi ss) (hx : Loc input base ov pi ss)
    (hP : P → Extra input pi ss) (hs : stB pi.state = true) :
    RStepG (fun p s => P → Extra input p s) (DD e.ov.isSome) (step e pi)
      (afterRun input (Spec.run (specIdna I) input base ov ss)) := by
  cases hst : pi.state <;> rw [hst] at hs <;> first
    | exact step_simX_port I e input base ov hE pi ss h hx hP hst
    | exact step_simX_fileHost I hH e input base ov hE pi ss h hx hP hst
    | exact (step_simX_host I hH e input base ov hE pi ss h hx hP hst).dd_mono
    | exact (step_simX_hostname I hH e input base ov hE pi ss h hx hP hst).dd_mono
    | exact (step_simX_pathStart I e input base ov hE pi ss h hx hP hst).dd_mono
    | exact (step_simX_path I e input base ov hE pi ss h hx hP hst).dd_mono
    | exact (step_simX_opaquePath I e input base ov hE pi ss h hx hP hst).dd_mono
    | exact (step_simX_query I e input base ov hE pi ss h hx hP hst).dd_mono
    | exact (step_simX_fragment I e input base ov hE pi ss h hx hP hst).dd_mono
    | exact absurd hs (by decide)

theorem step_sim'_B (I : Idna) (hH : HostConforms I) (e : Env) (input : Str) (base : Option Spec.SUrl) (ov : Option Spec.St)
    (hE : REnv e input base ov I) (pi : PS) (ss : Spec.PS) (h : RPS pi ss) (hx : Loc input base ov pi ss)
    (hs : stB pi.state = true) :
    RStep' e.ov.isNone (step e pi) (afterRun input (Spec.run (specIdna I) input base ov ss)) :=
  (step_simX_B (P := False) I hH e input base ov hE pi ss h hx False.elim hs).imp (fun _ _ hp _ => hp)
    fun _ _ hd => Option.not_isSome e.ov ▸ hd.2

/-- the nine states in the shape of `StepSim'` with `YInv` as one more hypothesis, and with the host-parser lemma as a
    hypothesis (`stepSim'_B_all` in `SimB2.lean` discharges it by `hostConforms_of_laws`) -/
theorem stepSim'_B_of_hostConforms (I : Idna) (hH : HostConforms I) (ov : Option Spec.St) (e : Env) (input : Str)
    (base : Option Spec.SUrl) (hE : REnv e input base ov I) (pi : PS) (ss : Spec.PS) (h : RPS pi ss)
    (hx : XInv e pi) (hy : YInv e pi) (hs : stB pi.state = true) :
    RStep' ov.isNone (step e pi) (afterRun input (Spec.run (specIdna I) input base ov ss)) := by
  have hov : ov.isNone = e.ov.isNone := by rw [hE.ov, Option.isNone_map]
  rw [hov]
  exact step_sim'_B I hH e input base ov hE pi ss h (Loc.of_inv hE h hx hy) hs

end WhatwgUrl.Proofs.Sim

open WhatwgUrl.Proofs.Sim in
#print axioms stepSim'_B_of_hostConforms
open WhatwgUrl.Proofs.Sim in
#print axioms step_sim'_B
open WhatwgUrl.Proofs.Sim in
#print axioms Loc.of_inv
