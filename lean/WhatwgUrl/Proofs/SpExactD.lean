import WhatwgUrl.Proofs.SpExactC
/-
  C11b: Go's rune conversion adds bytes ≥ 0x80 exactly on ill-formed input, the parse of a join is the concatenation of
  the parses, and the `→` direction.
-/
namespace WhatwgUrl.Proofs.SpExact
open WhatwgUrl WhatwgUrl.Impl
open WhatwgUrl.Proofs.SkipEquals (spInit_eq)

theorem san_cons (b0 : UInt8) (rest : Bytes) :
    san (b0 :: rest) = utf8Char (decode1 b0 rest).1 ++ san (rest.drop ((decode1 b0 rest).2 - 1)) := by
  simp [san, Utf8.goRunes_cons, utf8]

/-- an ill-formed byte becomes U+FFFD: three bytes ≥ 0x80 for one -/
theorem H_san (b : Bytes) : H b ≤ H (san b) ∧ (H (san b) ≤ H b → validUtf8 b = true) := by
  induction b using Utf8.goDecode_ind with
  | h0 => exact ⟨Nat.le_refl _, fun _ => rfl⟩
  | hs b0 rest ih =>
    have hs := Utf8.decode1_spec b0 rest
    rw [san_cons, H_append, Utf8.validUtf8_cons]
    rcases hs.1 with e | e
    · rw [e] at ih ⊢
      simp only [Nat.sub_self, List.drop_zero] at ih ⊢
      have h3 : H (utf8Char repl) = 3 := by decide
      have hc := H_cons b0 rest
      rw [h3, hc]
      refine ⟨by split <;> omega, fun hle => ?_⟩
      exfalso
      split at hle <;> omega
    · have hk := hs.2.1
      have hH : H (b0 :: rest) =
          H ((b0 :: rest).take (decode1 b0 rest).2) + H (rest.drop ((decode1 b0 rest).2 - 1)) := by
        rw [← H_append, Utf8.take_drop_pred b0 rest _ hk]
      rw [e, hH]
      refine ⟨by omega, fun hle => ?_⟩
      have hv := ih.2 (by omega)
      rw [hv, Bool.and_true]
      cases hb : ((decode1 b0 rest).1 == repl && (decode1 b0 rest).2 == 1) with
      | false => rfl
      | true =>
        exfalso
        simp only [Bool.and_eq_true, beq_iff_eq] at hb
        have := congrArg List.length e
        rw [hb.1, hb.2, Utf8.utf8Char_repl_length] at this
        simp at this

theorem spInit_S0 (l : Pairs) : spInit Cfg.default (S0 l) = l.flatMap (fun p => spInit Cfg.default (J p)) := by
  rw [S0, SkipEquals.spInit_intercalate, List.flatMap_map]

theorem length_le_flatMap {α : Type} (f : α → List α) (t : List α) (h : ∀ p ∈ t, f p ≠ []) :
    t.length ≤ (t.flatMap f).length := by
  induction t with
  | nil => simp
  | cons p t ih =>
    have h1 : 1 ≤ (f p).length := by
      cases e : f p with
      | nil => exact absurd e (h p (by simp))
      | cons _ _ => simp
    have := ih (fun q hq => h q (by simp [hq]))
    simp only [List.flatMap_cons, List.length_append, List.length_cons]
    omega

theorem flatMap_fix {α : Type} (f : α → List α) (l : List α) (h : ∀ p ∈ l, f p ≠ []) (e : l.flatMap f = l) :
    ∀ p ∈ l, f p = [p] := by
  induction l with
  | nil => intro p hp; simp at hp
  | cons p t ih =>
    rw [List.flatMap_cons] at e
    have h1 := length_le_flatMap f t (fun q hq => h q (by simp [hq]))
    have h2 := congrArg List.length e
    simp only [List.length_append, List.length_cons] at h2
    have hp := h p (by simp)
    match hf : f p, hp with
    | [a], _ =>
      rw [hf] at e
      simp only [List.cons_append, List.nil_append, List.cons.injEq] at e
      obtain ⟨rfl, e⟩ := e
      intro q hq
      rcases List.mem_cons.mp hq with rfl | hq
      · exact hf
      · exact ih (fun q hq => h q (by simp [hq])) e q hq
    | a :: b :: c, _ =>
      rw [hf] at h2
      simp only [List.length_cons] at h2
      omega

theorem fix_good (n : Bytes) (h : PD (R n) = n) : noPct n = true ∧ ∀ x ∈ n, x ≠ 0x2b := by
  have h1 : (PD (R n)).length = (R n).length := by rw [h, R_length]
  have h2 := noPct_of_length _ h1
  have h3 := PD_noPct _ h2
  rw [h3] at h
  rw [h] at h2
  exact ⟨h2, no_plus_of_R_fix n h⟩

/-- `→` for one pair.  (1) Bytes ≥ 0x80 added by Go's rune conversion cannot disappear in the parser (`H_san`, `spInit_H`):
    name and value are valid UTF-8.  (2) Lengths cannot grow (`spInit_L`): no `&`, one sequence.  (3) It splits at its first
    `=`, and a decoder that keeps the length changes nothing (`fix_good`). -/
theorem single_only_if (p : Bytes × Bytes) (h : spInit Cfg.default (J p) = [p]) :
    goodName p.1 = true ∧ goodValue p.2 = true := by
  have hh : hi 0x3d = false := by decide
  -- 1. well-formed
  have m1 := spInit_H (J p)
  rw [h] at m1
  simp only [List.map_cons, List.map_nil, List.sum_cons, List.sum_nil, pairH, J, H_append, H_cons, hh] at m1
  have s1 := H_san p.1
  have s2 := H_san p.2
  have v1 : validUtf8 p.1 = true := s1.2 (by simp at m1; omega)
  have v2 : validUtf8 p.2 = true := s2.2 (by simp at m1; omega)
  rw [J_good p v1 v2] at h
  -- 2. no `&`
  have m2 := spInit_L (p.1 ++ 0x3d :: p.2)
  rw [h] at m2
  have hI : I (p.1 ++ 0x3d :: p.2) = 1 := by simp [I]
  simp only [List.map_cons, List.map_nil, List.sum_cons, List.sum_nil, pairL, hI, List.length_append,
    List.length_cons] at m2
  have hamp := splitOn_single 0x26 (p.1 ++ 0x3d :: p.2) (by omega)
  rw [spInit_eq, SkipEquals.splitOn_no_sep _ _ hamp] at h
  -- 3. the one sequence
  rcases parseSeq_cases (p.1 ++ 0x3d :: p.2) (by simp) with ⟨a, b, e, ha, hp⟩ | ⟨ha, _⟩
  · rw [List.filterMap_cons, hp] at h
    simp only [List.filterMap_nil, List.cons.injEq, and_true] at h
    have e1 : PD (R a) = p.1 := congrArg Prod.fst h
    have e2 : PD (R b) = p.2 := congrArg Prod.snd h
    have l1 := PD_length_le (R a); rw [R_length, e1] at l1
    have l2 := PD_length_le (R b); rw [R_length, e2] at l2
    have l3 := congrArg List.length e
    simp only [List.length_append, List.length_cons] at l3
    have hab := List.append_inj e (by omega)
    have ea : p.1 = a := hab.1
    have eb : p.2 = b := (List.cons.inj hab.2).2
    rw [← ea] at e1 ha
    rw [← eb] at e2
    obtain ⟨g1, g2⟩ := fix_good _ e1
    obtain ⟨g3, g4⟩ := fix_good _ e2
    exact ⟨goodName_iff.2 ⟨v1, g1, fun x hx => ⟨hamp x (by simp [hx]), ha x hx, g2 x hx⟩⟩,
      goodValue_iff.2 ⟨v2, g3, fun x hx => ⟨hamp x (by simp [hx]), g4 x hx⟩⟩⟩
  · exact absurd rfl (ha 0x3d (by simp))

theorem exact_of_rt (l : Pairs) (h : spInit Cfg.default (spString Cfg.default l) = l) : RtExact l := by
  rw [rt_eq, spInit_S0] at h
  have := flatMap_fix _ l (fun p _ => spInit_ne_nil _ (by simp [J])) h
  exact fun p hp => single_only_if p (this p hp)

theorem rt_iff (l : Pairs) : spInit Cfg.default (spString Cfg.default l) = l ↔ RtExact l :=
  ⟨exact_of_rt l, rt_of_exact l⟩

theorem rt_flatMap (l : Pairs) : spInit Cfg.default (spString Cfg.default l) =
    l.flatMap (fun p => spInit Cfg.default (spString Cfg.default [p])) := by
  rw [rt_eq, spInit_S0]
  apply flatMap_congr
  intro p _
  rw [rt_eq]
  simp [S0, intercalate]

end WhatwgUrl.Proofs.SpExact
